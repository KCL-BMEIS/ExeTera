import Exetera.Model.Spans
import Exetera.Spec.Spans
/-!
  Counterexamples for the C08 defects D18, D19, NC08b, NC08c, NC08d, on the `asFound` variants of the model (which
  mirror ExeTera before the patches of /verif/fixes), each next to the answer of the `repaired` variant.
-/
namespace Exetera.Witness.C08

open Exetera Exetera.Spans Exetera.Spec

/-- D18: `apply_spans_index_of_min_indexed` as found never updates `minlen`: for the single span ["b","ab","a"]
    it answers row 1 ("ab"); with the fix it answers row 2 ("a"). -/
theorem d18_stale_minlen :
    applySpansIndexOfMinIndexed .asFound [0, 3] [0, 1, 3, 4] [98, 97, 98, 97] = .ok [1] ∧
    applySpansIndexOfMinIndexed .repaired [0, 3] [0, 1, 3, 4] [98, 97, 98, 97] = .ok [2] ∧
    lexLt [97] [97, 98] = true := ⟨rfl, rfl, rfl⟩

/-- D19: with `np.char.not_equal` (trailing whitespace ignored) the rows 'a', 'a ', 'a  ', 'b' form the spans [0,3,4]
    although they are pairwise different byte strings; the byte-exact comparison gives [0,1,2,3,4]. -/
theorem d19_trailing_blanks :
    columnSpans .asFound (.fixed [[97], [97, 32], [97, 32, 32], [98]]) = .ok [0, 3, 4] ∧
    columnSpans .repaired (.fixed [[97], [97, 32], [97, 32, 32], [98]]) = .ok [0, 1, 2, 3, 4] ∧
    spans neq [[97], [97, 32], [97, 32, 32], [98]] = [0, 1, 2, 3, 4] := ⟨rfl, rfl, rfl⟩

/-- NC08b: as found the two-array and multi-array kernels write `spans[1]` of a one-element buffer for zero rows -/
theorem nc08b_empty_columns_oob :
    getSpansFor2Fields .asFound [] [] = .error (.oob "spans[count + 1]") ∧
    getSpansForMultiFields .asFound [[], []] = .error (.oob "spans[count + 1]") ∧
    getSpansFor2Fields .repaired [] [] = .ok [0] ∧
    getSpansForMultiFields .repaired [[], []] = .ok [0] := ⟨rfl, rfl, rfl, rfl⟩

/-- NC08c: as found an indexed string field without rows gets the spans `[0, len(indices) - 1]`: `[0, 0]` for
    `indices = [0]` (and `[0, -1]` for `indices = []`, which `Nat` subtraction renders as `[0, 0]` too) — not strictly
    increasing, and different from `[0]`, which every other entry point returns. -/
theorem nc08c_empty_indexed_field :
    getSpansForIndexStringField .asFound [0] [] = .ok [0, 0] ∧
    getSpansForIndexStringField .asFound [] [] = .ok [0, 0] ∧
    ¬ Wellformed [0, 0] 0 ∧
    getSpansForIndexStringField .repaired [0] [] = .ok [0] ∧
    getSpansForIndexStringField .repaired [] [] = .ok [0] := by
  refine ⟨rfl, rfl, ?_, rfl, rfl⟩
  intro h; have := h.1; simp at this

/-- NC08d: as found `Session.get_spans(fields=(f0, f1, f2))` ignores `f2` and a single entry raises IndexError. The
    repaired variant returns the spans of the zipped rows in both cases. -/
theorem nc08d_third_field_ignored :
    sessionGetSpansFields .asFound [.numeric [1, 1, 2, 2], .numeric [1, 1, 2, 2], .numeric [1, 2, 2, 3]] = .ok [0, 2, 4] ∧
    sessionGetSpansArrays .asFound [[1, 1, 2, 2], [1, 1, 2, 2], [1, 2, 2, 3]] = .ok [0, 2, 4] ∧
    spans neq (jointRows [[1, 1, 2, 2], [1, 1, 2, 2], [1, 2, 2, 3]] 4) = [0, 1, 2, 3, 4] ∧
    getSpansForMultiFields .repaired [[1, 1, 2, 2], [1, 1, 2, 2], [1, 2, 2, 3]] = .ok [0, 1, 2, 3, 4] ∧
    sessionGetSpansFields .asFound [.numeric [1, 1, 2]] = .error (.oob "fields[1]") ∧
    sessionGetSpansFields .repaired [.numeric [1, 1, 2, 2], .numeric [1, 1, 2, 2], .numeric [1, 2, 2, 3]] = .ok [0, 1, 2, 3, 4] ∧
    sessionGetSpansArrays .repaired [[1, 1, 2, 2], [1, 1, 2, 2], [1, 2, 2, 3]] = .ok [0, 1, 2, 3, 4] ∧
    sessionGetSpansFields .repaired [.numeric [1, 1, 2]] = .ok [0, 2, 3] := ⟨rfl, rfl, rfl, rfl, rfl, rfl, rfl, rfl⟩

end Exetera.Witness.C08
