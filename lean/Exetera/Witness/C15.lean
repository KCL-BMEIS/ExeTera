import Exetera.Model.Catalogue
import Exetera.Spec.Catalogue
/-!
  C15 — what the code did before the fix commits (`Variant.asFound`) and the open finding NC15c (stated of
  `Variant.repaired`), as kernel-checked facts about the model.
  The same histories are in `corpus/C15/defects.json` and run against the real code on every check.
-/
namespace Exetera.Witness.C15
open Exetera Exetera.Catalogue

def xab : List Op := [.createFrame 0 "x" none, .create 0 "x" "a" ⟨.numeric, 1⟩, .create 0 "x" "b" ⟨.numeric, 2⟩]

/-- D22: `rename({'a':'b','b':'b_'})` on columns {a,b} raised midway … -/
theorem d22_asFound_raises :
    (step .asFound (run .asFound State.init xab) (.rename 0 "x" [("a", "b"), ("b", "b_")])).isOk = false := by decide +kernel

/-- … leaving `_columns = [a, b]` while the file held `[b, b_]`: the invariant is broken. -/
theorem d22_asFound_splits :
    ¬ Inv (step .asFound (run .asFound State.init xab) (.rename 0 "x" [("a", "b"), ("b", "b_")])).state :=
  fun h => absurd (h.sameKeys (0, "a")).1 (by decide +kernel)

/-- the same call on the repaired code succeeds -/
theorem d22_repaired_ok :
    (step .repaired (run .repaired State.init xab) (.rename 0 "x" [("a", "b"), ("b", "b_")])).isOk = true := by decide +kernel

def xy : List Op := [.createFrame 0 "x" none, .create 0 "x" "a" ⟨.numeric, 1⟩, .createFrame 0 "y" none]

/-- D23: `ds['y'] = ds['x']` with `y` present raised after rewriting `_dataframes`: `keys()` lost `x`, the file kept both. -/
theorem d23_asFound_splits : ¬ Inv (step .asFound (run .asFound State.init xy) (.setFrame 0 "y" 0 "x")).state :=
  fun h => absurd (h.sameFrames ((0, "x"), 0)).2 (by decide +kernel)

theorem d23_repaired_unchanged :
    (step .repaired (run .repaired State.init xy) (.setFrame 0 "y" 0 "x")).state = run .repaired State.init xy := by decide +kernel

def xyi : List Op := [.createFrame 0 "x" none, .createFrame 0 "y" none, .create 0 "x" "a" ⟨.indexed, 1⟩]

/-- D24: moving an indexed string field to another frame copied it, raised AttributeError, kept the source and left the
    handle valid. -/
theorem d24_asFound :
    let r := step .asFound (run .asFound State.init xyi) (.moveField (.byHandle 0) 0 "y" "b")
    r.isOk = false ∧ (0, "a") ∈ keys r.state.cols ∧ (1, "b") ∈ keys r.state.cols ∧ viewHandle r.state 0 = .named "a" := by
  decide +kernel

theorem d24_repaired :
    let r := step .repaired (run .repaired State.init xyi) (.moveField (.byHandle 0) 0 "y" "b")
    r.isOk = true ∧ (0, "a") ∉ keys r.state.cols ∧ (1, "b") ∈ keys r.state.cols ∧ viewHandle r.state 0 = .invalid := by
  decide +kernel

def xyn : List Op := [.createFrame 0 "x" none, .createFrame 0 "y" none, .create 0 "x" "a" ⟨.numeric, 1⟩, .reopen 0]

/-- NC15a: after a reopen every loaded field had `dataframe = None`; a move across frames copied and raised … -/
theorem nc15a_asFound :
    let r := step .asFound (run .asFound State.init xyn) (.moveField (.byName 0 "x" "a") 0 "y" "a")
    r.isOk = false ∧ (0, "a") ∈ keys r.state.cols ∧ (1, "a") ∈ keys r.state.cols := by
  decide +kernel

theorem nc15a_repaired :
    let r := step .repaired (run .repaired State.init xyn) (.moveField (.byName 0 "x" "a") 0 "y" "a")
    r.isOk = true ∧ (0, "a") ∉ keys r.state.cols ∧ (1, "a") ∈ keys r.state.cols := by
  decide +kernel

/-! ### NC15c (open): a second wrapper object of a field is not told when the field is moved away through another object -/

/-- frames x, y; column x.b (field object 0); `w = ds['x']['b'].writeable()` (field object 1) -/
def xyw : List Op := [.createFrame 0 "x" none, .createFrame 0 "y" none, .create 0 "x" "b" ⟨.indexed, 2⟩, .view (.byHandle 0)]

/-- both objects wrap the same group; both are valid and report the name -/
theorem nc15c_view_aliases :
    let s := run .repaired State.init xyw
    (s.handles[1]?).map (·.oid) = (s.handles[0]?).map (·.oid) ∧ viewHandle s 0 = .named "b" ∧ viewHandle s 1 = .named "b" := by
  decide +kernel

/-- NC15c: `dataframe.move(ds['x']['b'], ds['y'], 'b')` flags the object it was handed (0) and nothing else: the view (1)
    keeps `_valid_reference = True` while its group is no longer linked — `w.valid` is True and `w.name` raises
    (`HandleView.unlinked`, the harness's "attribute_error"). The move itself is fine: the catalogue is consistent. -/
theorem nc15c_stale_view :
    let r := step .repaired (run .repaired State.init xyw) (.moveField (.byName 0 "x" "b") 0 "y" "b")
    r.isOk = true ∧ viewHandle r.state 0 = .invalid ∧
    (r.state.handles[1]?).map (·.valid) = some true ∧ viewHandle r.state 1 = .unlinked ∧
    (0, "b") ∉ keys r.state.cols ∧ (1, "b") ∈ keys r.state.cols := by
  decide +kernel

/-- … and the other way round: moved through the view, the view is flagged and the stored object is left valid and dangling. -/
theorem nc15c_stale_original :
    let r := step .repaired (run .repaired State.init xyw) (.moveField (.byHandle 1) 0 "y" "b")
    r.isOk = true ∧ viewHandle r.state 1 = .invalid ∧
    (r.state.handles[0]?).map (·.valid) = some true ∧ viewHandle r.state 0 = .unlinked := by
  decide +kernel

/-- a rename, by contrast, is seen by every wrapper: the name is read from the group -/
theorem views_follow_rename_example :
    let r := step .repaired (run .repaired State.init xyw) (.rename 0 "x" [("b", "a")])
    r.isOk = true ∧ viewHandle r.state 0 = .named "a" ∧ viewHandle r.state 1 = .named "a" := by
  decide +kernel

/-- NC15b (fixed 18216aa): the writeable view of a numeric field had `dataframe = None`; a move through it copied, then raised -/
def xyn2 : List Op := [.createFrame 0 "x" none, .createFrame 0 "y" none, .create 0 "x" "a" ⟨.numeric, 1⟩, .view (.byHandle 0)]

theorem nc15b_asFound :
    let r := step .asFound (run .asFound State.init xyn2) (.moveField (.byHandle 1) 0 "y" "ab")
    r.isOk = false ∧ (0, "a") ∈ keys r.state.cols ∧ (1, "ab") ∈ keys r.state.cols ∧ viewHandle r.state 1 = .named "a" := by
  decide +kernel

theorem nc15b_repaired :
    let r := step .repaired (run .repaired State.init xyn2) (.moveField (.byHandle 1) 0 "y" "ab")
    r.isOk = true ∧ (0, "a") ∉ keys r.state.cols ∧ (1, "ab") ∈ keys r.state.cols ∧ viewHandle r.state 1 = .invalid := by
  decide +kernel

end Exetera.Witness.C15
