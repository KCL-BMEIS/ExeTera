import Exetera.Model.FilterIndex
import Exetera.Spec.FilterIndex
import Exetera.Spec.SortKeys
/-!
  Witnesses of the defects found for C09, on the `asFound` variant of the model (the code before the fix patches).
  They stay in the tree: if a fix is lost, the correspondence matches `asFound` again and these are the replays
  (corpus/C09/defects.json holds the same inputs).
-/
namespace Exetera.Witness.C09
open Exetera Exetera.FilterIndex Exetera.Spec

/-- the field holds ["a", "", "ccc", "dé"] -/
def indices : List Nat := [0, 1, 1, 4, 7]
def values : List Nat := [97, 99, 99, 99, 100, 195, 169]

/-- D8: a filter longer than the field with a set flag beyond the end subscripts `next_[4]` of a 4-element array
    (in the compiled kernel: an out-of-bounds read whose garbage becomes a length) -/
theorem d8_long_filter_reads_out_of_bounds :
    applyFilterToIndexValues .asFound [true, false, true, true, true] indices values = .error (.oob "next_[i]") := by rfl

/-- D8: if the surplus flags are all false the mismatch goes unnoticed -/
theorem d8_long_filter_accepted_silently :
    applyFilterToIndexValues .asFound [true, false, true, true, false, false] indices values =
      .ok ([0, 1, 4, 7], [97, 99, 99, 99, 100, 195, 169]) ∧
    (Column.strs [[97], [], [99, 99, 99], [100, 195, 169]]).filter [true, false, true, true, false, false] = none := by
  constructor <;> rfl

/-- NC09a: a filter shorter than the field silently drops the trailing entries although the spec is undefined -/
theorem nc09a_short_filter_truncates :
    applyFilterToIndexValues .asFound [true, false] indices values = .ok ([0, 1], [97]) ∧
    (Column.strs [[97], [], [99, 99, 99], [100, 195, 169]]).filter [true, false] = none := by
  constructor <;> rfl

/-- the repaired kernel rejects all three -/
theorem repaired_rejects :
    applyFilterToIndexValues .repaired [true, false, true, true, true] indices values =
      .error (.oob "len(index_filter) != len(indices) - 1") ∧
    applyFilterToIndexValues .repaired [true, false, true, true, false, false] indices values =
      .error (.oob "len(index_filter) != len(indices) - 1") ∧
    applyFilterToIndexValues .repaired [true, false] indices values =
      .error (.oob "len(index_filter) != len(indices) - 1") := by
  refine ⟨?_, ?_, ?_⟩ <;> rfl

/-- NC09b: an index beyond the field reaches the unguarded subscript `next_[i]`; the repaired kernel stops at its guard -/
theorem nc09b_index_out_of_bounds :
    applyIndicesToIndexValues .asFound [0, 7] indices values = .error (.oob "next_[i]") ∧
    applyIndicesToIndexValues .asFound [-5] indices values = .error (.oob "next_[i]") ∧
    applyIndicesToIndexValues .repaired [0, 7] indices values = .error (.oob "index out of bounds for indexed field") := by
  refine ⟨?_, ?_, ?_⟩ <;> rfl

/-- NC09g (open): an indexed-string sort key is sorted as a numpy `<U` array, which cannot tell a trailing NUL character from
    padding: the keys `'a\x00'`, `'a'` get the same rank (are tied), so the stable sort leaves them in their original order
    `[0, 1]` — but bytewise `'a' < 'a\x00'`, and the stable ascending permutation of the stored strings is `[1, 0]`. -/
theorem nc09g_trailing_nul_key_ties :
    rankKeys ([[97, 0], [97]].map trimNul) = [0, 0] ∧
    strLt [97] [97, 0] = true ∧
    IsStableSortPermK [.strs [[97, 0], [97]]] 2 [1, 0] ∧ ¬ IsStableSortPermK [.strs [[97, 0], [97]]] 2 [0, 1] ∧
    IsStableSortPermK [KeyCol.numpyView (.strs [[97, 0], [97]])] 2 [0, 1] := by
  refine ⟨by decide +kernel, by decide +kernel, ⟨by decide +kernel, by decide +kernel⟩, ?_, ⟨by decide +kernel, by decide +kernel⟩⟩
  intro h
  have := h.2
  revert this
  decide +kernel

/-- NC09f (fixed in /repo; the regression witness): `df.apply_index(df['k'])` in place on columns k = [0, 2, 0],
    n = [1, 0, 2]. As found the index column is permuted first (k becomes [0, 0, 0]) and `n` is then re-ordered by THAT:
    [1, 1, 1]. Reading the index once gives what the out-of-place call gives: k = [0, 0, 0], n = [1, 2, 1]. -/
theorem nc09f_own_index_column_permuted_midway :
    let num (xs : List Int) : Field := { info := ⟨"numeric", "int64", 0, []⟩, payload := .plain xs, writeEnabled := true }
    colsInPlaceOwnAsFound .repaired "k" [] [("k", num [0, 2, 0]), ("n", num [1, 0, 2])] =
      .ok [("k", num [0, 0, 0]), ("n", num [1, 1, 1])] ∧
    dfApplyIndex .repaired [("src", [("k", num [0, 2, 0]), ("n", num [1, 0, 2])])] "src" [0, 2, 0] none =
      .ok [("src", [("k", num [0, 0, 0]), ("n", num [1, 2, 1])])] := by
  constructor <;> rfl

end Exetera.Witness.C09
