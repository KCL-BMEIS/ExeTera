import Exetera.Lemmas.Export
import Exetera.Spec.CsvRender
/-!
  C18 — counterexamples: the as-found behaviour of the repaired defects (D30 / NC18a, NC18b, NC18e) next to the repaired
  behaviour, and the `IndexError` of `to_csv` without a column to write, which the model mirrors.
-/
namespace Exetera.Witness.C18
open Exetera Exetera.Export Exetera.Spec.Csv

/-- D30 as found (`csv.writer`, `renderRow`): a string with a leading blank does not survive export → re-import:
    `to_csv` writes it unquoted and ExeTera's reader dialect skips blanks at the start of a field. -/
theorem d30_leading_blank_lost :
    toCsv renderRow [⟨['s'], [[' ', 'a'], [' ', ' ']]⟩, ⟨['n'], [['1'], ['2']]⟩] .none .none 2
      = .ok ['s', ',', 'n', '\n', ' ', 'a', ',', '1', '\n', ' ', ' ', ',', '2', '\n'] ∧
    parse .exetera ['s', ',', 'n', '\n', ' ', 'a', ',', '1', '\n', ' ', ' ', ',', '2', '\n']
      = [[['s'], ['n']], [['a'], ['1']], [[], ['2']]] := by decide +kernel

/-- NC18a as found (`csv.writer`, `renderRow`): a cell with a bare carriage return (and nothing that forces quotes) is
    written unquoted; a standard reader ends the record at the CR — while ExeTera's own reader dialect reads the cell
    back intact. -/
theorem nc18a_bare_cr_splits_record :
    toCsv renderRow [⟨['s'], [['i', '\r', 'j']]⟩, ⟨['n'], [['5']]⟩] .none .none 1
      = .ok ['s', ',', 'n', '\n', 'i', '\r', 'j', ',', '5', '\n'] ∧
    parse .std ['s', ',', 'n', '\n', 'i', '\r', 'j', ',', '5', '\n'] = [[['s'], ['n']], [['i']], [['j'], ['5']]] ∧
    parse .exetera ['s', ',', 'n', '\n', 'i', '\r', 'j', ',', '5', '\n'] = [[['s'], ['n']], [['i', '\r', 'j'], ['5']]] := by
  decide +kernel

/-- D30 / NC18a repaired (fixes/D30_NC18a): with ExeTera's own `_csv_record` both witnesses are written in quotes and each
    comes back intact from the reader that lost it. -/
theorem d30_nc18a_repaired_cells_survive :
    toCsv csvRecord [⟨['s'], [[' ', 'a'], [' ', ' ']]⟩, ⟨['n'], [['1'], ['2']]⟩] .none .none 2
      = .ok ['s', ',', 'n', '\n', '"', ' ', 'a', '"', ',', '1', '\n', '"', ' ', ' ', '"', ',', '2', '\n'] ∧
    parse .exetera ['s', ',', 'n', '\n', '"', ' ', 'a', '"', ',', '1', '\n', '"', ' ', ' ', '"', ',', '2', '\n']
      = [[['s'], ['n']], [[' ', 'a'], ['1']], [[' ', ' '], ['2']]] ∧
    toCsv csvRecord [⟨['s'], [['i', '\r', 'j']]⟩, ⟨['n'], [['5']]⟩] .none .none 1
      = .ok ['s', ',', 'n', '\n', '"', 'i', '\r', 'j', '"', ',', '5', '\n'] ∧
    parse .std ['s', ',', 'n', '\n', '"', 'i', '\r', 'j', '"', ',', '5', '\n'] = [[['s'], ['n']], [['i', '\r', 'j'], ['5']]] := by
  decide +kernel

/-- NC18b as found (repaired by fixes/NC18b): `to_pandas` refuses the row filters `to_csv` accepts — a Field, and a boolean
    filter shorter than the frame — and reads an integer array as row numbers. The repaired variant returns the rows `to_csv`
    writes. -/
theorem nc18b_to_pandas_refuses_csv_filters :
    toPandas .asFound [⟨['s'], [['a'], ['b'], ['c']]⟩] (.field true [true, false, true]) .none
      = .error (.oob "only integers, slices, ... are valid indices") ∧
    toPandas .asFound [⟨['s'], [['a'], ['b'], ['c']]⟩] (.array [true, false]) .none
      = .error (.oob "boolean index did not match indexed array") ∧
    toPandas .asFound [⟨['s'], [['a'], ['b'], ['c']]⟩] (.intArray [1, 0, 1]) .none = .ok [(['s'], [['b'], ['a'], ['b']])] ∧
    toCsv renderRow [⟨['s'], [['a'], ['b'], ['c']]⟩] (.array [true, false]) .none 2 = .ok ['s', '\n', 'a', '\n'] ∧
    toCsv renderRow [⟨['s'], [['a'], ['b'], ['c']]⟩] (.intArray [1, 0, 1]) .none 2 = .ok ['s', '\n', 'a', '\n', 'c', '\n'] :=
  ⟨rfl, rfl, rfl, rfl, rfl⟩

/-- … on which the repaired variant returns the rows `to_csv` writes -/
theorem nc18b_repaired_selects_csv_rows :
    toPandas .repaired [⟨['s'], [['a'], ['b'], ['c']]⟩] (.field true [true, false, true]) .none = .ok [(['s'], [['a'], ['c']])] ∧
    toPandas .repaired [⟨['s'], [['a'], ['b'], ['c']]⟩] (.array [true, false]) .none = .ok [(['s'], [['a']])] ∧
    toPandas .repaired [⟨['s'], [['a'], ['b'], ['c']]⟩] (.intArray [1, 0, 1]) .none = .ok [(['s'], [['a'], ['c']])] := by decide +kernel

/-- without a column left to write (the frame's only column is the filter) the loop fails at `chunk_data[0]` (IndexError) -/
theorem no_columns_index_error :
    toCsv renderRow [⟨['b'], [['T']]⟩] (.field (some ['b']) true true [true]) .none 1 = .error (.oob "chunk_data[0]") := rfl

/-- NC18e as found (repaired by fixes/NC18e): the filter column is dropped *by name*, so a filter field of another frame that
    carries the name of a selected column removes that column from the export. -/
def filterColumnNameAsFound : RowFilter → Option Export.Cell
  | .field (some n) _ _ _ => some n
  | _ => Option.none

theorem nc18e_as_found_drops_foreign_named_column :
    filterColumnNameAsFound (.field (some ['b']) false true [true]) = some ['b'] ∧
    ([['s'], ['b']] : List Export.Cell).erase ['b'] = [['s']] ∧
    csvNames [⟨['s'], [['a']]⟩, ⟨['b'], [['7']]⟩] (.field (some ['b']) false true [true]) .none = .ok [['s'], ['b']] := by decide +kernel

end Exetera.Witness.C18
