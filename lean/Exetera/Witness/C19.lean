import Exetera.Model.JoinOld
import Exetera.Lemmas.JoinFlatDec
/-!
  Witnesses for C19.

  NC19d (open, modelled as found): `Session.ordered_merge_left/right/inner` reject an IndexedStringField payload
  (`val.array_from_parameter` hands `ops.map_valid` the pair `(indices, values)`; numba raises TypingError, interpreted
  code AttributeError), whereas `merge_left/right/inner` map indexed payloads through `safe_map_indexed_values`.
-/
namespace Exetera.Witness.C19
open Exetera Exetera.JoinOld

/-- the field form of `ordered_merge_left` with an indexed-string payload (`["a", "bb", ""]`) fails -/
theorem nc19d_indexed_payload_rejected :
    orderedMergeLeft (1 <<< 20) ⟨true, true, .none, false⟩ false true [1, 2, 2, 3] [2, 3, 5]
      [.indexed [0, 1, 3, 3] [97, 98, 98]] = .error (.other "TypingError") := by decide +kernel

/-- … while `merge_left` maps the same payload: rows `["", "a", "a", "bb"]` -/
theorem nc19d_merge_left_maps_indexed :
    mergeLeft Spec.leftJoin [1, 2, 2, 3] [2, 3, 5] [.indexed [0, 1, 3, 3] [97, 98, 98]] =
      .ok [.indexed [0, 0, 1, 2, 4] [97, 97, 98, 98]] := by decide +kernel

/-- the inner form fails in the same way -/
theorem nc19d_inner_indexed_payload_rejected :
    orderedMergeInner false true [1, 2, 2, 3] [2, 3, 5] [.numeric [1, 2, 3, 4]] .none
      [.indexed [0, 1, 3, 3] [97, 98, 98]] .none = .error (.other "TypingError") := by decide +kernel

end Exetera.Witness.C19
