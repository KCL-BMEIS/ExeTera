import Exetera.Props.C06
/-!
# C06 — witness of the open finding NC06d (`categoricalImport`, the model of the importer as found)

A categorical column *without* free text stores `0` for a cell that equals no category key, without flag or
error: with categories `{"no": 0, "yes": 1}` the cell `maybe` is stored as `0`, i.e. as `no`. With the proposed
`fixes/proposed/NC06d_strict_categorical_rejects_unknown_text.patch` (not applied to /repo; model `categoricalImportChecked`)
the same import raises `ValueError`.
-/
namespace Exetera.Witness.C06
open Exetera Exetera.Transforms Exetera.Spec.Transforms

def cats : List (Bytes × Int) := [([110, 111], 0), ([121, 101, 115], 1)]          -- "no" ↦ 0, "yes" ↦ 1

/-- rows `no`, `maybe`, `yes` -/
def chunk : Chunk :=
  { inds := [0, 2, 7, 10], vals := [110, 111, 109, 97, 121, 98, 101, 121, 101, 115], off := 0, cap := 10, rows := 3, col := 0, ncols := 1 }

theorem chunk_encodes : Encodes chunk [[110, 111], [109, 97, 121, 98, 101], [121, 101, 115]] := by
  refine ⟨rfl, ⟨0, ?_, by decide⟩, by decide⟩
  simp [EncFrom, chunk, slice]

/-- `maybe` is no key … -/
theorem maybe_is_no_key : lookup cats [109, 97, 121, 98, 101] = none := by decide

/-- … yet the import as found succeeds and stores the value of `no` for it -/
theorem nc06d_unmatched_text_stored_as_zero :
    categoricalImport cats [chunk] [] = .ok [0, 0, 1] ∧ lookup cats [110, 111] = some 0 := by
  refine ⟨?_, by decide⟩
  rw [Props.C06.categorical_import cats (by decide) [chunk] _ (.cons chunk_encodes .nil) []]
  rfl

/-- with the proposed fix NC06d the same import raises instead -/
theorem nc06d_repaired_import_raises :
    categoricalImportChecked cats [chunk] [] = .error (.valueError "is not one of the categories") :=
  (Props.C06.categorical_property cats (by decide) [chunk] _ (.cons chunk_encodes .nil)).2
    ⟨[109, 97, 121, 98, 101], by decide, by decide⟩

end Exetera.Witness.C06
