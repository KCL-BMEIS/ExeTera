import Exetera.Lemmas.Merge
import Exetera.Model.Concat
/-!
  Counterexample theorems for C02.

  * NC02c (repaired; as-found behaviour kept below): with both ordered hints `DataFrame.merge` maps indexed-string columns through
    `ordered_map_valid_indexed_stream`, whose value buffer holds `chunksize * value_factor` bytes (2^23 with the defaults);
    with fix D5 an entry that does not fit raises a clear `ValueError` instead of looping forever. The hint-free call goes
    through `safe_map_indexed_values` and succeeds — so a truthful hint raises. The model mirrors the code: below, chunk size
    1 and value factor 1 (a one-byte buffer) against the entry "bc".
-/
namespace Exetera.Witness.C02
open Exetera Exetera.Merge Exetera.Spec

/-- `pandas.merge` as the relational join itself -/
def pandasRel (how : String) (lk rk : List Int) : Except Err Pairs := .ok (relJoin how lk rk)

def longEntry (hint : Option Bool) : Input :=
  { how := "left"
    left := [("k", intCol [1, 2]), ("s", .indexed [0, 1, 3] [97, 98, 99])]
    right := [("k", intCol [2, 3])]
    leftOn := ["k"], rightOn := ["k"], leftTuple := false, rightTuple := false
    leftFields := none, rightFields := none
    hintLO := hint, hintRO := hint
    lk := [1, 2], rk := [2, 3] }

/-- NC02c (repaired in /repo; kept as the regression witness). As found, `_ordered_merge` let the stream use its fixed
    default `value_factor`, i.e. a value buffer of `cs * vf` bytes whatever the source holds: with `cs = 1`, `vf = 1` the
    entry "bc" of the column below does not fit and the stream raises — while the hint-free merge returns the left join. With
    the fix the stream sizes the buffer for the longest entry (`autoValueFactor`), and the hinted merge succeeds as well. -/
theorem nc02c_long_entry_raises_only_with_hints :
    MapValid.orderedMapValidIndexedStream [0, 1, 3] [(97 : Int), 98, 99] [0, 1] 4611686018427387904 1 1 =
      .error (.valueError "entry does not fit the value buffer") ∧
    MapValid.autoValueFactor 1 [0, 1, 3] 1 = 2 ∧
    merge pandasRel (longEntry none) 1 1 64 = .ok
      [("k_l", intCol [1, 2]), ("s", .indexed [0, 1, 3] [97, 98, 99]), ("k_r", intCol [0, 2]),
       ("valid_r", boolCol [false, true])] ∧
    (∃ d, merge pandasRel (longEntry (some true)) 1 1 64 = .ok d ∧ look d "s" = some (.indexed [0, 1, 3] [97, 98, 99])) := by
  exact ⟨by decide +kernel, by decide +kernel, by decide +kernel, exists_ok_of_map (by decide +kernel)⟩

end Exetera.Witness.C02
