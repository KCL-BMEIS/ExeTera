import Exetera.Model.Unique
import Exetera.Spec.Unique
import Exetera.Lemmas.UniqueSort
/-!
  Counterexample theorems for C14.

  * NC14a (open, recorded, not repaired): `unique_for_indexed_string` passes the distinct strings through numpy `<U` arrays,
    which drop trailing U+0000. Whatever the column, no returned unique value ends in a zero byte — so a column holding
    `"a\0"` never gets its own value back, and the "same set" clause of the property fails.
  * D21 (repaired by fixes/D21_unique_inverse_sort_permutation.patch; the model mirrors the repaired code): the
    composition of the code as found, on the 3-cycle that `["b","c","a"]` produces.
-/
namespace Exetera.Witness.C14
open Exetera Exetera.Unique Exetera.Spec

theorem stripNul_getLast (y : Bytes) : (stripNul y).getLast? ≠ some 0 := by
  unfold stripNul
  rw [List.getLast?_reverse]
  have := List.head?_dropWhile_not (fun (b : UInt8) => b == 0) y.reverse
  intro h
  rw [h] at this
  simp at this

theorem npSortStr_no_trailing_nul (xs : List Bytes) : ∀ x ∈ npSortStr xs, x.getLast? ≠ some 0 := by
  intro x hx
  have hx' : x ∈ xs.map stripNul := (List.mergeSort_perm _ _).mem_iff.mp hx
  obtain ⟨y, _, rfl⟩ := List.mem_map.mp hx'
  exact stripNul_getLast y

/-- NC14a, general form: on ANY stored column and flags, no unique value returned by the model of
    `unique_for_indexed_string` ends in U+0000 -/
theorem unique_never_returns_trailing_nul (indices : List Nat) (values : Bytes) (ri rv rc : Bool)
    (r : UniqueResult Bytes) (h : uniqueForIndexedString indices values ri rv rc = .ok r) :
    ∀ x ∈ r.uniques, x.getLast? ≠ some 0 := by
  -- every `.ok` exit of the code returns `np.sort` of the kernel's result as its uniques
  have key : ∃ o : UOut, r.uniques = npSortStr o.result := by
    unfold uniqueForIndexedString at h
    split at h
    · cases h
    · split at h
      · cases h; exact ⟨_, rfl⟩
      · dsimp only at h
        split at h
        · cases h
        · split at h
          · cases h
          · split at h
            · cases h
            · cases h; exact ⟨_, rfl⟩
  obtain ⟨o, key⟩ := key
  rw [key]
  exact npSortStr_no_trailing_nul _

/-- NC14a, the corpus witness: the column `["a", "a\0"]` — the set of returned unique values is not the set of column
    values, for every flag combination (`Props.C14.unique_eq_spec_partial` without its hypothesis `hn` is refuted) -/
theorem nc14a_witness (ri rv rc : Bool) (r : UniqueResult Bytes)
    (h : uniqueForIndexedString (encode [[97], [97, 0]]).1 (encode [[97], [97, 0]]).2 ri rv rc = .ok r) :
    ¬ (∀ x, x ∈ r.uniques ↔ x ∈ [[97], [97, 0]]) := by
  intro hall
  have hm : ([97, 0] : Bytes) ∈ r.uniques := (hall _).mpr (by simp)
  exact unique_never_returns_trailing_nul _ _ ri rv rc r h _ hm (by simp)

/-- D21 as found: the discovery order of `["b","c","a"]` is sorted by the permutation `[2,0,1]`; the rows' discovery
    positions are `[0,1,2]`. Indexing the permutation itself (the code as found) gives `[2,0,1]`; indexing its argsort
    (the repaired code, as modelled) gives the correct `[1,2,0]` -/
theorem d21_as_found_vs_repaired :
    gather [2, 0, 1] "" [0, 1, 2] = .ok [2, 0, 1] ∧
    gather (npArgsortNat [2, 0, 1]) "" [0, 1, 2] = .ok [1, 2, 0] ∧
    uniqueInverse bytesLe [[98], [99], [97]] = [1, 2, 0] := by
  refine ⟨rfl, ?_, by decide⟩
  rw [npArgsortNat_perm [2, 0, 1] (by decide)]
  rfl

end Exetera.Witness.C14
