import Exetera.Model.Concat
import Exetera.Spec.CsvLine
/-!
  C16 — counterexamples, checked by kernel evaluation (`decide +kernel`).

  * D25, NC16a and NC16b are *repaired* (fixes/*.patch); the model has an as-found variant of the operation
    (`.asFound`), so the defects are stated as theorems.
  * `room_hypothesis_needed`, `srcChunk_hypothesis_needed`, `bound_hypothesis_needed`, `roundtrip_exception`: the
    hypotheses of `Props.C16.batches_eq_spec_room`, `concat_eq_spec` and `parse_join_roundtrip` are not superfluous.
-/
namespace Exetera.Witness.C16

open Exetera Exetera.Concat Exetera.Spec.CsvLine

/-- eight one-character strings `a … h` -/
def letters : List (List Nat) := [[97], [98], [99], [100], [101], [102], [103], [104]]
def eachRow : List Nat := [0, 1, 2, 3, 4, 5, 6, 7, 8]

/-- D25 as found: eight one-row spans, `src_chunksize = 3` → batches of 2, 3, 3 spans; the third batch is given the
    size of the second batch (3) instead of the running total (5) as `dest_start_v`: offsets `…,5,4,5,6`. -/
theorem d25_asFound_third_batch :
    applySpansConcat .asFound (44 : Nat) 34 eachRow (offsets letters) letters.flatten 3 16 16
      = .ok ⟨[0, 1, 2, 3, 4, 5, 4, 5, 6], [97, 98, 99, 100, 101, 102, 103, 104]⟩ := by decide +kernel

/-- … which is not what the property demands -/
theorem d25_asFound_violates_spec :
    applySpansConcat .asFound (44 : Nat) 34 eachRow (offsets letters) letters.flatten 3 16 16
      ≠ .ok ⟨storedIndices (concatSpec 44 34 letters eachRow), (concatSpec 44 34 letters eachRow).flatten⟩ := by decide +kernel

/-- the repaired loop on the same input -/
theorem d25_repaired :
    applySpansConcat .repaired (44 : Nat) 34 eachRow (offsets letters) letters.flatten 3 16 16
      = .ok ⟨[0, 1, 2, 3, 4, 5, 6, 7, 8], [97, 98, 99, 100, 101, 102, 103, 104]⟩ := by decide +kernel

/-- NC16a as found: `src_chunksize = 1` allocates a one-slot `dest_index`, and the first batch writes `dest_index[1]` -/
theorem nc16a_asFound_index_overrun :
    applySpansConcat .asFound (44 : Nat) 34 [0, 1, 2, 3, 4] (offsets (letters.take 4)) (letters.take 4).flatten 1 16 16
      = .error (.oob "dest_index[d_index_i]") := by decide +kernel

theorem nc16a_repaired :
    applySpansConcat .repaired (44 : Nat) 34 [0, 1, 2, 3, 4] (offsets (letters.take 4)) (letters.take 4).flatten 1 16 16
      = .ok ⟨[0, 1, 2, 3, 4], [97, 98, 99, 100]⟩ := by decide +kernel

/-- NC16b as found: the value buffer (2·2 = 4 bytes) can hold the longest span output (4 bytes), but after the first
    span (1 byte, below the batch limit 4/2) the second one is written without any check of the room left -/
theorem nc16b_asFound_value_overrun :
    (∀ o ∈ concatSpec (44 : Nat) 34 [[97], [98, 99, 100, 101]] [0, 1, 2], o.length ≤ 2 * 2) ∧
    applySpansConcat .asFound (44 : Nat) 34 [0, 1, 2] (offsets [[97], [98, 99, 100, 101]]) [97, 98, 99, 100, 101] 4 2 2
      = .error (.oob "dest_values[copy]") := by decide +kernel

/-- the repaired operation grows the buffer (to 2·(2·4 + 3) = 22 bytes) -/
theorem nc16b_repaired :
    applySpansConcat .repaired (44 : Nat) 34 [0, 1, 2] (offsets [[97], [98, 99, 100, 101]]) [97, 98, 99, 100, 101] 4 2 2
      = .ok ⟨[0, 1, 5], [97, 98, 99, 100, 101]⟩ := by decide +kernel

/-- the room condition of `Props.C16.batches_eq_spec_room` is needed: the same column in a 4-byte buffer -/
theorem room_hypothesis_needed :
    (runBatches .repaired (44 : Nat) 34 [0, 1, 2] (offsets [[97], [98, 99, 100, 101]]) [97, 98, 99, 100, 101] 4 4).map
      (·.dest) = .error (.oob "dest_values[copy]") := by decide +kernel

/-- `src_chunksize = 0`: no room for the leading zero and one offset -/
theorem srcChunk_hypothesis_needed :
    applySpansConcat .repaired (44 : Nat) 34 [0, 1] (offsets [[97]]) [97] 0 16 16
      = .error (.oob "dest_index[d_index_i]") := by decide +kernel

/-- a span boundary beyond the column: `src_index[3]` does not exist (the sizing step already raises) -/
theorem bound_hypothesis_needed :
    applySpansConcat .repaired (44 : Nat) 34 [0, 3] (offsets [[97]]) [97] 4 16 16
      = .error (.oob "src_index[span_ends]") := by decide +kernel

/-- `[[]]` (its line is the empty line) is the one list `parseCsvLine ∘ joinCsv` does not give back -/
theorem roundtrip_exception : parseCsvLine (44 : Nat) 34 (joinCsv 44 34 [[]]) = [] := by decide +kernel

end Exetera.Witness.C16
