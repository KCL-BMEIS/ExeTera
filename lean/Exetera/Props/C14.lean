import Exetera.Model.Unique
import Exetera.Spec.Unique
import Exetera.Lemmas.UniqueKernel
/-!
  C14 — `isin` and `unique` have exact set semantics (indexed strings: proved about the model the driver runs;
  non-indexed field types are numpy calls, i.e. parameters of `applyIsin` / `applyUnique`, tied by the harness only).

  Notation: `encode col = (indices, values)` is the stored form of the column whose rows are the byte strings `col`;
  `bytesLe` / `lexCmp` the lexicographic order of UTF-8 bytes; `Spec.isin`, `Spec.uniques`, `Spec.uniqueIndex`,
  `Spec.uniqueInverse`, `Spec.uniqueCounts` the specification (Spec/Unique.lean).
-/
namespace Exetera.Props.C14
open Exetera Exetera.Unique Exetera.Spec

/-- `compare_arrays(a, b)` reads no subscript out of range and returns the three-way lexicographic comparison -/
theorem compare_arrays_is_lex (a b : Bytes) : compareArrays a b = .ok (lexCmp a b) := compareArrays_eq a b

example : compareArrays [97, 98] [97] = .ok 1 ∧ compareArrays [97] [195, 169] = .ok (-1) ∧ compareArrays [] [] = .ok 0 := by
  simp only [compare_arrays_is_lex, Except.ok.injEq]
  decide +kernel

/-- `lexCmp` is a total order on byte strings: values in {-1,0,1}, `0` exactly on equal strings, antisymmetric,
    transitive -/
theorem lexCmp_total_order (a b c : Bytes) :
    (lexCmp a b = -1 ∨ lexCmp a b = 0 ∨ lexCmp a b = 1) ∧ (lexCmp a b = 0 ↔ a = b) ∧
    lexCmp b a = - lexCmp a b ∧ (lexCmp a b ≤ 0 → lexCmp b c ≤ 0 → lexCmp a c ≤ 0) :=
  ⟨lexCmp_range a b, lexCmp_eq_zero, lexCmp_swap a b, lexCmp_le_trans a b c⟩

/-- … and it is Lean's own lexicographic order `<` on `List UInt8` (a proper prefix is smaller) -/
theorem lexCmp_lt_iff (a b : Bytes) : lexCmp a b = -1 ↔ a < b := by
  fun_induction lexCmp a b with
  | case1 => simp
  | case2 => simp
  | case3 => simp
  | case4 x xs y ys h => simp only [true_iff]; exact List.cons_lt_cons_iff.mpr (Or.inl h)
  | case5 x xs y ys h1 h2 =>
    have hne : x ≠ y := fun e => by subst e; exact UInt8.lt_irrefl _ h2
    simp [List.cons_lt_cons_iff, h1, hne]
  | case6 x xs y ys h1 h2 ih =>
    have : x = y := UInt8.le_antisymm (UInt8.not_lt.mp h2) (UInt8.not_lt.mp h1)
    subst this
    simp [ih]

example : lexCmp [97] [97, 98] = -1 ∧ ([97] : Bytes) < [97, 98] := by
  constructor
  · decide +kernel
  · exact (lexCmp_lt_iff _ _).mp (by decide +kernel)

/-- on a sorted test list the binary search terminates within `len(tests)` iterations, reads no subscript out of
    range and finds `v` iff `v ∈ tests` -/
theorem binary_search_complete (tests : List Bytes) (v : Bytes) (hs : SortedLe tests) :
    isinRow tests v = .ok (decide (v ∈ tests)) := isinRow_eq tests v hs

example : SortedLe [[], [97], [97, 98], [98]] := by
  unfold SortedLe
  decide +kernel

/-- `Field.isin(tests)` on an indexed string column (through `apply_isin`,
    `isin_for_indexed_string_field`, the sort, and the binary-search kernel) returns, for every row, whether the row's value
    is a member of `tests` (`None` entries ignored) — for every column, every test list in any order, with duplicates,
    with strings ending in U+0000 (fix NC14b) -/
theorem isin_eq_mem (col : List Bytes) (ts : List (Option Bytes)) :
    applyIsin refNpIsin id (.indexed (encode col).1 (encode col).2) (some ts)
      = .ok (Spec.isin col (ts.filterMap id)) := by
  have hmap : (ts.map (fun t => t.map id)) = ts := by simp
  simp only [applyIsin, Option.map_some, hmap, isinForIndexedString]
  split
  · rename_i h
    rw [List.eq_nil_of_length_eq_zero (of_decide_eq_true h), isin_nil, encode_rows]
  · rw [isinSpeedup_encode _ col (sortedStr_sorted _), isin_congr fun _ => mem_sortedStr]

/-- the Spec says what the property says: row `r` is `true` iff the row's value is a member of the test set -/
theorem isin_row_iff {α : Type} [BEq α] [LawfulBEq α] (col tests : List α) (r : Nat) (h : r < col.length) :
    (Spec.isin col tests)[r]'(by simpa [Spec.isin] using h) = true ↔ col[r] ∈ tests := by
  simp [Spec.isin]

/-- `isin(None)` on an indexed string field is the explicit `TypeError` -/
theorem isin_none_raises (indices : List Nat) (values : Bytes) :
    applyIsin (α := Bytes) refNpIsin id (.indexed indices values) none = .error (.typeError "isin: NoneType") := rfl

example : applyIsin refNpIsin id (.indexed (encode [[98], [], [195, 169], [97, 98]]).1 (encode [[98], [], [195, 169], [97, 98]]).2)
    (some [some [195, 169], none, some [], some [97]]) = .ok [false, true, true, false] := by
  rw [isin_eq_mem]; exact congrArg _ (by decide +kernel)

/-- **unique = Spec** (functional correctness of `get_indexed_string_unique` + `unique_for_indexed_string` with fix
    D21, through `apply_unique`): for every column none of whose strings ends in U+0000 and every combination of the
    three flags, the call reads no subscript out of range and returns exactly the sorted distinct values and, for the
    requested flags, `uniqueIndex`, `uniqueInverse`, `uniqueCounts`.

    Full statement (without `hn`) is FALSE for the code as it stands — finding NC14a, `Witness.C14`:
      theorem unique_eq_spec (col) (ri rv rc) :
        applyUnique (refNpUnique bytesLe) id (.indexed (encode col).1 (encode col).2) ri rv rc
          = .ok (refNpUnique bytesLe col ri rv rc)
    What is missing: numpy's `<U` result array cannot hold trailing U+0000 (API-level limitation). -/
theorem unique_eq_spec_partial (col : List Bytes) (hn : NoTrailingNul col) (ri rv rc : Bool) :
    applyUnique (refNpUnique bytesLe) id (.indexed (encode col).1 (encode col).2) ri rv rc
      = .ok (refNpUnique bytesLe col ri rv rc) := by
  simp only [applyUnique, uniqueForIndexedString_encode col hn, List.map_id_fun, id_eq]

example : NoTrailingNul [[98], [99], [97], [98], [], [195, 169]] := by
  unfold NoTrailingNul
  decide +kernel

/-- the D21 witness column `["b","c","a"]`: inverse `[1,2,0]` (the code as found returns `[2,0,1]`,
    `Witness.C14.d21_as_found_vs_repaired`) -/
example : applyUnique (refNpUnique bytesLe) id (.indexed (encode [[98], [99], [97]]).1 (encode [[98], [99], [97]]).2) true true true
    = .ok ⟨[[97], [98], [99]], some [2, 0, 1], some [1, 2, 0], some [1, 1, 1]⟩ := by
  rw [unique_eq_spec_partial _ (by unfold NoTrailingNul; decide +kernel)]; exact congrArg _ (by decide +kernel)

/-- the kernel alone: distinct values in discovery order, first rows, row → discovery position, counts; no
    out-of-bounds access (this part needs no hypothesis on U+0000) -/
theorem unique_kernel_discovery_order (col : List Bytes) (ri rv rc : Bool) :
    getIndexedStringUnique (encode col).1 (encode col).2 ri rv rc = .ok (discOut ri rv rc col) :=
  getIndexedStringUnique_encode ri rv rc col

example : discOut true true true [[98], [99], [97], [98]]
    = ⟨[[98], [99], [97]], some [0, 1, 2], some [0, 1, 2, 0], some [2, 1, 1]⟩ := by decide +kernel

/-! ### what the Spec's four results are, in the words of the property (any ordered value type) -/

section
variable {α : Type} [BEq α] [LawfulBEq α] {le : α → α → Bool}

/-- strictly ascending (hence duplicate-free) and the same set as the column -/
theorem unique_sorted_nodup_same_set (ho : IsOrder le) (col : List α) :
    (uniques le col).Pairwise (fun a b => le a b = true ∧ a ≠ b) ∧ (uniques le col).Nodup ∧
    ∀ x, x ∈ uniques le col ↔ x ∈ col :=
  ⟨uniques_strict ho col, uniques_nodup ho col, mem_uniques col⟩

/-- entry `k` of the index is a row holding the `k`-th unique value, and no
    earlier row holds it -/
theorem unique_index_first_occurrence (col : List α) (k : Nat) (hk : k < (uniques le col).length) :
    ∃ (i : Nat) (hi : i < col.length), (uniqueIndex le col)[k]? = some i ∧ col[i] = (uniques le col)[k] ∧
      ∀ (j : Nat) (hj : j < col.length), j < i → col[j] ≠ (uniques le col)[k] := by
  have hmem : (uniques le col)[k] ∈ col := (mem_uniques col _).mp (List.getElem_mem hk)
  have hi : col.idxOf (uniques le col)[k] < col.length := List.idxOf_lt_length_iff.mpr hmem
  refine ⟨_, hi, by simp [uniqueIndex, hk], List.getElem_idxOf hi, ?_⟩
  intro j hj hlt
  exact not_eq_of_lt_idxOf col _ j hj hlt

/-- `uniques[inverse[i]] = col[i]` for every row `i` -/
theorem unique_inverse_reconstructs (col : List α) (i : Nat) (hi : i < col.length) :
    ∃ (k : Nat) (hk : k < (uniques le col).length), (uniqueInverse le col)[i]? = some k ∧ (uniques le col)[k] = col[i] := by
  have hmem : col[i] ∈ uniques le col := (mem_uniques col _).mpr (List.getElem_mem hi)
  have hk : (uniques le col).idxOf col[i] < (uniques le col).length := List.idxOf_lt_length_iff.mpr hmem
  exact ⟨_, hk, by simp [uniqueInverse, hi], List.getElem_idxOf hk⟩

/-- entry `k` counts the rows holding the `k`-th unique value, and the counts add up to the
    number of rows -/
theorem unique_counts_sum (ho : IsOrder le) (col : List α) :
    uniqueCounts le col = (uniques le col).map (fun u => col.count u) ∧ (uniqueCounts le col).sum = col.length :=
  ⟨rfl, sum_counts _ (uniques_nodup ho col) col (fun x hx => (mem_uniques col x).mpr hx)⟩

end

/-- the order used for strings satisfies the order axioms (`IsOrder`) two of the four theorems above ask for -/
theorem bytesLe_is_order : IsOrder bytesLe := bytesLe_isOrder

example : uniques bytesLe [[98], [99], [97], [98]] = [[97], [98], [99]] ∧
    uniqueIndex bytesLe [[98], [99], [97], [98]] = [2, 0, 1] ∧
    uniqueInverse bytesLe [[98], [99], [97], [98]] = [1, 2, 0, 1] ∧
    uniqueCounts bytesLe [[98], [99], [97], [98]] = [1, 2, 1] := by decide +kernel

/-- the property for the model, all in one: for every column without trailing U+0000 and every flag combination the
    call succeeds, the uniques are strictly ascending and are the column's set of values, exactly the requested
    companions are returned, the index gives first occurrences, the inverse reconstructs the column and the counts
    are per-value occurrence counts adding up to the row count -/
theorem unique_properties_partial (col : List Bytes) (hn : NoTrailingNul col) (ri rv rc : Bool) :
    ∃ r, applyUnique (refNpUnique bytesLe) id (.indexed (encode col).1 (encode col).2) ri rv rc = .ok r ∧
      r.uniques.Pairwise (fun a b => bytesLe a b = true ∧ a ≠ b) ∧ (∀ x, x ∈ r.uniques ↔ x ∈ col) ∧
      r.index.isSome = ri ∧ r.inverse.isSome = rv ∧ r.counts.isSome = rc ∧
      (∀ idx, r.index = some idx → ∀ (k : Nat) (hk : k < r.uniques.length),
        ∃ (i : Nat) (hi : i < col.length), idx[k]? = some i ∧ col[i] = r.uniques[k] ∧
          ∀ (j : Nat) (hj : j < col.length), j < i → col[j] ≠ r.uniques[k]) ∧
      (∀ inv, r.inverse = some inv → ∀ (i : Nat) (hi : i < col.length),
        ∃ (k : Nat) (hk : k < r.uniques.length), inv[i]? = some k ∧ r.uniques[k] = col[i]) ∧
      (∀ cnt, r.counts = some cnt → cnt = r.uniques.map (fun u => col.count u) ∧ cnt.sum = col.length) := by
  have h1 := unique_sorted_nodup_same_set bytesLe_isOrder col
  exact ⟨_, unique_eq_spec_partial col hn ri rv rc, h1.1, h1.2.2, isSome_ite_some .., isSome_ite_some .., isSome_ite_some ..,
    fun idx hidx => eq_of_ite_some hidx ▸ unique_index_first_occurrence col,
    fun inv hinv => eq_of_ite_some hinv ▸ unique_inverse_reconstructs col,
    fun cnt hcnt => eq_of_ite_some hcnt ▸ unique_counts_sum bytesLe_isOrder col⟩

/-- an indexed string field that was never written stores `indices = []` (not `[0]`, DESIGN D2): same results -/
theorem isin_empty_storage (ts : List (Option Bytes)) :
    applyIsin refNpIsin id (.indexed [] []) (some ts) = .ok [] := by
  simp only [applyIsin, Option.map_some, isinForIndexedString, isinSpeedup, List.length_nil, Nat.zero_sub, isinLoop,
    List.replicate_zero, ite_self]

theorem unique_empty_storage (ri rv rc : Bool) :
    applyUnique (refNpUnique bytesLe) id (.indexed [] []) ri rv rc
      = .ok ⟨[], if ri then some [] else none, if rv then some [] else none, if rc then some [] else none⟩ := by
  -- no row: the kernel returns its initial state, and gathering through the empty permutation keeps the empty lists
  have hk : getIndexedStringUnique [] [] ri rv rc =
      .ok ⟨[], if ri then some [] else none, if rv then some [] else none, if rc then some [] else none⟩ := rfl
  have hs : npSortStr [] = [] := by simp [npSortStr]
  have hp : npArgsortStr [] = [] := by simp [npArgsortStr]
  simp only [applyUnique, uniqueForIndexedString, hk, hs, hp, gatherOpt_ite _ (rfl : gather [] _ [] = .ok []),
    remapInverse_ite _ (rfl : gather _ _ [] = .ok [])]
  cases ri <;> cases rv <;> cases rc <;> rfl

/-- non-indexed field types: `apply_isin` / `apply_unique` are exactly the numpy call (a parameter of the model; the
    harness compares numpy with the Spec's reference semantics, no theorem speaks about numpy) -/
theorem apply_isin_plain_delegates {α : Type} (npIsin : List α → Option (List (Option α)) → Except Err (List Bool))
    (dec : α → Bytes) (data : List α) (tests : Option (List (Option α))) :
    applyIsin npIsin dec (.plain data) tests = npIsin data tests := rfl

theorem apply_unique_plain_delegates {α : Type} (npUnique : List α → Bool → Bool → Bool → UniqueResult α)
    (ofBytes : Bytes → α) (data : List α) (ri rv rc : Bool) :
    applyUnique npUnique ofBytes (.plain data) ri rv rc = .ok (npUnique data ri rv rc) := rfl

example : ∃ r, applyUnique (refNpUnique bytesLe) id
      (.indexed (encode [[98], [], [195, 169], [98]]).1 (encode [[98], [], [195, 169], [98]]).2) false true true = .ok r ∧
    r.uniques = [[], [98], [195, 169]] ∧ r.index = none ∧ r.inverse = some [1, 0, 2, 1] ∧ r.counts = some [1, 2, 1] := by
  refine ⟨_, unique_eq_spec_partial _ (by unfold NoTrailingNul; decide +kernel) false true true, ?_⟩
  decide +kernel

end Exetera.Props.C14
