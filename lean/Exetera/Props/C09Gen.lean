import Exetera.Props.C09
import Exetera.Lemmas.JoinFlatDec
import Exetera.Lemmas.GenKernelsFilterIndex
/-!
  C09 over the TRANSLATED two-pass kernels of operations.py (`Gen/Kernels.lean`, regenerated by tools/translate_njit.py on
  every run): `apply_filter_to_index_values`, `apply_indices_to_index_values`. `gen_*_ok` transfer every `.ok` run of the
  hand-written model (with fixes D8 / NC09b) to the translated kernel; `gen_*_eq` are the property statements of Props/C09
  for the translated kernels themselves.
-/
namespace Exetera.Props.C09Gen

open Exetera Exetera.FilterIndex Exetera.Spec Exetera.GenK Exetera.Gen.Kernels

theorem gen_filter_indexed_ok (flt : List Bool) (indices values di dv : List Nat)
    (h : applyFilterToIndexValues .repaired flt indices values = .ok (di, dv)) :
    apply_filter_to_index_values.run flt (ints indices) (ints values) = .ok (ints di, ints dv) :=
  apply_filter_to_index_values_ok flt indices values di dv h

/-- the translated `apply_filter_to_index_values`: for a filter with one flag per entry both passes stay inside their
    arrays and return exactly the encoding of the selected entries, in order -/
theorem gen_filter_indexed_eq (es : List (List Nat)) (flt : List Bool) (h : flt.length = es.length) :
    apply_filter_to_index_values.run flt (ints (offsetsF es)) (ints es.flatten) =
      .ok (ints (offsetsF (filterBy flt es)), ints (filterBy flt es).flatten) :=
  apply_filter_to_index_values_ok _ _ _ _ _ (C09.filter_indexed_eq .repaired es flt h)

example : apply_filter_to_index_values.run [true, false, true, true] [0, 1, 1, 4, 7] [97, 99, 99, 99, 100, 195, 169] =
    .ok ([0, 1, 4, 7], [97, 99, 99, 99, 100, 195, 169]) := by decide +kernel
example : ([true, false, true, true] : List Bool).length = ([[97], [], [99, 99, 99], [100, 195, 169]] : List (List Nat)).length := rfl

/-- any other filter length is rejected with IndexError before anything is read (fix D8, which the translated source contains) -/
theorem gen_filter_indexed_length_mismatch (flt : List Bool) (indices values : List Int)
    (h : (flt.length : Int) ≠ max ((indices.length : Int) - 1) 0) :
    apply_filter_to_index_values.run flt indices values = .error (.oob "raise IndexError") :=
  apply_filter_to_index_values_length_mismatch flt indices values h

example : apply_filter_to_index_values.run [true, false] [0, 1, 1, 4, 7] [97, 99, 99, 99, 100, 195, 169] =
    .error (.oob "raise IndexError") := by decide +kernel

theorem gen_index_indexed_ok (idx indices values di dv : List Nat)
    (h : applyIndicesToIndexValues .repaired (ints idx) indices values = .ok (di, dv)) :
    apply_indices_to_index_values.run (ints idx) (ints indices) (ints values) = .ok (ints di, ints dv) :=
  apply_indices_to_index_values_ok idx indices values di dv h

/-- the translated `apply_indices_to_index_values`, NON-NEGATIVE subscripts: destination entry `j` is source entry `idx[j]`.
    `_partial`: the full statement (`C09.index_indexed_eq`) also covers `-n ≤ i < 0` (counted from the end); the translation
    renders a negative subscript as an error branch, so that case is tied to the code by differential execution only. -/
theorem gen_index_indexed_eq_partial (es : List (List Nat)) (idx : List Nat) (rows : List (List Nat))
    (h : gather es (ints idx) = some rows) :
    apply_indices_to_index_values.run (ints idx) (ints (offsetsF es)) (ints es.flatten) =
      .ok (ints (offsetsF rows), ints rows.flatten) :=
  apply_indices_to_index_values_ok _ _ _ _ _ (C09.index_indexed_eq .repaired es (ints idx) rows h)

example : gather [[97], [], [99, 99]] (ints [2, 0, 1, 2]) = some [[99, 99], [97], [], [99, 99]] := by decide
example : apply_indices_to_index_values.run [2, 0, 1, 2] [0, 1, 1, 3] [97, 99, 99] =
    .ok ([0, 2, 3, 3, 5], [99, 99, 97, 99, 99]) := by decide +kernel

end Exetera.Props.C09Gen
