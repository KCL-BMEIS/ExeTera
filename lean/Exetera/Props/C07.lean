import Exetera.Lemmas.GroupByObject
/-!
# C07 — group-by results equal the group-wise reference computation

The theorems are about the definitions of `Model/GroupBy.lean`, `Model/SortIndex.lean` and `Model/Spans.lean` that the
correspondence driver runs (`Driver/C07.lean`), with the `fix:` patches D18 / NC08b / D20 applied (`Variant.repaired`), and
about `Spec/GroupBy.lean`.  They hold for every number of rows (zero included), every number ≥ 1 of key columns, all
values and ANY mix of key kinds: a key column is a list of values compared in its own order (numbers of any dtype as
they are; fixed and indexed strings rank-coded in their bytewise order, which is all the code looks at).

* a key column is `(cast, data)`; `keyRows n cols` are the frame's key tuples, one per row;
* `.ok` results mean: no out-of-bounds access in any modelled kernel, no ValueError from a guard;
* `cast` is what stacking the key columns into one numpy array does to the column AS FOUND (finding D20): with fix D20
  (`groupby .repaired` = `groupbyCols`: every key column is compared in its own dtype) the code never applies it, and the
  full theorems `groupby_eq_spec`, `groupby_count_eq_spec`, `drop_duplicates_eq_spec`, `groupby_indexed_eq_spec`,
  `sorted_hint_irrelevant` carry NO hypothesis about it.
* `Faithful keys` — every column's stacking cast preserves `<` on the values that occur in that column — is what the
  stacked code needs to be right (true for keys of one dtype, false for int64 beyond 2^53 next to a float column and
  for integers next to strings). The `_partial` theorems are the full ones under that hypothesis (corollaries);
  `stacked_eq_columnwise_on_faithful_keys` shows that on such keys the repair changes nothing; the as-found behaviour
  on the other keys is `Witness/C07.lean`.
-/
namespace Exetera.Props.C07
open Exetera Exetera.GroupBy Exetera.Spec Exetera.Spans

def Frame (keys : List KeyCol) (n : Nat) : Prop := keys ≠ [] ∧ ∀ k ∈ keys, k.data.length = n

def cols (keys : List KeyCol) : List (List Int) := keys.map (·.data)

/-- all key columns have the same dtype: stacking casts nothing -/
def SameDtype (keys : List KeyCol) : Prop := ∀ k ∈ keys, k.cast = id

theorem same_dtype_faithful {keys : List KeyCol} (h : SameDtype keys) : Faithful keys := by
  intro k hk a _ b _ hab; rw [h k hk]; exact hab

-- a mixed int64 / float64 key below 2^53 is faithful: the `_partial` theorems apply to it
example : Faithful [⟨castF64, [3, 1, 2, 1]⟩, ⟨id, [0, 0, 1, 1]⟩] := by
  unfold Faithful CastFaithfulOn; decide

private theorem frame_cases {keys : List KeyCol} {n : Nat} (h : Frame keys n) :
    ∃ k0 ks, keys = k0 :: ks ∧ Rect n ((k0 :: ks).map (·.data)) := by
  obtain ⟨hne, hl⟩ := h
  cases keys with
  | nil => exact absurd rfl hne
  | cons k0 ks =>
    refine ⟨k0, ks, rfl, ?_⟩
    intro c hc
    simp only [List.mem_map] at hc
    obtain ⟨k, hk, rfl⟩ := hc
    exact hl k hk

/-- **`Session.dataset_sort_index` is the stable lexicographic sort.** For `n`-row key columns and the start index
    `arange(n)` it returns — without an IndexError — a permutation `idx` of the row numbers along which the pair
    (key tuple, row number) strictly increases: key tuples are non-decreasing in lexicographic order (first key most
    significant) and rows with equal key tuples keep their original order. (`ltBy cs i j` :=
    `tupleLt (key i) (key j) ∨ (key i = key j ∧ i < j)`.) The only assumption on `np.argsort(kind='stable')` is that it
    is a stable sort; in the model it is `List.mergeSort`. -/
theorem lexsort_is_stable_lex_sort (c0 : List Int) (cs : List (List Int)) (n : Nat) (h : ∀ c ∈ c0 :: cs, c.length = n) :
    ∃ idx, SortIndex.datasetSortIndex (c0 :: cs) (List.range n) = .ok idx ∧ idx.Perm (List.range n) ∧
      idx.Pairwise (SortIndex.ltBy (c0 :: cs)) :=
  SortIndex.datasetSortIndex_spec c0 cs n h

example : SortIndex.datasetSortIndex [[1, 0, 1, 0], [5, 7, 3, 7]] (List.range 4) = .ok [1, 3, 2, 0] := by
  simp [SortIndex.datasetSortIndex, SortIndex.sortLoop, SortIndex.sortPass, SortIndex.gather, SortIndex.argsortStable, getE,
    List.mergeSort, List.zipIdx, List.range, List.range.loop, SortIndex.leKey, List.MergeSort.Internal.splitInTwo]

/-- **`df.groupby(by, hint).min|max|first|last(target, ddf)` equals the group-wise reference** (numeric and fixed-string
    targets), sorted or not, with or without a truthful hint: the call succeeds; the written key columns are the columns
    of `outKeys`, the distinct key tuples of the frame in ascending order; the value column holds, for each of them, the
    minimum / maximum / first / last of the target values of that key's rows taken in ORIGINAL row order.
    No hypothesis on the dtypes of the key columns (fix D20). -/
theorem groupby_eq_spec (agg : Agg) (keys : List KeyCol) (hint : Bool) (target : List Int) (n : Nat)
    (hframe : Frame keys n) (htarget : target.length = n)
    (hhint : hint = true → RowsSorted (keyRows n (cols keys))) :
    ∃ kcols vals outKeys, groupbyAgg .repaired agg keys hint [.plain target] = .ok ⟨kcols, [.ints vals]⟩ ∧
      ColumnsOf kcols outKeys ∧ IsGroupBy (keyRows n (cols keys)) target (aggSpec agg) outKeys vals := by
  obtain ⟨k0, ks, rfl, hrect⟩ := frame_cases hframe
  have := groupbyAgg_spec k0 ks hint n hrect (fun h => sortedRows_of_rowsSorted _ n hrect (hhint h)) agg target htarget
  rw [← keyRows_eq_rowsBy _ n hrect] at this
  exact this

/-- `groupby_eq_spec` restricted to `Faithful keys`, the keys on which the stacked code is right as well -/
theorem groupby_eq_spec_partial (agg : Agg) (keys : List KeyCol) (hint : Bool) (target : List Int) (n : Nat)
    (hframe : Frame keys n) (htarget : target.length = n) (_hcast : Faithful keys)
    (hhint : hint = true → RowsSorted (keyRows n (cols keys))) :
    ∃ kcols vals outKeys, groupbyAgg .repaired agg keys hint [.plain target] = .ok ⟨kcols, [.ints vals]⟩ ∧
      ColumnsOf kcols outKeys ∧ IsGroupBy (keyRows n (cols keys)) target (aggSpec agg) outKeys vals :=
  groupby_eq_spec agg keys hint target n hframe htarget hhint

-- non-vacuity, D20's first witness: int64 keys 2^53+1, 2^53, 2^53+1 next to a float64 key column (`castF64` is what
-- stacking does to the first column): a well-formed frame, NOT faithful, and the repaired code returns the two groups
example : Frame [⟨castF64, [9007199254740993, 9007199254740992, 9007199254740993]⟩, ⟨id, [0, 0, 0]⟩] 3 ∧
    ¬ Faithful [⟨castF64, [9007199254740993, 9007199254740992, 9007199254740993]⟩, ⟨id, [0, 0, 0]⟩] := by
  refine ⟨⟨by simp, by simp⟩, fun h => ?_⟩
  have := h _ (List.mem_cons_self ..) 9007199254740992 (by simp) 9007199254740993 (by simp) (by decide)
  revert this; decide
private theorem ex_sort_d20 :
    SortIndex.datasetSortIndex [[9007199254740993, 9007199254740992, 9007199254740993], [0, 0, 0]] (List.range 3) = .ok [1, 0, 2] := by
  simp [SortIndex.datasetSortIndex, SortIndex.sortLoop, SortIndex.sortPass, SortIndex.gather, SortIndex.argsortStable, getE,
    List.mergeSort, List.zipIdx, List.range, List.range.loop, SortIndex.leKey, List.MergeSort.Internal.splitInTwo]
private theorem ex_g_d20 :
    groupby .repaired [⟨castF64, [9007199254740993, 9007199254740992, 9007199254740993]⟩, ⟨id, [0, 0, 0]⟩] false =
      .ok ⟨some [1, 0, 2], [0, 1, 3]⟩ := by
  have h2 : keysSorted [[9007199254740993, 9007199254740992, 9007199254740993], [0, 0, 0]] = false := by decide
  simp only [groupby, groupbyCols, readKeys, List.map, List.all, nrows, List.length, Nat.zero_add, Nat.reduceAdd, h2,
    BEq.rfl, Bool.and_self, if_true, Bool.or_self, Bool.false_eq_true, if_false, ex_sort_d20]
  rfl
example : groupbyAgg .repaired .max [⟨castF64, [9007199254740993, 9007199254740992, 9007199254740993]⟩, ⟨id, [0, 0, 0]⟩] false
    [.plain [5, 6, 7]] = .ok ⟨[[9007199254740992, 9007199254740993], [0, 0]], [.ints [6, 7]]⟩ := by
  simp only [groupbyAgg, ex_g_d20]
  rfl

/-- `min`, spelled out: value `j` is the minimum of the target over the rows whose key tuple is `outKeys[j]` -/
theorem groupby_min_eq_spec (keys : List KeyCol) (hint : Bool) (target : List Int) (n : Nat)
    (hframe : Frame keys n) (htarget : target.length = n)
    (hhint : hint = true → RowsSorted (keyRows n (cols keys))) :
    ∃ kcols vals outKeys, groupbyAgg .repaired .min keys hint [.plain target] = .ok ⟨kcols, [.ints vals]⟩ ∧
      ColumnsOf kcols outKeys ∧ DistinctAscending (keyRows n (cols keys)) outKeys ∧
      vals.map some = outKeys.map (fun k => (select (keyRows n (cols keys)) target k).min?) :=
  groupby_eq_spec .min keys hint target n hframe htarget hhint

/-- `last`, spelled out: value `j` is the target value of the LAST row (in original order) whose key tuple is `outKeys[j]` -/
theorem groupby_last_eq_spec (keys : List KeyCol) (hint : Bool) (target : List Int) (n : Nat)
    (hframe : Frame keys n) (htarget : target.length = n)
    (hhint : hint = true → RowsSorted (keyRows n (cols keys))) :
    ∃ kcols vals outKeys, groupbyAgg .repaired .last keys hint [.plain target] = .ok ⟨kcols, [.ints vals]⟩ ∧
      ColumnsOf kcols outKeys ∧ DistinctAscending (keyRows n (cols keys)) outKeys ∧
      vals.map some = outKeys.map (fun k => (select (keyRows n (cols keys)) target k).getLast?) :=
  groupby_eq_spec .last keys hint target n hframe htarget hhint

-- non-vacuity: an unsorted two-key frame with a repeated key tuple; hypotheses hold, and the model's answer is the reference
example : Frame [⟨id, [1, 0, 1, 0, 1]⟩, ⟨id, [5, 7, 5, 7, 3]⟩] 5 ∧ SameDtype [⟨id, [1, 0, 1, 0, 1]⟩, ⟨id, [5, 7, 5, 7, 3]⟩] :=
  ⟨⟨by simp, by simp⟩, by simp [SameDtype]⟩
private theorem ex_sort : SortIndex.datasetSortIndex [[1, 0, 1, 0, 1], [5, 7, 5, 7, 3]] (List.range 5) = .ok [1, 3, 4, 0, 2] := by
  simp [SortIndex.datasetSortIndex, SortIndex.sortLoop, SortIndex.sortPass, SortIndex.gather, SortIndex.argsortStable, getE,
    List.mergeSort, List.zipIdx, List.range, List.range.loop, SortIndex.leKey, List.MergeSort.Internal.splitInTwo]
private theorem ex_g_5 : groupby .repaired [⟨id, [1, 0, 1, 0, 1]⟩, ⟨id, [5, 7, 5, 7, 3]⟩] false = .ok ⟨some [1, 3, 4, 0, 2], [0, 2, 3, 5]⟩ := by
  have h2 : keysSorted [[1, 0, 1, 0, 1], [5, 7, 5, 7, 3]] = false := by decide
  simp only [groupby, groupbyCols, readKeys, List.map, List.all, nrows, List.length, Nat.zero_add, Nat.reduceAdd, h2,
    BEq.rfl, Bool.and_self, if_true, Bool.or_self, Bool.false_eq_true, if_false, ex_sort]
  rfl
example : groupbyAgg .repaired .last [⟨id, [1, 0, 1, 0, 1]⟩, ⟨id, [5, 7, 5, 7, 3]⟩] false [.plain [10, 20, 30, 40, 50]] =
    .ok ⟨[[0, 1, 1], [7, 3, 5]], [.ints [40, 50, 30]]⟩ := by
  simp only [groupbyAgg, ex_g_5]
  rfl
example : groupbyAgg .repaired .min [⟨id, [0, 0, 1, 1, 1]⟩] true [.plain [4, 2, 9, 7, 8]] =
    .ok ⟨[[0, 1]], [.ints [2, 7]]⟩ := rfl
example : RowsSorted (keyRows 5 (cols [⟨id, [0, 0, 1, 1, 1]⟩])) := by simp [RowsSorted, keyRows, cols, tupleLt]

/-- **`df.groupby(by, hint).count(ddf)`**: one row per distinct key tuple, ascending, with the number of rows carrying
    that key; **the counts sum to the number of rows**. -/
theorem groupby_count_eq_spec (keys : List KeyCol) (hint : Bool) (n : Nat) (hframe : Frame keys n)
    (hhint : hint = true → RowsSorted (keyRows n (cols keys))) :
    ∃ kcols counts outKeys, groupbyCount .repaired keys hint = .ok ⟨kcols, [.ints counts]⟩ ∧
      ColumnsOf kcols outKeys ∧ IsGroupCount (keyRows n (cols keys)) outKeys counts ∧ counts.sum = n := by
  obtain ⟨k0, ks, rfl, hrect⟩ := frame_cases hframe
  have := groupbyCount_spec k0 ks hint n hrect (fun h => sortedRows_of_rowsSorted _ n hrect (hhint h))
  rw [← keyRows_eq_rowsBy _ n hrect] at this
  exact this

/-- `groupby_count_eq_spec` restricted to `Faithful keys` -/
theorem groupby_count_eq_spec_partial (keys : List KeyCol) (hint : Bool) (n : Nat) (hframe : Frame keys n)
    (_hcast : Faithful keys) (hhint : hint = true → RowsSorted (keyRows n (cols keys))) :
    ∃ kcols counts outKeys, groupbyCount .repaired keys hint = .ok ⟨kcols, [.ints counts]⟩ ∧
      ColumnsOf kcols outKeys ∧ IsGroupCount (keyRows n (cols keys)) outKeys counts ∧ counts.sum = n :=
  groupby_count_eq_spec keys hint n hframe hhint

-- D20's first witness: two groups, counts 1 and 2 (as found: ONE group of 3 rows, `Witness.C07.d20_float_collapses_groups`)
example : groupbyCount .repaired [⟨castF64, [9007199254740993, 9007199254740992, 9007199254740993]⟩, ⟨id, [0, 0, 0]⟩] false =
    .ok ⟨[[9007199254740992, 9007199254740993], [0, 0]], [.ints [1, 2]]⟩ := by
  simp only [groupbyCount, ex_g_d20]
  rfl

theorem counts_sum_to_n (keys : List KeyCol) (hint : Bool) (n : Nat) (hframe : Frame keys n)
    (hhint : hint = true → RowsSorted (keyRows n (cols keys))) :
    ∃ kcols counts, groupbyCount .repaired keys hint = .ok ⟨kcols, [.ints counts]⟩ ∧ counts.sum = n := by
  obtain ⟨kcols, counts, _, h, _, _, hs⟩ := groupby_count_eq_spec keys hint n hframe hhint
  exact ⟨kcols, counts, h, hs⟩

example : groupbyCount .repaired [⟨id, [1, 0, 1, 0, 1]⟩, ⟨id, [5, 7, 5, 7, 3]⟩] false =
    .ok ⟨[[0, 1, 1], [7, 3, 5]], [.ints [2, 1, 2]]⟩ := by
  simp only [groupbyCount, ex_g_5]
  rfl

/-- **`df.groupby(by, hint).distinct(ddf)` = `df.drop_duplicates(by, ddf, hint)`**: the distinct key tuples, ascending -/
theorem drop_duplicates_eq_spec (keys : List KeyCol) (hint : Bool) (n : Nat) (hframe : Frame keys n)
    (hhint : hint = true → RowsSorted (keyRows n (cols keys))) :
    ∃ kcols outKeys, groupbyDistinct .repaired keys hint = .ok ⟨kcols, []⟩ ∧
      ColumnsOf kcols outKeys ∧ DistinctAscending (keyRows n (cols keys)) outKeys := by
  obtain ⟨k0, ks, rfl, hrect⟩ := frame_cases hframe
  have := groupbyDistinct_spec k0 ks hint n hrect (fun h => sortedRows_of_rowsSorted _ n hrect (hhint h))
  rw [← keyRows_eq_rowsBy _ n hrect] at this
  exact this

/-- `drop_duplicates_eq_spec` restricted to `Faithful keys` -/
theorem drop_duplicates_eq_spec_partial (keys : List KeyCol) (hint : Bool) (n : Nat) (hframe : Frame keys n)
    (_hcast : Faithful keys) (hhint : hint = true → RowsSorted (keyRows n (cols keys))) :
    ∃ kcols outKeys, groupbyDistinct .repaired keys hint = .ok ⟨kcols, []⟩ ∧
      ColumnsOf kcols outKeys ∧ DistinctAscending (keyRows n (cols keys)) outKeys :=
  drop_duplicates_eq_spec keys hint n hframe hhint

-- D20's second witness: integer keys [10, 9] next to a string key column (`castDec`: "10" < "9" as text). The repaired
-- code finds the frame unsorted and returns the keys ascending: 9, 10 (as found: 10, 9, `Witness.C07.d20_text_order_not_ascending`)
private theorem ex_sort_dec : SortIndex.datasetSortIndex [[10, 9], [0, 0]] (List.range 2) = .ok [1, 0] := by
  simp [SortIndex.datasetSortIndex, SortIndex.sortLoop, SortIndex.sortPass, SortIndex.gather, SortIndex.argsortStable, getE,
    List.mergeSort, List.zipIdx, List.range, List.range.loop, SortIndex.leKey, List.MergeSort.Internal.splitInTwo]
example : groupbyDistinct .repaired [⟨castDec, [10, 9]⟩, ⟨id, [0, 0]⟩] false = .ok ⟨[[9, 10], [0, 0]], []⟩ := by
  have h2 : keysSorted [[10, 9], [0, 0]] = false := by decide
  simp only [groupbyDistinct, groupby, groupbyCols, readKeys, List.map, List.all, nrows, List.length, Nat.zero_add, Nat.reduceAdd, h2,
    BEq.rfl, Bool.and_self, if_true, Bool.or_self, Bool.false_eq_true, if_false, ex_sort_dec]
  rfl
example : Frame [⟨castDec, [10, 9]⟩, ⟨id, [0, 0]⟩] 2 ∧ ¬ Faithful [⟨castDec, [10, 9]⟩, ⟨id, [0, 0]⟩] := by
  refine ⟨⟨by simp, by simp⟩, fun h => ?_⟩
  have := h _ (List.mem_cons_self ..) 9 (by simp) 10 (by simp) (by decide)
  revert this; decide

example : groupbyDistinct .repaired [⟨id, [1, 0, 1, 0, 1]⟩, ⟨id, [5, 7, 5, 7, 3]⟩] false = .ok ⟨[[0, 1, 1], [7, 3, 5]], []⟩ := by
  simp only [groupbyDistinct, ex_g_5]
  rfl

/-- **a truthful `hint_keys_is_sorted=True` is unobservable**: on a sorted frame `groupby` returns the same grouping
    with and without the hint (the sortedness test answers `True` itself), hence so do count / min / max / first / last /
    distinct. No hypothesis on the dtypes of the key columns (fix D20). -/
theorem sorted_hint_irrelevant (keys : List KeyCol) (n : Nat) (hframe : Frame keys n)
    (hsorted : RowsSorted (keyRows n (cols keys))) :
    groupby .repaired keys true = groupby .repaired keys false := by
  obtain ⟨k0, ks, rfl, hrect⟩ := frame_cases hframe
  exact groupbyCols_hint_irrelevant k0 ks n hrect (sortedRows_of_rowsSorted _ n hrect hsorted)

/-- under `Faithful keys` the same holds for EVERY variant of the code (as found: the stacked key array over the
    as-found span kernels) -/
theorem sorted_hint_irrelevant_partial (v : Variant) (keys : List KeyCol) (n : Nat) (hframe : Frame keys n) (hcast : Faithful keys)
    (hsorted : RowsSorted (keyRows n (cols keys))) :
    groupby v keys true = groupby v keys false := by
  cases v with
  | repaired => exact sorted_hint_irrelevant keys n hframe hsorted
  | asFound =>
    obtain ⟨k0, ks, rfl, hrect⟩ := frame_cases hframe
    exact groupby_hint_irrelevant .asFound k0 ks n hrect hcast (sortedRows_of_rowsSorted _ n hrect hsorted)

theorem sorted_hint_irrelevant_agg (agg : Agg) (keys : List KeyCol) (targets : List Target) (n : Nat) (hframe : Frame keys n)
    (hsorted : RowsSorted (keyRows n (cols keys))) :
    groupbyAgg .repaired agg keys true targets = groupbyAgg .repaired agg keys false targets ∧
    groupbyCount .repaired keys true = groupbyCount .repaired keys false ∧
    groupbyDistinct .repaired keys true = groupbyDistinct .repaired keys false := by
  have h := sorted_hint_irrelevant keys n hframe hsorted
  simp only [groupbyAgg, groupbyCount, groupbyDistinct, h, and_self]

-- mixed dtypes, sorted in the columns' own order but NOT as text ("9" > "10"): the hint changes nothing
example : groupby .repaired [⟨castDec, [9, 10, 10]⟩, ⟨id, [1, 0, 0]⟩] true = groupby .repaired [⟨castDec, [9, 10, 10]⟩, ⟨id, [1, 0, 0]⟩] false := rfl
example : RowsSorted (keyRows 3 (cols [⟨castDec, [9, 10, 10]⟩, ⟨id, [1, 0, 0]⟩])) := by simp [RowsSorted, keyRows, cols, tupleLt]
example : groupby .repaired [⟨id, [0, 0, 1, 1, 1]⟩] true = groupby .repaired [⟨id, [0, 0, 1, 1, 1]⟩] false := rfl

/-! ## fix D20 changes nothing where the stacked code is right -/

/-- **the repair is conservative**: on key columns whose stacking casts are faithful the repaired `groupby` (every key
    column compared in its own dtype) hands to count / min / max / first / last / distinct exactly the grouping — the same
    sort index or `None`, the same span array — that the stacked `groupby` (D20 unfixed, D18 / NC08b fixed) hands to them,
    for every value of the hint (truthful or not); hence every aggregate, every written key column and every error is the
    same. -/
theorem stacked_eq_columnwise_on_faithful_keys (keys : List KeyCol) (hint : Bool) (n : Nat) (hframe : Frame keys n)
    (hcast : Faithful keys) :
    groupbyStacked .repaired keys hint = groupby .repaired keys hint := by
  obtain ⟨k0, ks, rfl, hrect⟩ := frame_cases hframe
  exact groupbyStacked_eq_groupbyCols k0 ks hint n hrect hcast

/-- in particular for a single key and for compound keys of ONE dtype (numpy promotes nothing: all casts are `id`) -/
theorem repair_unobservable_for_one_dtype (keys : List KeyCol) (hint : Bool) (n : Nat) (hframe : Frame keys n)
    (hdtype : SameDtype keys) :
    groupbyStacked .repaired keys hint = groupby .repaired keys hint :=
  stacked_eq_columnwise_on_faithful_keys keys hint n hframe (same_dtype_faithful hdtype)

-- an unsorted two-key frame of one dtype with an UNtruthful hint: stacked and column-wise `groupby` return the spans of
-- the frame as it stands
example : groupbyStacked .repaired [⟨id, [1, 0, 1, 1]⟩, ⟨id, [5, 7, 7, 7]⟩] true = .ok ⟨none, [0, 1, 2, 4]⟩ ∧
    groupby .repaired [⟨id, [1, 0, 1, 1]⟩, ⟨id, [5, 7, 7, 7]⟩] true = .ok ⟨none, [0, 1, 2, 4]⟩ := ⟨rfl, rfl⟩
-- … and the hypothesis cannot be dropped: D20's witness (as found one span, repaired the frame is sorted first)
example : groupbyStacked .repaired [⟨castF64, [9007199254740993, 9007199254740992, 9007199254740993]⟩, ⟨id, [0, 0, 0]⟩] false =
    .ok ⟨none, [0, 3]⟩ := rfl

/-- `IsGroupBy` has at most one solution: two results meeting the specification have the same keys and values -/
theorem spec_determines_result {rows : List (List Int)} {tgt : List Int} {agg : List Int → Option Int}
    {k₁ k₂ : List (List Int)} {v₁ v₂ : List Int} (h₁ : IsGroupBy rows tgt agg k₁ v₁) (h₂ : IsGroupBy rows tgt agg k₂ v₂) :
    k₁ = k₂ ∧ v₁ = v₂ :=
  isGroupBy_unique h₁ h₂

/-- **`Session.aggregate_min|max|first|last(index, target)` agrees with `groupby` on pre-grouped data**: for a numeric
    index in ascending order the session entry point succeeds (spans of the index, the `len(target) == spans[-1]` check,
    the kernel) and returns exactly the value column of `df.groupby(index).<agg>(target)`, hint or no hint. -/
theorem aggregate_agrees_on_pregrouped (agg : Agg) (index target : List Int) (hint : Bool)
    (htarget : target.length = index.length) (hsorted : index.Pairwise (· ≤ ·)) :
    ∃ kcols vals, groupbyAgg .repaired agg [⟨id, index⟩] hint [.plain target] = .ok ⟨kcols, [.ints vals]⟩ ∧
      aggregate .repaired agg (.numeric index) (some target) = .ok vals := by
  have hrect : Rect index.length [index] := by intro c hc; simp at hc; subst hc; rfl
  have hframe : Frame [⟨id, index⟩] index.length := ⟨by simp, by simp⟩
  obtain ⟨kcols, vals, outKeys, h1, _, hg1⟩ := groupby_eq_spec agg [⟨id, index⟩] hint target index.length hframe htarget
    (fun _ => rowsSorted_of_sortedRows [index] index.length hrect (sortedRows_single index hsorted))
  obtain ⟨vals', outKeys', h2, hg2⟩ := aggregate_spec agg index target htarget hsorted
  have hrows : keyRows index.length (cols [⟨id, index⟩]) = rowsBy [index] index.length := keyRows_eq_rowsBy [index] _ hrect
  rw [hrows] at hg1
  obtain ⟨_, hv⟩ := isGroupBy_unique hg1 hg2
  exact ⟨kcols, vals, h1, by rw [h2, hv]⟩

/-- `Session.aggregate_count(index)` agrees with `df.groupby(index).count()` on pre-grouped data -/
theorem aggregate_count_agrees_on_pregrouped (index : List Int) (hint : Bool) (hsorted : index.Pairwise (· ≤ ·)) :
    ∃ kcols counts, groupbyCount .repaired [⟨id, index⟩] hint = .ok ⟨kcols, [.ints counts]⟩ ∧
      aggregateCount .repaired (.numeric index) = .ok counts := by
  have hrect : Rect index.length [index] := by intro c hc; simp at hc; subst hc; rfl
  have hframe : Frame [⟨id, index⟩] index.length := ⟨by simp, by simp⟩
  obtain ⟨kcols, counts, outKeys, h1, _, hg1, _⟩ := groupby_count_eq_spec [⟨id, index⟩] hint index.length hframe
    (fun _ => rowsSorted_of_sortedRows [index] index.length hrect (sortedRows_single index hsorted))
  obtain ⟨counts', outKeys', h2, hg2⟩ := aggregateCount_spec index hsorted
  have hrows : keyRows index.length (cols [⟨id, index⟩]) = rowsBy [index] index.length := keyRows_eq_rowsBy [index] _ hrect
  rw [hrows] at hg1
  have hk := distinctAscending_unique hg1.1 hg2.1
  subst hk
  exact ⟨kcols, counts, h1, by rw [h2, hg2.2, hg1.2]⟩

example : aggregate .repaired .max (.numeric [1, 1, 2, 2, 2, 5]) (some [5, 6, 1, 9, 3, 4]) = .ok [6, 9, 4] ∧
    groupbyAgg .repaired .max [⟨id, [1, 1, 2, 2, 2, 5]⟩] false [.plain [5, 6, 1, 9, 3, 4]] = .ok ⟨[[1, 2, 5]], [.ints [6, 9, 4]]⟩ :=
  ⟨rfl, rfl⟩

/-- **`df.groupby(by, hint).min|max|first|last(target, ddf)` for an indexed-string target** with a well-formed index
    (`decodeRows indices values` are its strings as byte lists): the call succeeds (no out-of-bounds read in
    `apply_indices_to_index_values`, `apply_spans_index_of_min/max_indexed` — with fix D18 —, `apply_spans_index_of_first/last`), and
    the value column holds for each distinct key tuple the first / last string of its rows in original order, resp. the
    smallest / largest string in bytewise lexicographic order (a proper prefix is smaller). -/
theorem groupby_indexed_eq_spec (agg : Agg) (keys : List KeyCol) (hint : Bool) (indices values : List Nat) (n : Nat)
    (hframe : Frame keys n) (hindex : ValidIndex indices values) (hrows : indices.length = n + 1)
    (hhint : hint = true → RowsSorted (keyRows n (cols keys))) :
    ∃ kcols out outKeys, groupbyAgg .repaired agg keys hint [.indexed indices values] = .ok ⟨kcols, [.strs out]⟩ ∧
      ColumnsOf kcols outKeys ∧
      IsGroupBy (keyRows n (cols keys)) (decodeRows indices values) (aggSpecStr agg) outKeys out := by
  obtain ⟨k0, ks, rfl, hrect⟩ := frame_cases hframe
  have := groupbyAgg_indexed_spec k0 ks hint n hrect (fun h => sortedRows_of_rowsSorted _ n hrect (hhint h)) agg indices values
    hindex hrows
  rw [← keyRows_eq_rowsBy _ n hrect] at this
  exact this

/-- `groupby_indexed_eq_spec` restricted to `Faithful keys` -/
theorem groupby_indexed_eq_spec_partial (agg : Agg) (keys : List KeyCol) (hint : Bool) (indices values : List Nat) (n : Nat)
    (hframe : Frame keys n) (hindex : ValidIndex indices values) (hrows : indices.length = n + 1) (_hcast : Faithful keys)
    (hhint : hint = true → RowsSorted (keyRows n (cols keys))) :
    ∃ kcols out outKeys, groupbyAgg .repaired agg keys hint [.indexed indices values] = .ok ⟨kcols, [.strs out]⟩ ∧
      ColumnsOf kcols outKeys ∧
      IsGroupBy (keyRows n (cols keys)) (decodeRows indices values) (aggSpecStr agg) outKeys out :=
  groupby_indexed_eq_spec agg keys hint indices values n hframe hindex hrows hhint

-- mixed key dtypes (int64 beyond 2^53 next to a float64 column) with an indexed-string target "x", "yy", "z": last per group
example : groupbyAgg .repaired .last [⟨castF64, [9007199254740993, 9007199254740992, 9007199254740993]⟩, ⟨id, [0, 0, 0]⟩] false
    [.indexed [0, 1, 3, 4] [120, 121, 121, 122]] = .ok ⟨[[9007199254740992, 9007199254740993], [0, 0]], [.strs [[121, 121], [122]]]⟩ := by
  simp only [groupbyAgg, ex_g_d20]
  rfl

-- strings "b", "ab", "a" (D18's witness) in one group, "c", "" in another: min = "a", ""
example : groupbyAgg .repaired .min [⟨id, [0, 0, 0, 1, 1]⟩] false [.indexed [0, 1, 3, 4, 5, 5] [98, 97, 98, 97, 99]] =
    .ok ⟨[[0, 1]], [.strs [[97], []]]⟩ := rfl
example : ValidIndex [0, 1, 3, 4, 5, 5] [98, 97, 98, 97, 99] := by
  refine ⟨by decide, ?_⟩
  intro x hx; simp at hx; rcases hx with rfl | rfl | rfl | rfl | rfl <;> decide

/-- **targets are aggregated independently**: the result for a list of targets is the list of the results for each
    target alone, with the same key columns -/
theorem targets_independent (v : Variant) (agg : Agg) (keys : List KeyCol) (hint : Bool) (t : Target) (ts : List Target)
    (kcols : List (List Int)) (c : Col) (cs : List Col)
    (h1 : groupbyAgg v agg keys hint [t] = .ok ⟨kcols, [c]⟩) (h2 : groupbyAgg v agg keys hint ts = .ok ⟨kcols, cs⟩) :
    groupbyAgg v agg keys hint (t :: ts) = .ok ⟨kcols, c :: cs⟩ := by
  unfold groupbyAgg at *
  cases hg : groupby v keys hint with
  | error e => simp [hg] at h1
  | ok g =>
    simp only [hg, aggOf] at h1 h2 ⊢
    cases hw : writeKeys g (keys.map (·.data)) with
    | error e => simp [hw] at h1
    | ok ks =>
      simp only [hw] at h1 h2 ⊢
      cases ha : aggTarget v agg g t with
      | error e => simp [aggTargets, ha] at h1
      | ok c' =>
        cases hb : aggTargets v agg g ts with
        | error e => simp [hb] at h2
        | ok cs' =>
          simp only [aggTargets, ha, hb, SortIndex.consE_ok] at h1 h2 ⊢
          simp only [Except.ok.injEq, Out.mk.injEq, List.cons.injEq, and_true] at h1 h2
          rw [h1.2, h2.2, h1.1]

end Exetera.Props.C07
