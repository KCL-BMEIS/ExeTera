import Exetera.Props.C05
import Exetera.Lemmas.CsvTypedRaise
/-!
# C05 ∘ C06 — the public entry point with a schema of typed columns: `typed import = C06.spec ∘ C05.spec`

**Reading note on "fix NC06d".** NC06d (a strict categorical column stores code 0 for a cell that equals no category key) is an OPEN
finding: the repair exists only as a proposal (`fixes/proposed/NC06d_strict_categorical_rejects_unknown_text.patch`) and is NOT
applied to /repo. Wherever a statement below says "fix NC06d" / "checked" it describes the PROPOSED importer (the model variant
`categoricalImportChecked`, specified by `catColumn`): for strict categorical columns it is a statement about that proposal, not about the code as
found. What holds of the code as found is `categorical_property_partial` (every cell that IS a key is stored as its code) and the
witness `Witness.C06.nc06d_unmatched_text_stored_as_zero`; the checks report the difference as KNOWN-FINDING NC06d. For every other
column kind (and for strict categorical cells that are keys) the two coincide.

`Props/C05.lean` proves that the CSV reader hands over exactly the file's records whatever the chunking and the regrowth
(text columns); `Props/C06.lean` proves, per importer and per chunk, that the typed conversion is the specified one. Here
the two are composed for the model the correspondence driver executes (`Csv.readFile` / `Csv.readCsv` of `Model/Csv.lean`,
whose importers are the models of `Model/Transforms.lean` fed, per kernel call, with the chunk
`column_inds[col_idx]`, `column_vals`, `column_offsets[col_idx]`, budget, `written_row_count`). The interface is
`staging_column_encodes`: what C05 proves about one kernel call (`ColOK`, entries strictly inside the value budget) is what C06
assumes about a chunk (`Encodes`). The composition goes through because every importer's chunk-to-chunk state
(`chunk_accumulated`, `freetext_index_accumulated`, the growing companions) is a function of the concatenation of the cells
consumed so far (`importer_append_homomorphism`).

`KindOK` are C06's own assumptions on an importer definition (distinct category keys; the number parser rejects blank text
and converts `str(invalid_value)` to `invalid_value`); `cellOK kind cell` says the importer does not raise on `cell`, decided
by the cell alone.
-/
namespace Exetera.Props.C05
open Exetera Exetera.Csv Exetera.Csv.Spec Exetera.Transforms Exetera.Spec.Transforms

/-- **staging_column_encodes** (C05 → C06 interface). After a kernel call, column `c` of the staging buffers holds the entries
    `E` in C05's sense (`ColOK`: row `c` of `column_inds` holds their end offsets from 0, `column_vals` holds their bytes from
    `column_offsets[c]` on), strictly inside the column's budget — which is what `fsm_any_buffers_eq_spec`'s kernel lemma
    provides. Then the chunk `import_part` builds from row `c` is a chunk that `Encodes` the cells `E` in C06's sense, with
    `cap` the column's budget (the size of the leaky importer's free-text staging array). -/
theorem staging_column_encodes {ncols maxrow : Nat} {offs : List Nat} {inds : List (List Nat)} {vals : List Nat} {c : Nat}
    {E : List Csv.Bytes} {r : List Nat} (hsh : Shape ncols maxrow offs inds vals) (hc : c < ncols)
    (hcol : ColOK offs inds vals c E) (hr : inds[c]? = some r)
    (hcaps : offAt offs c + E.flatten.length < offAt offs (c + 1)) :
    Encodes (chunkOf r vals (offAt offs c) (offAt offs (c + 1) - offAt offs c) E.length c inds.length) E :=
  encodes_of_colOK hsh hc hcol hr hcaps _ (by omega)

/-- **importer_append_homomorphism.** `typedF kinds c D` is the importer of column `c` (of kind `kinds c`) after it has
    consumed the cells `D`: by definition C06's specification `typedSpec (kinds c) D`. One `import_part` call on staging buffers
    that hold the block `E` takes it to `typedF kinds c (D ++ E)`, for every importer kind, every `D` and `E` of acceptable
    cells, every buffer geometry: `import (D ++ E) = import D ⊕ import E`, with the accumulated offsets. -/
theorem importer_append_homomorphism (ncols : Nat) (kinds : Nat → FieldKind) (hkinds : ∀ c, c < ncols → KindOK (kinds c))
    (offs : List Nat) (inds : List (List Nat)) (vals : List Nat) (maxrow c : Nat) (D E : List Csv.Bytes) (hc : c < ncols)
    (hsh : Shape ncols maxrow offs inds vals) (hcol : ColOK offs inds vals c E)
    (hcaps : offAt offs c + E.flatten.length < offAt offs (c + 1))
    (hD : ∀ cell ∈ D, cellOK (kinds c) cell) (hE : ∀ cell ∈ E, cellOK (kinds c) cell) :
    ∃ impD impDE, typedSpec (kinds c) D = some impD ∧ typedSpec (kinds c) (D ++ E) = some impDE ∧
      Imp.importPart impD inds vals offs c E.length = .ok impDE :=
  ⟨_, _, typedSpec_eq_typedF kinds c D hD,
    typedSpec_eq_typedF kinds c (D ++ E) (fun cell h => (List.mem_append.mp h).elim (hD cell) (hE cell)),
    impHom_typed ncols kinds hkinds offs inds vals maxrow c D E hc hsh hcol hcaps hD hE⟩

/-- the text of a well-formed table whose lines fit `w ≤ 2 * chunk_row_size * ncols` bytes is in the regime; for a concrete
    table all hypotheses but the last are decidable -/
theorem Regime.of_render {crs ncols : Nat} {hrow : List Cell} {rows : List (List Cell)} (hnc : 0 < ncols) (hcrs : 0 < crs)
    (hwf : ∀ r ∈ hrow :: rows, r.length = ncols ∧ ∀ c ∈ r, c.WF) (w : Nat)
    (hfit : ∀ l ∈ hrow :: rows, (renderCells l).length ≤ w) (hw : w ≤ crs * Gen.Csv.CHUNK_ROW_FACTOR * ncols) :
    Regime (render (hrow :: rows)) crs ncols hrow rows where
  isFile := Or.inl rfl
  nonempty := by
    have := (hwf hrow (List.mem_cons_self ..)).1
    match hrow, this with
    | [_], _ => simp [render, renderCells]
    | _ :: _ :: _, _ => simp [render, renderCells]
    | [], h => exact absurd h (Nat.ne_of_lt hnc)
  hdr := hwf hrow (List.mem_cons_self ..)
  tab := ⟨hnc, fun r hr => hwf r (List.mem_cons_of_mem _ hr)⟩
  crsPos := hcrs
  reg := fun l hl => Nat.le_trans (hfit l hl) hw

/-- **read_file_typed_eq_spec** (driver level). `read_file_using_fast_csv_reader` on a file of C05's `Regime`, any starting
    value budgets ≥ 1, importer `i` of `field_importer_list` being a fresh importer of kind `kinds (index_map[i])`, every cell
    of every imported column acceptable to its importer: the call returns `.ok` within `records + 2 + regrowthBound` kernel
    calls, the row count is the number of records, and every importer holds C06's specification of its *whole* column of cell
    texts — whatever `chunk_row_size`, the window boundaries and the regrowths were. -/
theorem read_file_typed_eq_spec {file : List Nat} {crs ncols : Nat} {offs : List Nat} {hrow : List Cell}
    {rows : List (List Cell)} (h : Regime file crs ncols hrow rows) (hb : Budgets ncols offs) (im : List Nat)
    (him : ∀ c ∈ im, c < ncols) (kinds : Nat → FieldKind) (hkinds : ∀ c, c < ncols → KindOK (kinds c))
    (hok : ∀ c ∈ im, ∀ cell ∈ column (values rows) c, cellOK (kinds c) cell) (fuel : Nat)
    (hfuel : rows.length + 2 + regrowthBound rows ncols offs (crs * Gen.Csv.CHUNK_ROW_FACTOR) ≤ fuel) :
    ∃ (dest : Nat → Imp) (calls : List Int),
      readFile file crs ncols offs im (im.map (fun c => ({ kind := kinds c } : Imp))) fuel =
        .ok ⟨rows.length, im.map dest, calls⟩ ∧
      ∀ c ∈ im, typedSpec (kinds c) (column (values rows) c) = some (dest c) := by
  obtain ⟨calls, hrf⟩ := readFile_hom (h.setting him) h.nonempty (impHom_typed ncols kinds hkinds) hok hb.len hb.zero hb.pos
    fuel hfuel
  rw [typedF_nil] at hrf
  exact ⟨_, calls, hrf, fun c hc => typedSpec_eq_typedF kinds c _ (hok c hc)⟩

/-- the regrowth bound for the budgets `read_csv_with_schema_dict` computes from the schema (`max(_field_size, 1) ·
    chunk_row_size` bytes per column, `2 · chunk_row_size` index rows) -/
def typedRegrowthBound (rows : List (List Cell)) (names : List String) (schema : List (String × FieldKind)) (crs : Nat) :
    Nat :=
  regrowthBound rows names.length (schemaOffsets names schema crs) (crs * Gen.Csv.CHUNK_ROW_FACTOR)

theorem Regime.schemaRun {file : List Nat} {crs ncols : Nat} {hrow : List Cell} {rows : List (List Cell)}
    (h : Regime file crs ncols hrow rows) {names : List String} {schema : List (String × FieldKind)}
    {incl excl : Option (List String)} (hnames : names.length = ncols)
    (hincl : ∀ l, incl = some l → ∀ k ∈ l, k ∈ names) (hexcl : ∀ l, excl = some l → ∀ k ∈ l, k ∈ names)
    (hkinds : ∀ k ∈ names, KindOK (kindOf schema k))
    {fuel : Nat} (hfuel : rows.length + 2 + typedRegrowthBound rows names schema crs ≤ fuel) :
    SchemaRun file names schema incl excl crs hrow rows fuel := by
  subst hnames
  exact ⟨hincl, hexcl, h.setting (indexMap_lt names incl excl), h.nonempty, hkinds, hfuel⟩

/-- **read_csv_typed_eq_spec** (`typed import = C06.spec ∘ C05.spec`). The public entry point `read_csv_with_schema_dict` on
    a well-formed file, for ANY schema (each column any importer kind that satisfies C06's `KindOK`; columns missing from the
    schema are indexed strings), any include / exclude lists of known names and *every* `chunk_row_size` of C05's `Regime`
    (well-formed table, `chunk_row_size > 0`, the window `2·crs·ncols` holds the header line and the longest record), with the
    budgets the function computes from the `_field_size`s and every regrowth they force — provided every cell of every
    selected column is acceptable to its importer (`cellOK`; always true for string and leaky categorical columns, relaxed
    bool columns …; for a categorical column without free text: the cell equals a category key, fix NC06d): the call returns `.ok`; `rows` (the length of `j_valid_from`) is the number of records; the destination frame
    holds exactly the selected columns in file order; and every destination field — main column and all its companions
    (`_valid`, `_freetext` indices and values, `_day`, `_set`) — is C06's specification `typedSpec` applied to the WHOLE
    column of cell texts that C05's specification `column (values rows) c` yields. Nothing depends on `chunk_row_size`, on
    where the windows and kernel calls cut the column, or on regrowth. At most `records + 2 + typedRegrowthBound` kernel
    calls. -/
theorem read_csv_typed_eq_spec {file : List Nat} {crs ncols : Nat} {hrow : List Cell} {rows : List (List Cell)}
    (names : List String) (schema : List (String × FieldKind)) (incl excl : Option (List String))
    (hnames : names.length = ncols)
    (hincl : ∀ l, incl = some l → ∀ k ∈ l, k ∈ names) (hexcl : ∀ l, excl = some l → ∀ k ∈ l, k ∈ names)
    (hkinds : ∀ k ∈ names, KindOK (kindOf schema k)) (h : Regime file crs ncols hrow rows)
    (hok : ∀ k ∈ fieldsToUse names incl excl, ∀ cell ∈ column (values rows) (names.idxOf k),
      cellOK (kindOf schema k) cell)
    (fuel : Nat) (hfuel : rows.length + 2 + typedRegrowthBound rows names schema crs ≤ fuel) :
    ∃ fields, readCsv file names schema incl excl crs fuel = .ok ⟨rows.length, fields⟩ ∧
      fields.map (·.name) = fieldsToUse names incl excl ∧
      ∀ f ∈ fields, typedSpec (kindOf schema f.name) (column (values rows) (names.idxOf f.name)) = some f.imp := by
  refine ⟨_, readCsv_typed (h.schemaRun hnames hincl hexcl hkinds hfuel) hok, by simp [List.map_map, Function.comp_def], ?_⟩
  intro f hf
  obtain ⟨k, hk, rfl⟩ := List.mem_map.mp hf
  rw [← kindAt_idxOf names schema k (fieldsToUse_subset _ _ _ _ hk)]
  exact typedSpec_eq_typedF _ _ _ (by rw [kindAt_idxOf names schema k (fieldsToUse_subset _ _ _ _ hk)]; exact hok k hk)

/-- **typed_chunk_size_unobservable.** Two imports of the same file under the same typed schema with different
    `chunk_row_size` (both in the supported regime; hence different windows, kernel calls, budgets and regrowths) produce the
    same row count and the same destination fields, companions included. -/
theorem typed_chunk_size_unobservable {file : List Nat} {crs₁ crs₂ ncols : Nat} {hrow : List Cell} {rows : List (List Cell)}
    (names : List String) (schema : List (String × FieldKind)) (incl excl : Option (List String))
    (hnames : names.length = ncols)
    (hincl : ∀ l, incl = some l → ∀ k ∈ l, k ∈ names) (hexcl : ∀ l, excl = some l → ∀ k ∈ l, k ∈ names)
    (hkinds : ∀ k ∈ names, KindOK (kindOf schema k))
    (h₁ : Regime file crs₁ ncols hrow rows) (h₂ : Regime file crs₂ ncols hrow rows)
    (hok : ∀ k ∈ fieldsToUse names incl excl, ∀ cell ∈ column (values rows) (names.idxOf k),
      cellOK (kindOf schema k) cell)
    (fuel : Nat) (hfuel₁ : rows.length + 2 + typedRegrowthBound rows names schema crs₁ ≤ fuel)
    (hfuel₂ : rows.length + 2 + typedRegrowthBound rows names schema crs₂ ≤ fuel) :
    ∃ o, readCsv file names schema incl excl crs₁ fuel = .ok o ∧ readCsv file names schema incl excl crs₂ fuel = .ok o :=
  ⟨_, readCsv_typed (h₁.schemaRun hnames hincl hexcl hkinds hfuel₁) hok,
    readCsv_typed (h₂.schemaRun hnames hincl hexcl hkinds hfuel₂) hok⟩

/-- number of rows a destination field and each of the companion columns its kind has hold -/
def Imp.lengths (imp : Imp) : List Nat :=
  match imp.kind with
  | .indexed => [imp.idx.length - 1]
  | .fixed n => if n = 0 then [] else [imp.data.length / n]
  | .categorical _ => [imp.codes.length]
  | .leaky _ => [imp.codes.length, imp.idx.length - 1]
  | .bool _ _ => [imp.bools.length, imp.valids.length]
  | .numeric _ mode _ _ => if mode = .strict then [imp.nums.length] else [imp.nums.length, imp.valids.length]
  | .datetime => [imp.codes.length, imp.days.length, imp.valids.length]
  | .date => [imp.codes.length, imp.days.length, imp.valids.length]

theorem fixed_flat_length (n : Nat) (cells : List Csv.Bytes) :
    ((cells.map (fixedCell n)).flatten).length = cells.length * n := by
  induction cells with
  | nil => simp
  | cons c cs ih =>
    simp only [List.map_cons, List.flatten_cons, List.length_append, ih, List.length_cons, Nat.succ_mul, fixedCell,
      List.length_take, List.length_replicate]
    omega

/-- **typed_companions_aligned.** A field that is C06's specification of a column of `n` cells has `n` rows, and so has
    every one of its companion columns (`_freetext` has `n + 1` offsets, the last one being the number of free-text bytes);
    with `read_csv_typed_eq_spec`: after the import every main and companion column has exactly `rows.length` entries. -/
theorem typed_companions_aligned (k : FieldKind) (cells : List Csv.Bytes) (imp : Imp) (h : typedSpec k cells = some imp) :
    (∀ l ∈ Imp.lengths imp, l = cells.length) ∧
    (∀ cats, k = .leaky cats → imp.idx[cells.length]? = some imp.vals.length) := by
  refine ⟨?_, ?_⟩
  · -- per kind, the columns of `typedSpec` have as many entries as there are cells
    cases k <;> simp only [typedSpec, timeColumn, Option.map_eq_some_iff, Option.some.injEq] at h
    case indexed => subst h; simp [Imp.lengths, fieldOf', indexOf, offsetsFrom_length]
    case fixed n =>
      subst h
      intro l hl
      simp only [Imp.lengths] at hl
      split at hl
      · cases hl
      · rw [List.mem_singleton.mp hl, fixed_flat_length]
        exact Nat.mul_div_cancel _ (by omega)
    case categorical cats =>
      obtain ⟨codes, hc, rfl⟩ := h
      rw [catColumn_eq_map cats cells ((catColumn_isSome_iff cats cells).mp (by rw [hc]; rfl))] at hc
      cases hc
      simp [Imp.lengths]
    case leaky cats => subst h; simp [Imp.lengths, offsets_length]
    case bool mode invalid =>
      obtain ⟨r, hr, rfl⟩ := h
      simpa [Imp.lengths] using Exetera.Props.C06.numericColumn_lengths mode invalid _ r hr
    case numeric p mode it iv =>
      obtain ⟨r, hr, rfl⟩ := h
      have := Exetera.Props.C06.numericColumn_lengths mode iv _ r hr
      simp only [List.length_map] at this
      cases mode <;> simp [Imp.lengths, this]
    case datetime =>
      obtain ⟨rs, hrs, rfl⟩ := h
      simp [Imp.lengths, Exetera.Props.C06.cellsMapE_length datetimeCell cells rs (toOption_eq_some hrs)]
    case date =>
      obtain ⟨rs, hrs, rfl⟩ := h
      simp [Imp.lengths, Exetera.Props.C06.cellsMapE_length dateCell cells rs (toOption_eq_some hrs)]
  · rintro cats rfl
    cases h
    have := offsets_getLast 0 (cells.map (fun c => (freeText cats c).length))
    simp only [List.length_map, Nat.zero_add] at this
    simp only [this, flatten_length_eq_sum, List.map_map, Function.comp_def]

/-! ### rejected cells: the import raises, whatever the chunking

The importers run once per kernel call, in `index_map` order, on the block of cells of that call; the FIRST kernel call whose
block holds a rejected cell raises, and among the columns of that block the first one in `index_map` order, and within the
column the first rejected cell (`astypeAll` / `relaxedAll` / `cellsMapE` / `boolRows` stop at it). So WHETHER the import raises
does not depend on where the chunk boundaries fall (it raises iff some selected cell is rejected: `read_csv_typed_eq_spec`
gives the "if not"), but WHICH rejected cell is reported may: two rejected cells in different columns, the earlier row in the
later column, are reported in row order when a block boundary separates them and in column order when one block holds both. -/

/-- **read_csv_typed_raises_partial** (importer level). The importer of column `c`, in any state reached by consuming acceptable
    cells `D`, on staging buffers whose column `c` holds a block `E` containing at least one cell that its validation mode
    rejects: `import_part` returns an error — no out-of-bounds subscript is needed for that, nothing is appended — whatever
    else `E` holds and wherever the block was cut; for a bool column the error is `Exception`. The lift through the loop of
    `read_file_using_fast_csv_reader` is `read_csv_typed_raises`. -/
theorem read_csv_typed_raises_partial (ncols : Nat) (kinds : Nat → FieldKind) (hkinds : ∀ c, c < ncols → KindOK (kinds c))
    (offs : List Nat) (inds : List (List Nat)) (vals : List Nat) (maxrow c : Nat) (D E : List Csv.Bytes) (hc : c < ncols)
    (hsh : Shape ncols maxrow offs inds vals) (hcol : ColOK offs inds vals c E)
    (hcaps : offAt offs c + E.flatten.length < offAt offs (c + 1))
    (hD : ∀ cell ∈ D, cellOK (kinds c) cell) (hE : ¬ ∀ cell ∈ E, cellOK (kinds c) cell) :
    ∃ impD e, typedSpec (kinds c) D = some impD ∧ Imp.importPart impD inds vals offs c E.length = .error e ∧
      (∀ mode invalid, kinds c = .bool mode invalid → e = .other "Exception") := by
  obtain ⟨pre, x, post, rfl, hpre, hx⟩ := exists_first_bad _ E hE
  obtain ⟨e, he, hpart⟩ := impRej_typed ncols kinds hkinds offs inds vals maxrow c D pre x post hc hsh hcol hcaps hD hpre hx
  exact ⟨_, e, typedSpec_eq_typedF kinds c D hD, hpart, (rejErr_class _ x e he).1⟩

/-- **typed_reject_error_class.** `rejErr kind cell` is what the importer of `kind` raises on `cell` (`none` exactly when the
    cell is acceptable, `cellOK`). Its class, per importer kind and class of the cell text:
    * bool (strict: empty or unparseable; allow_empty: unparseable) → the `Exception` of `raiseNumericException`;
    * int / float: an integer outside the dtype → `OverflowError` (every validation mode); an empty or unparseable text (when
      the validation mode rejects it: `validation_mode_table`) → `ValueError`;
    * datetime / date → `ValueError`;
    * categorical without free text, a cell that equals no category key → `ValueError` (fix NC06d). -/
theorem typed_reject_error_class (k : FieldKind) (x : Csv.Bytes) :
    (rejErr k x = none ↔ cellOK k x) ∧
    ∀ e, rejErr k x = some e →
      (∀ mode invalid, k = .bool mode invalid → e = .other "Exception") ∧
      (∀ p mode it iv, k = .numeric p mode it iv →
        (classOf p.parse (rstripNul x) = .outOfRange → e = .other "OverflowError") ∧
        (KindOK k → classOf p.parse (rstripNul x) = .empty ∨ classOf p.parse (rstripNul x) = .garbage →
          e = .valueError "cannot be converted")) ∧
      (k = .datetime ∨ k = .date → ∃ m, e = .valueError m) ∧
      (∀ cats, k = .categorical cats → e = .valueError "is not one of the categories") :=
  ⟨rejErr_none_iff k x, rejErr_class k x⟩

/-- **read_file_typed_raises** (driver level). `read_file_using_fast_csv_reader` on a file of C05's `Regime`, any starting
    value budgets ≥ 1, fresh importers of the kinds `kinds (index_map[i])`, and at least one cell of an imported column that
    its importer rejects: the call returns an error within the same fuel as the successful import; the error is what the
    importer of column `c` raises on the cell `x` (`rejErr`), where — `Reported` — `d` records were imported by earlier kernel
    calls without any rejected cell, the raising call staged the next `a` records, `c` is the first column in `index_map`
    order whose cells in that block include a rejected one and `x` the first rejected cell of that column in the block. -/
theorem read_file_typed_raises {file : List Nat} {crs ncols : Nat} {offs : List Nat} {hrow : List Cell}
    {rows : List (List Cell)} (h : Regime file crs ncols hrow rows) (hb : Budgets ncols offs) (im : List Nat)
    (him : ∀ c ∈ im, c < ncols) (kinds : Nat → FieldKind) (hkinds : ∀ c, c < ncols → KindOK (kinds c))
    (hbad : ∃ c ∈ im, ∃ cell ∈ column (values rows) c, ¬ cellOK (kinds c) cell) (fuel : Nat)
    (hfuel : rows.length + 2 + regrowthBound rows ncols offs (crs * Gen.Csv.CHUNK_ROW_FACTOR) ≤ fuel) :
    ∃ (e : Err) (d a c : Nat) (x : Csv.Bytes),
      readFile file crs ncols offs im (im.map (fun c => ({ kind := kinds c } : Imp))) fuel = .error e ∧
      rejErr (kinds c) x = some e ∧ Reported rows im (fun c => cellOK (kinds c)) d a c x := by
  obtain ⟨c0, hc0, cell0, hcell0, hno⟩ := hbad
  obtain ⟨d, a, c, x, e, hrep, he, hrf⟩ := readFile_raise (h.setting him) h.nonempty (impHom_typed ncols kinds hkinds)
    (impRej_typed ncols kinds hkinds) (fun hall => hno (hall c0 hc0 cell0 hcell0)) hb.len hb.zero hb.pos fuel hfuel
  rw [typedF_nil] at hrf
  exact ⟨e, d, a, c, x, hrf, he, hrep⟩

/-- **read_csv_typed_raises** (the raising half of C06 at the public entry point). `read_csv_with_schema_dict` on a
    well-formed file, ANY schema of importer kinds satisfying `KindOK`, any include / exclude lists of known names, EVERY
    `chunk_row_size` of C05's `Regime`, the budgets the function computes and every regrowth they force, the fuel of the
    successful import — and at least one cell of a selected column that its importer rejects (empty / unparseable in the
    validation mode, out of the dtype's range, impossible date): the call returns an error `e`. So WHETHER the import raises
    depends neither on `chunk_row_size` nor on the windows nor on regrowth. WHICH error: `e = rejErr (kind of column k) x` —
    what that importer raises on the cell `x` (class: `typed_reject_error_class`) — where `x` is the first rejected cell of
    column `k`, the first column in `index_map` order with a rejected cell, within the block of records `d … d+a-1` that the
    first kernel call holding a rejected cell staged (`Reported`; no selected cell of the first `d` records is rejected).
    `d` and `a` do depend on the chunking (see the example below: the same file raises `ValueError` with
    `chunk_row_size = 2` and `OverflowError` with `chunk_row_size = 40`). -/
theorem read_csv_typed_raises {file : List Nat} {crs ncols : Nat} {hrow : List Cell} {rows : List (List Cell)}
    (names : List String) (schema : List (String × FieldKind)) (incl excl : Option (List String))
    (hnames : names.length = ncols)
    (hincl : ∀ l, incl = some l → ∀ k ∈ l, k ∈ names) (hexcl : ∀ l, excl = some l → ∀ k ∈ l, k ∈ names)
    (hkinds : ∀ k ∈ names, KindOK (kindOf schema k)) (h : Regime file crs ncols hrow rows)
    (hbad : ∃ k ∈ fieldsToUse names incl excl, ∃ cell ∈ column (values rows) (names.idxOf k),
      ¬ cellOK (kindOf schema k) cell)
    (fuel : Nat) (hfuel : rows.length + 2 + typedRegrowthBound rows names schema crs ≤ fuel) :
    ∃ (e : Err) (d a : Nat) (k : String) (x : Csv.Bytes),
      readCsv file names schema incl excl crs fuel = .error e ∧
      k ∈ fieldsToUse names incl excl ∧ rejErr (kindOf schema k) x = some e ∧
      Reported rows ((fieldsToUse names incl excl).map (fun k => names.idxOf k)) (fun c => cellOK (kindAt names schema c))
        d a (names.idxOf k) x := by
  obtain ⟨k0, hk0, cell0, hcell0, hno⟩ := hbad
  obtain ⟨d, a, c, x, e, hrep, he, hrc⟩ := readCsv_typed_raise (h.schemaRun hnames hincl hexcl hkinds hfuel)
    (fun hall => hno (hall k0 hk0 cell0 hcell0))
  obtain ⟨k, hk, rfl⟩ := List.mem_map.mp hrep.mem.1
  rw [kindAt_idxOf names schema k (fieldsToUse_subset _ _ _ _ hk)] at he
  exact ⟨e, d, a, k, x, hrc, hk, he, hrep⟩

/-- **typed_raise_chunk_size_unobservable.** Two imports of the same file under the same typed schema with different
    `chunk_row_size` (both in the supported regime): either both succeed, with the same row count and the same destination
    fields (`typed_chunk_size_unobservable`), or both raise — and then each error is what the importer of some selected column
    raises on some rejected cell of that column (not necessarily the same cell, hence not necessarily the same exception
    class: see the example below). -/
theorem typed_raise_chunk_size_unobservable {file : List Nat} {crs₁ crs₂ ncols : Nat} {hrow : List Cell}
    {rows : List (List Cell)} (names : List String) (schema : List (String × FieldKind)) (incl excl : Option (List String))
    (hnames : names.length = ncols)
    (hincl : ∀ l, incl = some l → ∀ k ∈ l, k ∈ names) (hexcl : ∀ l, excl = some l → ∀ k ∈ l, k ∈ names)
    (hkinds : ∀ k ∈ names, KindOK (kindOf schema k))
    (h₁ : Regime file crs₁ ncols hrow rows) (h₂ : Regime file crs₂ ncols hrow rows)
    (fuel : Nat) (hfuel₁ : rows.length + 2 + typedRegrowthBound rows names schema crs₁ ≤ fuel)
    (hfuel₂ : rows.length + 2 + typedRegrowthBound rows names schema crs₂ ≤ fuel) :
    (∃ o, readCsv file names schema incl excl crs₁ fuel = .ok o ∧ readCsv file names schema incl excl crs₂ fuel = .ok o) ∨
    (∃ e₁ e₂, readCsv file names schema incl excl crs₁ fuel = .error e₁ ∧
      readCsv file names schema incl excl crs₂ fuel = .error e₂ ∧
      (∃ k ∈ fieldsToUse names incl excl, ∃ x ∈ column (values rows) (names.idxOf k), rejErr (kindOf schema k) x = some e₁) ∧
      (∃ k ∈ fieldsToUse names incl excl, ∃ x ∈ column (values rows) (names.idxOf k), rejErr (kindOf schema k) x = some e₂)) := by
  by_cases hok : ∀ k ∈ fieldsToUse names incl excl, ∀ cell ∈ column (values rows) (names.idxOf k),
      cellOK (kindOf schema k) cell
  · exact Or.inl (typed_chunk_size_unobservable names schema incl excl hnames hincl hexcl hkinds h₁ h₂ hok fuel hfuel₁ hfuel₂)
  · right
    have hbad : ∃ k ∈ fieldsToUse names incl excl, ∃ cell ∈ column (values rows) (names.idxOf k),
        ¬ cellOK (kindOf schema k) cell := by
      simpa only [Classical.not_forall, Classical.not_imp, exists_prop] using hok
    obtain ⟨e₁, _, _, k₁, x₁, hr₁, hk₁, he₁, hrep₁⟩ :=
      read_csv_typed_raises names schema incl excl hnames hincl hexcl hkinds h₁ hbad fuel hfuel₁
    obtain ⟨e₂, _, _, k₂, x₂, hr₂, hk₂, he₂, hrep₂⟩ :=
      read_csv_typed_raises names schema incl excl hnames hincl hexcl hkinds h₂ hbad fuel hfuel₂
    exact ⟨e₁, e₂, hr₁, hr₂, ⟨k₁, hk₁, x₁, hrep₁.mem.2.1, he₁⟩, ⟨k₂, hk₂, x₂, hrep₂.mem.2.1, he₂⟩⟩


/-! ### non-vacuity: a file with a leaky categorical, an `int8` (allow_empty) and a date column, `chunk_row_size = 3` -/

/-- header `a,b,c`; records `yes,12,2020-06-15` / ` maybe,,` / `no,"7",2021-03-04` (window 18 bytes: one record per kernel call,
    so no buffer fills; `typedRegrowthBound` is nevertheless 1, because column `a` holds 10 bytes in all against its 9-byte
    budget) -/
def tyHeader : List Cell := [⟨false, [97]⟩, ⟨false, [98]⟩, ⟨false, [99]⟩]
def tyRows : List (List Cell) :=
  [[⟨false, [121, 101, 115]⟩, ⟨false, [49, 50]⟩, ⟨false, [50, 48, 50, 48, 45, 48, 54, 45, 49, 53]⟩],
   [⟨false, [32, 109, 97, 121, 98, 101]⟩, ⟨false, []⟩, ⟨false, []⟩],
   [⟨false, [110, 111]⟩, ⟨true, [55]⟩, ⟨false, [50, 48, 50, 49, 45, 48, 51, 45, 48, 52]⟩]]
def tyCats : List (Csv.Bytes × Int) := [([121, 101, 115], 1), ([110, 111], 0)]
def tyInt : FieldKind := .numeric (.intRange (-128) 127) .allowEmpty [48] (.int 0)
def tySchema : List (String × FieldKind) := [("a", .leaky tyCats), ("b", tyInt), ("c", .date)]

theorem tyLeaky_ok : KindOK (.leaky tyCats) := by
  show (tyCats.map (·.1)).Nodup
  decide +kernel
theorem tyInt_ok : KindOK tyInt := kindOK_intRange _ (by decide +kernel)

/-- the longest line of the example has 18 bytes -/
theorem tyRegime_of_le (crs : Nat) (h : 3 ≤ crs) : Regime (render (tyHeader :: tyRows)) crs 3 tyHeader tyRows :=
  .of_render (by decide +kernel) (by omega) (by decide +kernel) 18 (by decide +kernel) (by show 18 ≤ crs * 2 * 3; omega)

theorem tyRegime : Regime (render (tyHeader :: tyRows)) 3 3 tyHeader tyRows := tyRegime_of_le 3 (Nat.le_refl 3)

/-- every cell of the example is acceptable to its importer -/
example : ∀ cell ∈ column (values tyRows) 1, cellOK tyInt cell := by decide +kernel
example : ∀ cell ∈ column (values tyRows) 2, cellOK .date cell := by decide +kernel

/-- C06's specification of the three whole columns -/
example : typedSpec (.leaky tyCats) (column (values tyRows) 0) =
    some { kind := .leaky tyCats, codes := [1, -1, 0], idx := [0, 0, 5, 5], vals := [109, 97, 121, 98, 101], acc := 5 } := by
  decide +kernel
example : typedSpec tyInt (column (values tyRows) 1) =
    some { kind := tyInt, nums := [.int 12, .int 0, .int 7], valids := [true, false, true] } := by decide +kernel
example : typedSpec .date (column (values tyRows) 2) =
    some { kind := .date, codes := [1592179200000000, 0, 1614816000000000],
           days := [[50, 48, 50, 48, 45, 48, 54, 45, 49, 53], List.replicate 10 0, [50, 48, 50, 49, 45, 48, 51, 45, 48, 52]],
           valids := [true, false, true] } := by decide +kernel

/-- all hypotheses of `read_csv_typed_eq_spec` hold for that file, schema and `chunk_row_size = 3`: the theorem applies -/
example : ∃ fields, readCsv (render (tyHeader :: tyRows)) ["a", "b", "c"] tySchema none none 3 12 = .ok ⟨3, fields⟩ ∧
    fields.map (·.name) = ["a", "b", "c"] ∧
    ∀ f ∈ fields, typedSpec (kindOf tySchema f.name) (column (values tyRows) (["a", "b", "c"].idxOf f.name)) = some f.imp := by
  have hk : ∀ k ∈ ["a", "b", "c"], KindOK (kindOf tySchema k) := by
    simp only [List.mem_cons, List.not_mem_nil, or_false, forall_eq_or_imp, forall_eq]
    exact ⟨tyLeaky_ok, tyInt_ok, trivial⟩
  exact read_csv_typed_eq_spec (ncols := 3) ["a", "b", "c"] tySchema none none rfl nofun nofun hk tyRegime
    (by decide +kernel) 12 (by decide +kernel)

/-- the driver-level theorem applies to the same file with one-byte starting budgets (every column regrows) -/
example : ∃ (dest : Nat → Imp) (calls : List Int),
    readFile (render (tyHeader :: tyRows)) 3 3 [0, 1, 2, 3] [0, 1, 2]
        ([0, 1, 2].map (fun c => ({ kind := kindAt ["a", "b", "c"] tySchema c } : Imp))) 40 =
      .ok ⟨3, [0, 1, 2].map dest, calls⟩ ∧
    ∀ c ∈ [0, 1, 2], typedSpec (kindAt ["a", "b", "c"] tySchema c) (column (values tyRows) c) = some (dest c) := by
  have hk : ∀ c, c < 3 → KindOK (kindAt ["a", "b", "c"] tySchema c)
    | 0, _ => tyLeaky_ok
    | 1, _ => tyInt_ok
    | 2, _ => trivial
  exact read_file_typed_eq_spec tyRegime ⟨rfl, rfl, by decide +kernel⟩ [0, 1, 2] (by decide +kernel)
    (kindAt ["a", "b", "c"] tySchema) hk (by decide +kernel) 40 (by decide +kernel)

/-- … and every companion of the leaky column has one entry per record, the last free-text offset is the byte count -/
example : (∀ l ∈ Imp.lengths ({ kind := .leaky tyCats, codes := [1, -1, 0], idx := [0, 0, 5, 5],
                                 vals := [109, 97, 121, 98, 101], acc := 5 } : Imp), l = 3) :=
  (typed_companions_aligned (.leaky tyCats) (column (values tyRows) 0) _ (by decide +kernel)).1

/-- the model evaluated on that file with a bool column in place of the categorical one (`chunk_row_size = 3`: one record per
    kernel call) yields exactly C06's specification of the whole columns -/
def tySchemaB : List (String × FieldKind) := [("a", .bool .relaxed true), ("b", tyInt), ("c", .date)]

example : (match readCsv (render (tyHeader :: tyRows)) ["a", "b", "c"] tySchemaB none none 3 12 with
           | .ok o => decide (o.rows = 3 ∧ o.fields.map (·.name) = ["a", "b", "c"] ∧
               o.fields.map (fun f => some f.imp) =
                 [typedSpec (.bool .relaxed true) (column (values tyRows) 0), typedSpec tyInt (column (values tyRows) 1),
                  typedSpec .date (column (values tyRows) 2)])
           | .error _ => false) = true := by
  decide +kernel

example : typedSpec (.bool .relaxed true) (column (values tyRows) 0) =
    some { kind := .bool .relaxed true, bools := [true, true, false], valids := [true, false, true] } := by decide +kernel

/-- the same file with `chunk_row_size = 40` (one window, one kernel call): the same destination -/
example : (match readCsv (render (tyHeader :: tyRows)) ["a", "b", "c"] tySchemaB none none 40 12,
                 readCsv (render (tyHeader :: tyRows)) ["a", "b", "c"] tySchemaB none none 3 12 with
           | .ok o₁, .ok o₂ => decide (o₁ = o₂)
           | _, _ => false) = true := by
  have hk : ∀ k ∈ ["a", "b", "c"], KindOK (kindOf tySchemaB k) := by
    simp only [List.mem_cons, List.not_mem_nil, or_false, forall_eq_or_imp, forall_eq]
    exact ⟨trivial, tyInt_ok, trivial⟩
  obtain ⟨o, h₁, h₂⟩ := typed_chunk_size_unobservable (ncols := 3) ["a", "b", "c"] tySchemaB none none rfl nofun nofun hk
    (tyRegime_of_le 40 (by omega)) tyRegime (by decide +kernel) 12 (by decide +kernel) (by decide +kernel)
  rw [h₁, h₂]
  exact decide_eq_true rfl

/-- strict mode: the empty cell of column `b` is not acceptable, and the import raises -/
example : ¬ (∀ cell ∈ column (values tyRows) 1,
    cellOK (.numeric (.intRange (-128) 127) .strict [48] (.int 0)) cell) := by decide +kernel
example : (match readCsv (render (tyHeader :: tyRows)) ["a", "b", "c"]
                   [("b", .numeric (.intRange (-128) 127) .strict [48] (.int 0))] none none 3 12 with
           | .error (.valueError _) => true
           | _ => false) = true := by
  decide +kernel

/-! ### non-vacuity of the raising theorems -/

/-- all hypotheses of `read_csv_typed_raises` hold for the example file with column `b` imported as a strict `int8`
    (`chunk_row_size = 3`): the empty cell of the second record is rejected, the theorem applies -/
example : ∃ (e : Err) (d a : Nat) (k : String) (x : Csv.Bytes),
    readCsv (render (tyHeader :: tyRows)) ["a", "b", "c"] [("b", .numeric (.intRange (-128) 127) .strict [48] (.int 0))]
      none none 3 12 = .error e ∧
    k ∈ fieldsToUse ["a", "b", "c"] none none ∧
    rejErr (kindOf [("b", .numeric (.intRange (-128) 127) .strict [48] (.int 0))] k) x = some e ∧
    Reported tyRows ((fieldsToUse ["a", "b", "c"] none none).map (fun k => ["a", "b", "c"].idxOf k))
      (fun c => cellOK (kindAt ["a", "b", "c"] [("b", .numeric (.intRange (-128) 127) .strict [48] (.int 0))] c))
      d a (["a", "b", "c"].idxOf k) x := by
  have hk : ∀ k ∈ ["a", "b", "c"],
      KindOK (kindOf [("b", .numeric (.intRange (-128) 127) .strict [48] (.int 0))] k) := by
    simp only [List.mem_cons, List.not_mem_nil, or_false, forall_eq_or_imp, forall_eq]
    exact ⟨trivial, kindOK_intRange _ (by decide +kernel), trivial⟩
  exact read_csv_typed_raises (ncols := 3) ["a", "b", "c"] _ none none rfl nofun nofun hk tyRegime
    ⟨"b", by decide +kernel, [], by decide +kernel, by decide +kernel⟩ 12 (by decide +kernel)

/-- the error of that empty cell: strict mode, class `empty` → `ValueError` -/
example : rejErr (.numeric (.intRange (-128) 127) .strict [48] (.int 0)) [] = some (.valueError "cannot be converted") := by
  decide +kernel

/-- **which rejected cell is reported depends on the chunking.** Header `a,b`, records `1,x` / `300,2`, both columns strict
    `int8`: `x` (column `b`, first record) is unparseable → `ValueError`; `300` (column `a`, second record) is outside the
    dtype → `OverflowError`. With `chunk_row_size = 2` (window 8 bytes: one record per kernel call) the first block holds
    only the first record and the import raises `ValueError`; with `chunk_row_size = 40` one block holds both records, the
    importer of column `a` runs first and the import raises `OverflowError`. Both raise: `typed_raise_chunk_size_unobservable`. -/
def rjHeader : List Cell := [⟨false, [97]⟩, ⟨false, [98]⟩]
def rjRows : List (List Cell) := [[⟨false, [49]⟩, ⟨false, [120]⟩], [⟨false, [51, 48, 48]⟩, ⟨false, [50]⟩]]
def rjInt : FieldKind := .numeric (.intRange (-128) 127) .strict [48] (.int 0)

example : (match readCsv (render (rjHeader :: rjRows)) ["a", "b"] [("a", rjInt), ("b", rjInt)] none none 2 12 with
           | .error e => decide (e = .valueError "cannot be converted")
           | .ok _ => false) = true := by decide +kernel
example : (match readCsv (render (rjHeader :: rjRows)) ["a", "b"] [("a", rjInt), ("b", rjInt)] none none 40 12 with
           | .error e => decide (e = .other "OverflowError")
           | .ok _ => false) = true := by decide +kernel
example : rejErr rjInt [120] = some (.valueError "cannot be converted") ∧ rejErr rjInt [51, 48, 48] = some (.other "OverflowError") := by
  decide +kernel

theorem rjInt_ok : KindOK rjInt := kindOK_intRange _ (by decide +kernel)

/-- the longest line of the example has 6 bytes -/
theorem rjRegime (crs : Nat) (h : 2 ≤ crs) : Regime (render (rjHeader :: rjRows)) crs 2 rjHeader rjRows :=
  .of_render (by decide +kernel) (by omega) (by decide +kernel) 6 (by decide +kernel) (by show 6 ≤ crs * 2 * 2; omega)

/-- `typed_raise_chunk_size_unobservable` applies to the two chunk sizes of that example -/
example : (∃ o, readCsv (render (rjHeader :: rjRows)) ["a", "b"] [("a", rjInt), ("b", rjInt)] none none 2 12 = .ok o ∧
      readCsv (render (rjHeader :: rjRows)) ["a", "b"] [("a", rjInt), ("b", rjInt)] none none 40 12 = .ok o) ∨
    (∃ e₁ e₂, readCsv (render (rjHeader :: rjRows)) ["a", "b"] [("a", rjInt), ("b", rjInt)] none none 2 12 = .error e₁ ∧
      readCsv (render (rjHeader :: rjRows)) ["a", "b"] [("a", rjInt), ("b", rjInt)] none none 40 12 = .error e₂ ∧
      (∃ k ∈ fieldsToUse ["a", "b"] none none, ∃ x ∈ column (values rjRows) (["a", "b"].idxOf k),
        rejErr (kindOf [("a", rjInt), ("b", rjInt)] k) x = some e₁) ∧
      (∃ k ∈ fieldsToUse ["a", "b"] none none, ∃ x ∈ column (values rjRows) (["a", "b"].idxOf k),
        rejErr (kindOf [("a", rjInt), ("b", rjInt)] k) x = some e₂)) := by
  have hk : ∀ k ∈ ["a", "b"], KindOK (kindOf [("a", rjInt), ("b", rjInt)] k) := by
    simp only [List.mem_cons, List.not_mem_nil, or_false, forall_eq_or_imp, forall_eq]
    exact ⟨rjInt_ok, rjInt_ok⟩
  exact typed_raise_chunk_size_unobservable (ncols := 2) ["a", "b"] _ none none rfl nofun nofun hk (rjRegime 2 (by omega))
    (rjRegime 40 (by omega)) 12 (by decide +kernel) (by decide +kernel)

/-- the driver-level theorem applies to the same file with one-byte starting budgets -/
example : ∃ (e : Err) (d a c : Nat) (x : Csv.Bytes),
    readFile (render (rjHeader :: rjRows)) 2 2 [0, 1, 2] [0, 1] ([0, 1].map (fun _ => ({ kind := rjInt } : Imp))) 40 = .error e ∧
    rejErr rjInt x = some e ∧ Reported rjRows [0, 1] (fun _ => cellOK rjInt) d a c x := by
  exact read_file_typed_raises (rjRegime 2 (by omega)) ⟨rfl, rfl, by decide +kernel⟩ [0, 1] (by decide +kernel)
    (fun _ => rjInt) (fun _ _ => rjInt_ok) ⟨1, by decide +kernel, [120], by decide +kernel, by decide +kernel⟩ 40
    (by decide +kernel)

/-- a bool column: strict mode rejects the empty cell, the public entry point raises `Exception` -/
example : rejErr (.bool .strict false) [] = some (.other "Exception") := by decide +kernel
example : (match readCsv (render (tyHeader :: tyRows)) ["a", "b", "c"] [("b", .bool .strict false)] none none 3 12 with
           | .error e => decide (e = .other "Exception")
           | .ok _ => false) = true := by decide +kernel

/-- a categorical column WITHOUT free text (fix NC06d): the cell `maybe` of the second record equals no key of `tyCats`; it is
    not acceptable, the hypotheses of `read_csv_typed_raises` hold, and the public entry point raises the `ValueError` of
    `CategoricalImporter.import_part` (the model is not evaluated by `decide` here: `get_byte_map`'s `mergeSort` does not
    reduce in the kernel; `#eval` gives `valueError "is not one of the categories"` for `chunk_row_size` 3 and 40); as found it
    stored `0`, the code of `no` -/
example : rejErr (.categorical tyCats) [109, 97, 121, 98, 101] = some (.valueError "is not one of the categories") ∧
    cellOK (.categorical tyCats) [110, 111] ∧ ¬ cellOK (.categorical tyCats) [] := by decide +kernel
example : ∃ (e : Err) (d a : Nat) (k : String) (x : Csv.Bytes),
    readCsv (render (tyHeader :: tyRows)) ["a", "b", "c"] [("a", .categorical tyCats)] none none 3 12 = .error e ∧
    k ∈ fieldsToUse ["a", "b", "c"] none none ∧
    rejErr (kindOf [("a", .categorical tyCats)] k) x = some e ∧
    Reported tyRows ((fieldsToUse ["a", "b", "c"] none none).map (fun k => ["a", "b", "c"].idxOf k))
      (fun c => cellOK (kindAt ["a", "b", "c"] [("a", .categorical tyCats)] c)) d a (["a", "b", "c"].idxOf k) x := by
  have hk : ∀ k ∈ ["a", "b", "c"], KindOK (kindOf [("a", .categorical tyCats)] k) := by
    simp only [List.mem_cons, List.not_mem_nil, or_false, forall_eq_or_imp, forall_eq]
    exact ⟨tyLeaky_ok, trivial, trivial⟩
  exact read_csv_typed_raises (ncols := 3) ["a", "b", "c"] _ none none rfl nofun nofun hk tyRegime
    ⟨"a", by decide +kernel, [109, 97, 121, 98, 101], by decide +kernel, by decide +kernel⟩ 12 (by decide +kernel)
/-- … and with `maybe` listed as a category the same file is imported: `typedSpec` is `some`, the codes are the keys' values -/
example : typedSpec (.categorical (([109, 97, 121, 98, 101], 2) :: tyCats)) (column (values tyRows) 0) =
    some { kind := .categorical (([109, 97, 121, 98, 101], 2) :: tyCats), codes := [1, 2, 0] } := by decide +kernel
example : typedSpec (.categorical tyCats) (column (values tyRows) 0) = none := by decide +kernel

end Exetera.Props.C05
