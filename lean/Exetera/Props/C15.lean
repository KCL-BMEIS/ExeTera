import Exetera.Model.Catalogue
import Exetera.Spec.Catalogue
import Exetera.Lemmas.CatalogueAbstract
import Exetera.Lemmas.CatalogueSpec
/-!
  C15 — the catalogue stays consistent under any history of structural edits.
  All theorems are about `Exetera.Catalogue.step .repaired` / `run .repaired`, the functions the driver executes
  (ExeTera with the fix commits D22, D23, D24, NC15a, NC15b). No bound on the number of frames, columns, names or calls.
-/
namespace Exetera.Props.C15
open Exetera Exetera.Catalogue

/-! ### a concrete, non-trivial state used by the `example`s -/

/-- frame x{a,b}, frame y{a_}, a second file with frame x — built through the model itself -/
def exOps : List Op :=
  [.createFrame 0 "x" none, .createFrame 0 "y" none, .create 0 "x" "a" ⟨.numeric, 1⟩, .create 0 "x" "b" ⟨.indexed, 2⟩,
   .create 0 "y" "a_" ⟨.fixed, 3⟩, .createFrame 1 "x" none]
def exState : State := run .repaired State.init exOps
/-- the chain that splits the catalogue in the code as found (D22) -/
def exDict : List (Name × Name) := [("a", "b"), ("b", "b_")]

/-! ### the invariant over all histories -/

theorem inv_init : Inv State.init :=
  -- every clause speaks of the entries of an empty table
  have no {α β} {x : α} (h : x ∈ ([] : List α)) : β := (List.not_mem_nil h).elim
  { colsNodup := List.nodup_nil, linksNodup := List.nodup_nil, sameKeys := fun _ => Iff.rfl, sameObj := fun _ _ => no,
    handleInj := List.nodup_nil, oidInj := List.nodup_nil, oidLt := fun _ _ => no,
    fileNodup := List.nodup_nil, frameInj := List.nodup_nil, frameName := fun _ _ => no,
    frameDs := fun _ _ => no, fdsLen := rfl, linkFrame := fun _ _ => no,
    handleLink := fun _ _ h => (nomatch h), handleOidLt := fun _ _ h => (nomatch h),
    dfsNodup := List.nodup_nil, sameFrames := fun _ => Iff.rfl }

/-- Every client call — create_*, df[n]=f, add, del, drop, delete_field, rename, dataframe.copy/move, create/require/copy/
    setitem/del/drop/delete/move of dataframes, closing and reopening a file — keeps the invariant, whether it returns or
    raises. -/
theorem inv_step {s : State} (hI : Inv s) (op : Op) : Inv (step .repaired s op).state :=
  step_inv hI op

/-- The invariant holds after every history of calls, exceptions included. -/
theorem inv_run (ops : List Op) {s : State} (hI : Inv s) : Inv (run .repaired s ops) := by
  induction ops generalizing s with
  | nil => exact hI
  | cons op ops ih => simp only [run]; exact ih (inv_step hI op)

/-- … in particular from the empty state: every reachable state of the (repaired) code is consistent. -/
theorem inv_all_histories (ops : List Op) : Inv (run .repaired State.init ops) := inv_run ops inv_init

example : Inv exState := inv_all_histories exOps
example : exState.cols.length = 3 ∧ exState.file.length = 3 := by decide +kernel

/-! ### names reported = groups in the file = what a reopen reads -/

/-- Under the invariant the catalogue reported by the Python objects (`ds.keys()`, `df.keys()`, the field objects and
    their data) is the catalogue stored in the file — the one a fresh reopen reads. -/
theorem reported_catalogue_is_file_catalogue {s : State} (hI : Inv s) : absPy s = absH5 s := by
  funext d fn
  unfold absPy absH5
  rw [look_congr hI.dfsNodup hI.sameFrames]
  cases look s.file (d, fn) with
  | none => rfl
  | some g =>
    simp only [Option.map_some]
    congr 1
    funext n
    cases hc : look s.cols (g, n) with
    | none => rw [look_eq_none.2 fun hm => look_eq_none.1 hc ((hI.sameKeys _).2 hm)]; rfl
    | some h =>
      obtain ⟨hd, h1, _, _, _, _, h6⟩ := hI.sameObj _ _ (look_mem hc)
      rw [(look_eq_some hI.linksNodup).2 h6]
      simp [h1]

/-- … hence after every history: what `ds.keys()`, `df.keys()` and the field objects report is what the file holds and
    what a fresh reopen shows (the reopen assumption: reopening reads exactly the link tables, `absH5`). -/
theorem reopen_same (ops : List Op) : absPy (run .repaired State.init ops) = absH5 (run .repaired State.init ops) :=
  reported_catalogue_is_file_catalogue (inv_all_histories ops)

example : (absH5 exState 0 "x").isSome = true ∧ ((absH5 exState 0 "x").bind (· "b")) = some ⟨.indexed, 2⟩ := by decide +kernel

/-! ### rename -/

/-- A rename that would clash (or names a missing column) raises and changes nothing at all — in every state, for both
    variants of the code. -/
theorem rename_clash_changes_nothing (v : Variant) (s : State) (g : Nat) (dict : List (Name × Name))
    (hkn : (dict.map (·.1)).Nodup) (hbad : ¬ RenameOk dict ((ownedBy s.cols g).map (·.1))) :
    ∃ e, renameFields v s g dict = .err e s :=
  renameFields_fail v s g dict hkn hbad

example : ¬ RenameOk [("a", "b")] ((ownedBy exState.cols 0).map (·.1)) :=
  fun h => absurd (h.noClash "b" (by decide +kernel) (by decide +kernel)) (by decide +kernel)

/-- `rename` is atomic: under the invariant either the pre-check passes and both passes of h5 moves go through — no
    refusal midway, intermediate names always found — leaving exactly the re-keyed state, or the call raises with the
    state untouched. (As found, the first case could stop midway: `Witness.C15.d22_asFound_splits`.) -/
theorem rename_atomic {s : State} (hI : Inv s) (g : Nat) (dict : List (Name × Name)) (hkn : (dict.map (·.1)).Nodup) :
    (RenameOk dict ((ownedBy s.cols g).map (·.1)) ∧ renameFields .repaired s g dict = .ok () (renamedState s g dict)) ∨
    (¬ RenameOk dict ((ownedBy s.cols g).map (·.1)) ∧ ∃ e, renameFields .repaired s g dict = .err e s) := by
  by_cases hok : RenameOk dict ((ownedBy s.cols g).map (·.1))
  · exact Or.inl ⟨hok, renameFields_ok hI.toInvCore g dict hok⟩
  · exact Or.inr ⟨hok, renameFields_fail .repaired s g dict hkn hok⟩

example : RenameOk exDict ((ownedBy exState.cols 0).map (·.1)) :=
  ⟨by decide +kernel, by decide +kernel, by decide +kernel, by decide +kernel⟩
example : (renameFields .repaired exState 0 exDict).isOk = true := by decide +kernel

/-- A successful rename refines the abstract renaming of that frame — every column reappears under its new name with its
    type and data, nothing else appears — and every other frame of every file is untouched. -/
theorem rename_refines {s : State} (hI : Inv s) (g : Nat) (dict : List (Name × Name))
    (hok : RenameOk dict ((ownedBy s.cols g).map (·.1))) :
    Renamed dict (frameH5 s g) (frameH5 (renamedState s g dict) g) ∧
    ∀ g', g' ≠ g → frameH5 (renamedState s g dict) g' = frameH5 s g' :=
  renamedState_refines hI.toInvCore g dict hok

example : frameH5 (renamedState exState 0 exDict) 0 "b_" = some ⟨.indexed, 2⟩ ∧ frameH5 (renamedState exState 0 exDict) 0 "a" = none := by
  decide +kernel

/-- Field objects held across a rename stay valid and report the new name. -/
theorem handles_follow_rename {s : State} (hI : Inv s) (g : Nat) (dict : List (Name × Name))
    (hok : RenameOk dict ((ownedBy s.cols g).map (·.1))) {h : Nat} {n : Name} (hc : ((g, n), h) ∈ s.cols) :
    viewHandle s h = .named n ∧ viewHandle (renamedState s g dict) h = .named (renOf dict n) :=
  (hI.sameObj _ _ hc).elim fun _ ⟨h1, _, h3, _, _, h6⟩ => wrapper_follows_rename hI.toInvCore g dict hok h1 h3 h6

example : ((0, "a"), 0) ∈ exState.cols ∧ viewHandle (renamedState exState 0 exDict) 0 = .named "b" := by decide +kernel

/-- … and so does every other open field object of a renamed column: a writeable view (`field.writeable()`, a second wrapper
    object around the same group, `Op.view`) reads its name from the group, so it reports the old name before and the new
    name after, and stays valid. -/
theorem views_follow_rename {s : State} (hI : Inv s) (g : Nat) (dict : List (Name × Name))
    (hok : RenameOk dict ((ownedBy s.cols g).map (·.1))) {h : Nat} {hd : Handle} {n : Name}
    (hh : s.handles[h]? = some hd) (hc : hd.closed = false) (hl : ((g, n), hd.oid) ∈ s.links) :
    viewHandle s h = .named n ∧ viewHandle (renamedState s g dict) h = .named (renOf dict n) :=
  wrapper_follows_rename hI.toInvCore g dict hok hh hc hl

/-- `exState` plus a writeable view (handle 3) of column x.a (handle 0) -/
def exViewState : State := run .repaired exState [.view (.byHandle 0)]
example : Inv exViewState := inv_run _ (inv_all_histories exOps)
example : (exViewState.handles[3]?).map (·.oid) = (exViewState.handles[0]?).map (·.oid) ∧
    viewHandle exViewState 3 = .named "a" ∧ viewHandle (renamedState exViewState 0 exDict) 3 = .named "b" := by decide +kernel

/-! ### every call is all-or-nothing -/

/-- Under the invariant, a call that raises — any call: on columns (create_*, df[n]=f, add, del, drop, delete_field, rename,
    dataframe.copy/move) or on dataframes (create/require/copy/setitem/del/drop/delete/move) — leaves both catalogues, all
    field objects and all data exactly as they were. The partial-failure points of the code (the h5 step after the
    dictionary step or vice versa, the drop after the copy, a field copy inside a dataframe copy) are unreachable.
    Only proviso: `dataframe.move` is not handed the left-over object of a column that was deleted earlier
    (`Op.srcLinked`; such an object is copied and then `field.name` fails — outside the statement, mirrored by the model). -/
theorem calls_all_or_nothing {s : State} (hI : Inv s) (op : Op) (hz : op.srcLinked s) : ErrKeeps s (step .repaired s op) :=
  (step_atomic hI op hz).errKeeps

/-- … so along every history a failing call is invisible. -/
theorem failed_call_changes_nothing (ops : List Op) (op : Op) (hz : op.srcLinked (run .repaired State.init ops))
    {e : Err} {s' : State} (h : step .repaired (run .repaired State.init ops) op = .err e s') :
    s' = run .repaired State.init ops :=
  calls_all_or_nothing (inv_all_histories ops) op hz e s' h

example : (Op.moveField (.byHandle 0) 0 "y" "a_").fieldLevel = true ∧
    (step .repaired exState (.moveField (.byHandle 0) 0 "y" "a_")).isOk = false ∧
    (step .repaired exState (.moveField (.byHandle 0) 0 "y" "a_")).state = exState := by decide +kernel

/-! ### untouched fields keep their data -/

/-- Creating a column (create_*, and the copy made by `df[n] = f`, `add`, `dataframe.copy`, the first half of a move)
    puts exactly the given type+data under the new name and leaves every other column of every frame as it was. -/
theorem untouched_fields_unchanged_add {v : Variant} {s s' : State} (hI : Inv s) {g : Nat} {n : Name} {c : Content} {a : Nat}
    (h : addField v s g n c = .ok a s') :
    ∀ g' n', frameH5 s' g' n' = if (g', n') = (g, n) then some c else frameH5 s g' n' := by
  obtain ⟨hn, _, rfl⟩ := (addField_decides hI.toInvCore g n c v).of_ok h
  exact frameH5_added hI.toInvCore (fun hl => hn ((hI.sameKeys _).2 hl)) v c

/-- A copy stores the type and data of the source field object. -/
theorem copy_preserves_content {v : Variant} {s s' : State} (hI : Inv s) {h g : Nat} {n : Name} {a : Nat}
    (hc : copyField v s h g n = .ok a s') :
    ∃ c, fieldContent s h = .ok c ∧ ∀ g' n', frameH5 s' g' n' = if (g', n') = (g, n) then some c else frameH5 s g' n' := by
  unfold copyField at hc
  split at hc
  · cases hc
  · next c hfc => exact ⟨c, hfc, untouched_fields_unchanged_add hI hc⟩

/-- Deleting a column (`del df[n]`, `delete_field`, `drop`, the second half of a move) removes that name only. -/
theorem untouched_fields_unchanged_del {s s' : State} {g : Nat} {n : Name}
    (h : delItem s g n = .ok () s' ∨ dropField s g n = .ok () s') :
    ∀ g' n', frameH5 s' g' n' = if (g', n') = (g, n) then none else frameH5 s g' n' := by
  rw [show s' = removed s (g, n) from h.elim delItem_ok dropField_ok]
  exact frameH5_removed s g n

example : (copyField .repaired exState 1 1 "b").isOk = true ∧
    frameH5 (copyField .repaired exState 1 1 "b").state 1 "b" = some ⟨.indexed, 2⟩ ∧
    frameH5 (copyField .repaired exState 1 1 "b").state 0 "b" = some ⟨.indexed, 2⟩ := by decide +kernel
example : (delItem exState 0 "a").isOk = true ∧ frameH5 (delItem exState 0 "a").state 0 "b" = some ⟨.indexed, 2⟩ := by decide +kernel

/-- No call, in any state, for either variant of the code, changes the type or the data of a field object that already
    exists: whatever name (if any) an object is linked under afterwards, it reads back as before. -/
theorem objects_never_change (v : Variant) (s : State) (op : Op) {oid : Nat} {c : Content} (hc : s.objs[oid]? = some c) :
    (step v s op).state.objs[oid]? = some c :=
  (step_objs v s op).get hc

/-- … and so over every history. -/
theorem objects_never_change_run (v : Variant) (ops : List Op) (s : State) {oid : Nat} {c : Content}
    (hc : s.objs[oid]? = some c) : (run v s ops).objs[oid]? = some c := by
  induction ops generalizing s with
  | nil => exact hc
  | cons op ops ih => simp only [run]; exact ih _ (objects_never_change v s op hc)

example : exState.objs[1]? = some ⟨.indexed, 2⟩ ∧
    (run .repaired exState [.rename 0 "x" exDict, .moveFrame 0 "x" 1 "y", .reopen 1]).objs[1]? = some ⟨.indexed, 2⟩ := by decide +kernel

/-! ### ONE refinement for EVERY call: the code is a run of the abstract catalogue `dataset ↦ frame ↦ column ↦ (type, data)`

  `specStep` (Spec/Catalogue.lean) says in terms of names only what each call means: create/copy put one column, del/drop/
  delete_field remove one, rename re-keys one frame, `dataframe.move` is a rename inside a frame and copy + drop across frames,
  create/copy/`ds[n] = foreign` put a whole frame, `ds[n] = own` renames a frame, del/drop/delete remove one, `dataset.move` is
  copy + drop, `require_dataframe` creates when missing, reopen changes nothing. A call that raises changes nothing.
  The only thing taken from the model is the call log: which call, where the field object it was handed sat at that moment
  (`srcOf`: dataset, frame name, column name of the group it wraps), and whether it returned. -/

/-- Every call of the repaired code, on every consistent state, returning or raising, changes the file catalogue exactly as
    the abstract catalogue prescribes. Proviso (as for `calls_all_or_nothing`, here for every call that takes a field): the
    field object handed in is not the left-over of a deleted column (`Op.refsLinked`). -/
theorem step_refines {s : State} (hI : Inv s) (op : Op) (hz : op.refsLinked s) :
    absH5 (step .repaired s op).state = specCall (absH5 s) (callOf .repaired s op) :=
  Catalogue.step_refines hI op hz

/-- … spelled out for a call that returns … -/
theorem returning_call_refines {s s' : State} (hI : Inv s) (op : Op) (hz : op.refsLinked s) {u : Unit}
    (hok : step .repaired s op = .ok u s') : absH5 s' = specStep (srcOf s op) (absH5 s) op :=
  step_refines_ok hI op hz hok

/-- … and for one that raises. -/
theorem raising_call_refines {s s' : State} (hI : Inv s) (op : Op) (hz : op.refsLinked s) {e : Err}
    (herr : step .repaired s op = .err e s') : absH5 s' = absH5 s := by
  rw [calls_all_or_nothing hI op (refsLinked_srcLinked hz) e s' herr]

theorem absH5_init : absH5 State.init = Cat.empty := rfl

/-- Over all histories: the file catalogue after any history of calls is the abstract catalogue run over the call log. -/
theorem history_refines (ops : List Op) (hz : HistLinked .repaired State.init ops) :
    absH5 (run .repaired State.init ops) = specRun Cat.empty (callLog .repaired State.init ops) := by
  rw [← absH5_init]; exact run_refines ops inv_init hz

/-- … and so is what the Python objects report (`ds.keys()`, `df.keys()`, the field objects and their data) — "the names
    reported are exactly the groups present" and "a fresh reopen shows the same" for the one abstract catalogue. -/
theorem reported_catalogue_refines (ops : List Op) (hz : HistLinked .repaired State.init ops) :
    absPy (run .repaired State.init ops) = specRun Cat.empty (callLog .repaired State.init ops) := by
  rw [reopen_same ops]; exact history_refines ops hz

/-- "Untouched fields keep their data", for every call: whatever a returning call does not name (`Op.touches`: its destination
    column, its source when it moves, the renamed columns and their targets, the frames a frame-level call names) has the type
    and data it had. -/
theorem untouched_fields_keep_data {s s' : State} (hI : Inv s) (op : Op) (hz : op.refsLinked s) {u : Unit}
    (hok : step .repaired s op = .ok u s') (p : Src) (hp : ¬ op.touches (srcOf s op) p) : (absH5 s').col p = (absH5 s).col p := by
  rw [returning_call_refines hI op hz hok]; exact specStep_untouched _ _ _ _ hp

/-- WHEN a call returns: every call (other than `writeable()`, whose outcome hangs on the object's `_valid_reference` alone)
    returns exactly when the abstract pre-condition `specOk` holds — the frame exists / does not exist yet, the column exists /
    is free, the field handed in is there, the rename pre-check passes on the abstract frame — and raises otherwise. So a
    valid call is never refused and an invalid one never goes through. -/
theorem call_returns_iff {s : State} (hI : Inv s) (op : Op) (hz : op.refsLinked s) (hnv : op.isView = false) :
    (step .repaired s op).isOk = specOk (srcOf s op) (absH5 s) op :=
  step_isOk hI op hz hnv

/-- … hence the abstract machine needs nothing from the model but where the field object handed in sits: one call of the
    code is one step `specNext` (effect when the pre-condition holds, nothing otherwise), for every call. -/
theorem step_refines_total {s : State} (hI : Inv s) (op : Op) (hz : op.refsLinked s) :
    absH5 (step .repaired s op).state = specNext (absH5 s) (op, srcOf s op) :=
  Catalogue.step_refines_total hI op hz

/-- … and every history is an execution of the abstract machine. -/
theorem history_refines_total (ops : List Op) (hz : HistLinked .repaired State.init ops) :
    absH5 (run .repaired State.init ops) = specExec Cat.empty (srcLog .repaired State.init ops) := by
  rw [← absH5_init]; exact run_refines_total ops inv_init hz

/-- two datasets; frame x{a,b} and y{a_} in the first, x in the second; then: a frame copied into the other dataset, a frame
    assigned across datasets, a column moved (by held handle) into a frame of the other dataset where nothing is overwritten,
    a frame moved across datasets, a rename, a refused call, a reopen -/
def exHist : List Op :=
  exOps ++ [.copyFrame 0 "x" 1 "z", .setFrame 1 "w" 0 "y", .moveField (.byHandle 1) 1 "x" "b", .moveFrame 0 "y" 1 "v",
            .rename 0 "x" [("a", "b")], .copyFrame 0 "x" 1 "z", .reopen 1, .setFrame 1 "u" 1 "z"]

example : HistLinked .repaired State.init exHist := histLinked_of_check (by decide +kernel)
example : (callLog .repaired State.init exHist).map (·.returned) =
    [true, true, true, true, true, true, true, true, true, true, true, false, true, true] := by decide +kernel
example : ((callLog .repaired State.init exHist)[8]?).map (·.src) = some (some ⟨0, "x", "b"⟩) := by decide +kernel
/-- the cross-dataset copies and moves arrived with their data, the sources of the moves are gone, nothing was overwritten -/
example : let A := absH5 (run .repaired State.init exHist)
    A.col ⟨1, "u", "b"⟩ = some ⟨.indexed, 2⟩ ∧ A 1 "z" = none ∧ A.col ⟨1, "w", "a_"⟩ = some ⟨.fixed, 3⟩ ∧
    A.col ⟨1, "x", "b"⟩ = some ⟨.indexed, 2⟩ ∧ A.col ⟨0, "x", "a"⟩ = none ∧ A.col ⟨0, "x", "b"⟩ = some ⟨.numeric, 1⟩ ∧
    A.col ⟨1, "v", "a_"⟩ = some ⟨.fixed, 3⟩ ∧ (A 0 "y").isNone = true := by decide +kernel
example : specOk (some ⟨0, "x", "b"⟩) (absH5 exState) (.moveField (.byHandle 1) 1 "x" "b") = true ∧
    specOk (some ⟨0, "x", "a"⟩) (absH5 exState) (.moveField (.byHandle 0) 0 "y" "a_") = false ∧
    specOk none (absH5 exState) (.copyFrame 0 "x" 1 "x") = false ∧ specOk none (absH5 exState) (.copyFrame 0 "x" 1 "z") = true := by
  decide +kernel
example : (Op.moveField (.byHandle 1) 1 "x" "b").refsLinked (run .repaired State.init (exOps ++ [.copyFrame 0 "x" 1 "z", .setFrame 1 "w" 0 "y"])) :=
  refsLinked_of_check (by decide +kernel)
example : ¬ (Op.moveField (.byHandle 1) 1 "x" "b").touches (some ⟨0, "x", "b"⟩) ⟨0, "x", "a"⟩ := by
  simp [Op.touches]

/-! ### move -/

/-- A field object that `dataframe.move` moved to another frame reports itself invalid. -/
theorem moved_handles_invalid {s s' : State} {h g : Nat} {n : Name} {hd : Handle}
    (hv : ensureValid s h = .ok hd) (hne : hd.owner ≠ some g) (hok : moveField .repaired s h g n = .ok () s') :
    viewHandle s' h = .invalid := by
  obtain ⟨nh, _, hH⟩ := moveField_cross_handles hv hne hok
  obtain ⟨hh, hc, _⟩ := ensureValid_ok.1 hv
  simp [viewHandle, hH, getElem?_snoc_lt hh, hc]

example : (moveField .repaired exState 1 1 "b").isOk = true ∧ viewHandle (moveField .repaired exState 1 1 "b").state 1 = .invalid := by
  decide +kernel

/-- The statement one would like for EVERY field object of the moved field — the property's "handles to moved-away fields
    report themselves invalid" — is

      Inv s → ensureValid s h = .ok hd → hd.owner ≠ some g → moveField .repaired s h g n = .ok () s' →
      ∀ j hj, s'.handles[j]? = some hj → hj.closed = false → hj.oid = hd.oid → viewHandle s' j = .invalid

    (`MovedHandlesAllInvalid`). It is FALSE for the code as it is (open finding NC15c): `dataframe.move` sets
    `_valid_reference = False` on the one object it is handed; a second wrapper of the same field (`w = f.writeable()`) is
    told nothing, keeps `valid == True` and its `name` raises from h5py (`Witness.C15.nc15c_stale_view`,
    `moved_handles_all_invalid_refuted`). Proved here: the statement under the hypothesis that excludes exactly that — no
    OTHER open, valid field object wraps the moved field's group. -/
theorem moved_handles_invalid_partial {s s' : State} (hI : Inv s) {h g : Nat} {n : Name} {hd : Handle}
    (hv : ensureValid s h = .ok hd) (hne : hd.owner ≠ some g) (hok : moveField .repaired s h g n = .ok () s')
    (hsole : ∀ j hj, j ≠ h → s.handles[j]? = some hj → hj.closed = false → hj.valid = true → hj.oid ≠ hd.oid) :
    ∀ j hj, s'.handles[j]? = some hj → hj.closed = false → hj.oid = hd.oid → viewHandle s' j = .invalid := by
  obtain ⟨nh, hoid, hH⟩ := moveField_cross_handles hv hne hok
  intro j hj hjj hcl ho
  have hinv : hj.valid = false → viewHandle s' j = .invalid := by
    intro hval
    unfold viewHandle
    simp only [hjj, hcl, hval, Bool.false_eq_true, if_false, Bool.not_false, if_true]
  rw [hH, List.getElem?_modify] at hjj
  cases hx : (s.handles ++ [nh])[j]? with
  | none => rw [hx] at hjj; simp at hjj
  | some x =>
    rw [hx] at hjj
    simp only [Option.map_eq_map, Option.map_some, Option.some.injEq] at hjj
    by_cases hjh : h = j
    · simp only [hjh, if_true] at hjj
      exact hinv (by rw [← hjj])
    · simp only [hjh, if_false] at hjj
      subst hjj
      rcases getElem?_snoc hx with ⟨_, hx'⟩ | ⟨_, rfl⟩
      · cases hval : x.valid with
        | false => exact hinv hval
        | true => exact absurd ho (hsole j x (fun e => hjh e.symm) hx' hcl hval)
      · have := hI.handleOidLt h hd (ensureValid_ok.1 hv).1
        omega

/-- no other wrapper of x.b in `exState`: handles 0 and 2 wrap other groups -/
example : ∀ j hj, j ≠ 1 → exState.handles[j]? = some hj → hj.closed = false → hj.valid = true → hj.oid ≠ 1 := by
  intro j hj hne hh _ _
  have hlt := (List.getElem?_eq_some_iff.1 hh).1
  rw [show exState.handles.length = 3 by decide +kernel] at hlt
  have hoid : (exState.handles[j]?).map (·.oid) = some j := by
    have : j = 0 ∨ j = 2 := by omega
    rcases this with rfl | rfl <;> decide +kernel
  rw [hh] at hoid
  have : hj.oid = j := Option.some.inj hoid
  omega

def MovedHandlesAllInvalid : Prop :=
  ∀ (s s' : State) (h g : Nat) (n : Name) (hd : Handle), Inv s → ensureValid s h = .ok hd → hd.owner ≠ some g →
    moveField .repaired s h g n = .ok () s' →
    ∀ j hj, s'.handles[j]? = some hj → hj.closed = false → hj.oid = hd.oid → viewHandle s' j = .invalid

/-- NC15c: with a writeable view (handle 3) of x.a held, moving x.a (handle 0) to frame y leaves the view valid but dangling. -/
theorem moved_handles_all_invalid_refuted : ¬ MovedHandlesAllInvalid := by
  intro H
  have hI : Inv exViewState := inv_run _ (inv_all_histories exOps)
  have hr : ∀ r : Res Unit, r = moveField .repaired exViewState 0 1 "ab" →
      r.isOk = true ∧ r.state.handles[3]? = some ⟨0, true, some 0, 0, false⟩ ∧ viewHandle r.state 3 ≠ .invalid := by
    intro r hr; subst hr; decide +kernel
  cases h : moveField .repaired exViewState 0 1 "ab" with
  | err e s' => exact absurd (h ▸ (hr _ rfl).1) (by simp [Res.isOk])
  | ok u s' =>
    obtain ⟨_, hh, hne⟩ := h ▸ hr _ rfl
    exact hne (H exViewState s' 0 1 "ab" ⟨0, true, some 0, 0, false⟩ hI (ensureValid_ok.2 ⟨by decide +kernel, rfl, rfl⟩)
      (by decide) h 3 _ hh rfl rfl)

end Exetera.Props.C15
