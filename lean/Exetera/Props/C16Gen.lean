import Exetera.Props.C16
import Exetera.Lemmas.GenKernelsConcat
/-!
  C16 over the TRANSLATED `_apply_spans_concat_2` (`Gen/Kernels.lean`, regenerated from operations.py by tools/translate_njit.py on
  every run), for byte columns (`α := Nat`).

  `gen_apply_spans_concat_2_ok` transfers every `.ok` run of the model `Concat.kernel` to the translated kernel run on buffers of
  the model's capacities (in the first batch entry 0 of `dest_index` is the model's `index0`). Transfer and not refinement: the
  model keeps only the prefixes it has written (what the caller reads), the kernel the whole reusable buffers, so the statement
  compares those prefixes. `gen_kernel_eq_spec` is the property statement `C16.kernel_eq_spec` for the translated kernel itself.
-/
namespace Exetera.Props.C16Gen

open Exetera Exetera.Concat Exetera.Spec.CsvLine Exetera.GenK Exetera.Gen.Kernels

theorem gen_apply_spans_concat_2_ok (P : Params Nat) (spStart : Nat) (bufI bufV : List Int) (hI : bufI.length = P.capI)
    (hV : bufV.length = P.capV) (hI0 : spStart = 0 → bufI[0]? = some (P.index0 : Int)) (sp' : Nat) (buf : Buf Nat)
    (h : kernel P spStart = .ok (sp', buf)) :
    ∃ bI bV, _apply_spans_concat_2.run (ints P.spans) (ints P.idx) (ints P.vals) bufI bufV P.maxI P.maxV P.sep P.delim spStart
        P.destStartV = .ok ((sp' : Int), (buf.ib.length : Int), (buf.vb.length : Int), bI, bV) ∧
      bI.length = P.capI ∧ bI.take buf.ib.length = ints buf.ib ∧ bV.length = P.capV ∧ bV.take buf.vb.length = ints buf.vb :=
  apply_spans_concat_2_ok P spStart bufI bufV hI hV hI0 sp' buf h

/-- `_apply_spans_concat_2` as translated, called on the index / value arrays of a byte column with `sp_start` inside the span list,
    limits within the buffers and a value buffer with room for one more span output below the value limit: it returns normally (no
    subscript out of range or negative, all seven loops end, the loop variable read after the loop is bound), handles `k ≥ 1` spans,
    returns `sp_start + k` and the two positions, and the first `d_index_i` offsets / `d_index_v` bytes of the buffers are exactly the
    running offsets (shifted by `dest_start_v`) and the CSV-joined outputs of the spans `sp_start … sp_start + k - 1` -/
theorem gen_kernel_eq_spec (P : Params Nat) (entries : List (List Nat))
    (hidx : P.idx = offsets entries) (hvals : P.vals = entries.flatten) (hbound : ∀ p ∈ P.spans, p ≤ entries.length)
    (M : Nat) (hM : ∀ o ∈ concatSpec P.sep P.delim entries P.spans, o.length ≤ M)
    (hI : P.maxI ≤ P.capI) (hMV : M ≤ P.capV) (hV : P.maxV - 1 + M ≤ P.capV)
    (spStart : Nat) (hs : spStart < P.spans.length - 1) (hci : (if spStart = 0 then 1 else 0) < P.capI)
    (bufI bufV : List Int) (hbI : bufI.length = P.capI) (hbV : bufV.length = P.capV)
    (hI0 : spStart = 0 → bufI[0]? = some (P.index0 : Int)) :
    ∃ (k : Nat) (bI bV : List Int), 0 < k ∧ spStart + k ≤ P.spans.length - 1 ∧
      let outs := ((concatSpec P.sep P.delim entries P.spans).drop spStart).take k
      let ib := (if spStart = 0 then [P.index0] else []) ++ offsetsFrom P.destStartV outs
      _apply_spans_concat_2.run (ints P.spans) (ints P.idx) (ints P.vals) bufI bufV P.maxI P.maxV P.sep P.delim spStart
          P.destStartV = .ok (((spStart + k : Nat) : Int), (ib.length : Int), (outs.flatten.length : Int), bI, bV) ∧
        bI.take ib.length = ints ib ∧ bV.take outs.flatten.length = ints outs.flatten := by
  obtain ⟨k, hk0, hk1, hker⟩ := C16.kernel_eq_spec P entries hidx hvals hbound M hM hI hMV hV spStart hs hci
  obtain ⟨bI, bV, hrun, _, hIt, _, hVt⟩ := apply_spans_concat_2_ok P spStart bufI bufV hbI hbV hI0 _ _ hker
  exact ⟨k, bI, bV, hk0, hk1, hrun, hIt, hVt⟩

example : _apply_spans_concat_2.run (ints C16.exParams.spans) (ints C16.exParams.idx) (ints C16.exParams.vals) [0, 0]
    (List.replicate 24 0) 2 12 44 34 1 1
    = .ok (3, 2, 12, [1, 13], [34, 98, 44, 99, 34, 44, 34, 100, 34, 34, 101, 34] ++ List.replicate 12 0) := by decide

end Exetera.Props.C16Gen
