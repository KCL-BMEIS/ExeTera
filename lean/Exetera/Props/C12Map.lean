import Exetera.Props.C04
import Exetera.Lemmas.StreamFuelMap
/-!
# C12 — column mapping through a join map (`ordered_map_valid_stream`, `ordered_map_valid_indexed_stream`)

The models of C04 run their driver loops with budgets written into the definitions (`len(map)` iterations of the loop over map
chunks; `(sm_end - sm_start) + len(sub_chunks)` iterations of the `while sm < sm_end` loop that spun in D5). Here the same
drivers take the fuel of those loops as a parameter (`Model/StreamFuel.lean`: `orderedMapValidStreamF`,
`orderedMapValidIndexedStreamF`; tied to the models of C04 by `orderedMapValidStream_eq_F : … = …F len(map)` (`rfl`) and by
`indexedStream_agree`), and the theorems say: for EVERY fuel above an explicit bound linear in the input, for every chunk size
≥ 1 and every value factor, the run is the specified column — or the clear `ValueError` when a mapped entry is longer than the
value buffer — and never `outOfFuel`. The kernels called from the loops (`ordered_map_valid_partial`,
`ordered_map_valid_indexed_partial`, the sub-chunk splitter, `calculate_chunk_decomposition`) are counted loops or run with the
budget of their model (linear in the window they are given) and finish within it as part of the same statements.
-/
namespace Exetera.Props.C12
open Exetera Exetera.MapValid Exetera.Spec

/-! ## the non-indexed stream -/

/-- **map_stream_iterations.** The loop over map chunks takes at most `⌈|map| / cs⌉` iterations: with ANY fuel such that
    `|map| ≤ fuel · cs`, for every chunk size ≥ 1, marker and in-range map (ordered or not), the run is the specified column. -/
theorem map_stream_iterations {α} (src : List α) (m : List Int) (inv : Int) (cs : Nat) (empty : α)
    (hcs : 1 ≤ cs) (hr : InRange src.length m inv) (fuel : Nat) (hfuel : m.length ≤ fuel * cs) :
    ∃ out, orderedMapValidStreamF fuel src m inv cs empty = .ok out ∧ mapSpec src inv empty m = some out := by
  obtain ⟨out, hrun, hspec⟩ := C04.map_stream_eq_any src m inv cs empty hcs hr
  exact ⟨out, stream_fuel src m inv cs empty out hrun fuel hfuel, hspec⟩

/-- **map_stream_terminates.** The linear bound made visible: `B = 1·|map| + 0·|source| + 0` (the output has exactly `|map|`
    rows, so this is also linear in the output). Every fuel `≥ B` suffices for every chunk size ≥ 1. -/
theorem map_stream_terminates {α} (src : List α) (m : List Int) (inv : Int) (cs : Nat) (empty : α)
    (hcs : 1 ≤ cs) (hr : InRange src.length m inv) (fuel : Nat)
    (hfuel : 1 * m.length + 0 * src.length + 0 ≤ fuel) :
    ∃ out, orderedMapValidStreamF fuel src m inv cs empty = .ok out ∧ mapSpec src inv empty m = some out ∧
      out.length = m.length ∧ orderedMapValidStreamF fuel src m inv cs empty ≠ .error .outOfFuel := by
  have h1 : m.length ≤ fuel := by omega
  have h2 : fuel ≤ fuel * cs := Nat.le_mul_of_pos_right _ hcs
  obtain ⟨out, hrun, hspec⟩ := map_stream_iterations src m inv cs empty hcs hr fuel (by omega)
  exact ⟨out, hrun, hspec, mapSpec_length _ _ _ _ _ hspec, by rw [hrun]; intro h; cases h⟩

/-- **map_stream_never_spins.** Every successful iteration of the loop over map chunks, from a state whose chunk is the
    `next_chunk` of its position, moves to the next chunk: `lo' = min (lo + cs) n > lo`, i.e. the measure `n - lo` strictly
    decreases (by `min cs (n - lo)` map rows consumed), and the output is only appended to. -/
theorem map_stream_never_spins {α} (src : List α) (m : List Int) (inv : Int) (cs : Nat) (empty : α) (hcs : 1 ≤ cs)
    (s s' : St α) (hinv : s.hi = min (s.lo + cs) m.length) (hg : s.lo < m.length)
    (hb : chunkBody src m inv cs empty s = .ok s') :
    s'.lo = min (s.lo + cs) m.length ∧ s'.hi = min (s'.lo + cs) m.length ∧
      m.length - s'.lo < m.length - s.lo ∧ s.out <+: s'.out := by
  obtain ⟨h1, h2, buf, h3⟩ := chunkBody_next hb
  obtain ⟨hlt, _, _⟩ := chunk_bounds hcs hg hinv
  exact ⟨h1.trans hinv, by rw [h2, h1], h1 ▸ Nat.sub_lt_sub_left hg hlt, h3 ▸ List.prefix_append _ _⟩

/-! ## the indexed-string stream -/

/-- the linear step bound of the indexed stream: `1·|map| + 1·|indices|` -/
def indexedBound (indices m : List Int) : Nat := 1 * m.length + 1 * indices.length

/-- **map_indexed_stream_total.** For a well-formed source, every chunk size ≥ 1, every value factor, every in-range map
    (ordered or not) and EVERY fuel `≥ |map| + |indices|` for the loop over map chunks and each `while sm < sm_end` loop, the
    indexed stream has exactly two outcomes: the specified column (every mapped entry fits the value buffer), or the clear
    `ValueError` (some mapped entry is longer than `chunksize · value_factor`). Never `outOfFuel`, never an index error. -/
theorem map_indexed_stream_total {β} (indices : List Int) (values : List β) (m : List Int) (inv : Int) (cs vf : Nat)
    (hok : IndexedOK indices values) (hcs : 1 ≤ cs) (hr : InRange (entries indices values).length m inv)
    (fuel : Nat) (hfuel : indexedBound indices m ≤ fuel) :
    (∃ out, orderedMapValidIndexedStreamF fuel indices values m inv cs vf = .ok out ∧
      mapIndexedSpec indices values inv m = some out) ∨
    (orderedMapValidIndexedStreamF fuel indices values m inv cs vf
        = .error (.valueError "entry does not fit the value buffer") ∧
      ∃ (r : Nat) (k : Int) (x : List β), m[r]? = some k ∧ k ≠ inv ∧ (entries indices values)[k.toNat]? = some x ∧
        cs * vf < x.length) := by
  have hag := indexedStream_agree fuel indices values m inv cs vf hcs (by simpa [indexedBound] using hfuel)
  rcases indexed_stream_total_any indices values m inv cs vf hok hcs hr with
    ⟨out, es, hrun, hspec, hout, _⟩ | ⟨e, hrun, herr, p, k, x, hpk, hki, _, hent, hbig⟩
  · left
    refine ⟨out, ?_, by simp [mapIndexedSpec, hspec, hout]⟩
    rw [hag.eq_of_ne (by rw [hrun]; intro h; cases h), hrun]
  · right
    refine ⟨?_, p, k, x, hpk, hki, hent, hbig⟩
    rw [hag.eq_of_ne (by rw [hrun, herr]; intro h; cases h), hrun, herr]

/-- **map_indexed_stream_terminates.** When the value buffer holds every mapped entry: every fuel above the linear bound gives
    the specified column. -/
theorem map_indexed_stream_terminates {β} (indices : List Int) (values : List β) (m : List Int) (inv : Int) (cs vf : Nat)
    (hok : IndexedOK indices values) (hcs : 1 ≤ cs) (hr : InRange (entries indices values).length m inv)
    (hcap : ∀ (r : Nat) (k : Int) (x : List β), m[r]? = some k → k ≠ inv →
      (entries indices values)[k.toNat]? = some x → x.length ≤ cs * vf)
    (fuel : Nat) (hfuel : indexedBound indices m ≤ fuel) :
    ∃ out, orderedMapValidIndexedStreamF fuel indices values m inv cs vf = .ok out ∧
      mapIndexedSpec indices values inv m = some out := by
  rcases map_indexed_stream_total indices values m inv cs vf hok hcs hr fuel hfuel with h | ⟨_, r, k, x, hk, hki, hx, hbig⟩
  · exact h
  · have := hcap r k x hk hki hx
    omega

/-- **map_indexed_stream_clear_error.** A mapped entry longer than the value buffer ends the stream with the `ValueError`
    "entry does not fit the value buffer" — for every fuel above the linear bound, never `outOfFuel` (D5 as repaired). -/
theorem map_indexed_stream_clear_error {β} (indices : List Int) (values : List β) (m : List Int) (inv : Int) (cs vf : Nat)
    (hok : IndexedOK indices values) (hcs : 1 ≤ cs) (hr : InRange (entries indices values).length m inv)
    (r : Nat) (k : Int) (x : List β) (hk : m[r]? = some k) (hki : k ≠ inv)
    (hx : (entries indices values)[k.toNat]? = some x) (hbig : cs * vf < x.length)
    (fuel : Nat) (hfuel : indexedBound indices m ≤ fuel) :
    orderedMapValidIndexedStreamF fuel indices values m inv cs vf
      = .error (.valueError "entry does not fit the value buffer") := by
  have hag := indexedStream_agree fuel indices values m inv cs vf hcs (by simpa [indexedBound] using hfuel)
  have hrun := indexed_stream_oversize_any indices values m inv cs vf hok hcs hr r k x hk hki hx hbig
  rw [hag.eq_of_ne (by rw [hrun]; intro h; cases h), hrun]

/-- **map_indexed_stream_never_spins.** Every successful iteration of `while sm < sm_end` either consumes at least one map
    entry or moves to the next value sub-chunk: the measure `(sm_end - sm) + (len(sub_chunks) - s)` strictly decreases, and
    neither `sm` nor `s` ever goes back. (An iteration that can do neither is the `ValueError` of the D5 repair.) -/
theorem map_indexed_stream_never_spins {β} (map_ : List Int) (smEnd : Nat) (indices_ : List Int) (values : List β)
    (subs : List (Nat × Nat)) (mvStart : Int) (capI capV : Nat) (inv : Int) (w w' : IW β)
    (hg : w.sm < smEnd) (hs : w.s < subs.length) (hsm' : w'.sm ≤ smEnd)
    (h : innerBody map_ smEnd indices_ values subs mvStart capI capV inv w = .ok w') :
    (smEnd - w'.sm) + (subs.length - w'.s) < (smEnd - w.sm) + (subs.length - w.s) ∧ w'.s < subs.length ∧
      w.sm ≤ w'.sm ∧ w.s ≤ w'.s :=
  innerBody_progress map_ smEnd indices_ values subs mvStart capI capV inv w w' hg hs hsm' h

/-! ## non-vacuity -/

/-- a map longer than the chunk (10 rows, chunk size 2 → 5 iterations), markers filling a whole chunk; fuel exactly ⌈10/2⌉ -/
example : InRange 9 [-1, -1, 0, -1, 0, 7, -1, -1, -1, 8] (-1) ∧ (10 : Nat) ≤ 5 * 2 :=
  ⟨C04.inRange_of_all (by decide), by decide⟩
example : orderedMapValidStreamF 5 [1, 2, 3, 4, 5, 6, 7, 8, 9] [-1, -1, 0, -1, 0, 7, -1, -1, -1, 8] (-1) 2 (0 : Int)
    = .ok [0, 0, 1, 0, 1, 8, 0, 0, 0, 9] := by rfl
example : orderedMapValidStreamF 4 [1, 2, 3, 4, 5, 6, 7, 8, 9] [-1, -1, 0, -1, 0, 7, -1, -1, -1, 8] (-1) 2 (0 : Int)
    = .error .outOfFuel := by rfl
/-- one iteration of the loop from its second state (`lo = 2`, `hi = 4`) -/
example : (chunkBody [1, 2, 3] [0, 1, 2, 0, 1] (-1) 2 (0 : Int) ⟨2, 4, [1, 2], [1, 2]⟩).toOption.map (fun s => (s.lo, s.hi, s.out))
    = some (4, 5, [1, 2, 3, 1]) := by rfl

/-- an entry exactly filling the value buffer (`"cccc"`, 4 bytes = chunksize 2 · value_factor 2): several value sub-chunks and
    buffer flushes; fuel = the bound `|map| + |indices| = 6 + 5` -/
example : IndexedOK [0, 1, 3, 6, 10] [1, 2, 2, 3, 3, 3, 4, 4, 4, (4 : Int)] ∧
    InRange (entries [0, 1, 3, 6, 10] [1, 2, 2, 3, 3, 3, 4, 4, 4, (4 : Int)]).length [0, 1, -1, 2, 2, 3] (-1) ∧
    indexedBound [0, 1, 3, 6, 10] [0, 1, -1, 2, 2, 3] = 11 ∧
    (∀ e ∈ entries [0, 1, 3, 6, 10] [1, 2, 2, 3, 3, 3, 4, 4, 4, (4 : Int)], e.length ≤ 2 * 2) :=
  ⟨by unfold IndexedOK; decide, C04.inRange_of_all (by decide), by decide, by decide⟩
example : orderedMapValidIndexedStreamF 11 [0, 1, 3, 6, 10] [1, 2, 2, 3, 3, 3, 4, 4, 4, (4 : Int)] [0, 1, -1, 2, 2, 3] (-1) 2 2
    = .ok ([0, 1, 3, 3, 6, 9, 13], [1, 2, 2, 3, 3, 3, 3, 3, 3, 4, 4, 4, 4]) := by rfl
/-- one byte more than the buffer (the D5 witness): the clear error, with the bound as fuel and with any larger fuel -/
example : orderedMapValidIndexedStreamF 5 [0, 10, 11] [97, 98, 99, 100, 101, 102, 103, 104, 105, 106, (98 : Int)] [0, 1] (-1) 2 2
      = .error (.valueError "entry does not fit the value buffer") ∧
    orderedMapValidIndexedStreamF 500 [0, 10, 11] [97, 98, 99, 100, 101, 102, 103, 104, 105, 106, (98 : Int)] [0, 1] (-1) 2 2
      = .error (.valueError "entry does not fit the value buffer") := ⟨by rfl, by rfl⟩

end Exetera.Props.C12
