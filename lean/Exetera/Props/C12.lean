import Exetera.Props.C03
import Exetera.Lemmas.JoinCalls
/-!
# C12 — streaming operations always terminate (join-map generation part)

`whileE` returns `.error .outOfFuel` when a loop is cut off with its guard still true: that is the model's rendering of
"spins". The theorems say that, given fuel above an explicit bound LINEAR in input plus output size, no driver of the eight
join-map generators runs out of fuel, for every chunk size ≥ 1 — including runs of equal keys longer than a chunk — and
that the number of `_partial`/`_remaining` invocations is at most twice that bound. (Each `_partial` call is itself run with
`partialFuel`, linear in window plus buffer size, and is proved to finish within it as part of the same theorems.)
The other streamed operations have their C12 theorems in `Props/C12Map.lean` (column mapping), `Props/C12Rest.lean` (span
concatenation, CSV export, CSV reading) and `Props/C12Copy.lean` (chunked copy); all share the namespace `Exetera.Props.C12`.
-/
namespace Exetera.Props.C12
open Exetera Exetera.Join Exetera.Spec

/-- the uniqueness assumption of each variant, as strict sortedness of the side assumed unique -/
def Valid (v : Variant) (L R : List Int) : Prop :=
  Sorted L ∧ Sorted R ∧
  (match v with | .leftLU | .innerLU | .leftBU | .innerBU => L.Pairwise (· < ·) | _ => True) ∧
  (match v with | .leftRU | .innerRU | .leftBU | .innerBU => R.Pairwise (· < ·) | _ => True)

/-- the linear step bound -/
def bound (L R : List Int) : Nat := L.length + R.length + 2 * (leftJoin L R).length + 1

theorem innerJoin_le_leftJoin (L R : List Int) : (innerJoin L R).length ≤ (leftJoin L R).length := by
  have hspec := inner_eq_sel_left R L 0
  have := congrArg (fun p => p.1.length) hspec
  simp only [encodeInner, List.length_map, encL_length] at this
  have h2 : (sel false (leftJoin L R)).length ≤ (leftJoin L R).length := by
    simp only [sel, Bool.false_eq_true, if_false]; exact List.length_filter_le _ _
  simp only [innerJoin, leftJoin] at *
  omega

/-- every join-map driver finishes normally within the linear bound, for every chunk size ≥ 1 -/
theorem join_streamed_terminates (v : Variant) {L R : List Int} {cs : Nat} (inv : Int) (hcs : 0 < cs) (hv : Valid v L R)
    (fuel : Nat) (hfuel : bound L R ≤ fuel) :
    ∃ o, streamed v fuel cs inv L R = .ok o ∧ o.calls ≤ 2 * fuel := by
  obtain ⟨hL, hR, hlu, hru⟩ := hv
  have hin := innerJoin_le_leftJoin L R
  simp only [bound] at hfuel
  have key : ∃ o, streamed v fuel cs inv L R = .ok o := by
    cases v with
    | left => obtain ⟨c, h⟩ := C03.left_streamed_eq inv hcs hL hR fuel hfuel; exact ⟨_, h⟩
    | inner => obtain ⟨c, h⟩ := C03.inner_streamed_eq inv hcs hL hR fuel (by omega); exact ⟨_, h⟩
    | leftLU => obtain ⟨c, h⟩ := C03.left_left_unique_streamed_eq inv hcs hlu hR fuel (by omega); exact ⟨_, h⟩
    | innerLU => obtain ⟨c, h⟩ := C03.inner_left_unique_streamed_eq inv hcs hlu hR fuel (by omega); exact ⟨_, h⟩
    | leftRU => obtain ⟨c, h⟩ := C03.left_right_unique_streamed_eq inv hcs hL hru fuel (by omega); exact ⟨_, h⟩
    | innerRU => obtain ⟨c, h⟩ := C03.inner_right_unique_streamed_eq inv hcs hL hru fuel (by omega); exact ⟨_, h⟩
    | leftBU => obtain ⟨c, h⟩ := C03.left_both_unique_streamed_eq inv hcs hlu hru fuel (by omega); exact ⟨_, h⟩
    | innerBU => obtain ⟨c, h⟩ := C03.inner_both_unique_streamed_eq inv hcs hlu hru fuel (by omega); exact ⟨_, h⟩
  obtain ⟨o, ho⟩ := key
  exact ⟨o, ho, streamed_calls_le ho⟩

/-- the bound read off at the smallest admissible fuel: the number of kernel calls is LINEAR in the input and output sizes,
    `≤ 2 · (|L| + |R| + 2·|left join| + 1)`, whatever the chunk size (the statement above bounds the calls by the fuel given, which
    says this only after instantiating the fuel) -/
theorem join_streamed_calls_linear (v : Variant) {L R : List Int} {cs : Nat} (inv : Int) (hcs : 0 < cs) (hv : Valid v L R) :
    ∃ o, streamed v (bound L R) cs inv L R = .ok o ∧
      o.calls ≤ 2 * (L.length + R.length + 2 * (leftJoin L R).length + 1) :=
  join_streamed_terminates v inv hcs hv (bound L R) (Nat.le_refl _)

/-- in particular: never `outOfFuel` (never spins), whatever the chunk size and however long the runs of equal keys -/
theorem join_streamed_never_spins (v : Variant) {L R : List Int} {cs : Nat} (inv : Int) (hcs : 0 < cs) (hv : Valid v L R)
    (fuel : Nat) (hfuel : bound L R ≤ fuel) : streamed v fuel cs inv L R ≠ .error .outOfFuel := by
  obtain ⟨o, ho, _⟩ := join_streamed_terminates v inv hcs hv fuel hfuel
  rw [ho]; intro h; cases h

/-- fetching a trimmed chunk terminates for every chunk size ≥ 1, even when the whole window is one run -/
theorem get_next_chunk_terminates (xs : List Int) (start cs : Nat) (hcs : 0 < cs) (hs : start ≤ xs.length) :
    ∃ c, getNextChunk xs start cs = .ok c ∧ (start < xs.length → c.lo < c.hi) := by
  obtain ⟨c, h1, h2, h3, _⟩ := getNextChunk_ok xs start cs hcs hs
  exact ⟨c, h1, fun h => h3.nonempty (by omega)⟩

-- non-vacuity: a key repeated more often than the chunk size, chunk size 1
example : Valid .left [1, 1, 1, 1, 2] [1, 1, 1] ∧ bound [1, 1, 1, 1, 2] [1, 1, 1] ≤ 40 := by
  refine ⟨⟨by simp [Sorted], by simp [Sorted], trivial, trivial⟩, by decide⟩
example : (streamed .left 40 1 (-1) [1, 1, 1, 1, 2] [1, 1, 1]).toOption.map (fun o => decide (o.calls ≤ 80)) = some true := by
  decide +kernel

end Exetera.Props.C12
