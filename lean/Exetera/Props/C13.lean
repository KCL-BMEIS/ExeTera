import Exetera.Model.FieldOps
import Exetera.Lemmas.FieldOps
/-!
# C13 — field arithmetic, comparison and logic equal numpy's element-wise results

numpy is opaque (`np`), so the content of the theorems is the dispatch: which symbol, which operand order, and that the
result is a fresh field. They are stated over `Gen/OperatorTable.lean`, regenerated from `fields.py` on every run.
-/
namespace Exetera.Props.C13
open Exetera Exetera.FieldOps

/-- what the property demands of the static route of a dunder: the symbol and operand order of `spec`, run by the helper
    body that serves that kind of operator -/
def routeSpec (d : String) : Option (String × String × List Nat) :=
  (spec d).map fun (sym, ord) =>
    (if sym == "np.divmod" then "numeric_divmod" else if ord.length == 1 then "_unary_op" else "_binary_op", sym, ord)

/-- the regenerated tables route every supported (class, operator) to the symbol, the operand order and the helper body the
    property demands, and the property's list has no unknown operator. The one sweep over `Gen.dunderTable`: the route
    theorems below are this, read off operator by operator. -/
theorem table_eq_spec : ∀ cls ∈ classes, ∀ d ∈ supported cls,
    (spec d).isSome = true ∧ resolve cls d = spec d ∧ routeOf cls d = routeSpec d := by decide +kernel

theorem mem_allPairs {p : String × String} : p ∈ allPairs ↔ p.1 ∈ classes ∧ p.2 ∈ supported p.1 := by
  obtain ⟨cls, d⟩ := p; simp [allPairs]

theorem resolve_eq_spec : ∀ p ∈ allPairs, resolve p.1 p.2 = spec p.2 :=
  fun p h => (table_eq_spec p.1 (mem_allPairs.mp h).1 p.2 (mem_allPairs.mp h).2).2.1

theorem spec_total : ∀ p ∈ allPairs, (spec p.2).isSome = true :=
  fun p h => (table_eq_spec p.1 (mem_allPairs.mp h).1 p.2 (mem_allPairs.mp h).2).1

/-- For every class and supported operator, for every numpy and all operands: the forward form computes
    `sym(self, other)`, the reflected form `sym(other, self)`, the unary form `sym(self)`. -/
theorem dunder_table_correct {α β} (np : String → List α → β) (cls d : String) (h : (cls, d) ∈ allPairs) (self other : α) :
    ∃ sym ord, spec d = some (sym, ord) ∧
      eval np cls d self other = some (np sym (ord.map (fun k => if k == 0 then self else other))) := by
  have h1 := resolve_eq_spec (cls, d) h
  have h2 := spec_total (cls, d) h
  simp only at h1 h2
  cases hs : spec d with
  | none => rw [hs] at h2; cases h2
  | some r =>
    refine ⟨r.1, r.2, rfl, ?_⟩
    simp [eval, h1, hs]

/-- reflected operators really swap: e.g. `3 - f` is `operator.sub(3, f)` for every class that supports `-` -/
theorem rsub_reflected {α β} (np : String → List α → β) (cls : String) (h : (cls, "__rsub__") ∈ allPairs) (self other : α) :
    eval np cls "__rsub__" self other = some (np "operator.sub" [other, self]) := by
  obtain ⟨sym, ord, h1, h2⟩ := dunder_table_correct np cls "__rsub__" h self other
  simp [spec] at h1
  obtain ⟨rfl, rfl⟩ := h1
  simpa using h2

/-- the result of `_binary_op` is a fresh in-memory field: every existing field keeps its data -/
theorem result_is_fresh {α} (s : Store α) (f : α → α → α) (a b : Operand α) (s' : Store α) (rid : Nat)
    (hfresh : ∀ c ∈ s.cells, c.1 < s.next) (h : binaryOp s f a b = some (s', rid)) :
    rid = s.next ∧ (∀ id, id ≠ rid → s'.get? id = s.get? id) ∧
      ∃ x y, a.data s = some x ∧ b.data s = some y ∧ s'.get? rid = some (f x y) := by
  simp only [binaryOp, bind, Option.bind] at h
  cases ha : a.data s with
  | none => simp [ha] at h
  | some x =>
    cases hb : b.data s with
    | none => simp [ha, hb] at h
    | some y =>
      simp only [ha, hb, pure, Option.some.injEq, Prod.mk.injEq] at h
      obtain ⟨rfl, rfl⟩ := h
      refine ⟨rfl, ?_, x, y, rfl, rfl, ?_⟩
      · intro id hne
        simp only [Store.get?, List.find?_cons]
        have : (s.next == id) = false := by simpa using fun h => hne h.symm
        simp [this]
      · simp [Store.get?]

/-- **The result field carries numpy's dtype.** For every dtype `n` a field operator can produce, `dtype_to_str` (as
    regenerated from the source) names the numpy type `n` exactly `n` — so `NumericMemField(session, dtype_to_str(r.dtype))`
    is declared with the dtype of numpy's result `r`, never a folded or widened one. -/
theorem dtype_to_str_faithful : ∀ n ∈ resultDtypes, dtypeToStr (npSymbol n) = some n := by decide +kernel

/-- no two rows of the chain answer for the same numpy type, and no two numpy types get the same name: the chain is a
    bijection between the types it tests and the names it returns (first-match order is therefore immaterial) -/
theorem dtype_to_str_injective :
    (Gen.dtypeToStrRows.map (·.1)).Nodup ∧ (Gen.dtypeToStrRows.map (·.2)).Nodup := by decide +kernel

/-- every answer is a row of the chain; a dtype outside the chain falls through to the final `raise ValueError` (it is
    refused, not silently renamed); a dtype already given as a string is passed through unchanged -/
theorem dtype_to_str_total_or_raises (ty : String) :
    ((∃ n, dtypeToStr ty = some n ∧ (ty, n) ∈ Gen.dtypeToStrRows) ∨ dtypeToStr ty = none) ∧
      Gen.dtypeToStrRaises = "ValueError" ∧ Gen.dtypeToStrPassthrough = true := by
  refine ⟨?_, by decide +kernel, by decide +kernel⟩
  unfold dtypeToStr
  cases h : Gen.dtypeToStrRows.find? (fun r => r.1 == ty) with
  | none => right; rfl
  | some r =>
    left
    refine ⟨r.2, rfl, ?_⟩
    have hm := List.mem_of_find?_eq_some h
    have he := List.find?_some h
    simp only [beq_iff_eq] at he
    rw [← he]; exact hm

-- non-vacuity: the table is non-empty and contains the interesting reflected rows
example : allPairs.length = 128 := by decide +kernel
example : ("TimestampField", "__rdivmod__") ∈ allPairs := by decide +kernel
example : eval (fun s (xs : List Int) => (s, xs)) "NumericField" "__rfloordiv__" 7 2 = some ("operator.floordiv", [2, 7]) := by
  decide +kernel

example : dtypeToStr "np.uint16" = some "uint16" := by decide +kernel
example : dtypeToStr "np.float16" = none := by decide +kernel

/-! ## The whole operator, over the regenerated helper bodies (`Gen/FieldOpsShape.lean`)

`opBinary np w op l r` is `l <op> r` as Python evaluates it: operator protocol (`pyDunders`, numpy's deferral rule read off the
regenerated `__array_ufunc__` attributes) → `cls.<dunder>` → `FieldDataOps.<method>` → the regenerated body of `_binary_op` /
`_unary_op` / `numeric_divmod`. numpy (`np : Numpy α`) is opaque throughout; `w` is any heap. -/
section whole
variable {α : Type}

theorem dunders_routed {cls op : String} (hcls : cls ∈ classes) (hsup : supportsOp cls op = true) :
    ∃ f r, pyDunders op = some (f, r) ∧ routeOf cls f = routeSpec f ∧ routeOf cls r = routeSpec r := by
  unfold supportsOp at hsup
  cases hp : pyDunders op with
  | none => simp [hp] at hsup
  | some p =>
    simp only [hp, Bool.and_eq_true, List.contains_iff_mem] at hsup
    exact ⟨p.1, p.2, rfl, (table_eq_spec cls hcls _ hsup.1).2.2, (table_eq_spec cls hcls _ hsup.2).2.2⟩

/-- operator by operator, no class involved: what `routeSpec` says of the forward and of the reflected dunder -/
theorem operator_spec : ∀ op ∈ "divmod" :: binOps,
    (pyDunders op).bind (fun p => routeSpec p.1) = (opSymbol op).map (fun s => (helperOf op, s, [0, 1])) ∧
    (pyDunders op).bind (fun p => routeSpec p.2) =
      (opSymbol op).map (fun s => (helperOf op, mirrorSym s, if cmpOps.contains op then [0, 1] else [1, 0])) := by
  decide +kernel

/-- table fact: the FORWARD dunder of every supported binary operator runs `_binary_op` (`numeric_divmod` for divmod) with the
    operator's symbol on (self, other) -/
theorem forward_route : ∀ cls ∈ classes, ∀ op ∈ "divmod" :: binOps, supportsOp cls op = true →
    (pyDunders op).bind (fun p => routeOf cls p.1) = (opSymbol op).map (fun s => (helperOf op, s, [0, 1])) := by
  intro cls hcls op hop hsup
  obtain ⟨f, r, hp, hf, -⟩ := dunders_routed hcls hsup
  rw [← (operator_spec op hop).1, hp]; exact hf

/-- table fact: the dunder Python falls back to when the LEFT operand is not a field: the reflected dunder applies the operator's
    symbol to (other, self); for a comparison it is the mirrored comparison on (self, other) -/
theorem reflected_route : ∀ cls ∈ classes, ∀ op ∈ "divmod" :: binOps, supportsOp cls op = true →
    (pyDunders op).bind (fun p => routeOf cls p.2) =
      (opSymbol op).map (fun s => (helperOf op, mirrorSym s, if cmpOps.contains op then [0, 1] else [1, 0])) := by
  intro cls hcls op hop hsup
  obtain ⟨f, r, hp, -, hr⟩ := dunders_routed hcls hsup
  rw [← (operator_spec op hop).2, hp]; exact hr

/-- table fact: `~` / `logical_not` run `_unary_op` with `operator.invert` / `np.logical_not` on (self) -/
theorem unary_route : ∀ cls ∈ classes, ∀ op ∈ unOps, supportsUnary cls op = true →
    (pyUnary op).bind (routeOf cls) = (opSymbol op).map (fun s => ("_unary_op", s, [0])) := by
  intro cls hcls op hop hsup
  have hspec : ∀ op ∈ unOps, (pyUnary op).bind routeSpec = (opSymbol op).map (fun s => ("_unary_op", s, [0])) := by
    decide +kernel
  unfold supportsUnary at hsup
  cases hp : pyUnary op with
  | none => simp [hp] at hsup
  | some d =>
    simp only [hp, List.contains_iff_mem] at hsup
    rw [← hspec op hop, hp]; exact (table_eq_spec cls hcls d hsup).2.2

/-- table fact (fix ff6219e): every one of the six classes makes `ndarray <op> field` defer to the field's reflected dunder -/
theorem classes_defer : ∀ cls ∈ classes, defers cls = true := by decide +kernel

theorem ops_total : (∀ op ∈ "divmod" :: binOps, (opSymbol op).isSome = true) ∧ (∀ op ∈ unOps, (opSymbol op).isSome = true) := by
  decide +kernel

/-- table fact: both divmod dunders are the body of `numeric_divmod` applied to (left, right) -/
theorem divmod_routes : ∀ cls ∈ classes, supportsOp cls "divmod" = true →
    routeOf cls "__divmod__" = some ("numeric_divmod", "np.divmod", [0, 1]) ∧
    routeOf cls "__rdivmod__" = some ("numeric_divmod", "np.divmod", [1, 0]) := by
  intro cls hcls hsup
  obtain ⟨f, r, hp, hf, hr⟩ := dunders_routed hcls hsup
  obtain ⟨rfl, rfl⟩ : "__divmod__" = f ∧ "__rdivmod__" = r := by simpa [pyDunders] using hp
  exact ⟨hf.trans (by decide +kernel), hr.trans (by decide +kernel)⟩

theorem helperOf_bin : ∀ op ∈ binOps, helperOf op = "_binary_op" := by decide +kernel
theorem mirror_noncmp : ∀ op ∈ "divmod" :: binOps, op ∉ cmpOps → (opSymbol op).map mirrorSym = opSymbol op := by decide +kernel
theorem cmp_sub_bin : ∀ op ∈ cmpOps, op ∈ binOps := by decide +kernel

/-- numpy's comparisons give the same answer with the operands exchanged and the comparison mirrored (`a < b` ≡ `b > a`, …).
    An ASSUMPTION about numpy; used only where Python itself falls back to the mirrored comparison (`ndarray < field`). -/
def MirrorLaw (np : Numpy α) : Prop :=
  ∀ op ∈ cmpOps, ∀ s, opSymbol op = some s → ∀ x y, np.call (mirrorSym s) [y, x] = np.call s [x, y]

/-- what "returns a new in-memory field holding `v` under dtype name `n`, everything else untouched" means -/
def ReturnsNew (w w' : World α) (rid : Nat) (n : String) (v : α) : Prop :=
  rid = w.next ∧ w.get? rid = none ∧ w'.get? rid = some ⟨"NumericMemField", n, some v⟩ ∧
    (∀ id, id ≠ rid → w'.get? id = w.get? id) ∧ w'.frames = w.frames ∧ w'.next = w.next + 1 ∧ w'.wf

theorem returnsNew_withNew {w : World α} (hw : w.wf) (n : String) (v : α) : ReturnsNew w (w.withNew n v) w.next n v :=
  ⟨rfl, World.get?_none_of_wf hw (Nat.le_refl _), by simp [World.get?_withNew],
    fun id h => by simp [World.get?_withNew, Ne.symm h], rfl, rfl, World.wf_withNew hw n v⟩

theorem op_routes {cls op sym : String} (hcls : cls ∈ classes) (hop : op ∈ "divmod" :: binOps)
    (hsup : supportsOp cls op = true) (hs : opSymbol op = some sym) :
    ∃ fwd refl, pyDunders op = some (fwd, refl) ∧ routeOf cls fwd = some (helperOf op, sym, [0, 1]) ∧
      routeOf cls refl = some (helperOf op, mirrorSym sym, if cmpOps.contains op then [0, 1] else [1, 0]) := by
  obtain ⟨fwd, refl, hp, hf, hr⟩ := dunders_routed hcls hsup
  obtain ⟨h1, h2⟩ := operator_spec op hop
  rw [hp, hs] at h1 h2
  exact ⟨fwd, refl, hp, hf.trans h1, hr.trans h2⟩

theorem callDunder_of_route (np : Numpy α) (w : World α) {cls d h sym : String} {ord : List Nat} {args args' : List (Val α)}
    {nops : Nat} {prog : List Gen.FInstr} (hr : routeOf cls d = some (h, sym, ord)) (hl : lookupProg h = some (nops, prog))
    (hpk : pick args ord = some args') (hn : args'.length = nops) :
    callDunder np w cls d args = runProg np sym prog w args' := by
  simp [callDunder, hr, hl, hpk, hn]

/-- Python's dispatch: a field on the left has its forward dunder called on (left, right); otherwise the right operand is a
    field, its class defers, and its reflected dunder is called on (right, left) -/
theorem opBinary_dispatch (np : Numpy α) (w : World α) {op fwd refl cls : String} (l r : Operand α)
    (hp : pyDunders op = some (fwd, refl)) (hcls : cls ∈ classes) (hdisp : dispatchClass w l r = some cls) :
    opBinary np w op l r =
      if l.isField then callDunder np w cls fwd [l.val, r.val] else callDunder np w cls refl [r.val, l.val] := by
  cases l <;> cases r <;> simp_all [dispatchClass, opBinary, Operand.isField, Operand.val, classes_defer cls hcls]

/-- **How a binary operator reaches a helper body.** For every class, every operator the class supports (divmod included) and
    every operand kind on either side, `l <op> r` is ONE run of the regenerated body that serves `op`, applying the operator's
    symbol to the operands in the order written — except a comparison with a non-field on the left, which Python turns into
    the mirrored comparison on (right, left). Every statement about a binary operator below is this plus what the body does. -/
theorem opBinary_eq_run (np : Numpy α) (w : World α) {op cls sym : String} {prog : List Gen.FInstr} (l r : Operand α)
    (hop : op ∈ "divmod" :: binOps) (hcls : cls ∈ classes) (hsup : supportsOp cls op = true)
    (hdisp : dispatchClass w l r = some cls) (hs : opSymbol op = some sym) (hprog : lookupProg (helperOf op) = some (2, prog)) :
    opBinary np w op l r =
      if l.isField || !cmpOps.contains op then runProg np sym prog w [l.val, r.val]
      else runProg np (mirrorSym sym) prog w [r.val, l.val] := by
  obtain ⟨fwd, refl, hp, hf, hr⟩ := op_routes hcls hop hsup hs
  rw [opBinary_dispatch np w l r hp hcls hdisp]
  cases hl : l.isField
  · cases hc : cmpOps.contains op
    · have hm := mirror_noncmp op hop (by simpa using hc)
      rw [hs, Option.map_some, Option.some.injEq] at hm
      rw [hc, hm] at hr
      simpa using callDunder_of_route np w hr hprog rfl rfl
    · rw [hc] at hr
      simpa using callDunder_of_route np w hr hprog rfl rfl
  · simpa using callDunder_of_route np w hf hprog rfl rfl

theorem opUnary_eq_run (np : Numpy α) (w : World α) {op cls sym : String} (id : Nat) (hop : op ∈ unOps) (hcls : cls ∈ classes)
    (hsup : supportsUnary cls op = true) (hdisp : w.classOf id = some cls) (hs : opSymbol op = some sym) :
    opUnary np w op id = runProg np sym unaryProg w [.fld id] := by
  have hr := unary_route cls hcls op hop hsup
  cases hp : pyUnary op with
  | none => simp [supportsUnary, hp] at hsup
  | some d =>
    rw [hp, hs] at hr
    simp only [opUnary, hp, hdisp]
    exact callDunder_of_route np w hr lookup_unary rfl rfl

/-- `opBinary_eq_run` with the symbol and the operand order forgotten: all that `operands_unchanged` needs -/
theorem opBinary_runs (np : Numpy α) (w : World α) (op : String) (l r : Operand α) (cls : String)
    (hop : op ∈ "divmod" :: binOps) (hcls : cls ∈ classes) (hsup : supportsOp cls op = true)
    (hdisp : dispatchClass w l r = some cls) :
    ∃ s a b, opBinary np w op l r = runProg np s (if op = "divmod" then divmodProg else binaryProg) w [a, b] := by
  cases hs : opSymbol op with
  | none => have := ops_total.1 op hop; rw [hs] at this; cases this
  | some sym =>
    rw [opBinary_eq_run np w l r hop hcls hsup hdisp hs (lookup_helperOf op)]
    split <;> exact ⟨_, _, _, rfl⟩

/-- **C13, value and dtype.** For every field class, every single-result binary operator the class supports
    (`+ - * / // % & ^ |` and the comparisons), with a field, an ndarray or a scalar on either side — forward `field <op> x`,
    field-field, and `ndarray <op> field` / `scalar <op> field` through the reflected dunder — for every numpy and every heap:
    the operator returns ONE new NumericMemField whose data is `sym(l', r')` on the operands' underlying arrays in the order
    written, declared under `dtype_to_str` of numpy's result dtype; no other object and no dataframe changes.
    (A comparison with a non-field on the LEFT is `reflected_comparison_eq_numpy`: Python mirrors it.)
    `hn` says numpy's result dtype is one `dtype_to_str` names — otherwise the operator raises (`unsupported_dtype_raises`). -/
theorem operator_result_eq_numpy (np : Numpy α) (w : World α) (op : String) (l r : Operand α) (cls sym n : String) (x y : α)
    (hw : w.wf) (hop : op ∈ binOps) (hcls : cls ∈ classes) (hsup : supportsOp cls op = true)
    (hdisp : dispatchClass w l r = some cls) (hside : l.isField = true ∨ op ∉ cmpOps)
    (hx : l.under np w = .ok x) (hy : r.under np w = .ok y) (hs : opSymbol op = some sym)
    (hn : dtypeToStr (np.dtypeOf (np.call sym [x, y])) = some n) :
    ∃ w' rid, opBinary np w op l r = .ok (w', [rid]) ∧ ReturnsNew w w' rid n (np.call sym [x, y]) := by
  have he := opBinary_eq_run np w l r (List.mem_cons_of_mem _ hop) hcls hsup hdisp hs (helperOf_bin op hop ▸ lookup_binary)
  rw [if_pos (by rcases hside with h | h <;> simp [h])] at he
  exact ⟨_, _, he.trans (run_binary np sym w hx hy hn), returnsNew_withNew hw _ _⟩

/-- **C13, comparisons with the field on the right** (`ndarray < field`, `3 >= field`, …): Python calls the field's MIRRORED
    comparison on (field, other); under numpy's mirror law the result is again `sym(l', r')` in the order written. -/
theorem reflected_comparison_eq_numpy (np : Numpy α) (w : World α) (op : String) (l : Operand α) (id : Nat) (cls sym n : String)
    (x y : α) (hw : w.wf) (hop : op ∈ cmpOps) (hcls : cls ∈ classes) (hsup : supportsOp cls op = true)
    (hl : l.isField = false) (hdisp : w.classOf id = some cls) (hm : MirrorLaw np)
    (hx : l.under np w = .ok x) (hy : (Operand.field id : Operand α).under np w = .ok y) (hs : opSymbol op = some sym)
    (hn : dtypeToStr (np.dtypeOf (np.call sym [x, y])) = some n) :
    ∃ w' rid, opBinary np w op l (.field id) = .ok (w', [rid]) ∧ ReturnsNew w w' rid n (np.call sym [x, y]) := by
  have hop' := cmp_sub_bin op hop
  have he := opBinary_eq_run np w l (.field id) (List.mem_cons_of_mem _ hop') hcls hsup
    (by cases l <;> simp_all [dispatchClass, Operand.isField]) hs (helperOf_bin op hop' ▸ lookup_binary)
  rw [if_neg (by simpa [hl] using hop)] at he
  rw [← hm op hop sym hs x y] at hn ⊢
  exact ⟨_, _, he.trans (run_binary np (mirrorSym sym) w hy hx hn), returnsNew_withNew hw _ _⟩

/-- **C13, unary operators.** `~f` is `operator.invert(f')`, `f.logical_not()` is `np.logical_not(f')`, for every class that has
    them: one new NumericMemField with numpy's data and dtype name, nothing else changes. -/
theorem unary_table_correct (np : Numpy α) (w : World α) (op : String) (id : Nat) (cls sym n : String) (x : α)
    (hw : w.wf) (hop : op ∈ unOps) (hcls : cls ∈ classes) (hsup : supportsUnary cls op = true)
    (hdisp : w.classOf id = some cls) (hx : (Operand.field id : Operand α).under np w = .ok x) (hs : opSymbol op = some sym)
    (hn : dtypeToStr (np.dtypeOf (np.call sym [x])) = some n) :
    (op = "~" → sym = "operator.invert") ∧ (op = "logical_not" → sym = "np.logical_not") ∧
    ∃ w' rid, opUnary np w op id = .ok (w', [rid]) ∧ ReturnsNew w w' rid n (np.call sym [x]) := by
  refine ⟨fun h => by subst h; simpa [opSymbol] using hs.symm, fun h => by subst h; simpa [opSymbol] using hs.symm, ?_⟩
  exact ⟨_, _, (opUnary_eq_run np w id hop hcls hsup hdisp hs).trans (run_unary np sym w hx hn), returnsNew_withNew hw _ _⟩

/-- **C13, divmod.** `divmod(l, r)` with a field on either side returns a PAIR of distinct new NumericMemFields: the two
    components of ONE `np.divmod(l', r')` call, in numpy's order (quotient, remainder), each under its own dtype name;
    nothing that existed before changes. -/
theorem divmod_returns_pair (np : Numpy α) (w : World α) (l r : Operand α) (cls n1 n2 : String) (x y : α)
    (hw : w.wf) (hcls : cls ∈ classes) (hsup : supportsOp cls "divmod" = true) (hdisp : dispatchClass w l r = some cls)
    (hx : l.under np w = .ok x) (hy : r.under np w = .ok y)
    (hn1 : dtypeToStr (np.dtypeOf (np.call2 "np.divmod" [x, y]).1) = some n1)
    (hn2 : dtypeToStr (np.dtypeOf (np.call2 "np.divmod" [x, y]).2) = some n2) :
    ∃ w' q m, opDivmod np w l r = .ok (w', [q, m]) ∧ q = w.next ∧ m = w.next + 1 ∧ q ≠ m ∧
      w.get? q = none ∧ w.get? m = none ∧
      w'.get? q = some ⟨"NumericMemField", n1, some (np.call2 "np.divmod" [x, y]).1⟩ ∧
      w'.get? m = some ⟨"NumericMemField", n2, some (np.call2 "np.divmod" [x, y]).2⟩ ∧
      (∀ id, id < w.next → w'.get? id = w.get? id) ∧ w'.frames = w.frames ∧ w'.wf := by
  have he := opBinary_eq_run np w l r List.mem_cons_self hcls hsup hdisp (sym := "np.divmod") rfl lookup_divmod
  rw [show cmpOps.contains "divmod" = false by decide +kernel, Bool.not_false, Bool.or_true, if_pos rfl] at he
  refine ⟨_, _, _, he.trans (run_divmod np "np.divmod" w hx hy hn1 hn2), rfl, rfl, by omega,
    World.get?_none_of_wf hw (Nat.le_refl _), World.get?_none_of_wf hw (Nat.le_succ _), by simp [World.get?_withNew],
    by simp [World.get?_withNew], fun id hid => ?_, rfl, World.wf_withNew (World.wf_withNew hw _ _) _ _⟩
  simp [World.get?_withNew, Nat.ne_of_gt hid, Nat.ne_of_gt (Nat.lt_succ_of_lt hid)]

/-- **C13, operands untouched.** Whatever a supported binary operator or divmod returns (any operand kinds, either side), every
    object that existed before the call — both operands included — and every dataframe is exactly as it was. No assumption on
    numpy, on the operands' data or on the result dtype. -/
theorem operands_unchanged (np : Numpy α) (w w' : World α) (op : String) (l r : Operand α) (cls : String) (ids : List Nat)
    (hw : w.wf) (hop : op ∈ "divmod" :: binOps) (hcls : cls ∈ classes) (hsup : supportsOp cls op = true)
    (hdisp : dispatchClass w l r = some cls) (h : opBinary np w op l r = .ok (w', ids)) :
    (∀ id rec, w.get? id = some rec → w'.get? id = some rec) ∧ w'.frames = w.frames := by
  obtain ⟨s, a, b, he⟩ := opBinary_runs np w op l r cls hop hcls hsup hdisp
  rw [he] at h
  have hfr : (∀ id, id < w.next → w'.get? id = w.get? id) ∧ w'.frames = w.frames := by
    by_cases hd : op = "divmod"
    · rw [if_pos hd] at h; exact run_divmod_frame np s w w' a b ids h
    · rw [if_neg hd] at h; exact run_binary_frame np s w w' a b ids h
  refine ⟨fun id rec hr => ?_, hfr.2⟩
  rw [hfr.1 id (World.lt_next_of_get? hw hr)]; exact hr

/-- … and the same for the unary operators -/
theorem operands_unchanged_unary (np : Numpy α) (w w' : World α) (op : String) (id : Nat) (cls : String) (ids : List Nat)
    (hw : w.wf) (hop : op ∈ unOps) (hcls : cls ∈ classes) (hsup : supportsUnary cls op = true)
    (hdisp : w.classOf id = some cls) (h : opUnary np w op id = .ok (w', ids)) :
    (∀ id rec, w.get? id = some rec → w'.get? id = some rec) ∧ w'.frames = w.frames := by
  cases hs : opSymbol op with
  | none => have := ops_total.2 op hop; rw [hs] at this; cases this
  | some sym =>
    rw [opUnary_eq_run np w id hop hcls hsup hdisp hs] at h
    have hfr := run_unary_frame np sym w w' (.fld id) ids h
    refine ⟨fun id rec hr => ?_, hfr.2⟩
    rw [hfr.1 id (World.lt_next_of_get? hw hr)]; exact hr

/-- when numpy's result dtype is one `dtype_to_str` does not name, the operator raises ValueError instead of inventing a name -/
theorem unsupported_dtype_raises (np : Numpy α) (w : World α) (op : String) (id : Nat) (r : Operand α) (cls sym : String) (x y : α)
    (hop : op ∈ binOps) (hcls : cls ∈ classes) (hsup : supportsOp cls op = true) (hdisp : w.classOf id = some cls)
    (hx : (Operand.field id : Operand α).under np w = .ok x) (hy : r.under np w = .ok y) (hs : opSymbol op = some sym)
    (hn : dtypeToStr (np.dtypeOf (np.call sym [x, y])) = none) :
    opBinary np w op (.field id) r = .error (.valueError "Unsupported dtype") := by
  have he := opBinary_eq_run np w (.field id) r (List.mem_cons_of_mem _ hop) hcls hsup hdisp hs (helperOf_bin op hop ▸ lookup_binary)
  exact he.trans (run_binary_unsupported np sym w hx hy hn)

/-- **C13, assignment into a dataframe.** `df[name] = f` for a numeric field `f` holding data `a` (every operator result is one),
    `name` not yet a column: the dataframe gets a NEW NumericField column `name` declared with `f`'s dtype name and holding the
    values h5py stores for `a` in a dataset of that dtype; `f` itself, the operands and every other object are unchanged; the other
    columns keep their place. `hcast`: writing an array into a dataset of its own dtype stores it unchanged (numpy / h5py). -/
theorem setitem_stores_result (np : Numpy α) (w : World α) (df : Nat) (name : String) (rid : Nat) (cols : List (String × Nat))
    (rec : FieldRec α) (a : α) (hw : w.wf) (hf : w.frame? df = some cols) (hr : w.get? rid = some rec)
    (hc : createLikeTarget rec.cls = some "NumericField") (hd : rec.data = some a)
    (hnew : cols.any (fun c => c.1 == name) = false) (hcast : np.cast rec.dtype a = a) :
    ∃ w', setItem np w df name rid = .ok w' ∧
      w'.column? df name = some ⟨"NumericField", rec.dtype, some a⟩ ∧
      w'.frame? df = some (cols ++ [(name, w.next)]) ∧ w.get? w.next = none ∧
      (∀ id rec', w.get? id = some rec' → w'.get? id = some rec') ∧ w'.get? rid = some rec ∧
      (∀ d, d ≠ df → w'.frame? d = w.frame? d) := by
  have keep : ∀ id rec', w.get? id = some rec' →
      ((w.alloc ⟨"NumericField", rec.dtype, none⟩).put w.next ⟨"NumericField", rec.dtype, some a⟩).get? id = some rec' :=
    fun id rec' h => by simp [Nat.ne_of_gt (World.lt_next_of_get? hw h), h]
  have hfind : (cols ++ [(name, w.next)]).find? (fun c => c.1 == name) = some (name, w.next) := by
    have : cols.find? (fun c => c.1 == name) = none := by simpa using hnew
    simp [List.find?_append, this]
  refine ⟨_, by simp [setItem, hf, hr, hc, hnew, hd, hcast]; rfl, ?_, by simp [World.frame?],
    World.get?_none_of_wf hw (Nat.le_refl _), fun id rec' h => ?_, ?_, fun d hd' => ?_⟩
  · simp [World.column?, World.frame?, hfind, World.get?, World.put, World.alloc]
  · simpa [World.get?, World.put, World.alloc] using keep id rec' h
  · simpa [World.get?, World.put, World.alloc] using keep rid rec hr
  · simp [World.frame?, Ne.symm hd']

/-- assigning under a name the dataframe already has raises ValueError (from `create_like`) before anything is written -/
theorem setitem_existing_name_raises (np : Numpy α) (w : World α) (df : Nat) (name : String) (rid : Nat)
    (cols : List (String × Nat)) (rec : FieldRec α) (hf : w.frame? df = some cols) (hr : w.get? rid = some rec)
    (hc : createLikeTarget rec.cls = some "NumericField") (hex : cols.any (fun c => c.1 == name) = true) :
    setItem np w df name rid = .error (.valueError "Field already exists in group") := by
  simp [setItem, hf, hr, hc, hex]

/-- every operator result can be assigned: `create_like` of a NumericMemField (and of a NumericField) is the numeric route -/
theorem result_class_assignable : createLikeTarget "NumericMemField" = some "NumericField" ∧
    createLikeTarget "NumericField" = some "NumericField" := by decide +kernel

end whole

/-! ### non-vacuity: a toy numpy over `Int` "arrays", a heap with one HDF5 field, one memory field and a dataframe -/

/-- integers as one-element arrays; comparisons give 0 / 1 -/
def toyNp : Numpy Int where
  call s xs := match s, xs with
    | "operator.sub", [a, b] => a - b
    | "operator.lt", [a, b] => if a < b then 1 else 0
    | "operator.gt", [a, b] => if a > b then 1 else 0
    | "operator.le", [a, b] => if a ≤ b then 1 else 0
    | "operator.ge", [a, b] => if a ≥ b then 1 else 0
    | "operator.eq", [a, b] => if a = b then 1 else 0
    | "operator.ne", [a, b] => if a ≠ b then 1 else 0
    | "operator.invert", [a] => -a - 1
    | _, _ => 0
  call2 _ xs := match xs with
    | [a, b] => (a / b, a % b)
    | _ => (0, 0)
  dtypeOf _ := "np.int64"
  append a _ := a
  zeros0 _ := 0
  cast _ a := a

def toyWorld : World Int :=
  { fields := [(0, ⟨"NumericField", "int64", some 3⟩), (1, ⟨"TimestampMemField", "float64", some 20⟩)], next := 2,
    frames := [(0, [("x", 0)])] }

theorem toyWorld_wf : toyWorld.wf := by unfold World.wf; decide

theorem toy_mirror : MirrorLaw toyNp := by
  intro op hop s hs x y
  simp only [cmpOps, List.mem_cons, List.not_mem_nil, or_false] at hop
  -- `a > b` is `b < a` and `a ≥ b` is `b ≤ a` by definition; `=` and `≠` are symmetric
  rcases hop with rfl | rfl | rfl | rfl | rfl | rfl <;> cases hs
  · exact rfl
  · exact rfl
  · show (if y = x then 1 else 0) = (if x = y then (1 : Int) else 0); simp only [eq_comm]
  · show (if y ≠ x then 1 else 0) = (if x ≠ y then (1 : Int) else 0); simp only [ne_comm]
  · exact rfl
  · exact rfl

-- a reflected NON-COMMUTATIVE operator with an ndarray on the left: `array(10) - field(3)` is `operator.sub(10, 3)`, not (3, 10)
example : ((opBinary toyNp toyWorld "-" (.array 10) (.field 0)).toOption.map (fun p => (p.1.get? 2, p.2, p.1.get? 0))) =
    some (some ⟨"NumericMemField", "int64", some 7⟩, [2], some ⟨"NumericField", "int64", some 3⟩) := by decide +kernel
example := operator_result_eq_numpy toyNp toyWorld "-" (.array 10) (.field 0) "NumericField" "operator.sub" "int64" 10 3
  toyWorld_wf (by decide +kernel) (by decide +kernel) (by decide +kernel) (by decide +kernel) (by decide +kernel) rfl rfl rfl (by decide +kernel)
-- `array(10) < field(3)` goes through `NumericField.__gt__(field, array)`
example : ((opBinary toyNp toyWorld "<" (.array 10) (.field 0)).toOption.map (fun p => p.1.get? 2)) =
    some (some ⟨"NumericMemField", "int64", some 0⟩) := by decide +kernel
example := reflected_comparison_eq_numpy toyNp toyWorld "<" (.array 10) 0 "NumericField" "operator.lt" "int64" 10 3
  toyWorld_wf (by decide +kernel) (by decide +kernel) (by decide +kernel) rfl (by decide +kernel) toy_mirror rfl rfl rfl (by decide +kernel)
-- divmod with the field on the right: `divmod(scalar 20, field 3)` = (6, 2), two distinct new fields
example : ((opDivmod toyNp toyWorld (.scalar 20) (.field 0)).toOption.map (fun p => (p.2, p.1.get? 2, p.1.get? 3))) =
    some ([2, 3], some ⟨"NumericMemField", "int64", some 6⟩, some ⟨"NumericMemField", "int64", some 2⟩) := by decide +kernel
example := divmod_returns_pair toyNp toyWorld (.scalar 20) (.field 0) "NumericField" "int64" "int64" 20 3
  toyWorld_wf (by decide +kernel) (by decide +kernel) (by decide +kernel) rfl rfl (by decide +kernel) (by decide +kernel)
-- timestamp field on the left, numeric field on the right
example := operator_result_eq_numpy toyNp toyWorld "-" (.field 1) (.field 0) "TimestampMemField" "operator.sub" "int64" 20 3
  toyWorld_wf (by decide +kernel) (by decide +kernel) (by decide +kernel) (by decide +kernel) (by decide +kernel) rfl rfl rfl (by decide +kernel)
example := unary_table_correct toyNp toyWorld "~" 0 "NumericField" "operator.invert" "int64" 3
  toyWorld_wf (by decide +kernel) (by decide +kernel) (by decide +kernel) (by decide +kernel) rfl rfl (by decide +kernel)
example := operands_unchanged toyNp toyWorld
  (toyWorld.alloc ⟨"NumericMemField", "int64", none⟩ |>.put 2 ⟨"NumericMemField", "int64", some 7⟩) "-" (.array 10) (.field 0)
  "NumericField" [2] toyWorld_wf (by decide +kernel) (by decide +kernel) (by decide +kernel) (by decide +kernel) (by rfl)
-- `df['r'] = (array(10) - field)`
example : ((opBinary toyNp toyWorld "-" (.array 10) (.field 0)).toOption.bind (fun p =>
    (setItem toyNp p.1 0 "r" 2).toOption.map (fun w => (w.column? 0 "r", w.column? 0 "x", w.get? 2)))) =
    some (some ⟨"NumericField", "int64", some 7⟩, some ⟨"NumericField", "int64", some 3⟩,
      some ⟨"NumericMemField", "int64", some 7⟩) := by decide +kernel
example := setitem_stores_result toyNp toyWorld 0 "r" 0 [("x", 0)] ⟨"NumericField", "int64", some 3⟩ 3
  toyWorld_wf (by decide +kernel) (by decide +kernel) (by decide +kernel) rfl (by decide +kernel) rfl
example : setItem toyNp toyWorld 0 "x" 0 = .error (.valueError "Field already exists in group") := by rfl
example : Gen.helperProgs.length = 3 ∧ Gen.arrayProtocol.length = 6 := by decide

end Exetera.Props.C13
