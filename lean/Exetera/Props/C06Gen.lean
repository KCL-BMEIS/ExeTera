import Exetera.Props.C06
import Exetera.Lemmas.GenKernelsCategorical
import Exetera.Lemmas.GenKernelsLeaky
import Exetera.Lemmas.GenKernelsFixedString
import Exetera.Lemmas.GenKernelsToValues
import Exetera.Lemmas.GenKernelsNumericBool
/-!
  C06 over the TRANSLATED import transforms (`Gen/Kernels.lean`, regenerated from operations.py by tools/translate_njit.py on every
  run).

  * `gen_*_ok` (transfer form): every `.ok` run of the hand model is a run of the translated kernel — called with zero-filled
    output buffers and with staging arrays `column_inds` / `column_offsets` whose entry `col_idx` is the chunk's (`GenK.Staged`) —
    ending with the same result.  Transfer and not refinement because the model folds the subscript of the column (`withCol`);
    for `categorical_transform` it also reports the key loop's stores as one optional value per row, and for
    `leaky_categorical_transform` it computes the length of a free-text cell in `Nat`, the code in signed arithmetic (hence the
    hypothesis that the row offsets do not decrease at the rows written).
  * the other theorems are the statements of Props/C06 for the translated kernels themselves, on any chunk the reader filled
    (`Encodes`, C05).
  * `numeric_bool_transform` is tied to its model at its two trimming loops only (last section).
-/
namespace Exetera.Props.C06Gen

open Exetera Exetera.Transforms Exetera.Spec.Transforms Exetera.GenK Exetera.Gen.Kernels

theorem gen_categorical_transform_ok (bm : ByteMap) (c : Chunk) (cinds : List (List Int)) (coffs : List Int)
    (hst : Staged c cinds coffs) (r : List Int) (h : categoricalTransform bm c = .ok r) :
    categorical_transform.run (List.replicate c.rows 0) (c.col : Int) cinds (ints c.vals) coffs (ints bm.keys) (ints bm.index)
      bm.values = .ok r :=
  categorical_transform_ok bm c cinds coffs hst r h

/-- `categorical_transform` as translated, over `get_byte_map`'s packed table, on any chunk the reader filled (`Encodes`, C05) held
    at subscript `col_idx` of the staging arrays: it returns normally (no subscript out of range or negative, all three loops end)
    and every row gets the value of the one key that equals the whole cell, `0` when there is none -/
theorem gen_categorical_exact_match (cats : List (Bytes × Int)) (hnd : (cats.map (·.1)).Nodup) (c : Chunk)
    (cells : List Bytes) (h : Encodes c cells) (cinds : List (List Int)) (coffs : List Int) (hst : Staged c cinds coffs) :
    categorical_transform.run (List.replicate c.rows 0) (c.col : Int) cinds (ints c.vals) coffs
      (ints (getByteMap cats).keys) (ints (getByteMap cats).index) (getByteMap cats).values
      = .ok (cells.map (catCode cats)) :=
  categorical_transform_ok _ c cinds coffs hst _ (C06.categorical_exact_match cats hnd c cells h)

theorem gen_leaky_categorical_transform_ok (bm : ByteMap) (c : Chunk) (cinds : List (List Int)) (coffs : List Int)
    (hst : Staged c cinds coffs) (hmono : NonDecreasingBelow c.rows c.inds) (r : LeakyBuf) (h : leakyTransform bm c = .ok r) :
    leaky_categorical_transform.run (List.replicate c.rows 0) (List.replicate (c.rows + 1) 0) (List.replicate c.cap 0)
      (c.col : Int) cinds (ints c.vals) coffs (ints bm.keys) (ints bm.index) bm.values
      = .ok (r.chunk, ints r.ftIdx, ints r.ftVals) :=
  leaky_categorical_transform_ok bm c cinds coffs hst hmono r h

/-- `leaky_categorical_transform` as translated, on a chunk the reader filled, with the three zero-filled buffers
    `LeakyCategoricalImporter.import_part` allocates: it returns normally (every subscript and both slices in range) with the codes
    (`-1` for a cell that is no key), the free-text offsets counted from 0, and the free-text bytes followed by zero padding -/
theorem gen_leaky_transform_chunk (cats : List (Bytes × Int)) (hnd : (cats.map (·.1)).Nodup) (c : Chunk)
    (cells : List Bytes) (h : Encodes c cells) (cinds : List (List Int)) (coffs : List Int) (hst : Staged c cinds coffs) :
    ∃ pad, leaky_categorical_transform.run (List.replicate c.rows 0) (List.replicate (c.rows + 1) 0) (List.replicate c.cap 0)
        (c.col : Int) cinds (ints c.vals) coffs (ints (getByteMap cats).keys) (ints (getByteMap cats).index)
        (getByteMap cats).values
      = .ok (cells.map (leakyCode cats), ints (offsets 0 (cells.map (fun x => (freeText cats x).length))),
          ints ((cells.map (freeText cats)).flatten ++ List.replicate pad 0)) := by
  obtain ⟨pad, hm⟩ := C06.leaky_transform_chunk cats hnd c cells h
  exact ⟨pad, leaky_categorical_transform_ok _ c cinds coffs hst (encodes_nonDecreasingBelow c cells h) _ hm⟩

example : leaky_categorical_transform.run [0, 0, 0] [0, 0, 0, 0] [0, 0, 0, 0, 0, 0, 0] 1 [[0, 0, 0, 0, 0], [0, 2, 2, 5, 9]]
    [88, 88, 97, 98, 97, 98, 99, 88, 88] [0, 2, 9] [97, 97, 98, 99] [0, 1, 4] [1, 7]
    = .ok ([-1, -1, 7], [0, 2, 2, 2], [97, 98, 0, 0, 0, 0, 0]) := by rfl
example : NonDecreasingBelow C06.demoChunk.rows C06.demoChunk.inds :=
  encodes_nonDecreasingBelow _ _ C06.demo_encodes

/-! ## fixed_string_transform

  The model keeps the bytes of the `S<n>` buffer as naturals; the kernel writes `np.int8(b)` into the int8 view of that buffer. The
  translation renders the cast (`PyRt.pyInt8`), so the translated kernel's memory is the model's read as signed bytes
  (`GenK.asInt8`; the identity below 128). -/

theorem gen_fixed_string_transform_ok (c : Chunk) (strlen : Nat) (cinds : List (List Int)) (coffs : List Int)
    (hst : Staged c cinds coffs) (mem : Bytes) (h : fixedStringTransform c strlen = .ok mem) :
    fixed_string_transform.run cinds (ints c.vals) coffs (c.col : Int) (c.rows : Int) (strlen : Int)
      (List.replicate (c.rows * strlen) 0) = .ok (mem.map asInt8) :=
  fixed_string_transform_ok c strlen cinds coffs hst mem h

/-- `fixed_string_transform` as translated, on a chunk the reader filled: it returns normally and each row of the buffer is the
    first `n` bytes of its cell, zero padded (as signed bytes) -/
theorem gen_fixed_truncates_to_n (c : Chunk) (n : Nat) (cells : List Bytes) (h : Encodes c cells) (cinds : List (List Int))
    (coffs : List Int) (hst : Staged c cinds coffs) :
    fixed_string_transform.run cinds (ints c.vals) coffs (c.col : Int) (c.rows : Int) (n : Int) (List.replicate (c.rows * n) 0)
      = .ok (((cells.map (fixedCell n)).flatten).map asInt8) :=
  fixed_string_transform_ok c n cinds coffs hst _ (C06.fixed_truncates_to_n c n cells h)

example : fixed_string_transform.run [[0, 0, 0, 0, 0], [0, 2, 2, 5, 9]] [88, 88, 97, 98, 97, 98, 99, 88, 200] [0, 2, 9] 1 3 2
    [0, 0, 0, 0, 0, 0] = .ok [97, 98, 0, 0, 97, 98] := by rfl
example : asInt8 200 = -56 ∧ asInt8 97 = 97 := by decide

example : Staged C06.demoChunk [[0, 0, 0, 0, 0], [0, 2, 2, 5, 9]] [0, 2, 9] := ⟨rfl, rfl⟩
example : categorical_transform.run [0, 0, 0] 1 [[0, 0, 0, 0, 0], [0, 2, 2, 5, 9]] [88, 88, 97, 98, 97, 98, 99, 88, 88] [0, 2, 9]
    [97, 97, 98, 97, 98, 99] [0, 1, 3, 6] [1, 2, 3] = .ok [2, 0, 3] := by rfl
-- the column subscript is really checked: `i_c` = number of columns fails at `column_inds[i_c]`
example : categorical_transform.run [0, 0, 0] 2 [[0, 0, 0, 0, 0], [0, 2, 2, 5, 9]] [88, 88, 97, 98, 97, 98, 99, 88, 88] [0, 2, 9]
    [] [0] [] = .error (.oob "p2[p1]") := by rfl

/-! ## transform_to_values

  The model reads a cell with `sliceE` (the end of the slice must lie inside `column_vals`); the code is a Python slice, which clamps
  (`PyRt.pySlice`) and never raises. The two slices are the same list (`GenK.pySlice_ints_nat`); only the model's range check
  differs, hence transfer form: nothing is said where the model reports the end of a cell beyond the buffer (the translated kernel
  returns the shortened cell there; last `example`). -/

theorem gen_transform_to_values_ok (c : Chunk) (cinds : List (List Int)) (coffs : List Int) (hst : Staged c cinds coffs)
    {cells : List Bytes} (h : cellsE c = .ok cells) :
    transform_to_values.run cinds (ints c.vals) coffs (c.col : Int) (c.rows : Int) = .ok (cells.map ints) :=
  transform_to_values_ok c cinds coffs hst h

/-- `transform_to_values` as translated, on a chunk the reader filled (`Encodes`, C05) held at subscript `col_idx` of the staging
    arrays: it returns normally (no subscript out of range or negative) and `data` is exactly the cells of the column, one byte
    string per row written, in row order -/
theorem gen_transform_to_values_cells (c : Chunk) (cells : List Bytes) (h : Encodes c cells) (cinds : List (List Int))
    (coffs : List Int) (hst : Staged c cinds coffs) :
    transform_to_values.run cinds (ints c.vals) coffs (c.col : Int) (c.rows : Int) = .ok (cells.map ints) :=
  transform_to_values_ok c cinds coffs hst (cellsE_spec c cells h)

example : cellsE C06.demoChunk = .ok [[97, 98], [], [97, 98, 99]] := by rfl
example : transform_to_values.run [[0, 0, 0, 0, 0], [0, 2, 2, 5, 9]] [88, 88, 97, 98, 97, 98, 99, 88, 88] [0, 2, 9] 1 3
    = .ok [[97, 98], [], [97, 98, 99]] :=
  gen_transform_to_values_cells C06.demoChunk _ C06.demo_encodes _ _ ⟨rfl, rfl⟩
example : transform_to_values.run [[0, 0, 0, 0, 0], [0, 2, 2, 5, 9]] [88, 88, 97, 98, 97, 98, 99, 88, 88] [0, 2, 9] 1 3
    = .ok [[97, 98], [], [97, 98, 99]] := by rfl
-- where the model and the code part: a cell that ends beyond `column_vals` — `sliceE` reports it, the Python slice is cut short
example : cellsE { C06.demoChunk with inds := [0, 2, 2, 5, 9], vals := [88, 88, 97, 98, 97, 98] }
      = .error (.oob "column_vals[start_idx:end_idx]") ∧
    transform_to_values.run [[0, 0, 0, 0, 0], [0, 2, 2, 5, 9]] [88, 88, 97, 98, 97, 98] [0, 2, 9] 1 3
      = .ok [[97, 98], [], [97, 98]] := ⟨by rfl, by rfl⟩

/-! ## numeric_bool_transform (translated; tied to the hand model at the level of its two trimming loops only) -/

/-- **partial.** FULL statement (not proved): every `.ok` run of `Transforms.boolTransform` is a run of the translated
    `numeric_bool_transform` ending with the same `elements` / `validity` and exception code.  PROVED: the first trimming loop of the
    row body (`while byte_start_idx < length and column_vals[col_offset + row_start_idx + byte_start_idx] == 32`, a `while` whose
    condition subscripts) follows every successful run of the model's `skipLead` — no subscript out of range or negative, the loop
    ends within any fuel ≥ its trip count, `byte_start_idx` ends on the model's value and nothing else of the state changes.
    MISSING: the row loop `body_L1` (the literal cascade against `boolLitIn Gen.boolLiterals`, the two stores, the three
    validation modes) and the call.  The translation itself is validated differentially on every run (checks/harness/genkernels.py). -/
theorem gen_numeric_bool_lead_partial (vals : Bytes) (base n b r fuel : Nat) (s : numeric_bool_transform.St)
    (h : skipLead vals base n b = .ok r) (hf : n ≤ fuel) (h3 : s.p3 = ints vals) (hb : s.v0 + s.v7 = (base : Int))
    (h10 : s.v10 = (b : Int)) (h9 : s.v9 = ((b + n : Nat) : Int)) :
    PyRt.whileG numeric_bool_transform.guardE_L2 numeric_bool_transform.body_L2 fuel s = .ok { s with v10 := (r : Int) } :=
  NumericBool.lead_transfer vals base n b r fuel s h hf h3 hb h10 h9

/-- **partial** (see `gen_numeric_bool_lead_partial` for the full statement and what is missing): the second trimming loop
    (`while byte_end_idx >= 0 and column_vals[col_offset + row_start_idx + byte_end_idx] == 32: byte_end_idx -= 1`) follows every
    successful run of the model's `skipTrail` -/
theorem gen_numeric_bool_trail_partial (vals : Bytes) (base e r fuel : Nat) (s : numeric_bool_transform.St)
    (h : skipTrail vals base e = .ok r) (hf : e ≤ fuel) (h3 : s.p3 = ints vals) (hb : s.v0 + s.v7 = (base : Int))
    (h11 : s.v11 = (e : Int) - 1) :
    PyRt.whileG numeric_bool_transform.guardE_L3 numeric_bool_transform.body_L3 fuel s = .ok { s with v11 := (r : Int) - 1 } :=
  NumericBool.trail_transfer vals base e r fuel s h hf h3 hb h11

/-- the hypotheses are satisfiable: the cell `"  1 "` -/
example : skipLead [32, 32, 49, 32] 0 4 0 = .ok 2 ∧ skipTrail [32, 32, 49, 32] 0 4 = .ok 3 := ⟨rfl, rfl⟩

end Exetera.Props.C06Gen
