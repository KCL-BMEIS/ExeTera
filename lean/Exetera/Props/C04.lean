import Exetera.Model.MapValid
import Exetera.Spec.MapValid
import Exetera.Lemmas.MapValidStream
import Exetera.Lemmas.MapValidIndexedStream
import Exetera.Lemmas.MapValidIndexedFlat
/-!
  C04 — Mapping a column through a join map gives the mapped value or the empty value.

  The theorems are about the executable model `Exetera.MapValid.*` that the driver `Driver/C04.lean` runs
  (operations.py with fixes D5, D9, D10/D12, D11, NC04a, NC02a applied) and the specification `Exetera.Spec.mapSpec`.
  They quantify over all sources, maps, marker values and chunk sizes; there is no size bound.
-/
namespace Exetera.Props.C04

open Exetera Exetera.MapValid Exetera.Spec

/-! ## the non-indexed stream -/

/-- **Functional correctness of `ordered_map_valid_stream`.** For every chunk size ≥ 1, every marker value `inv`, every
    source and every map whose non-marker entries are row numbers of the source in non-decreasing order (markers
    anywhere): the stream terminates within its fuel, performs no out-of-bounds access (`.ok`), and the destination is
    exactly the specified column: row `r` is `src[map[r]]`, or `empty` where `map[r] = inv`. -/
theorem map_stream_eq {α} (src : List α) (m : List Int) (inv : Int) (cs : Nat) (empty : α)
    (hcs : 1 ≤ cs) (hr : InRange src.length m inv) (hm : ValidMonotone m inv) :
    ∃ out, orderedMapValidStream src m inv cs empty = .ok out ∧ mapSpec src inv empty m = some out :=
  have _ := hm
  stream_spec_any src m inv cs empty hcs hr

/-- row-wise reading of `map_stream_eq`: the destination has the map's length and row `r` is the looked-up value -/
theorem map_stream_rows {α} (src : List α) (m : List Int) (inv : Int) (cs : Nat) (empty : α)
    (hcs : 1 ≤ cs) (hr : InRange src.length m inv) (hm : ValidMonotone m inv) :
    ∃ out, orderedMapValidStream src m inv cs empty = .ok out ∧ out.length = m.length ∧
      ∀ (r : Nat) (k : Int), m[r]? = some k →
        (k = inv → out[r]? = some empty) ∧ (k ≠ inv → out[r]? = src[k.toNat]?) := by
  obtain ⟨out, h1, h2⟩ := map_stream_eq src m inv cs empty hcs hr hm
  refine ⟨out, h1, mapSpec_length _ _ _ _ _ h2, ?_⟩
  intro r k hk
  have h3 := mapSpec_getElem? _ _ _ _ _ h2 r k hk
  constructor
  · intro hki; simp [h3, lookup, hki]
  · intro hki
    have := (hr r k hk hki).1
    simp [h3, lookup, hki, this]

/-- **Chunk size is unobservable.** -/
theorem chunk_unobservable {α} (src : List α) (m : List Int) (inv : Int) (cs cs' : Nat) (empty : α)
    (hcs : 1 ≤ cs) (hcs' : 1 ≤ cs') (hr : InRange src.length m inv) (hm : ValidMonotone m inv) :
    orderedMapValidStream src m inv cs empty = orderedMapValidStream src m inv cs' empty := by
  obtain ⟨out, h1, h2⟩ := map_stream_eq src m inv cs empty hcs hr hm
  obtain ⟨out', h1', h2'⟩ := map_stream_eq src m inv cs' empty hcs' hr hm
  rw [h1, h1']
  rw [h2] at h2'
  cases h2'
  rfl

/-- re-encode the marker of a map -/
def remark (inv inv' : Int) (m : List Int) : List Int := m.map (fun k => if k = inv then inv' else k)

theorem mapSpec_remark {α} (src : List α) (inv inv' : Int) (empty : α) :
    ∀ (m : List Int), (∀ (i : Nat) (k : Int), m[i]? = some k → k ≠ inv → k ≠ inv') →
      mapSpec src inv' empty (remark inv inv' m) = mapSpec src inv empty m := by
  intro m
  induction m with
  | nil => intro _; rfl
  | cons k ks ih =>
    intro h
    have hk := h 0 k (by simp)
    have htl := ih (fun i k' hk' => h (i + 1) k' (by simpa using hk'))
    have hl : lookup src inv' empty (if k = inv then inv' else k) = lookup src inv empty k := by
      by_cases hki : k = inv
      · simp [lookup, hki]
      · have := hk hki
        simp [lookup, hki, this]
    simp only [remark, List.map_cons, mapSpec] at htl ⊢
    rw [hl, htl]

/-- **Marker parametric.** The result is the same function of "which rows are unmatched" whatever value encodes
    "unmatched": replacing the marker `inv` by any `inv'` that is not a row number of the source (for instance `-1`,
    `INVALID_INDEX_32`, `INVALID_INDEX_64` for sources shorter than 2^31-1) leaves the destination unchanged — also
    across different chunk sizes. -/
theorem marker_parametric {α} (src : List α) (m : List Int) (inv inv' : Int) (cs cs' : Nat) (empty : α)
    (hcs : 1 ≤ cs) (hcs' : 1 ≤ cs') (hr : InRange src.length m inv) (hm : ValidMonotone m inv)
    (hinv' : inv' < 0 ∨ (src.length : Int) ≤ inv') :
    orderedMapValidStream src (remark inv inv' m) inv' cs' empty = orderedMapValidStream src m inv cs empty := by
  have hfresh : ∀ (i : Nat) (k : Int), m[i]? = some k → k ≠ inv → k ≠ inv' := by
    intro i k hk hki
    have := hr i k hk hki
    omega
  have hr' : InRange src.length (remark inv inv' m) inv' := by
    intro i k hk hki
    simp only [remark, List.getElem?_map] at hk
    obtain ⟨a, hmi, rfl⟩ := Option.map_eq_some_iff.mp hk
    by_cases ha : a = inv
    · simp [ha] at hki
    · simpa [ha] using hr i a hmi ha
  obtain ⟨out, h1, h2⟩ := map_stream_eq src m inv cs empty hcs hr hm
  obtain ⟨out', h1', h2'⟩ := stream_spec_any src (remark inv inv' m) inv' cs' empty hcs' hr'
  rw [mapSpec_remark src inv inv' empty m hfresh, h2] at h2'
  cases h2'
  rw [h1, h1']

/-! ### non-vacuity: the hypotheses are met by the trailing-unmatched-rows map that `DataFrame.merge` produces
    (the D9/D10 witness), and the model computes the specified column on it -/

theorem inRange_of_all {n : Nat} {m : List Int} {inv : Int}
    (h : m.all (fun k => k == inv || (decide (0 ≤ k) && decide (k < (n : Int)))) = true) : InRange n m inv := by
  intro i k hk hki
  have hmem : k ∈ m := List.mem_of_getElem? hk
  have := List.all_eq_true.mp h k hmem
  simp [hki] at this
  exact this

theorem validMonotone_of_pairwise {m : List Int} {inv : Int}
    (h : List.Pairwise (fun a b => a ≠ inv → b ≠ inv → a ≤ b) m) : ValidMonotone m inv := by
  have hm : MonoOn m inv 0 m.length := MonoOn.of_pairwise (by simpa [slice] using h)
  exact fun i j a b hij hi hj => hm i j a b (Nat.zero_le _) hij (List.getElem?_eq_some_iff.mp hj).1 hi hj

example : InRange 3 [0, 1, INVALID_INDEX_32, INVALID_INDEX_32] INVALID_INDEX_32 ∧
    ValidMonotone [0, 1, INVALID_INDEX_32, INVALID_INDEX_32] INVALID_INDEX_32 :=
  ⟨inRange_of_all (by decide), validMonotone_of_pairwise (by decide)⟩

example : orderedMapValidStream [10, 20, 30] [0, 1, INVALID_INDEX_32, INVALID_INDEX_32] INVALID_INDEX_32 4 (0 : Int)
    = .ok [10, 20, 0, 0] := by rfl

example : mapSpec [10, 20, 30] INVALID_INDEX_32 (0 : Int) [0, 1, INVALID_INDEX_32, INVALID_INDEX_32]
    = some [10, 20, 0, 0] := by decide

/-- markers leading, alternating and filling whole chunks; a gap larger than the chunk; chunk size 2 -/
example : InRange 9 [-1, -1, 0, -1, 0, 7, -1, -1, -1, 8] (-1) ∧ ValidMonotone [-1, -1, 0, -1, 0, 7, -1, -1, -1, 8] (-1) :=
  ⟨inRange_of_all (by decide), validMonotone_of_pairwise (by decide)⟩

example : orderedMapValidStream [1, 2, 3, 4, 5, 6, 7, 8, 9] [-1, -1, 0, -1, 0, 7, -1, -1, -1, 8] (-1) 2 (0 : Int)
    = .ok [0, 0, 1, 0, 1, 8, 0, 0, 0, 9] := by rfl

/-- `marker_parametric`: the -1 map above re-marked with the 64-bit sentinel -/
example : remark (-1) INVALID_INDEX_64 [-1, 0, 2] = [INVALID_INDEX_64, 0, 2] := by decide

/-! ## the indexed-string stream -/

/-- **Functional correctness of `ordered_map_valid_indexed_stream`.** For a well-formed indexed source (offsets from 0,
    non-decreasing, ending at the number of bytes), every chunk size ≥ 1, every marker, every `value_factor` whose
    value buffer `chunksize * value_factor` can hold every entry the map refers to, and every map whose non-marker
    entries are row numbers of the source in non-decreasing order: the stream terminates within its fuel with no
    out-of-bounds access and without the D5 `ValueError`, and the destination's `indices` and `values` are exactly the
    stored form (offsets, concatenated bytes) of the specified column of entries — `[]` where the map holds the marker. -/
theorem map_indexed_stream_eq {β} (indices : List Int) (values : List β) (m : List Int) (inv : Int) (cs vf : Nat)
    (hok : IndexedOK indices values) (hcs : 1 ≤ cs)
    (hr : InRange (entries indices values).length m inv) (hm : ValidMonotone m inv)
    (hcap : ∀ (r : Nat) (k : Int) (x : List β), m[r]? = some k → k ≠ inv →
      (entries indices values)[k.toNat]? = some x → x.length ≤ cs * vf) :
    ∃ out, orderedMapValidIndexedStream indices values m inv cs vf = .ok out ∧
      mapIndexedSpec indices values inv m = some out :=
  have _ := hm
  indexed_stream_spec_any indices values m inv cs vf hok hcs hr hcap

/-- the property's own phrasing: the value buffer can hold the longest entry of the source -/
theorem map_indexed_stream_eq_longest {β} (indices : List Int) (values : List β) (m : List Int) (inv : Int) (cs vf : Nat)
    (hok : IndexedOK indices values) (hcs : 1 ≤ cs)
    (hr : InRange (entries indices values).length m inv) (hm : ValidMonotone m inv)
    (hcap : ∀ e ∈ entries indices values, e.length ≤ cs * vf) :
    ∃ out, orderedMapValidIndexedStream indices values m inv cs vf = .ok out ∧
      mapIndexedSpec indices values inv m = some out :=
  map_indexed_stream_eq indices values m inv cs vf hok hcs hr hm
    (fun _ _ x _ _ hx => hcap x (List.mem_of_getElem? hx))

/-- **Chunk size and value-buffer size are unobservable** for the indexed stream. -/
theorem indexed_chunk_unobservable {β} (indices : List Int) (values : List β) (m : List Int) (inv : Int)
    (cs vf cs' vf' : Nat) (hok : IndexedOK indices values) (hcs : 1 ≤ cs) (hcs' : 1 ≤ cs')
    (hr : InRange (entries indices values).length m inv) (hm : ValidMonotone m inv)
    (hcap : ∀ e ∈ entries indices values, e.length ≤ cs * vf)
    (hcap' : ∀ e ∈ entries indices values, e.length ≤ cs' * vf') :
    orderedMapValidIndexedStream indices values m inv cs vf = orderedMapValidIndexedStream indices values m inv cs' vf' := by
  obtain ⟨out, h1, h2⟩ := map_indexed_stream_eq_longest indices values m inv cs vf hok hcs hr hm hcap
  obtain ⟨out', h1', h2'⟩ := map_indexed_stream_eq_longest indices values m inv cs' vf' hok hcs' hr hm hcap'
  rw [h2] at h2'
  cases h2'
  rw [h1, h1']

/-- **Never spins, never reads out of bounds (D5 as repaired, in full).** On a well-formed source and an ordered in-range
    map, for every chunk size ≥ 1, marker and value factor the indexed stream has exactly two outcomes: every mapped
    entry fits the value buffer and the result is the specified column; or some mapped entry is longer than
    `chunksize * value_factor` and the result is the `ValueError` — never `outOfFuel`, never an index error. -/
theorem indexed_stream_terminates {β} (indices : List Int) (values : List β) (m : List Int) (inv : Int) (cs vf : Nat)
    (hok : IndexedOK indices values) (hcs : 1 ≤ cs)
    (hr : InRange (entries indices values).length m inv) (hm : ValidMonotone m inv) :
    (∃ out, orderedMapValidIndexedStream indices values m inv cs vf = .ok out ∧
      mapIndexedSpec indices values inv m = some out) ∨
    (orderedMapValidIndexedStream indices values m inv cs vf = .error (.valueError "entry does not fit the value buffer") ∧
      ∃ (r : Nat) (k : Int) (x : List β), m[r]? = some k ∧ k ≠ inv ∧ (entries indices values)[k.toNat]? = some x ∧
        cs * vf < x.length) := by
  have _ := hm
  rcases indexed_stream_total_any indices values m inv cs vf hok hcs hr with
    ⟨out, es, hrun, hspec, hout, _⟩ | ⟨e, hrun, herr, p, k, x, hpk, hki, _, hent, hbig⟩
  · exact Or.inl ⟨out, hrun, by simp [mapIndexedSpec, hspec, hout]⟩
  · exact Or.inr ⟨by rw [hrun, herr], p, k, x, hpk, hki, hent, hbig⟩

/-- a mapped entry longer than the value buffer always ends the stream with the clear error -/
theorem oversize_entry_clear_error {β} (indices : List Int) (values : List β) (m : List Int) (inv : Int) (cs vf : Nat)
    (hok : IndexedOK indices values) (hcs : 1 ≤ cs)
    (hr : InRange (entries indices values).length m inv) (hm : ValidMonotone m inv)
    (r : Nat) (k : Int) (x : List β) (hk : m[r]? = some k) (hki : k ≠ inv)
    (hx : (entries indices values)[k.toNat]? = some x) (hbig : cs * vf < x.length) :
    orderedMapValidIndexedStream indices values m inv cs vf
      = .error (.valueError "entry does not fit the value buffer") :=
  have _ := hm
  indexed_stream_oversize_any indices values m inv cs vf hok hcs hr r k x hk hki hx hbig

/-- the design-time D5 witness (source `["abcdefghij","b"]`, map `[0,1]`, chunksize 2, value_factor 2): a clear error,
    not `outOfFuel` -/
example :
    orderedMapValidIndexedStream [0, 10, 11] [97, 98, 99, 100, 101, 102, 103, 104, 105, 106, 98] [0, 1] (-1) 2 2
      = .error (.valueError "entry does not fit the value buffer") := by rfl

/-- the hypotheses of `oversize_entry_clear_error` on that witness: row 0 maps to a 10-byte entry, the buffer has 4 -/
example : IndexedOK [0, 10, 11] [97, 98, 99, 100, 101, 102, 103, 104, 105, 106, (98 : Int)] ∧
    (entries [0, 10, 11] [97, 98, 99, 100, 101, 102, 103, 104, 105, 106, (98 : Int)])[(0 : Int).toNat]?
      = some [97, 98, 99, 100, 101, 102, 103, 104, 105, 106] ∧ 2 * 2 < 10 :=
  ⟨by unfold IndexedOK; decide, by decide, by decide⟩

/-! ## maps that are not ordered (NC02a)

The map of the side that does not drive a join repeats a run of row numbers once per duplicate key of the driving side
(`[0,1,2,0,1,2]`), so it is not non-decreasing. With `next_map_subchunk` repaired (a sub-chunk ends where the map steps
back) both streams compute the specified column for EVERY in-range map; the ordering hypothesis of the theorems above is
not needed: they are instances of the ones below. -/

/-- `ordered_map_valid_stream` on any in-range map, ordered or not, every chunk size ≥ 1, every marker. -/
theorem map_stream_eq_any {α} (src : List α) (m : List Int) (inv : Int) (cs : Nat) (empty : α)
    (hcs : 1 ≤ cs) (hr : InRange src.length m inv) :
    ∃ out, orderedMapValidStream src m inv cs empty = .ok out ∧ mapSpec src inv empty m = some out :=
  stream_spec_any src m inv cs empty hcs hr

/-- `ordered_map_valid_indexed_stream` on any in-range map, ordered or not. -/
theorem map_indexed_stream_eq_any {β} (indices : List Int) (values : List β) (m : List Int) (inv : Int) (cs vf : Nat)
    (hok : IndexedOK indices values) (hcs : 1 ≤ cs)
    (hr : InRange (entries indices values).length m inv)
    (hcap : ∀ (r : Nat) (k : Int) (x : List β), m[r]? = some k → k ≠ inv →
      (entries indices values)[k.toNat]? = some x → x.length ≤ cs * vf) :
    ∃ out, orderedMapValidIndexedStream indices values m inv cs vf = .ok out ∧
      mapIndexedSpec indices values inv m = some out :=
  indexed_stream_spec_any indices values m inv cs vf hok hcs hr hcap

/-- every piece of the splitter has non-decreasing valid entries, whatever the map: the source window
    `[first valid, last valid]` read for a piece therefore contains every row the piece refers to. -/
theorem subchunk_entries_ordered (m : List Int) (inv : Int) (cs : Nat) (hcs : 1 ≤ cs) :
    ∃ subs, subchunks m inv cs = .ok subs ∧ Tiles subs 0 m.length ∧
      ∀ t ∈ subs, ∀ (i j : Nat) (a b : Int), t.1 ≤ i → i ≤ j → j < t.2 → m[i]? = some a → m[j]? = some b →
        a ≠ inv → b ≠ inv → a ≤ b :=
  subchunks_mono m inv cs hcs

/-- the NC02a witness: right map of `left=[2,2]`, `right=[2,2,2]`, chunk size 2 -/
example : InRange 3 [0, 1, 2, 0, 1, 2] INVALID_INDEX_64 ∧ ¬ ValidMonotone [0, 1, 2, 0, 1, 2] INVALID_INDEX_64 :=
  ⟨inRange_of_all (by decide), fun h => absurd (h 2 3 2 0 (by decide) rfl rfl (by decide) (by decide)) (by decide)⟩
example : subchunks [0, 1, 2, 0, 1, 2] INVALID_INDEX_64 2 = .ok [(0, 2), (2, 3), (3, 5), (5, 6)] := by rfl
example : orderedMapValidStream [500, 501, 502] [0, 1, 2, 0, 1, 2] INVALID_INDEX_64 2 (0 : Int)
    = .ok [500, 501, 502, 500, 501, 502] := by rfl
example : orderedMapValidIndexedStream [0, 1, 3, 6] [97, 98, 98, 99, 99, 99] [0, 1, 2, 0, 1, 2] INVALID_INDEX_64 2 2
    = .ok ([0, 1, 3, 6, 7, 9, 12], [97, 98, 98, 99, 99, 99, 97, 98, 98, 99, 99, 99]) := by rfl

/-! ## the non-streaming helpers give the same answer -/

/-- `safe_map_values` with the filter "entry is not the marker" returns the specified column (empty value: the
    caller's, or the dtype's zero) -/
theorem safe_map_values_eq {α} (data : List α) (m : List Int) (inv : Int) (e : Option α) (zero : α)
    (hr : InRange data.length m inv) :
    ∃ out, safeMapValues data m (m.map (fun k => k != inv)) e zero = .ok out ∧
      mapSpec data inv (e.getD zero) m = some out :=
  safeMapValues_mapSpec data m inv e zero hr

/-- `safe_map_values` with an arbitrary filter of the map's length (what `_unordered_merge` passes): rows whose filter is
    set get `data[map[i]]`, all others the empty value; no out-of-bounds access -/
theorem safe_map_values_rows {α} (data : List α) (m : List Int) (filt : List Bool) (e : Option α) (zero : α)
    (hlen : filt.length = m.length)
    (hr : ∀ (i : Nat) (k : Int), m[i]? = some k → filt[i]? = some true → 0 ≤ k ∧ k < data.length) :
    ∃ out, safeMapValues data m filt e zero = .ok out ∧ out.length = m.length ∧
      ∀ (i : Nat) (k : Int) (b : Bool), m[i]? = some k → filt[i]? = some b →
        out[i]? = if b then data[k.toNat]? else some (e.getD zero) :=
  safeMapValues_spec data m filt e zero hlen hr

/-- `map_valid` allocating its result returns the specified column with the dtype's zero as empty value -/
theorem map_valid_eq {α} (data : List α) (m : List Int) (inv : Int) (zero : α) (hr : InRange data.length m inv) :
    ∃ out, mapValid data m none inv zero = .ok out ∧ mapSpec data inv zero m = some out :=
  mapValid_mapSpec data m inv zero hr

/-- `map_valid` writing into a caller-supplied array of the map's length: marker rows keep what the array held -/
theorem map_valid_rows {α} (data : List α) (m : List Int) (result : List α) (inv : Int) (zero : α)
    (hres : result.length = m.length) (hr : InRange data.length m inv) :
    ∃ out, mapValid data m (some result) inv zero = .ok out ∧ out.length = m.length ∧
      ∀ (i : Nat) (k : Int), m[i]? = some k → out[i]? = if k = inv then result[i]? else data[k.toNat]? :=
  mapValid_spec data m (some result) inv zero (by intro r h; cases h; exact hres) hr

/-- `safe_map_indexed_values` with the filter "entry is not the marker" and no `empty_value` returns the stored form of
    the specified column of entries -/
theorem safe_map_indexed_values_eq {β} (indices : List Int) (values : List β) (m : List Int) (inv : Int)
    (hok : IndexedOK indices values) (hr : InRange (entries indices values).length m inv) :
    ∃ out, safeMapIndexedValues indices values m (m.map (fun k => k != inv)) [] = .ok out ∧
      mapIndexedSpec indices values inv m = some out :=
  safeMapIndexedValues_mapSpec indices values m inv hok hr

/-- **The non-streaming helpers agree with the streams** (the ordering hypothesis is not needed, as in `map_stream_eq`). -/
theorem nonstream_agree {α} (src : List α) (m : List Int) (inv : Int) (cs : Nat) (zero : α)
    (hcs : 1 ≤ cs) (hr : InRange src.length m inv) (hm : ValidMonotone m inv) :
    orderedMapValidStream src m inv cs zero = safeMapValues src m (m.map (fun k => k != inv)) none zero ∧
    orderedMapValidStream src m inv cs zero = mapValid src m none inv zero := by
  obtain ⟨o1, a1, b1⟩ := map_stream_eq src m inv cs zero hcs hr hm
  obtain ⟨o2, a2, b2⟩ := safeMapValues_mapSpec src m inv none zero hr
  obtain ⟨o3, a3, b3⟩ := mapValid_mapSpec src m inv zero hr
  simp only [Option.getD_none] at b2
  rw [b1] at b2 b3
  cases b2; cases b3
  exact ⟨by rw [a1, a2], by rw [a1, a3]⟩

theorem nonstream_agree_indexed {β} (indices : List Int) (values : List β) (m : List Int) (inv : Int) (cs vf : Nat)
    (hok : IndexedOK indices values) (hcs : 1 ≤ cs)
    (hr : InRange (entries indices values).length m inv) (hm : ValidMonotone m inv)
    (hcap : ∀ e ∈ entries indices values, e.length ≤ cs * vf) :
    orderedMapValidIndexedStream indices values m inv cs vf
      = safeMapIndexedValues indices values m (m.map (fun k => k != inv)) [] := by
  obtain ⟨o1, a1, b1⟩ := map_indexed_stream_eq_longest indices values m inv cs vf hok hcs hr hm hcap
  obtain ⟨o2, a2, b2⟩ := safeMapIndexedValues_mapSpec indices values m inv hok hr
  rw [b1] at b2
  cases b2
  rw [a1, a2]

/-! ## the helper kernels (the facts the stream proofs rest on; also the memory-safety content for C10) -/

/-- `get_map_subchunks_based_on_index_lengths` terminates and partitions the map chunk into consecutive non-empty
    pieces, for every marker and every chunk size ≥ 1 -/
theorem subchunks_partition (m : List Int) (inv : Int) (cs : Nat) (hcs : 1 ≤ cs) :
    ∃ subs, subchunks m inv cs = .ok subs ∧ Tiles subs 0 m.length :=
  subchunks_tiles m inv cs hcs

/-- `get_valid_value_extents` on a non-empty range inside the chunk reads in bounds and returns the marker twice when
    the range holds no valid entry, else the first and the last valid entry -/
theorem extents_correct (m : List Int) (s e : Nat) (inv : Int) (hse : s < e) (he : e ≤ m.length) :
    ∃ d, getValidValueExtents m s e inv = .ok d ∧
      ((d.1 = inv ∧ ∀ p, s ≤ p → p < e → m[p]? = some inv) ∨
       (d.1 ≠ inv ∧ d.2 ≠ inv ∧ ∃ p0 p1, s ≤ p0 ∧ p0 ≤ p1 ∧ p1 < e ∧ m[p0]? = some d.1 ∧ m[p1]? = some d.2 ∧
          ∀ q x, s ≤ q → q < e → m[q]? = some x → x ≠ inv → p0 ≤ q ∧ q ≤ p1)) :=
  extents_spec m s e inv hse he

/-- `calculate_chunk_decomposition` reads in bounds, terminates, and partitions `[s, e)` -/
theorem decomposition_partition (indices : List Int) (budget : Int) (s e : Nat) (hse : s < e) (he : e < indices.length) :
    ∃ subs, chunkDecomp indices budget s e = .ok subs ∧ Tiles subs s e :=
  chunkDecomp_spec indices budget s e hse he

/-- **The source window of a sub-chunk is bounded by the chunk size, for every marker** (what the splitter is for, and
    what D9 broke for the sentinels `DataFrame.merge` passes): in every piece `(s, e)` returned by
    `get_map_subchunks_based_on_index_lengths` any two valid entries differ by less than `chunksize`, so the slice
    `data_field.data[first : last+1]` read for the piece has at most `chunksize` elements. -/
theorem source_window_bounded (m : List Int) (inv : Int) (cs : Nat) (hcs : 1 ≤ cs) (_hm : ValidMonotone m inv) :
    ∃ subs, subchunks m inv cs = .ok subs ∧
      ∀ t ∈ subs, ∀ (p q : Nat) (a b : Int), t.1 ≤ p → p < t.2 → t.1 ≤ q → q < t.2 →
        m[p]? = some a → m[q]? = some b → a ≠ inv → b ≠ inv → b - a < cs := by
  obtain ⟨subs, h1, _, h3⟩ := subchunks_made m inv cs hcs
  refine ⟨subs, h1, ?_⟩
  intro t ht p q a b hp1 hp2 hq1 hq2 hpa hqb ha hb
  rw [h3 t ht] at hp2 hq2
  exact nextMapSubchunk_span m t.1 inv cs p q a b hp1 hp2 hq1 hq2 hpa hqb ha hb

/-- with the 64-bit sentinel and chunksize 4 the trailing unmatched rows start a piece of their own instead of being
    treated as huge valid indices -/
example : subchunks [0, 1, 9, INVALID_INDEX_64, INVALID_INDEX_64, 10] INVALID_INDEX_64 4
    = .ok [(0, 2), (2, 3), (3, 6)] := by rfl

/-! ### non-vacuity of the indexed and non-streaming theorems -/

/-- source `["a","bb","ccc"]`, the D11 witness map, buffer of 4·1 bytes ≥ longest entry (3) -/
example : IndexedOK [0, 1, 3, 6] [97, 98, 98, 99, 99, 99] ∧
    InRange (entries [0, 1, 3, 6] [97, 98, 98, 99, 99, 99]).length [0, 1, INVALID_INDEX_32, INVALID_INDEX_32] INVALID_INDEX_32 ∧
    ValidMonotone [0, 1, INVALID_INDEX_32, INVALID_INDEX_32] INVALID_INDEX_32 ∧
    (∀ e ∈ entries [0, 1, 3, 6] [97, 98, 98, 99, 99, 99], e.length ≤ 4 * 1) :=
  ⟨by unfold IndexedOK; decide, inRange_of_all (by decide), validMonotone_of_pairwise (by decide), by decide⟩

example : orderedMapValidIndexedStream [0, 1, 3, 6] [97, 98, 98, 99, 99, 99]
    [0, 1, INVALID_INDEX_32, INVALID_INDEX_32] INVALID_INDEX_32 4 1 = .ok ([0, 1, 3, 3, 3], [97, 98, 98]) := by rfl

example : mapIndexedSpec [0, 1, 3, 6] [97, 98, 98, 99, 99, 99] INVALID_INDEX_32
    [0, 1, INVALID_INDEX_32, INVALID_INDEX_32] = some ([0, 1, 3, 3, 3], [97, 98, 98]) := by decide

/-- several value sub-chunks and buffer flushes: chunksize 2, value_factor 2, entries of 1, 2, 3 and 4 bytes -/
example : orderedMapValidIndexedStream [0, 1, 3, 6, 10] [1, 2, 2, 3, 3, 3, 4, 4, 4, 4] [0, 1, -1, 2, 2, 3] (-1) 2 2
    = .ok ([0, 1, 3, 3, 6, 9, 13], [1, 2, 2, 3, 3, 3, 3, 3, 3, 4, 4, 4, 4]) := by rfl

example : safeMapValues [10, 20, 30] [2, -1, 0] ([2, -1, 0].map (fun k => k != -1)) none (0 : Int) = .ok [30, 0, 10] := by rfl
example : mapValid [10, 20, 30] [2, -1, 0] (some [7, 7, 7]) (-1) (0 : Int) = .ok [30, 7, 10] := by rfl
example : safeMapIndexedValues [0, 1, 3] [97, 98, 99] [1, -1, 0] ([1, -1, 0].map (fun k => k != -1)) []
    = .ok ([0, 2, 2, 3], [98, 99, 97]) := by rfl
example : subchunks [0, 1, 5, 9, -1] (-1) 4 = .ok [(0, 2), (2, 3), (3, 5)] := by rfl
example : getValidValueExtents [-1, 1, 5, -1] 0 4 (-1) = .ok (1, 5) := by rfl
example : chunkDecomp [0, 1, 3, 6, 10, 15, 21, 28, 36, 45] 8 0 9 = .ok [(0, 2), (2, 4), (4, 5), (5, 6), (6, 7), (7, 8), (8, 9)] := by rfl

end Exetera.Props.C04
