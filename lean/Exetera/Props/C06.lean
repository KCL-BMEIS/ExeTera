import Exetera.Lemmas.TransformsLeaky
import Exetera.Lemmas.TransformsCatChecked
import Exetera.Lemmas.TransformsFixed
import Exetera.Lemmas.TransformsBool
import Exetera.Lemmas.TransformsNum
import Exetera.Lemmas.TransformsTime
/-!
# C06 — schema-typed conversion on import stores the value the text denotes, or flags it

**Reading note on "fix NC06d".** NC06d (a strict categorical column stores code 0 for a cell that equals no category key) is an OPEN
finding: the repair exists only as a proposal (`fixes/proposed/NC06d_strict_categorical_rejects_unknown_text.patch`) and is NOT
applied to /repo. Wherever a statement below says "fix NC06d" / "checked" it describes the PROPOSED importer (the model variant
`categoricalImportChecked`, specified by `catColumn`): for strict categorical columns it is a statement about that proposal, not about the code as
found. What holds of the code as found is `categorical_property_partial` (every cell that IS a key is stored as its code) and the
witness `Witness.C06.nc06d_unmatched_text_stored_as_zero`; the checks report the difference as KNOWN-FINDING NC06d. For every other
column kind (and for strict categorical cells that are keys) the two coincide.

All theorems are about the definitions of `Exetera/Model/Transforms.lean` that the driver runs, against
`Exetera/Spec/Transforms.lean`. `Encodes c cells` is the reader's guarantee (C05) that chunk `c` holds the cells `cells`;
a result `= .ok …` says in addition that no subscript of the kernel left its array and that every loop ended.
`EncodesAll chunks cellss` is an arbitrary chunking: the conclusions only mention `cellss.flatten`, so they are
independent of how the rows were cut into chunks (including empty chunks).
-/
namespace Exetera.Props.C06
open Exetera Exetera.Transforms Exetera.Spec.Transforms

/-! ## categorical columns -/

/-- `categorical_transform` over `get_byte_map`'s packed table, on any chunk: every row gets the value of the one key that
    equals the whole cell, `0` (the buffer's initial value) when there is none — finding NC06d. Keys that are a prefix or a
    suffix of the cell, or of which the cell is a prefix, never match. -/
theorem categorical_exact_match (cats : List (Bytes × Int)) (hnd : (cats.map (·.1)).Nodup) (c : Chunk)
    (cells : List Bytes) (h : Encodes c cells) :
    categoricalTransform (getByteMap cats) c = .ok (cells.map (catCode cats)) := by
  rw [categoricalTransform_eq_fst, getByteMap,
    categoricalTransformChecked_spec _ cats (lastMatch_getByteMap cats hnd) c cells h]
  rfl

/-- the spec's `lookup` really is exact whole-string match: a listed pair is found … -/
theorem lookup_key (cats : List (Bytes × Int)) (hnd : (cats.map (·.1)).Nodup) (k : Bytes) (v : Int) (h : (k, v) ∈ cats) :
    lookup cats k = some v := lookup_of_mem hnd h

/-- … and any text that is not itself a key (for instance a proper prefix or extension of one) is not -/
theorem lookup_no_partial_match (cats : List (Bytes × Int)) (cell : Bytes) (h : cell ∉ cats.map (·.1)) :
    lookup cats cell = none :=
  Option.not_isSome_iff_eq_none.mp (mt (lookup_isSome_iff cats cell).mp h)

/-- `CategoricalImporter` over any chunking -/
theorem categorical_import (cats : List (Bytes × Int)) (hnd : (cats.map (·.1)).Nodup) (chunks : List Chunk)
    (cellss : List (List Bytes)) (h : EncodesAll chunks cellss) (data : List Int) :
    categoricalImport cats chunks data = .ok (data ++ cellss.flatten.map (catCode cats)) := by
  induction h generalizing data with
  | nil => simp [categoricalImport]
  | cons hc _ ih =>
    rw [categoricalImport, categorical_exact_match cats hnd _ _ hc]
    simp only
    rw [ih]; simp

/- The full statement — for every chunking, the import either raises or stores `cellss.flatten.map value` where every cell
   has a value; a cell that is no key is never stored silently — does not hold of the code as found (NC06d); it holds of the
   importer with the proposed fix (`categorical_property` below). Of the importer as found (`categoricalImport`): -/
/-- when every cell is a category key, the column holds exactly the keys' values -/
theorem categorical_property_partial (cats : List (Bytes × Int)) (hnd : (cats.map (·.1)).Nodup) (chunks : List Chunk)
    (cellss : List (List Bytes)) (h : EncodesAll chunks cellss)
    (hkeys : ∀ cell ∈ cellss.flatten, cell ∈ cats.map (·.1)) :
    categoricalImport cats chunks [] = .ok (cellss.flatten.map (catCode cats)) ∧
      ∀ cell ∈ cellss.flatten, (cell, catCode cats cell) ∈ cats := by
  refine ⟨by simpa using categorical_import cats hnd chunks cellss h [], ?_⟩
  exact fun cell hc => mem_catCode ((lookup_isSome_iff cats cell).mpr (hkeys cell hc))

/-! ### the importer with fix NC06d (`categoricalTransformChecked`, `categoricalImportPart`, `categoricalImportChecked`) -/

/-- `categorical_transform` with fix NC06d, on any chunk: the staging array is the one the kernel as found filled
    (`categorical_exact_match`), and the returned `first_unmatched` is the number of the FIRST row of the chunk whose text
    equals no key (`none` = `-1`: every row matched). -/
theorem categorical_transform_checked (cats : List (Bytes × Int)) (hnd : (cats.map (·.1)).Nodup) (c : Chunk)
    (cells : List Bytes) (h : Encodes c cells) :
    categoricalTransformChecked (getByteMap cats) c = .ok (cells.map (catCode cats), firstNoKey cats cells) ∧
      categoricalTransform (getByteMap cats) c = .ok (cells.map (catCode cats)) := by
  refine ⟨?_, categorical_exact_match cats hnd c cells h⟩
  rw [getByteMap, categoricalTransformChecked_spec _ cats (lastMatch_getByteMap cats hnd) c cells h]

/-- what `first_unmatched = some r` means: row `r` equals no key, every earlier row of the chunk equals one -/
theorem first_unmatched_is_first (cats : List (Bytes × Int)) (cells : List Bytes) :
    (firstNoKey cats cells = none ↔ ∀ cell ∈ cells, cell ∈ cats.map (·.1)) ∧
    ∀ r, firstNoKey cats cells = some r →
      ∃ pre x post, cells = pre ++ x :: post ∧ pre.length = r ∧ x ∉ cats.map (·.1) ∧ ∀ cell ∈ pre, cell ∈ cats.map (·.1) := by
  exact ⟨by simp only [firstNoKey_eq_none_iff, lookup_isSome_iff], firstNoKey_eq_some cats cells⟩

/-- the column specification `catColumn`: `some codes` exactly when every cell is a key, and then row `i` holds the value
    listed for the key that cell `i` equals; `none` exactly when some cell is no key -/
theorem catColumn_spec (cats : List (Bytes × Int)) (hnd : (cats.map (·.1)).Nodup) (cells : List Bytes) :
    (∀ codes, catColumn cats cells = some codes →
      codes.length = cells.length ∧ ∀ i (hi : i < cells.length) (hj : i < codes.length), (cells[i], codes[i]) ∈ cats) ∧
    (catColumn cats cells = none ↔ ∃ cell ∈ cells, cell ∉ cats.map (·.1)) := by
  refine ⟨fun codes hc => ?_, by simp [catColumn_eq, lookup_isSome_iff]⟩
  rw [catColumn_eq] at hc
  split at hc
  · rename_i hall
    cases hc
    exact ⟨by simp, fun i hi hj => by simpa using mem_catCode (hall cells[i] (List.getElem_mem hi))⟩
  · cases hc

/-- `CategoricalImporter` with fix NC06d over any chunking, from any data already written: the chunks are imported up to
    the first one that holds a cell which is no key, and that `import_part` raises -/
theorem categorical_import_checked (cats : List (Bytes × Int)) (hnd : (cats.map (·.1)).Nodup) (chunks : List Chunk)
    (cellss : List (List Bytes)) (h : EncodesAll chunks cellss) (data : List Int) :
    categoricalImportChecked cats chunks data =
      match catColumn cats cellss.flatten with
      | some codes => .ok (data ++ codes)
      | none => .error notACategory := by
  induction h generalizing data with
  | nil => simp [categoricalImportChecked, catColumn]
  | @cons c cells cs cellss hc _ ih =>
    rw [categoricalImportChecked, categoricalImportPart_spec cats hnd c cells hc, List.flatten_cons, catColumn_append]
    cases h1 : catColumn cats cells with
    | none => rfl
    | some x =>
      simp only
      rw [ih]
      cases catColumn cats cellss.flatten with
      | none => rfl
      | some y => simp

/-- **categorical_property** (the full statement, of the importer with fix NC06d). A categorical column without free text, cut into chunks in
    any way: either EVERY cell is a category key and the column holds, row by row, the value listed for the key the cell
    equals (whole-string match: `(cell, code) ∈ cats`); or some cell is no key and the import raises `ValueError` — it
    never stores a code for text that is no category. Which of the two happens depends on the cells only, not on the
    chunking. (Which chunk raises: the first that holds such a cell, for its first such row — `categorical_import_checked`,
    `categorical_transform_checked`, `first_unmatched_is_first`.) -/
theorem categorical_property (cats : List (Bytes × Int)) (hnd : (cats.map (·.1)).Nodup) (chunks : List Chunk)
    (cellss : List (List Bytes)) (h : EncodesAll chunks cellss) :
    ((∀ cell ∈ cellss.flatten, cell ∈ cats.map (·.1)) →
      ∃ codes, categoricalImportChecked cats chunks [] = .ok codes ∧ codes.length = cellss.flatten.length ∧
        ∀ i (hi : i < cellss.flatten.length) (hj : i < codes.length), (cellss.flatten[i], codes[i]) ∈ cats) ∧
    ((∃ cell ∈ cellss.flatten, cell ∉ cats.map (·.1)) →
      categoricalImportChecked cats chunks [] = .error (.valueError "is not one of the categories")) := by
  have himp := categorical_import_checked cats hnd chunks cellss h []
  have hspec := catColumn_spec cats hnd cellss.flatten
  refine ⟨?_, ?_⟩
  · intro hall
    cases hc : catColumn cats cellss.flatten with
    | none =>
      obtain ⟨cell, hm, hn⟩ := hspec.2.mp hc
      exact absurd (hall cell hm) hn
    | some codes =>
      rw [hc] at himp
      exact ⟨codes, by simpa using himp, hspec.1 codes hc⟩
  · intro hbad
    rw [hspec.2.mpr hbad] at himp
    exact himp

/-- whether a categorical import raises does not depend on the chunking: two chunkings of the same cells give the same
    result -/
theorem categorical_chunking_unobservable (cats : List (Bytes × Int)) (hnd : (cats.map (·.1)).Nodup)
    (chunks₁ chunks₂ : List Chunk) (cellss₁ cellss₂ : List (List Bytes)) (h₁ : EncodesAll chunks₁ cellss₁)
    (h₂ : EncodesAll chunks₂ cellss₂) (hsame : cellss₁.flatten = cellss₂.flatten) :
    categoricalImportChecked cats chunks₁ [] = categoricalImportChecked cats chunks₂ [] := by
  rw [categorical_import_checked cats hnd chunks₁ cellss₁ h₁, categorical_import_checked cats hnd chunks₂ cellss₂ h₂, hsame]

/-! ## leaky categorical columns and their free-text companion -/

/-- `LeakyCategoricalImporter` over any chunking, continuing a column that already holds the cells `done` -/
theorem leaky_import (cats : List (Bytes × Int)) (hnd : (cats.map (·.1)).Nodup) (chunks : List Chunk)
    (cellss : List (List Bytes)) (h : EncodesAll chunks cellss) (done : List Bytes) :
    leakyImport cats chunks (leakyColumn cats done) = .ok (leakyColumn cats (done ++ cellss.flatten)) := by
  induction h generalizing done with
  | nil => simp [leakyImport]
  | cons hc _ ih =>
    rw [leakyImport, leakyImportPart_getByteMap cats hnd done _ _ hc]
    simp only
    rw [ih]; simp

/-- `LeakyCategoricalImporter` over any chunking: code of the matching key or `-1`; the companion holds the text of
    exactly the unmatched cells, its offsets are the running sums over the whole column (`freetext_index_accumulated`
    carries across chunks), and `indices` has one more entry than `data` (companions aligned). -/
theorem leaky_freetext (cats : List (Bytes × Int)) (hnd : (cats.map (·.1)).Nodup) (chunks : List Chunk)
    (cellss : List (List Bytes)) (h : EncodesAll chunks cellss) :
    leakyImport cats chunks LeakyState.init = .ok (leakyColumn cats cellss.flatten) := by
  simpa [leakyColumn, LeakyState.init, offsets] using leaky_import cats hnd chunks cellss h []

/-- one chunk of `leaky_categorical_transform` on its own: codes, offsets from 0, free-text bytes -/
theorem leaky_transform_chunk (cats : List (Bytes × Int)) (hnd : (cats.map (·.1)).Nodup) (c : Chunk)
    (cells : List Bytes) (h : Encodes c cells) :
    ∃ pad, leakyTransform (getByteMap cats) c = .ok
      { chunk := cells.map (leakyCode cats)
        ftIdx := offsets 0 (cells.map (fun x => (freeText cats x).length))
        ftVals := (cells.map (freeText cats)).flatten ++ List.replicate pad 0 } := by
  refine ⟨c.cap - ((cells.map (freeText cats)).map List.length).sum, ?_⟩
  rw [getByteMap, leakyTransform_packTable _ c cells h, scanLeaky_getByteMap cats hnd, scanFree_getByteMap cats hnd]

/-! ## fixed strings -/

/-- `fixed_string_transform`: each row of the `S<n>` buffer is the first `n` bytes of its cell, zero padded -/
theorem fixed_truncates_to_n (c : Chunk) (n : Nat) (cells : List Bytes) (h : Encodes c cells) :
    fixedStringTransform c n = .ok ((cells.map (fixedCell n)).flatten) :=
  fixedStringTransform_spec c n cells h

theorem fixed_import (n : Nat) (chunks : List Chunk) (cellss : List (List Bytes))
    (h : EncodesAll chunks cellss) (data : Bytes) :
    fixedImport n chunks data = .ok (data ++ (cellss.flatten.map (fixedCell n)).flatten) := by
  induction h generalizing data with
  | nil => simp [fixedImport]
  | cons hc _ ih =>
    rw [fixedImport, fixed_truncates_to_n _ n _ hc]
    simp only
    rw [ih]; simp

/-! ## bool columns -/

/-- over the literal table generated from `numeric_bool_transform` (`Gen.boolLiterals`): for every byte string, the
    kernel's `if actual_length == k: … val[j] in (…)` cascade accepts exactly the documented spellings
    `1/y/t/true/on/yes ↦ 1`, `0/n/f/false/off/no ↦ 0`, in any mix of upper and lower case, and nothing else -/
theorem bool_table_complete (val : Bytes) : boolLit val = boolValue val := boolLit_eq_boolValue val

/-- `numeric_bool_transform` on any chunk: every cell is blank-trimmed (no read outside the cell), looked up, and the
    validation mode decides between value, invalid value + false flag, and raising.
    `capE = len(elements)`, `capV = len(validity)` are the sizes of the two result arrays the caller hands in; the hypotheses
    `written_row_count ≤ capE, capV` are what the only caller establishes (`NumericImporter.import_part`:
    `elements = np.zeros(written_row_count, …)`, `validity = np.ones(written_row_count, …)`, field_importers.py) -/
theorem bool_transform_spec (c : Chunk) (mode : Mode) (invalid : Bool) (capE capV : Nat) (cells : List Bytes)
    (h : Encodes c cells) (hE : c.rows ≤ capE) (hV : c.rows ≤ capV) :
    boolTransform c mode invalid capE capV =
      match numericColumn mode invalid (cells.map boolClass) with
      | some r => .ok r
      | none => .error (.other "Exception") := boolTransform_spec c mode invalid capE capV cells h hE hV

theorem numericColumn_append {V} (mode : Mode) (inv : V) (a b : List (CellClass V)) :
    numericColumn mode inv (a ++ b) =
      match numericColumn mode inv a, numericColumn mode inv b with
      | some x, some y => some (x.1 ++ y.1, x.2 ++ y.2)
      | _, _ => none := by
  induction a with
  | nil => cases h : numericColumn mode inv b <;> simp [numericColumn, h]
  | cons k ks ih =>
    simp only [List.cons_append, numericColumn_cons, ih]
    cases numericCell mode inv k <;> cases numericColumn mode inv ks <;> cases numericColumn mode inv b <;>
      simp [consCell]

/-- a `bool` column over any chunking: values and `_valid` flags of the whole column, or the import raises; the two
    columns always have the same length -/
theorem bool_import (mode : Mode) (invalid : Bool) (chunks : List Chunk) (cellss : List (List Bytes))
    (h : EncodesAll chunks cellss) (st : List Bool × List Bool) :
    boolImport mode invalid chunks st =
      match numericColumn mode invalid (cellss.flatten.map boolClass) with
      | some r => .ok (st.1 ++ r.1, st.2 ++ r.2)
      | none => .error (.other "Exception") := by
  induction h generalizing st with
  | nil => simp [boolImport, numericColumn]
  | @cons c cells cs cellss hc _ ih =>
    rw [boolImport, bool_transform_spec c mode invalid c.rows c.rows cells hc (Nat.le_refl _) (Nat.le_refl _)]
    simp only [List.flatten_cons, List.map_append, numericColumn_append]
    cases h1 : numericColumn mode invalid (cells.map boolClass) with
    | none => simp
    | some r =>
      simp only [ih]
      cases numericColumn mode invalid (cellss.flatten.map boolClass) <;> simp

/-! ## integer and float columns: the validation-mode table -/

/-- the spec's table, stated outright: strict / allow_empty / relaxed × value / empty / garbage / out of range -/
theorem validation_mode_cells {V} (invalid v : V) :
    numericCell .strict invalid (.value v) = some (v, true) ∧ numericCell .strict invalid .empty = none ∧
    numericCell .strict invalid .garbage = none ∧
    numericCell .allowEmpty invalid (.value v) = some (v, true) ∧ numericCell .allowEmpty invalid .empty = some (invalid, false) ∧
    numericCell .allowEmpty invalid .garbage = none ∧
    numericCell .relaxed invalid (.value v) = some (v, true) ∧ numericCell .relaxed invalid .empty = some (invalid, false) ∧
    numericCell .relaxed invalid .garbage = some (invalid, false) ∧
    (∀ m, numericCell m invalid (CellClass.outOfRange : CellClass V) = none) := by
  refine ⟨rfl, rfl, rfl, rfl, rfl, rfl, rfl, rfl, rfl, fun m => by cases m <;> rfl⟩

/-- `transform_int` / `transform_float` for any text-to-number parser `parse` (Python `int()` / `float()` / numpy `astype`)
    that rejects blank text, and an invalid value whose text parses to itself: the result is a value exactly when the table
    says so, and then it is the table's column; `valids` is `None` in strict mode. -/
theorem validation_mode_table {V} (parse : Bytes → Parsed V) (mode : Mode) (invalidText : Bytes) (invalid : V)
    (hblank : ∀ t, npNonEmpty t = false → parse t = .bad) (hinv : parse invalidText = .val invalid) (cells : List Bytes) :
    (transformNum parse mode invalidText invalid cells).toOption =
      (numericColumn mode invalid ((cells.map rstripNul).map (classOf parse))).map
        (fun r => (r.1, if mode = .strict then none else some r.2)) := by
  cases mode with
  | strict =>
    have := strict_spec parse invalid hblank (cells.map rstripNul)
    rw [show (fun r : List V × List Bool => (r.1, if Mode.strict = .strict then none else some r.2))
      = (fun vs => (vs, none)) ∘ (·.1) from rfl, ← Option.map_map, ← this]
    simp only [transformNum]
    cases astypeAll parse (cells.map rstripNul) <;> simp [Except.toOption]
  | allowEmpty =>
    have := allowEmpty_spec parse invalidText invalid hinv (cells.map rstripNul)
    simp only [transformNum]
    rw [← this]
    cases astypeAll parse ((cells.map rstripNul).map (fun t => if npNonEmpty t then t else invalidText)) <;>
      simp [Except.toOption]
  | relaxed =>
    have := relaxed_spec parse invalid hblank (cells.map rstripNul)
    simp only [transformNum]
    rw [← this]
    cases relaxedAll parse invalid (cells.map rstripNul) <;> simp [Except.toOption]

/-- non-vacuity of the hypotheses for the executable integer parser the driver uses (`int()` on bytes, then the dtype's
    range): blank text is rejected, and `str(invalid_value)` parses to `invalid_value` -/
example : ∀ t, npNonEmpty t = false → parseIntRange (-128) 127 t = .bad := parseIntRange_blank (-128) 127
example : parseIntRange (-128) 127 [45, 53] = .val (-5) := by decide
example : (transformNum (parseIntRange (-128) 127) .allowEmpty [45, 53] (-5) [[49, 50], [32], [55]]).toOption
    = some ([12, -5, 7], some [true, false, true]) := by decide
example : (transformNum (parseIntRange (-128) 127) .relaxed [45, 53] (-5) [[49, 50], [120], [51, 48, 48]]).toOption = none := by
  decide

/-! ## timestamps: every accepted layout is stored as the UTC POSIX time of the written instant -/

/-- a real calendar date and time of day -/
structure ValidCivil (Y M D h mi s : Nat) : Prop where
  year : 1 ≤ Y ∧ Y ≤ 9999
  month : 1 ≤ M ∧ M ≤ 12
  day : 1 ≤ D ∧ (D : Int) ≤ daysInMonth Y M
  hour : h ≤ 23
  minute : mi ≤ 59
  second : s ≤ 59

theorem ValidCivil.bounds {Y M D h mi s : Nat} (v : ValidCivil Y M D h mi s) : FieldBounds Y M D h mi s := by
  have hd := daysInMonth_le Y M
  have := v.day.2
  exact ⟨by have := v.year; omega, by have := v.month; omega, by omega, by have := v.hour; omega,
    by have := v.minute; omega, by have := v.second; omega⟩

/-- CPython's proleptic Gregorian day number (`_ymd2ord`, as used by `datetime.timestamp()`) is the plain count of days:
    year by year (365 or 366) and month by month -/
theorem days_from_civil (y m d : Nat) (hy : 1 ≤ y) (h1 : 1 ≤ m) (h12 : m ≤ 12) :
    ymd2ord y m d - epochOrd = daysFromCivil y m d := ymd2ord_eq_count y m d hy h1 h12

/-- `parse_timestamp_bytes(text).timestamp()` for the seven accepted layouts, texts rendered with fixed-width decimals
    (`L19 = YYYY-MM-DD HH:MM:SS`): `86400·days + 3600·h + 60·m + s − 60·offset` seconds plus the written fraction, in µs.
    The two layouts with `±HH:MM` honour the written offset (fix D29). -/
theorem timestamp_utc (Y M D h mi s : Nat) (v : ValidCivil Y M D h mi s) :
    parseTimestamp (L19 Y M D h mi s) = .ok (utcMicros Y M D h mi s 0 0) ∧
    parseTimestamp (L19 Y M D h mi s ++ utcSuffix) = .ok (utcMicros Y M D h mi s 0 0) ∧
    (∀ f, f < 10 → parseTimestamp (L19 Y M D h mi s ++ (46 :: d1 f ++ utcSuffix)) = .ok (utcMicros Y M D h mi s (f * 100000) 0)) ∧
    (∀ f, f < 100 → parseTimestamp (L19 Y M D h mi s ++ (46 :: d2 f ++ utcSuffix)) = .ok (utcMicros Y M D h mi s (f * 10000) 0)) ∧
    (∀ f, f < 1000 → parseTimestamp (L19 Y M D h mi s ++ (46 :: d3 f ++ utcSuffix)) = .ok (utcMicros Y M D h mi s (f * 1000) 0)) ∧
    (∀ neg oh om, oh < 100 → om < 100 → oh * 60 + om < 1440 →
      parseTimestamp (L19 Y M D h mi s ++ offText neg oh om) = .ok (utcMicros Y M D h mi s 0 (offMinutes neg oh om))) ∧
    (∀ f neg oh om, f < 1000000 → oh < 100 → om < 100 → oh * 60 + om < 1440 →
      parseTimestamp (L19 Y M D h mi s ++ (46 :: d6 f ++ offText neg oh om))
        = .ok (utcMicros Y M D h mi s f (offMinutes neg oh om))) := by
  have hb := v.bounds
  have mk := fun (us : Nat) (off : Int) (hus : us ≤ 999999) =>
    mkTimestamp_valid Y M D h mi s us off v.year v.month v.day v.hour v.minute v.second hus
  refine ⟨?_, ?_, ?_, ?_, ?_, ?_, ?_⟩
  · rw [parse_plain hb]; exact mk 0 0 (by omega)
  · rw [parse_utc hb]; exact mk 0 0 (by omega)
  · intro f hf
    rw [parse_utc1 hb f hf]
    have e : (f : Int) * 100000 = ((f * 100000 : Nat) : Int) := by omega
    rw [e]; exact mk (f * 100000) 0 (by omega)
  · intro f hf
    rw [parse_utc2 hb f hf]
    have e : (f : Int) * 10000 = ((f * 10000 : Nat) : Int) := by omega
    rw [e]; exact mk (f * 10000) 0 (by omega)
  · intro f hf
    rw [parse_utc3 hb f hf]
    have e : (f : Int) * 1000 = ((f * 1000 : Nat) : Int) := by omega
    rw [e]; exact mk (f * 1000) 0 (by omega)
  · intro neg oh om hoh hom hlt
    rw [parse_offset hb neg oh om hoh hom hlt]; exact mk 0 _ (by omega)
  · intro f neg oh om hf hoh hom hlt
    rw [parse_frac_offset hb f hf neg oh om hoh hom hlt]; exact mk f _ (by omega)

/-- a date column cell `YYYY-MM-DD`: midnight UTC of that day; `_day` holds the text, `_set` is true -/
theorem date_cell_utc (Y M D : Nat) (hY : 1 ≤ Y ∧ Y ≤ 9999) (hM : 1 ≤ M ∧ M ≤ 12) (hD : 1 ≤ D ∧ (D : Int) ≤ daysInMonth Y M) :
    dateCell (L10 Y M D) = .ok (utcMicros Y M D 0 0 0 0 0, L10 Y M D, true) := by
  have hd := daysInMonth_le Y M
  have this : mkTimestamp Y M D 0 0 0 0 0 = .ok (utcMicros Y M D 0 0 0 0 0) :=
    mkTimestamp_valid Y M D 0 0 0 0 0 hY hM hD (by omega) (by omega) (by omega) (by omega)
  rw [dateCell_L10 Y M D (by omega) hM ⟨hD.1, by omega⟩, this]
  rfl

/-- an empty (or blank) cell of a datetime / date column: timestamp 0, empty day text, `_set` false -/
theorem time_cell_empty (cell : Bytes) (h : ∀ b ∈ cell, isSpaceByte b = true) :
    datetimeCell cell = .ok (0, List.replicate 10 0, false) ∧ dateCell cell = .ok (0, List.replicate 10 0, false) := by
  have hs : stripSpace cell = [] := by
    rw [stripSpace, dropWhile_of_all (List.all_eq_true.mpr h)]; rfl
  constructor
  · simp [datetimeCell, hs, padTo]
  · simp [dateCell, hs, padTo]

/-! ## companion columns stay row-aligned -/

theorem numericColumn_lengths {V} (mode : Mode) (inv : V) (ks : List (CellClass V)) (r : List V × List Bool)
    (h : numericColumn mode inv ks = some r) : r.1.length = ks.length ∧ r.2.length = ks.length := by
  induction ks generalizing r with
  | nil => simp [numericColumn] at h; subst h; simp
  | cons k ks ih =>
    rw [numericColumn_cons] at h
    cases h1 : numericCell mode inv k with
    | none => simp [h1, consCell] at h
    | some vf =>
      cases h2 : numericColumn mode inv ks with
      | none => simp [h1, h2, consCell] at h
      | some r' =>
        simp only [h1, h2, consCell, Option.some.injEq] at h
        subst h
        have := ih r' h2
        simp [this]

/-- `_freetext` of a leaky categorical column: one offset per row plus the leading 0, the last offset is the number of
    free-text bytes — for every chunking -/
theorem companions_aligned_leaky (cats : List (Bytes × Int)) (hnd : (cats.map (·.1)).Nodup) (chunks : List Chunk)
    (cellss : List (List Bytes)) (h : EncodesAll chunks cellss) :
    ∃ st, leakyImport cats chunks LeakyState.init = .ok st ∧ st.data.length = cellss.flatten.length ∧
      st.ftIndices.length = st.data.length + 1 ∧ st.ftIndices[st.data.length]? = some st.ftValues.length := by
  have hl := leaky_freetext cats hnd chunks cellss h
  generalize cellss.flatten = cells at hl
  refine ⟨_, hl, ?_, ?_, ?_⟩
  · simp only [leakyColumn, List.length_map]
  · simp only [leakyColumn, offsets_length, List.length_map]
  · simp only [leakyColumn, List.length_map]
    have := offsets_getLast 0 (cells.map (fun c => (freeText cats c).length))
    simp only [List.length_map, Nat.zero_add] at this
    rw [this, flatten_length_eq_sum]
    simp only [List.map_map, Function.comp_def]

/-- `_valid` of a `bool` column has exactly the rows of the column, for every chunking and mode -/
theorem companions_aligned_bool (mode : Mode) (invalid : Bool) (chunks : List Chunk) (cellss : List (List Bytes))
    (h : EncodesAll chunks cellss) (r : List Bool × List Bool) (hok : boolImport mode invalid chunks ([], []) = .ok r) :
    r.1.length = cellss.flatten.length ∧ r.2.length = r.1.length := by
  rw [bool_import mode invalid chunks cellss h] at hok
  generalize cellss.flatten = cells at hok ⊢
  cases hc : numericColumn mode invalid (cells.map boolClass) with
  | none => rw [hc] at hok; cases hok
  | some r' =>
    rw [hc] at hok
    simp only [List.nil_append, Except.ok.injEq] at hok
    have := numericColumn_lengths mode invalid _ r' hc
    simp only [List.length_map] at this
    subst hok
    simp only [this, and_self]

theorem astypeAll_length {V} (parse : Bytes → Parsed V) (ts : List Bytes) (vs : List V) (h : astypeAll parse ts = .ok vs) :
    vs.length = ts.length := by
  induction ts generalizing vs with
  | nil => simp [astypeAll] at h; subst h; rfl
  | cons t ts ih =>
    rw [astypeAll] at h
    cases hp : parse t with
    | bad => simp [hp] at h
    | overflow => simp [hp] at h
    | val v =>
      cases ha : astypeAll parse ts with
      | error e => simp [hp, ha] at h
      | ok vs' => simp [hp, ha] at h; subst h; simp [ih vs' ha]

theorem relaxedAll_length {V} (parse : Bytes → Parsed V) (inv : V) (ts : List Bytes) (r : List V × List Bool)
    (h : relaxedAll parse inv ts = .ok r) : r.1.length = ts.length ∧ r.2.length = ts.length := by
  induction ts generalizing r with
  | nil => simp [relaxedAll] at h; subst h; simp
  | cons t ts ih =>
    rw [relaxedAll] at h
    cases hr : relaxedAll parse inv ts with
    | error e => cases hp : parse t <;> simp [hp, hr] at h
    | ok r' =>
      have := ih r' hr
      cases hp : parse t <;> simp [hp, hr] at h <;> (subst h; simp [this])

/-- `_valid` of an integer / float column (modes with a flag column): as long as the column, for every chunking -/
theorem companions_aligned_numeric {V} (parse : Bytes → Parsed V) (mode : Mode) (hmode : mode ≠ .strict)
    (invalidText : Bytes) (invalid : V) (chunks : List Chunk) (st r : List V × List Bool)
    (hst : st.2.length = st.1.length) (hok : numImport parse mode invalidText invalid chunks st = .ok r) :
    r.2.length = r.1.length := by
  induction chunks generalizing st with
  | nil => simp [numImport] at hok; subst hok; exact hst
  | cons c cs ih =>
    rw [numImport] at hok
    cases hc : cellsE c with
    | error e => simp [hc] at hok
    | ok cells =>
      cases ht : transformNum parse mode invalidText invalid cells with
      | error e => simp [hc, ht] at hok
      | ok vf =>
        simp only [hc, ht] at hok
        refine ih _ ?_ hok
        cases mode with
        | strict => exact absurd rfl hmode
        | allowEmpty =>
          simp only [transformNum] at ht
          cases ha : astypeAll parse ((cells.map rstripNul).map (fun t => if npNonEmpty t then t else invalidText)) with
          | error e => rw [ha] at ht; cases ht
          | ok vs =>
            rw [ha] at ht
            simp only [Except.ok.injEq] at ht
            subst ht
            have := astypeAll_length parse _ vs ha
            simp [this, hst]
        | relaxed =>
          simp only [transformNum] at ht
          cases ha : relaxedAll parse invalid (cells.map rstripNul) with
          | error e => rw [ha] at ht; cases ht
          | ok r' =>
            rw [ha] at ht
            simp only [Except.ok.injEq] at ht
            subst ht
            have := relaxedAll_length parse invalid _ r' ha
            simp [this, hst]

theorem cellsMapE_length {α} (f : Bytes → Except Err α) (cells : List Bytes) (rs : List α) (h : cellsMapE f cells = .ok rs) :
    rs.length = cells.length := by
  induction cells generalizing rs with
  | nil => simp [cellsMapE] at h; subst h; rfl
  | cons c cs ih =>
    rw [cellsMapE] at h
    cases hf : f c with
    | error e => simp [hf] at h
    | ok a =>
      cases hr : cellsMapE f cs with
      | error e => simp [hf, hr] at h
      | ok as => simp [hf, hr] at h; subst h; simp [ih as hr]

/-- `_day` and `_set` of a datetime / date column: as long as the column, for every chunking -/
theorem companions_aligned_time (f : Bytes → Except Err (Int × Bytes × Bool)) (chunks : List Chunk)
    (st r : List Int × List Bytes × List Bool) (hst : st.2.1.length = st.1.length ∧ st.2.2.length = st.1.length)
    (hok : timeImport f chunks st = .ok r) : r.2.1.length = r.1.length ∧ r.2.2.length = r.1.length := by
  induction chunks generalizing st with
  | nil => simp [timeImport] at hok; subst hok; exact hst
  | cons c cs ih =>
    rw [timeImport] at hok
    cases hc : cellsE c with
    | error e => simp [hc] at hok
    | ok cells =>
      cases hm : cellsMapE f cells with
      | error e => simp [hc, hm] at hok
      | ok rs =>
        simp only [hc, hm] at hok
        exact ih _ (by simp [hst]) hok

/-! ## non-vacuity -/

/-- a chunk as the reader lays it out: the column starts at byte 2 of `column_vals`, three rows `ab`, ``, `abc`, one stale
    index entry, spare capacity -/
def demoChunk : Chunk :=
  { inds := [0, 2, 2, 5, 9], vals := [88, 88, 97, 98, 97, 98, 99, 88, 88], off := 2, cap := 7, rows := 3, col := 1, ncols := 2 }

theorem demo_encodes : Encodes demoChunk [[97, 98], [], [97, 98, 99]] := by
  refine ⟨rfl, ⟨0, ?_, by decide⟩, by decide⟩
  simp [EncFrom, demoChunk, slice]

/-- the column-subscript check is real: `col_idx = number of columns` passes `column_offsets[col_idx]` (one entry more) and
    fails at the first dimension of `column_inds`; beyond that already `column_offsets[col_idx]` fails -/
example : fixedStringTransform { demoChunk with col := 2 } 2 = .error (.oob "column_inds[col_idx,i]") ∧
    fixedStringTransform { demoChunk with col := 3 } 2 = .error (.oob "column_offsets[col_idx]") ∧
    fixedStringTransform { demoChunk with col := 2, rows := 0 } 2 = .ok [] := ⟨by rfl, by rfl, by rfl⟩

def demoCats : List (Bytes × Int) := [([97, 98, 99], 3), ([97], 1), ([97, 98], 2)]

example : (demoCats.map (·.1)).Nodup := by decide
example : categoricalTransform (getByteMap demoCats) demoChunk = .ok [2, 0, 3] := by
  rw [categorical_exact_match demoCats (by decide) demoChunk _ demo_encodes]; rfl
example : categoricalTransformChecked (getByteMap demoCats) demoChunk = .ok ([2, 0, 3], some 1) := by
  rw [(categorical_transform_checked demoCats (by decide) demoChunk _ demo_encodes).1]; rfl
example : categoricalImportChecked demoCats [demoChunk, demoChunk] [] = .error (.valueError "is not one of the categories") :=
  (categorical_property demoCats (by decide) _ _ (.cons demo_encodes (.cons demo_encodes .nil))).2 ⟨[], by decide, by decide⟩
example : categoricalImportChecked (([], 9) :: demoCats) [demoChunk, demoChunk] [] = .ok [2, 9, 3, 2, 9, 3] := by
  rw [categorical_import_checked (([], 9) :: demoCats) (by decide) _ _ (.cons demo_encodes (.cons demo_encodes .nil))]; rfl
-- `firstNoKey`: in `ab`, ``, `abc` against `demoCats` the empty cell (row 1) is the first that is no key
example : firstNoKey demoCats [[97, 98], [], [97, 98, 99]] = some 1 ∧ firstNoKey (([], 9) :: demoCats) [[97, 98], [], [97, 98, 99]] = none := by
  decide
example : ∃ pre x post, [[97, 98], [], [97, 98, 99]] = pre ++ x :: post ∧ pre.length = 1 ∧ x ∉ demoCats.map (·.1) ∧
    ∀ cell ∈ pre, cell ∈ demoCats.map (·.1) :=
  (first_unmatched_is_first demoCats [[97, 98], [], [97, 98, 99]]).2 1 (by decide)
example : catColumn (([], 9) :: demoCats) [[97, 98], [], [97, 98, 99]] = some [2, 9, 3] ∧
    catColumn demoCats [[97, 98], [], [97, 98, 99]] = none := by decide
example : (∃ cell ∈ [[97, 98], [], [97, 98, 99]], cell ∉ demoCats.map (·.1)) :=
  ((catColumn_spec demoCats (by decide) [[97, 98], [], [97, 98, 99]]).2).mp (by decide)
-- both branches of `categorical_property` are inhabited: with `` listed every cell is a key, without it the empty cell is none
example : ∀ cell ∈ [[[97, 98], [], [97, 98, 99]], [[97, 98], [], [97, 98, 99]]].flatten, cell ∈ ((([], 9) : Bytes × Int) :: demoCats).map (·.1) := by
  decide
-- two chunkings of the same six cells (`demoChunk` twice / a chunk without rows in between) give the same result
def emptyChunk : Chunk := { inds := [0], vals := [], off := 0, cap := 0, rows := 0, col := 0, ncols := 1 }
example : categoricalImportChecked demoCats [demoChunk, demoChunk] [] = categoricalImportChecked demoCats [demoChunk, emptyChunk, demoChunk] [] :=
  categorical_chunking_unobservable demoCats (by decide) _ _ [[[97, 98], [], [97, 98, 99]], [[97, 98], [], [97, 98, 99]]]
    [[[97, 98], [], [97, 98, 99]], [], [[97, 98], [], [97, 98, 99]]]
    (.cons demo_encodes (.cons demo_encodes .nil))
    (.cons demo_encodes (.cons ⟨rfl, ⟨0, by simp [EncFrom, emptyChunk], by decide⟩, by decide⟩ (.cons demo_encodes .nil))) rfl
example : EncodesAll [demoChunk, demoChunk] [[[97, 98], [], [97, 98, 99]], [[97, 98], [], [97, 98, 99]]] :=
  .cons demo_encodes (.cons demo_encodes .nil)
example : leakyImport [([97], 1), ([97, 98, 99], 7)] [demoChunk, demoChunk] LeakyState.init
    = .ok { data := [-1, -1, 7, -1, -1, 7], ftIndices := [0, 2, 2, 2, 4, 4, 4], ftValues := [97, 98, 97, 98], acc := 4 } := by
  rw [leaky_freetext _ (by decide) _ _ (.cons demo_encodes (.cons demo_encodes .nil))]; rfl
example : fixedStringTransform demoChunk 2 = .ok [97, 98, 0, 0, 97, 98] := by
  rw [fixed_truncates_to_n _ 2 _ demo_encodes]; rfl

example : ValidCivil 2020 6 15 19 45 39 := ⟨by decide, by decide, by decide, by decide, by decide, by decide⟩
-- b"2020-06-15 19:45:39+01:00" is 18:45:39 UTC = 1592246739 s
example : parseTimestamp (L19 2020 6 15 19 45 39 ++ offText false 1 0) = .ok 1592246739000000 := by rfl
example : boolLit [84, 114, 85, 101] = some 1 ∧ boolLit [110, 111, 112, 101] = none := by decide
example : boolTransform demoChunk .relaxed true 3 3 = .ok ([true, true, true], [false, false, false]) := by
  rw [bool_transform_spec _ _ _ _ _ _ demo_encodes (by decide) (by decide)]; rfl
/-- the capacity checks are real: a result array shorter than the row count is the model's out-of-bounds write -/
example : boolTransform demoChunk .relaxed true 2 3 = .error (.oob "elements[row_idx]") ∧
    boolTransform demoChunk .relaxed true 3 2 = .error (.oob "validity[row_idx]") := ⟨by rfl, by rfl⟩

end Exetera.Props.C06
