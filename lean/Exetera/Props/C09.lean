import Exetera.Lemmas.FilterIndexSortFrame
/-!
# C09 — filter, re-index and sort keep rows intact and leave the source untouched

All theorems are about `Exetera.FilterIndex.*` — the model the correspondence driver executes (`Driver/C09.lean`) — with
`Variant.repaired` = the code with the fix patches D8 / NC09b applied, and about the row-level `Exetera.Spec`
(`filterBy`, `gather`, `sortPerm`, `mapCols`). An `.ok` result of a kernel means: every subscript and slice of both
passes stayed inside its array and the buffers allocated from pass 1 were exactly filled.

Vocabulary: `offsetsF es` / `es.flatten` is how an indexed string field stores the entries `es`; `Encodes p c` says the
payload `p` stores the column `c`; `Holds fr cols` says the frame `fr` holds the columns `cols` (names, order, metadata,
content); `mapCols g cols` applies ONE row operation `g` to every column.
-/
namespace Exetera.Props.C09
open Exetera Exetera.FilterIndex Exetera.Spec

/-! ## the two compiled kernels (operations.py) -/

/-- `apply_filter_to_index_values`: for a filter with one flag per entry the two passes return exactly the encoding of
    the selected entries, in order — for the code as found and as repaired (the fix changes nothing on valid input). -/
theorem filter_indexed_eq (v : Variant) (es : List (List Nat)) (flt : List Bool) (h : flt.length = es.length) :
    applyFilterToIndexValues v flt (offsetsF es) es.flatten =
      .ok (offsetsF (filterBy flt es), (filterBy flt es).flatten) :=
  filter_kernel_eq v es flt h

example : applyFilterToIndexValues .repaired [true, false, true, true] (offsetsF [[97], [], [99, 99, 99], [100, 195, 169]])
    [97, 99, 99, 99, 100, 195, 169] = .ok ([0, 1, 4, 7], [97, 99, 99, 99, 100, 195, 169]) := by rfl

/-- with the fix D8, ANY other filter length is rejected with IndexError before anything is read -/
theorem filter_indexed_length_mismatch (flt : List Bool) (indices values : List Nat)
    (h : flt.length ≠ indices.length - 1) :
    applyFilterToIndexValues .repaired flt indices values = .error (.oob "len(index_filter) != len(indices) - 1") :=
  filter_kernel_mismatch flt indices values h

example : applyFilterToIndexValues .repaired [true, false] [0, 1, 1, 4, 7] [97, 99, 99, 99, 100, 195, 169] =
    .error (.oob "len(index_filter) != len(indices) - 1") := by rfl

/-- `apply_indices_to_index_values`: whenever every subscript addresses an entry (`-n ≤ i < n`, negative from the end),
    destination entry `j` is source entry `idx[j]` -/
theorem index_indexed_eq (v : Variant) (es : List (List Nat)) (idx : List Int) (rows : List (List Nat))
    (h : gather es idx = some rows) :
    applyIndicesToIndexValues v idx (offsetsF es) es.flatten = .ok (offsetsF rows, rows.flatten) :=
  index_kernel_eq v es idx rows h

example : gather [[97], [], [99, 99]] [2, -3, 1, 2] = some [[99, 99], [97], [], [99, 99]] := by decide +kernel
example : applyIndicesToIndexValues .repaired [2, -3, 1, 2] (offsetsF [[97], [], [99, 99]]) [97, 99, 99] =
    .ok ([0, 2, 3, 3, 5], [99, 99, 97, 99, 99]) := by rfl

/-- with the fix NC09b, a subscript outside `-n ≤ i < n` is rejected with IndexError during pass 1 -/
theorem index_indexed_out_of_range (es : List (List Nat)) (idx : List Int) (h : gather es idx = none) :
    ∃ site, applyIndicesToIndexValues .repaired idx (offsetsF es) es.flatten = .error (.oob site) :=
  index_kernel_err es idx h

example : gather [[97], [], [99, 99]] [0, 3] = none := by decide +kernel

/-! ## sorting (session.py `dataset_sort_index`) -/

/-- the iterated single-key stable argsorts (least significant key first) compute THE stable lexicographic sort
    permutation of the key tuples — started from `arange(n)` (as `sort_values` does) or from no index -/
theorem sort_index_eq (keys : List (List Int)) (n : Nat) (hne : keys ≠ []) (hk : ∀ k ∈ keys, k.length = n) :
    datasetSortIndex keys none = .ok (sortPerm keys n) ∧
    datasetSortIndex keys (some (List.range n)) = .ok (sortPerm keys n) :=
  datasetSortIndex_eq keys n hne hk

example : ∃ p, datasetSortIndex [[2, 1, 2, 1], [1, 1, 0, 1]] none = .ok p ∧ p = sortPerm [[2, 1, 2, 1], [1, 1, 0, 1]] 4 :=
  ⟨_, (sort_index_eq [[2, 1, 2, 1], [1, 1, 0, 1]] 4 (List.cons_ne_nil _ _) (by decide)).1, rfl⟩

/-- `sortPerm` without reference to an algorithm: it lists every row once, in non-decreasing order of key tuple, rows
    with equal tuples in their original order — and it is the only list that does -/
theorem sort_perm_characterised (keys : List (List Int)) (n : Nat) :
    IsStableSortPerm keys n (sortPerm keys n) ∧ ∀ p, IsStableSortPerm keys n p → p = sortPerm keys n :=
  ⟨⟨List.mergeSort_perm _ _, sortPerm_refines keys n⟩, fun _ ⟨hperm, hpw⟩ =>
    eq_of_perm_of_refine_lt hpw (sortPerm_refines keys n) (hperm.trans (List.mergeSort_perm _ _).symm)⟩

/-- two key columns with ties in the first: rows 1 and 3 (key 1) come first, ordered by the second key (1 = 1: original
    order), then rows 2 and 0 (key 2) ordered by the second key (0 < 1) -/
example : sortPerm [[2, 1, 2, 1], [1, 1, 0, 1]] 4 = [1, 3, 2, 0] :=
  ((sort_perm_characterised _ _).2 _ ⟨by decide +kernel, by decide +kernel⟩).symm

/-! ## field level (fields.py `FieldDataOps.apply_*_to_*field`): the three write modes -/

/-- `apply_filter`: in place (clear + write), into a target (overwrite if same length, else clear + write), or into a fresh
    memory field — the same content is stored; in place keeps the field, the target keeps its own metadata, the fresh
    field gets the source's metadata. If the filter is rejected, all three modes raise the same error. -/
theorem filter_modes_agree (v : Variant) (src : Field) (bs : List Bool) :
    (∀ res, filterPayload v bs src.payload = .ok res →
      (src.writeEnabled = true → applyFilterField v src (.bool bs) none true = .ok { src with payload := res }) ∧
      (∀ t, applyFilterField v src (.bool bs) (some t) false = .ok { t with payload := res }) ∧
      applyFilterField v src (.bool bs) none false = .ok { info := src.info, payload := res, writeEnabled := true }) ∧
    (∀ e, filterPayload v bs src.payload = .error e →
      applyFilterField v src (.bool bs) none true = .error e ∧
      (∀ t, applyFilterField v src (.bool bs) (some t) false = .error e) ∧
      applyFilterField v src (.bool bs) none false = .error e) :=
  (applyFilterField_stores v bs).modes_agree src

/-- the same for `apply_index` -/
theorem index_modes_agree (v : Variant) (src : Field) (idx : List Int) :
    (∀ res, indexPayload v idx src.payload = .ok res →
      (src.writeEnabled = true → applyIndexField v src idx none true = .ok { src with payload := res }) ∧
      (∀ t, applyIndexField v src idx (some t) false = .ok { t with payload := res }) ∧
      applyIndexField v src idx none false = .ok { info := src.info, payload := res, writeEnabled := true }) ∧
    (∀ e, indexPayload v idx src.payload = .error e →
      applyIndexField v src idx none true = .error e ∧
      (∀ t, applyIndexField v src idx (some t) false = .error e) ∧
      applyIndexField v src idx none false = .error e) :=
  (applyIndexField_stores v idx).modes_agree src

/-- `validate_filter`: a numeric filter acts exactly as the boolean filter "entry ≠ 0", at field and at frame level -/
theorem numeric_filter_is_nonzero_test (v : Variant) (xs : List Int) :
    (∀ src t ip, applyFilterField v src (.num xs) t ip =
      applyFilterField v src (.bool (xs.map (fun x => x != 0))) t ip) ∧
    (∀ st src ddf, dfApplyFilter v st src (.num xs) ddf =
      dfApplyFilter v st src (.bool (xs.map (fun x => x != 0))) ddf) :=
  ⟨fun _ _ _ => rfl, fun _ _ _ => rfl⟩

example : validateFilter (.num [0, 2, 0, -1]) = .ok [false, true, false, true] := by rfl

/-- `Session.apply_filter` / `apply_index` with an array source (with fix NC09c): the spec result is returned and
    appended to `dest`; a filter of another length / a subscript out of range raises IndexError -/
theorem session_array_ops (src : List Int) (dest : Option (List Int)) :
    (∀ flt bs, validateFilter flt = .ok bs →
      sessionFilterArray flt src dest =
        if bs.length = src.length then .ok (filterBy bs src, dest.map (· ++ filterBy bs src))
        else .error (.oob "boolean index did not match indexed array")) ∧
    (∀ idx, sessionIndexArray idx src dest =
      match gather src idx with
      | some r => .ok (r, dest.map (· ++ r))
      | none => .error (.oob "data[index]")) := by
  constructor
  · intro flt bs hv
    by_cases hl : bs.length = src.length
    · simp [sessionFilterArray, hv, boolIndex, hl, boolSelect_eq, bind, Except.bind, pure, Except.pure]
    · simp [sessionFilterArray, hv, boolIndex, hl, bind, Except.bind]
  · intro idx
    rw [sessionIndexArray, fancyIndex_eq]
    cases gather src idx <;> rfl

example : sessionFilterArray (.num [0, 1, 0, 1]) [10, 20, 30, 40] (some [5]) = .ok ([20, 40], some [5, 20, 40]) := by rfl

/-- what is stored is the spec: a payload holding column `c` is filtered to a payload holding `c.filter bs`
    (numeric and indexed string fields alike), and a filter of the wrong length is rejected -/
theorem filter_payload_spec (p : Payload) (c : Column) (bs : List Bool) (h : Encodes p c) :
    (∀ c', c.filter bs = some c' → ∃ p', filterPayload .repaired bs p = .ok p' ∧ Encodes p' c') ∧
    (c.filter bs = none → ∃ site, filterPayload .repaired bs p = .error (.oob site)) :=
  ⟨fun c' hc => filterPayload_spec .repaired p c c' bs h hc, fun hc => filterPayload_err p c bs h hc⟩

theorem index_payload_spec (p : Payload) (c : Column) (idx : List Int) (h : Encodes p c) :
    (∀ c', c.gather idx = some c' → ∃ p', indexPayload .repaired idx p = .ok p' ∧ Encodes p' c') ∧
    (c.gather idx = none → ∃ site, indexPayload .repaired idx p = .error (.oob site)) :=
  ⟨fun c' hc => indexPayload_spec .repaired p c c' idx h hc, fun hc => indexPayload_err p c idx h hc⟩

/-- non-vacuity: an indexed string payload holding ["a", "", "cc"], filter [1,0,1] -/
example : Encodes (.indexed [0, 1, 1, 3] [97, 99, 99]) (.strs [[97], [], [99, 99]]) ∧
    (Column.strs [[97], [], [99, 99]]).filter [true, false, true] = some (.strs [[97], [99, 99]]) := by
  constructor
  · exact ⟨Or.inl rfl, rfl⟩
  · rfl

/-! ## frame level (dataframe.py): every column gets the same row operation; only the destination is written -/

/-- `df.apply_filter(flt)` in place on a frame holding `cols`, whenever the filter fits every column
    (`mapCols (Column.filter bs) cols = some cols'`): the frame then holds `cols'` — same names, order and metadata -/
theorem frame_filter_inplace (st : Store) (src : String) (sf : Frame) (cols cols' : List (ColSpec Meta))
    (flt : Filter) (bs : List Bool) (hs : st.lookup src = some sf) (hh : Holds sf cols) (hw : AllWriteable sf)
    (hv : validateFilter flt = .ok bs) (hm : mapCols (Column.filter bs) cols = some cols') :
    ∃ rf, dfApplyFilter .repaired st src flt none = .ok (st.put src rf) ∧ Holds rf cols' ∧ AllWriteable rf := by
  rw [dfApplyFilter_eq .repaired st src none hv]
  exact frameOp_inPlace (opSpec_filter bs) st src sf cols cols' hs hh hw hm

/-- `df.apply_filter(flt, ddf)`: the destination gains the filtered columns (created like the source's), appended -/
theorem frame_filter_into (st : Store) (src d : String) (sf df : Frame) (cols cols' : List (ColSpec Meta))
    (flt : Filter) (bs : List Bool) (hs : st.lookup src = some sf) (hd : st.lookup d = some df)
    (hh : Holds sf cols) (hf : Fresh sf df)
    (hv : validateFilter flt = .ok bs) (hm : mapCols (Column.filter bs) cols = some cols') :
    ∃ rf, dfApplyFilter .repaired st src flt (some d) = .ok (st.put d (df ++ rf)) ∧ Holds rf cols' ∧ AllWriteable rf := by
  rw [dfApplyFilter_eq .repaired st src (some d) hv]
  exact frameOp_into (opSpec_filter bs) st src d sf df cols cols' hs hd hh hf hm

/-- non-vacuity: a two-column frame (indexed strings ["a","","cc"] and int32 [5,6,7]), numeric filter [1,0,2] -/
def exInfoS : Meta := { ftype := "indexedstring", nformat := "", strlen := 0, key := [] }
def exInfoN : Meta := { ftype := "numeric", nformat := "int32", strlen := 0, key := [] }
def exFrame : Frame :=
  [("s", { info := exInfoS, payload := .indexed [0, 1, 1, 3] [97, 99, 99], writeEnabled := true }),
   ("n", { info := exInfoN, payload := .plain [5, 6, 7], writeEnabled := true })]
def exCols : List (ColSpec Meta) :=
  [{ name := "s", info := exInfoS, content := .strs [[97], [], [99, 99]] },
   { name := "n", info := exInfoN, content := .nums [5, 6, 7] }]
def exCols' : List (ColSpec Meta) :=
  [{ name := "s", info := exInfoS, content := .strs [[97], [99, 99]] },
   { name := "n", info := exInfoN, content := .nums [5, 7] }]

theorem exHolds : Holds exFrame exCols := ⟨rfl, rfl, ⟨Or.inl rfl, rfl⟩, rfl, rfl, rfl, trivial⟩
theorem exRect : ∀ c ∈ exCols, c.content.length = 3 := by
  intro c hc
  simp only [exCols, List.mem_cons, List.not_mem_nil, or_false] at hc
  rcases hc with rfl | rfl <;> rfl
theorem exWriteable : AllWriteable exFrame := by
  intro p hp
  simp only [exFrame, List.mem_cons, List.not_mem_nil, or_false] at hp
  rcases hp with rfl | rfl <;> rfl

example : ∃ rf, dfApplyFilter .repaired [("src", exFrame), ("d0", [])] "src" (.num [1, 0, 2]) none =
    .ok (Store.put [("src", exFrame), ("d0", [])] "src" rf) ∧ Holds rf exCols' ∧ AllWriteable rf :=
  frame_filter_inplace _ "src" exFrame exCols exCols' (.num [1, 0, 2]) [true, false, true] rfl exHolds exWriteable rfl rfl

example : ∃ rf, dfApplyFilter .repaired [("src", exFrame), ("d0", [])] "src" (.num [1, 0, 2]) (some "d0") =
    .ok (Store.put [("src", exFrame), ("d0", [])] "d0" ([] ++ rf)) ∧ Holds rf exCols' ∧ AllWriteable rf :=
  frame_filter_into _ "src" "d0" exFrame [] exCols exCols' (.num [1, 0, 2]) [true, false, true] rfl rfl exHolds
    ⟨by decide +kernel, by intro p _; rfl⟩ rfl rfl

/-- a filter that does not fit some column (D8 / NC09a) is rejected, in place and into a destination -/
theorem frame_filter_rejected (st : Store) (src : String) (ddf : Option String) (sf : Frame) (cols : List (ColSpec Meta))
    (flt : Filter) (bs : List Bool) (hs : st.lookup src = some sf) (hh : Holds sf cols)
    (hv : validateFilter flt = .ok bs) (hm : mapCols (Column.filter bs) cols = none) :
    ∃ e, dfApplyFilter .repaired st src flt ddf = .error e := by
  rw [dfApplyFilter_eq .repaired st src ddf hv]
  exact frameOp_reject (opSpec_filter bs) st src ddf sf cols hs hh hm

/-- `df.apply_index(idx)` in place on a rectangular frame -/
theorem frame_index_inplace (st : Store) (src : String) (sf : Frame) (cols cols' : List (ColSpec Meta)) (n : Nat)
    (idx : List Int) (hs : st.lookup src = some sf) (hh : Holds sf cols) (hw : AllWriteable sf)
    (hrect : ∀ c ∈ cols, c.content.length = n) (hm : mapCols (Column.gather idx) cols = some cols') :
    ∃ rf, dfApplyIndex .repaired st src idx none = .ok (st.put src rf) ∧ Holds rf cols' ∧ AllWriteable rf := by
  rw [dfApplyIndex_eq .repaired st src idx none hs (fun _ => allSameLength_of_rect sf cols hh n hrect)]
  exact frameOp_inPlace (opSpec_index idx) st src sf cols cols' hs hh hw hm

/-- `df.apply_index(idx, ddf)` -/
theorem frame_index_into (st : Store) (src d : String) (sf df : Frame) (cols cols' : List (ColSpec Meta))
    (idx : List Int) (hs : st.lookup src = some sf) (hd : st.lookup d = some df)
    (hh : Holds sf cols) (hf : Fresh sf df) (hm : mapCols (Column.gather idx) cols = some cols') :
    ∃ rf, dfApplyIndex .repaired st src idx (some d) = .ok (st.put d (df ++ rf)) ∧ Holds rf cols' ∧ AllWriteable rf := by
  rw [dfApplyIndex_eq .repaired st src idx (some d) hs (fun h => nomatch h)]
  exact frameOp_into (opSpec_index idx) st src d sf df cols cols' hs hd hh hf hm

/-- an index array with a subscript outside some column (NC09b) is rejected -/
theorem frame_index_rejected (st : Store) (src : String) (ddf : Option String) (sf : Frame) (cols : List (ColSpec Meta))
    (idx : List Int) (hs : st.lookup src = some sf) (hh : Holds sf cols)
    (hm : mapCols (Column.gather idx) cols = none) :
    ∃ e, dfApplyIndex .repaired st src idx ddf = .error e := by
  by_cases hg : ddf.isNone = true → allSameLength sf = true
  · rw [dfApplyIndex_eq .repaired st src idx ddf hs hg]
    exact frameOp_reject (opSpec_index idx) st src ddf sf cols hs hh hm
  · -- in place on columns of unequal lengths: `apply_index` raises before it touches any column
    have hg' : ddf.isNone = true ∧ (!allSameLength sf) = true := by simpa using hg
    exact ⟨_, by simp only [dfApplyIndex, Store.frame_eq st src sf hs, bind, Except.bind, hg', and_self, if_true]; rfl⟩

example : ∃ e, dfApplyFilter .repaired [("src", exFrame)] "src" (.bool [true, false]) none = .error e :=
  frame_filter_rejected _ "src" none exFrame exCols (.bool [true, false]) [true, false] rfl exHolds rfl rfl

example : ∃ rf, dfApplyIndex .repaired [("src", exFrame)] "src" [2, -3, 2] none =
    .ok (Store.put [("src", exFrame)] "src" rf) ∧
    Holds rf [{ name := "s", info := exInfoS, content := .strs [[99, 99], [97], [99, 99]] },
              { name := "n", info := exInfoN, content := .nums [7, 5, 7] }] ∧ AllWriteable rf :=
  frame_index_inplace _ "src" exFrame exCols _ 3 [2, -3, 2] rfl exHolds exWriteable exRect
    rfl

example : ∃ e, dfApplyIndex .repaired [("src", exFrame)] "src" [0, 3] none = .error e :=
  frame_index_rejected _ "src" none exFrame exCols [0, 3] rfl exHolds rfl

/-- `df.sort_values(by, ddf)` on a rectangular frame of `n` rows whose key columns `by` hold numbers IS
    `df.apply_index(sortPerm keys n, ddf)` — so `frame_index_inplace` / `frame_index_into` apply with that index -/
theorem frame_sort_is_index (v : Variant) (st : Store) (src : String) (sf : Frame) (cols : List (ColSpec Meta))
    (hs : st.lookup src = some sf) (hh : Holds sf cols) (n : Nat) (hrect : ∀ c ∈ cols, c.content.length = n)
    (by_ : List String) (hne : by_ ≠ []) (keys : List (List Int)) (hk : keyCols cols by_ = some keys)
    (ddf : Option String) :
    dfSortValues v st src by_ ddf =
      dfApplyIndex v st src ((sortPerm keys n).map (fun (k : Nat) => (k : Int))) ddf :=
  dfSortValues_eq v st src sf cols hs hh n hrect by_ hne keys hk ddf

example : dfSortValues .repaired [("src", exFrame)] "src" ["n"] none =
    dfApplyIndex .repaired [("src", exFrame)] "src" ((sortPerm [[5, 6, 7]] 3).map (fun (k : Nat) => (k : Int))) none :=
  frame_sort_is_index .repaired _ "src" exFrame exCols rfl exHolds 3 exRect
    ["n"] (List.cons_ne_nil _ _) [[5, 6, 7]] rfl none

/-- source untouched: whatever `apply_filter` / `apply_index` / `sort_values` do, every frame of the store other than the
    one written (the destination, or the source itself when in place) is exactly what it was -/
theorem source_untouched (v : Variant) (st st' : Store) (src : String) (ddf : Option String) (k : String)
    (hk : k ≠ ddf.getD src) :
    (∀ flt, dfApplyFilter v st src flt ddf = .ok st' → st'.lookup k = st.lookup k) ∧
    (∀ idx, dfApplyIndex v st src idx ddf = .ok st' → st'.lookup k = st.lookup k) ∧
    (∀ by_, dfSortValues v st src by_ ddf = .ok st' → st'.lookup k = st.lookup k) := by
  have hidx : ∀ idx, dfApplyIndex v st src idx ddf = .ok st' → st'.lookup k = st.lookup k := by
    intro idx h
    obtain ⟨_, _, h⟩ := bind_eq_ok h
    exact frameOp_untouched st st' src ddf _ (guard_eq_ok h) k hk
  refine ⟨fun flt h => ?_, hidx, fun by_ h => ?_⟩
  · obtain ⟨_, _, h⟩ := bind_eq_ok h
    exact frameOp_untouched st st' src ddf _ h k hk
  · -- `sort_values` ends in `apply_index`; nothing before it writes
    obtain ⟨_, _, h⟩ := bind_eq_ok h
    have h := guard_eq_ok (guard_eq_ok h)
    split at h
    · obtain ⟨_, _, h⟩ := bind_eq_ok h
      obtain ⟨_, _, h⟩ := bind_eq_ok h
      obtain ⟨_, _, h⟩ := bind_eq_ok h
      exact hidx _ h
    · cases h

/-! ## rows: alignment and multisets -/

/-- metadata, names and order are preserved by construction of `mapCols` -/
theorem metadata_preserved {μ} (g : Column → Option Column) (cols cols' : List (ColSpec μ))
    (h : mapCols g cols = some cols') :
    cols'.map (fun c => (c.name, c.info)) = cols.map (fun c => (c.name, c.info)) := by
  induction cols generalizing cols' with
  | nil => cases h; rfl
  | cons c cs ih =>
    obtain ⟨x, r, _, hr, rfl⟩ := mapCols_cons_eq_some.mp h
    rw [List.map_cons, List.map_cons, ih r hr]

/-- rows stay aligned: filtering two columns separately = filtering the column of pairs (so of rows) -/
theorem filter_rowwise {α β} (bs : List Bool) (xs : List α) (ys : List β) :
    filterBy bs (xs.zip ys) = (filterBy bs xs).zip (filterBy bs ys) := filterBy_zip bs xs ys

/-- rows stay aligned under re-indexing (hence under sorting) -/
theorem index_rowwise {α β} (xs : List α) (ys : List β) (h : xs.length = ys.length) (idx : List Int) :
    gather (xs.zip ys) idx = match gather xs idx, gather ys idx with
      | some r, some s => some (r.zip s)
      | _, _ => none := gather_zip xs ys h idx

/-- a filter keeps a sub-list of the rows (order preserved, nothing invented) -/
theorem filter_subset {α} (bs : List Bool) (xs : List α) : (filterBy bs xs).Sublist xs := filterBy_sublist bs xs

/-- re-indexing by a permutation of the row numbers — in particular sorting — is defined and preserves the multiset of rows -/
theorem permutation_preserves_rows {α} (xs : List α) (p : List Nat) (hp : p.Perm (List.range xs.length)) :
    ∃ r, gather xs (p.map (fun (k : Nat) => (k : Int))) = some r ∧ r.Perm xs := ⟨_, gather_perm xs p hp⟩

theorem sort_preserves_rows {α} (xs : List α) (keys : List (List Int)) :
    ∃ r, gather xs ((sortPerm keys xs.length).map (fun (k : Nat) => (k : Int))) = some r ∧ r.Perm xs :=
  ⟨_, gather_perm xs _ (List.mergeSort_perm _ _)⟩

example : ∃ r, gather [10, 20, 30] (([2, 0, 1] : List Nat).map (fun (k : Nat) => (k : Int))) = some r ∧ r.Perm [10, 20, 30] :=
  permutation_preserves_rows [10, 20, 30] [2, 0, 1] (by decide +kernel)

/-! ## sorting by ANY mix of key columns (numeric / categorical / timestamp / fixed string hold numbers; indexed strings)

  The code sorts an indexed-string key as `np.asarray(list_of_str)` with `np.argsort(kind='stable')`: a `<U` array, compared
  code point by code point. ASSUMPTIONS (runtime behaviour, exercised by the correspondence, not proved): numpy compares `<U`
  entries by code point and its stable argsort is stable; for valid UTF-8 the code-point order is the bytewise order of the
  encodings (`strLt`). One thing numpy does NOT do is keep trailing NUL characters: a `<U` array is NUL padded and `'a\x00'`
  compares equal to `'a'` (NC09g, same root as NC14a) — the model mirrors that (`trimNul` in `keyColumns`), the full-strength
  theorem below is therefore stated for the key columns as numpy sees them (`KeyCol.numpyView`), and the statement for the
  bytewise order of the stored strings carries the hypothesis that no string key ends in NUL (`…_partial`). The model
  replaces a string column by its rank column (`rankKeys`); `rank_is_order_embedding` is why that is faithful. -/

/-- Rank encoding of a string column is an order embedding: for entries `e1`, `e2` of the column, the ranks (number of
    strictly smaller entries) compare exactly as the strings do bytewise — smaller string ⇔ smaller rank, equal string ⇔ equal
    rank — and `rankKeys` is the column of these ranks. -/
theorem rank_is_order_embedding (es : List (List Nat)) :
    rankKeys es = es.map (fun e => (rankOf es e : Int)) ∧
    ∀ e1 ∈ es, ∀ e2 ∈ es, (rankOf es e1 < rankOf es e2 ↔ strLt e1 e2 = true) ∧ (rankOf es e1 = rankOf es e2 ↔ e1 = e2) :=
  ⟨rankKeys_eq es, fun e1 h1 e2 h2 => rankOf_lt_iff es e1 e2 h1 h2⟩

example : rankKeys [[98], [97], [98], [97, 0], []] = [3, 1, 3, 2, 0] := by decide +kernel

/-- On rows of a frame, comparing the integer tuples the model sorts (numbers as they are, strings by rank) is comparing the
    key tuples themselves (numbers as integers, strings bytewise), whatever the mix of column kinds. -/
theorem encoded_keys_compare_as_keys (n : Nat) (keys : List KeyCol) (hk : ∀ k ∈ keys, k.length = n) (a b : Nat)
    (ha : a < n) (hb : b < n) :
    lexLE (keyRow (keys.map encCol) a) (keyRow (keys.map encCol) b) = lexLEK (keyRowK keys a) (keyRowK keys b) :=
  lexLE_enc n keys hk a b ha hb

/-- `df.sort_values(by, ddf)` on a rectangular frame of `n` rows, `by` naming ANY mix of numeric, fixed-string (numbers) and
    indexed-string key columns, IS `df.apply_index(p, ddf)` for the one list `p` that holds every row once, in non-decreasing
    lexicographic order of the key tuples (as numpy sees them), rows with equal tuples in their original order — so
    `frame_index_inplace` / `frame_index_into` apply with that index: rows stay aligned, every column is permuted alike. -/
theorem frame_sort_is_index_all_keys (v : Variant) (st : Store) (src : String) (sf : Frame) (cols : List (ColSpec Meta))
    (hs : st.lookup src = some sf) (hh : Holds sf cols) (n : Nat) (hrect : ∀ c ∈ cols, c.content.length = n)
    (by_ : List String) (hne : by_ ≠ []) (keys : List KeyCol) (hk : keyColsAll cols by_ = some keys)
    (ddf : Option String) :
    ∃ p, dfSortValues v st src by_ ddf = dfApplyIndex v st src (p.map (fun (k : Nat) => (k : Int))) ddf ∧
      IsStableSortPermK (keys.map KeyCol.numpyView) n p ∧
      ∀ q, IsStableSortPermK (keys.map KeyCol.numpyView) n q → q = p :=
  dfSortValues_eq_all v st src sf cols hs hh n hrect by_ hne keys hk ddf

/-- The same for the bytewise order of the strings as stored, under the hypothesis that no string key ends in a NUL
    character. (Full statement — without `hnul` — is false for the code as found: `Witness.C09.nc09g_trailing_nul_key_ties`;
    open finding NC09g.) -/
theorem frame_sort_is_index_all_keys_partial (v : Variant) (st : Store) (src : String) (sf : Frame) (cols : List (ColSpec Meta))
    (hs : st.lookup src = some sf) (hh : Holds sf cols) (n : Nat) (hrect : ∀ c ∈ cols, c.content.length = n)
    (by_ : List String) (hne : by_ ≠ []) (keys : List KeyCol) (hk : keyColsAll cols by_ = some keys)
    (hnul : ∀ k ∈ keys, k.NoTrailingNul) (ddf : Option String) :
    ∃ p, dfSortValues v st src by_ ddf = dfApplyIndex v st src (p.map (fun (k : Nat) => (k : Int))) ddf ∧
      IsStableSortPermK keys n p ∧ ∀ q, IsStableSortPermK keys n q → q = p := by
  have h := frame_sort_is_index_all_keys v st src sf cols hs hh n hrect by_ hne keys hk ddf
  rw [numpyView_of_noTrailingNul keys hnul] at h
  exact h

/-- a frame sorted by its indexed-string column, then (ties) by its numeric column -/
example : ∃ p, dfSortValues .repaired [("src", exFrame)] "src" ["s", "n"] none =
      dfApplyIndex .repaired [("src", exFrame)] "src" (p.map (fun (k : Nat) => (k : Int))) none ∧
    IsStableSortPermK [.strs [[97], [], [99, 99]], .nums [5, 6, 7]] 3 p ∧
    ∀ q, IsStableSortPermK [.strs [[97], [], [99, 99]], .nums [5, 6, 7]] 3 q → q = p :=
  frame_sort_is_index_all_keys_partial .repaired _ "src" exFrame exCols rfl exHolds 3 exRect
    ["s", "n"] (List.cons_ne_nil _ _) _ rfl
    (by intro k hk; simp only [List.mem_cons, List.not_mem_nil, or_false] at hk
        rcases hk with rfl | rfl
        · intro e he; simp only [List.mem_cons, List.not_mem_nil, or_false] at he
          rcases he with rfl | rfl | rfl <;> decide +kernel
        · trivial) none

/-- three kinds mixed — a string key with ties, a numeric key, a fixed-string key (its big-endian number): the stable sort
    permutation is `[1, 3, 2, 0]` -/
example : IsStableSortPermK [.strs [[98], [97], [98], [97]], .nums [2, 1, 1, 1], .nums [24930, 25186, 24930, 25186]] 4 [1, 3, 2, 0] :=
  ⟨by decide +kernel, by decide +kernel⟩

/-- Stability: of two rows with EQUAL key tuples (whatever the mix of kinds) the one that was first in the frame is first
    after the sort. -/
theorem sort_all_keys_stable (keys : List KeyCol) (n : Nat) (p : List Nat) (hp : IsStableSortPermK keys n p)
    (i j : Nat) (hij : i < j) (hj : j < n) (heq : keyRowK keys i = keyRowK keys j) : [i, j].Sublist p :=
  stableK_keeps_ties keys n p hp i j hij hj heq

example : [1, 3].Sublist [1, 3, 2, 0] :=
  sort_all_keys_stable [.strs [[98], [97], [98], [97]], .nums [2, 1, 1, 1]] 4 [1, 3, 2, 0] ⟨by decide +kernel, by decide +kernel⟩ 1 3
    (by decide) (by decide) rfl

/-- `Session.dataset_sort_index` — the function `sort_values` and `Session.sort_on` both call — on key columns of any mix of
    kinds (as the arrays numpy sorts) returns THE stable sort permutation of the key tuples, started from `arange(n)` or from
    no index. -/
theorem sort_index_eq_all_keys (keys : List KeyCol) (n : Nat) (hne : keys ≠ []) (hk : ∀ k ∈ keys, k.length = n) :
    ∃ p, datasetSortIndex (keys.map encCol) none = .ok p ∧ datasetSortIndex (keys.map encCol) (some (List.range n)) = .ok p ∧
      IsStableSortPermK keys n p ∧ ∀ q, IsStableSortPermK keys n q → q = p :=
  datasetSortIndex_all keys n hne hk

example : ∃ p, datasetSortIndex ([KeyCol.strs [[98], [97], [98]], .nums [2, 1, 1]].map encCol) none = .ok p ∧ p = [1, 2, 0] := by
  obtain ⟨p, h1, _, _, hu⟩ := sort_index_eq_all_keys [KeyCol.strs [[98], [97], [98]], .nums [2, 1, 1]] 3 (List.cons_ne_nil _ _) (by decide)
  exact ⟨p, h1, (hu [1, 2, 0] ⟨by decide +kernel, by decide +kernel⟩).symm⟩

end Exetera.Props.C09
