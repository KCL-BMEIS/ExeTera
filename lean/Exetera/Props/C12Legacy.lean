import Exetera.Lemmas.LegacyStreamed
import Exetera.Lemmas.LegacyMapFix
/-!
# C12 — the legacy re-slicing driver `generate_ordered_map_to_left_right_unique_streamed_old`

(used by `Session.ordered_merge_left/right` in their streamed form; model `Model/JoinOld.lean` with D17 / NC19a repaired).
The model runs the main loop with the budget `|L| + |R|`, each `_partial_old` call with `|lc| + |rc|` and the tail loop with
`|L|` — all written in the definitions, all linear. The theorems: on EVERY input (no sortedness or uniqueness needed for
termination) and every chunk size ≥ 1 the run ends in `.ok` within those budgets — in particular the driver's own
`ValueError("'i' has got ahead of current chunk")` and the generators' `StopIteration` cannot occur — and every iteration of the
main loop strictly advances `i + j`.
(C19 proves, under its guards — sorted left keys, duplicate-free right keys — that the result is the relational left map;
here no guard is needed because only termination is claimed.)

The second legacy driver, `ordered_map_valid_stream_old`, is modelled WITH the repair NC12a (`Model/LegacyMapFix.lean`,
`fixes/NC12a_map_valid_stream_old_unmapped_row.patch`): as found it spins on a map entry `≥ len(data_field)`
(`Witness.C12.nc12a_legacy_map_stream_spins`). Repaired, it never runs out of fuel on ANY input, and in the regime of C19's
theorem it is the as-found model and returns the specified column.
-/
namespace Exetera.Props.C12
open Exetera Exetera.JoinOld Exetera.JoinOld.Term

/-- **legacy_join_streamed_terminates.** Every input, every chunk size ≥ 1: `.ok` within the model's linear budgets
    (`1·|L| + 1·|R|` main-loop iterations, `|L|` tail iterations). -/
theorem legacy_join_streamed_terminates (left right : List Int) (inv : Int) (cs : Nat) (hcs : 1 ≤ cs) :
    ∃ r, streamedOld left right inv cs = .ok r ∧ streamedOld left right inv cs ≠ .error .outOfFuel := by
  obtain ⟨r, h⟩ := streamedOld_ok left right inv cs hcs
  exact ⟨r, h, by rw [h]; intro h'; cases h'⟩

/-- **legacy_join_streamed_never_spins.** From every state the driver reaches (`DInv`: both views are the current chunks
    re-sliced at the global positions, non-empty while rows remain), one iteration of the main loop ends in `.ok`, keeps the
    invariant, strictly decreases `(|L| - i) + (|R| - j)` — a `_partial_old` call consumes one of the two views completely —
    and only appends to the output. -/
theorem legacy_join_streamed_never_spins (left right : List Int) (cs : Nat) (inv : Int) (hcs : 1 ≤ cs) (s : SO)
    (hI : DInv left right cs s) (hi : s.i < left.length) (hj : s.j < right.length) :
    ∃ s', oldBody left right cs inv s = .ok s' ∧ DInv left right cs s' ∧
      (left.length - s'.i) + (right.length - s'.j) < (left.length - s.i) + (right.length - s.j) ∧ s.out <+: s'.out :=
  oldBody_step left right cs inv hcs s hI hi hj

/-- **legacy_map_stream_never_spins.** `ordered_map_valid_stream_old` with NC12a repaired, on EVERY input — any map, in range
    or not, ordered or not, any marker — and every chunk size ≥ 1: the run ends in `.ok` or in an error other than `outOfFuel`
    within the model's linear budget `1·|map| + 1·|data| + 1`: every iteration consumes a map entry, or moves to the next data
    chunk, or is the `ValueError` of the repair. -/
theorem legacy_map_stream_never_spins {α} (data : List α) (map_ : List Int) (inv : Int) (cs : Nat) (zero : α) (hcs : 1 ≤ cs) :
    mapValidStreamOldR data map_ inv cs zero ≠ .error .outOfFuel :=
  mapValidStreamOldR_not_fuel data map_ inv cs zero hcs

/-- one iteration of the repaired driver strictly decreases `(|map| - m) + (|data| - d_pos)` or raises an error that is not
    `outOfFuel` -/
theorem legacy_map_stream_progress {α} (data : List α) (map_ : List Int) (inv : Int) (cs : Nat) (zero : α) (hcs : 1 ≤ cs)
    (s : MO α) (hg : s.m < map_.length) :
    (∃ s', mapOldBodyR data map_ inv cs zero s = .ok s' ∧ mapMu data map_ s' < mapMu data map_ s) ∨
    (∃ e, mapOldBodyR data map_ inv cs zero s = .error e ∧ e ≠ .outOfFuel) := by
  rcases mapOldBodyR_step data map_ inv cs zero hcs s hg with h | ⟨e, h1, h2, _⟩
  · exact Or.inl h
  · exact Or.inr ⟨e, h1, h2⟩

/-- **legacy_map_stream_terminates.** In the regime of C19's theorem (in-range map with non-decreasing valid entries, marker
    outside the source's row numbers) the repair changes nothing: the repaired driver is the as-found one (the model the C19
    correspondence validates) and returns the specified column, for every chunk size ≥ 1. -/
theorem legacy_map_stream_terminates {α} (data : List α) (map_ : List Int) (inv : Int) (cs : Nat) (zero : α) (hcs : 1 ≤ cs)
    (hr : Spec.InRange data.length map_ inv) (hmono : Spec.ValidMonotone map_ inv)
    (hinv : inv < 0 ∨ (data.length : Int) ≤ inv) :
    mapValidStreamOldR data map_ inv cs zero = mapValidStreamOld data map_ inv cs zero ∧
      ∃ out, mapValidStreamOldR data map_ inv cs zero = .ok out ∧ Spec.mapSpec data inv zero map_ = some out :=
  mapValidStreamOldR_eq data map_ inv zero hcs hr hmono hinv

/-- the NC12a witness: as found it spins, repaired it is the clear error -/
example : mapValidStreamOld [10, 20, 30] [0, 7] (-1) 2 (0 : Int) = .error .outOfFuel ∧
    mapValidStreamOldR [10, 20, 30] [0, 7] (-1) 2 (0 : Int) = .error (.valueError "map entry is not a row of data_field") :=
  ⟨by rfl, by rfl⟩
/-- a valid run over several map and data chunks (chunk size 2) -/
example : mapValidStreamOldR [11, 14, 17, 20, 23] [-1, 0, 0, 1, 3, 3, -1, 4] (-1) 2 (0 : Int) = .ok [0, 11, 11, 14, 20, 20, 0, 23] := by
  rfl

-- chunk size 2, duplicate left keys spanning chunks, unmatched keys on both sides
example : streamedOld [1, 2, 2, 3, 5, 5, 6, 9] [2, 3, 4, 5, 9] (-1) 2 = .ok (true, [-1, 0, 0, 1, 3, 3, -1, 4]) := by rfl
example : streamedOld [1, 1, 1] [] (-1) 1 = .ok (true, [-1, -1, -1]) := by rfl

end Exetera.Props.C12
