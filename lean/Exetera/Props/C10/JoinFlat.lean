import Exetera.Props.C19
import Exetera.Props.C10.Basic
import Exetera.Model.KernelSitesJoinFlat
import Exetera.Model.KernelPathsJoinFlat
/-!
# C10 — the legacy join helpers behind `Session.ordered_merge_*` (owning property: C19)

Covered by theorems: the six flat kernels, the two legacy streamed drivers
(`generate_ordered_map_to_left_right_unique_streamed_old` + `…_partial_old`, `ordered_map_valid_stream_old` +
`ordered_map_valid_partial_old`, over `chunks`) for every chunk size ≥ 1, `Session.ordered_merge_left / right` in every
covered form of the call (`FormOK`: arrays / Fields / zero-initialised array sinks / streamed), the map computation of
`Session.ordered_merge_inner`, `Session.join`. Not covered (as in C19): indexed-string payloads (open finding NC19d).
-/
namespace Exetera.Props.C10
open Exetera Exetera.Spec Exetera.Join Exetera.JoinFlat Exetera.JoinOld

theorem access_sites_covered_join_flat : ∀ k ∈ KernelSites.joinFlatSites, lookup k.1 = some k :=
  lookup_of_family .joinFlat rfl

/-- the PATH CONDITION of every subscript occurrence in these kernels (enclosing loop guards, `if` / `elif` tests, negated
    `else` branches and early exits), as regenerated from the current source (`Gen/KernelPaths.lean`), is exactly the one the
    model was written against (`Model/KernelPathsJoinFlat.lean`): dropping or changing a test that dominates a subscript breaks
    the build; and the table covers exactly the kernels of the site table -/
theorem access_paths_covered_join_flat :
    (∀ k ∈ KernelPaths.joinFlatPaths, lookupPaths k.1 = some k) ∧
    KernelPaths.joinFlatPaths.map (·.1) = KernelSites.joinFlatSites.map (·.1) :=
  ⟨lookupPaths_of_family .joinFlat rfl, rfl⟩

example : KernelSites.joinFlatSites.length = 9 := by decide +kernel

/-- `generate_ordered_map_to_left_right_unique`: sorted left keys, duplicate-free right keys, `result` of the left length -/
theorem no_oob_left_right_unique_flat {L R : List Int} (result : List Int) (inv : Int) (hL : Sorted L)
    (hR : R.Pairwise (· < ·)) (hres : result.length = L.length) (site : String) :
    generateLeft false L R result inv ≠ .error (.oob site) := by
  obtain ⟨u, h⟩ := C19.left_right_unique_flat_eq result inv hL hR hres
  exact ne_oob_of_ok h site

/-- `generate_ordered_map_to_left_both_unique` -/
theorem no_oob_left_both_unique_flat {L R : List Int} (result : List Int) (inv : Int) (hL : L.Pairwise (· < ·))
    (hR : R.Pairwise (· < ·)) (hres : result.length = L.length) (site : String) :
    generateLeft true L R result inv ≠ .error (.oob site) := by
  obtain ⟨u, h⟩ := C19.left_both_unique_flat_eq result inv hL hR hres
  exact ne_oob_of_ok h site

/-- `ordered_inner_map` on sorted keys and result arrays with room for the relational inner join — the size that
    `ordered_inner_map_result_size` returns (`C19.inner_result_size_eq`): never overrun, whatever the duplication -/
theorem no_oob_inner_map_flat {L R : List Int} (l2i r2i : List Int) (hL : Sorted L) (hR : Sorted R)
    (hl : (innerJoin L R).length ≤ l2i.length) (hr : (innerJoin L R).length ≤ r2i.length) (site : String) :
    orderedInnerMap true true L R l2i r2i ≠ .error (.oob site) :=
  ne_oob_of_ok (C19.inner_map_flat_eq l2i r2i hL hR hl hr) site

/-- `ordered_inner_map_left_unique` -/
theorem no_oob_inner_map_left_unique_flat {L R : List Int} (l2i r2i : List Int) (hL : L.Pairwise (· < ·)) (hR : Sorted R)
    (hl : (innerJoin L R).length ≤ l2i.length) (hr : (innerJoin L R).length ≤ r2i.length) (site : String) :
    orderedInnerMap false true L R l2i r2i ≠ .error (.oob site) :=
  ne_oob_of_ok (C19.inner_map_left_unique_flat_eq l2i r2i hL hR hl hr) site

/-- `ordered_inner_map_both_unique` -/
theorem no_oob_inner_map_both_unique_flat {L R : List Int} (l2i r2i : List Int) (hL : L.Pairwise (· < ·))
    (hR : R.Pairwise (· < ·)) (hl : (innerJoin L R).length ≤ l2i.length) (hr : (innerJoin L R).length ≤ r2i.length)
    (site : String) : orderedInnerMap false false L R l2i r2i ≠ .error (.oob site) :=
  ne_oob_of_ok (C19.inner_map_both_unique_flat_eq l2i r2i hL hR hl hr) site

/-- `ordered_inner_map_result_size` on sorted keys -/
theorem no_oob_inner_result_size {L R : List Int} (hL : Sorted L) (hR : Sorted R) (site : String) :
    innerResultSize L R ≠ .error (.oob site) :=
  ne_oob_of_ok (C19.inner_result_size_eq hL hR) site

/-- the four uniqueness-flag combinations of `Session.ordered_merge_inner`'s map computation (size kernel, allocation,
    one of the three map kernels) -/
theorem no_oob_inner_maps (lu ru : Bool) {L R : List Int} (hL : Sorted L) (hR : Sorted R)
    (hlu : lu = true → L.Pairwise (· < ·)) (hru : ru = true → R.Pairwise (· < ·)) (site : String) :
    innerMaps lu ru L R ≠ .error (.oob site) :=
  ne_oob_of_ok (C19.inner_lists_exactly_pairs lu ru hL hR hlu hru) site

/-- `generate_ordered_map_to_left_right_unique_streamed_old` (driver + `…_partial_old` kernel, re-slicing views over
    `chunks`): sorted left keys, duplicate-free right keys, every chunk size ≥ 1 — the chunk-sized scratch array
    `ltri` (the kernel's `left_to_right`) is never overrun -/
theorem no_oob_streamed_old_left_map {L R : List Int} (inv : Int) {cs : Nat} (hcs : 1 ≤ cs) (hL : Sorted L)
    (hR : R.Pairwise (· < ·)) (site : String) : streamedOld L R inv cs ≠ .error (.oob site) := by
  obtain ⟨u, u', h, _⟩ := C19.streamed_old_left_map_eq_flat inv hcs hL hR
  exact ne_oob_of_ok h site

/-- `ordered_map_valid_stream_old` (driver + `ordered_map_valid_partial_old` kernel): every in-range map whose valid
    entries do not decrease, a marker that is not a row number of the source, every chunk size ≥ 1 -/
theorem no_oob_streamed_old_map_valid (xs : List Int) (m : List Int) (inv : Int) {cs : Nat} (hcs : 1 ≤ cs)
    (hr : InRange xs.length m inv) (hmono : ValidMonotone m inv) (hinv : inv < 0 ∨ (xs.length : Int) ≤ inv)
    (site : String) : mapValidStreamOld xs m inv cs 0 ≠ .error (.oob site) :=
  ne_oob_of_exists (C19.streamed_old_map_valid_eq_flat xs m inv hcs hr hmono hinv).2 site

/-- `Session.ordered_merge_left` in every covered form of the call (`FormOK`: no sinks, Field sinks, zero-initialised
    ndarray sinks of the left length; streamed — all Fields and a map field — for every chunk size ≥ 1 when
    `len(right) ≤ INVALID_INDEX`): flat or streamed left-map kernel, then `map_valid` / the streamed mapper per payload -/
theorem no_oob_ordered_merge_left (lu : Bool) {L R : List Int} (xss : List (List Int))
    (hL : Sorted L) (hR : R.Pairwise (· < ·)) (hlu : lu = true → L.Pairwise (· < ·))
    (hne : xss ≠ []) (hlen : ∀ xs ∈ xss, xs.length = R.length) (cs : Nat) (c : Cfg)
    (hf : FormOK cs c L.length xss.length R.length) (site : String) :
    orderedMergeLeft cs c lu true L R (xss.map .numeric) ≠ .error (.oob site) := by
  obtain ⟨cols, _, h⟩ := orderedMergeLeft_any lu xss hL hR hlu hne hlen
  obtain ⟨o, ho, _⟩ := h cs c hf
  exact ne_oob_of_ok ho site

/-- `Session.ordered_merge_right`: the same with the sides swapped -/
theorem no_oob_ordered_merge_right (ru : Bool) {L R : List Int} (xss : List (List Int))
    (hL : L.Pairwise (· < ·)) (hR : Sorted R) (hru : ru = true → R.Pairwise (· < ·))
    (hne : xss ≠ []) (hlen : ∀ xs ∈ xss, xs.length = L.length) (cs : Nat) (c : Cfg)
    (hf : FormOK cs c R.length xss.length L.length) (site : String) :
    orderedMergeRight cs c true ru L R (xss.map .numeric) ≠ .error (.oob site) := by
  obtain ⟨o₁, o₂, h, _⟩ := C19.forms_agree_right cs cs c c ru xss hf hf hL hR hru hne hlen
  exact ne_oob_of_ok h site

/-- `Session.join`: one value per run of the foreign key, keys row numbers of the destination (or markers), one run per
    key — the scatter into the destination stays in range -/
theorem no_oob_session_join (destLen : Nat) (fkey values : List Int) (hlen : (runKeys fkey).length = values.length)
    (hnd : (runKeys fkey).Nodup) (hr : ∀ k ∈ fkey, k < INVALID_INDEX → 0 ≤ k ∧ k < destLen) (site : String) :
    JoinOld.join destLen fkey values ≠ .error (.oob site) :=
  ne_oob_of_exists (C19.join_correct destLen fkey values hlen hnd hr) site

example : FormOK 2 ⟨true, true, .fields, true⟩ 8 1 5 ∧ streamable ⟨true, true, .fields, true⟩ = true := by
  refine ⟨⟨Or.inr (Or.inl rfl), fun _ => ⟨by decide, by decide⟩⟩, rfl⟩
example : streamedOld [1, 2, 2, 3, 5, 5, 6, 9] [2, 3, 4, 5, 9] (-1) 1 =
    .ok (true, encR (-1) (leftJoin [1, 2, 2, 3, 5, 5, 6, 9] [2, 3, 4, 5, 9])) := by decide +kernel
example : Sorted [1, 2, 2, 3, 5, 5, 6, 9] ∧ ([2, 3, 4, 5, 9] : List Int).Pairwise (· < ·) := by simp [Sorted]
example : generateLeft false [1, 2, 2, 3, 5, 5, 6, 9] [2, 3, 4, 5, 9] (List.replicate 8 0) (-1) =
    .ok (true, encR (-1) (leftJoin [1, 2, 2, 3, 5, 5, 6, 9] [2, 3, 4, 5, 9])) := by decide +kernel
/-- the error branch is real: result arrays with room for 5 of the 6 joined rows -/
example : orderedInnerMap true true [1, 1, 2, 4, 4, 5] [1, 2, 2, 4, 6] (List.replicate 5 0) (List.replicate 6 0) =
    .error (.oob "left_to_inner[cur_m]") := by decide +kernel

end Exetera.Props.C10
