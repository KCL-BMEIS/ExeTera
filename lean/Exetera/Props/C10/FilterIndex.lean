import Exetera.Props.C09
import Exetera.Props.C10.Basic
import Exetera.Model.KernelSitesFilterIndex
import Exetera.Model.KernelPathsFilterIndex
/-!
# C10 — the filter / re-index kernels of indexed strings (owning property: C09)

The plain-array paths of `apply_filter` / `apply_index` / `sort_values` are numpy indexing (`data[filter]`, `data[index]`):
their bounds are numpy's (trusted base); `np.argsort`-based `dataset_sort_index` has no compiled kernel.
-/
namespace Exetera.Props.C10
open Exetera Exetera.FilterIndex Exetera.Spec

theorem access_sites_covered_filter_index : ∀ k ∈ KernelSites.filterIndexSites, lookup k.1 = some k :=
  lookup_of_family .filterIndex rfl

/-- the PATH CONDITION of every subscript occurrence in these kernels (enclosing loop guards, `if` / `elif` tests, negated
    `else` branches and early exits), as regenerated from the current source (`Gen/KernelPaths.lean`), is exactly the one the
    model was written against (`Model/KernelPathsFilterIndex.lean`): dropping or changing a test that dominates a subscript breaks
    the build; and the table covers exactly the kernels of the site table -/
theorem access_paths_covered_filter_index :
    (∀ k ∈ KernelPaths.filterIndexPaths, lookupPaths k.1 = some k) ∧
    KernelPaths.filterIndexPaths.map (·.1) = KernelSites.filterIndexSites.map (·.1) :=
  ⟨lookupPaths_of_family .filterIndex rfl, rfl⟩

example : KernelSites.filterIndexSites.length = 2 := by decide +kernel

/-- `apply_filter_to_index_values` (as found and as repaired) on the stored form of any column of byte strings and a
    filter with one entry per row: no out-of-bounds access in either pass; the exactly-sized destination buffers are
    never overrun whatever the number of rows kept -/
theorem no_oob_apply_filter_to_index_values (v : Variant) (es : List (List Nat)) (flt : List Bool)
    (h : flt.length = es.length) (site : String) :
    applyFilterToIndexValues v flt (offsetsF es) es.flatten ≠ .error (.oob site) :=
  ne_oob_of_ok (C09.filter_indexed_eq v es flt h) site

example : applyFilterToIndexValues .repaired [true, false, true] (offsetsF [[1], [2, 2], [3]]) [1, 2, 2, 3]
    = .ok ([0, 1, 2], [1, 3]) := by rfl

/-- D8 as repaired: a filter of any other length is refused before any subscript is evaluated — the refusal IS the
    model's `.oob`, so the hypothesis of the theorem above is exactly the domain on which no `.oob` occurs -/
theorem apply_filter_oob_of_length_mismatch (flt : List Bool) (indices values : List Nat)
    (h : flt.length ≠ indices.length - 1) :
    ∃ site, applyFilterToIndexValues .repaired flt indices values = .error (.oob site) :=
  ⟨_, C09.filter_indexed_length_mismatch flt indices values h⟩

/-- `apply_indices_to_index_values` on the stored form of any column and subscripts that all address a row
    (`-len ≤ i < len`): no out-of-bounds access -/
theorem no_oob_apply_indices_to_index_values (v : Variant) (es : List (List Nat)) (idx : List Int) (rows : List (List Nat))
    (h : gather es idx = some rows) (site : String) :
    applyIndicesToIndexValues v idx (offsetsF es) es.flatten ≠ .error (.oob site) :=
  ne_oob_of_ok (C09.index_indexed_eq v es idx rows h) site

/-- …and exactly then (NC09b as repaired): the repaired kernel ends in an `.oob` iff some subscript addresses no row -/
theorem apply_indices_oob_iff (es : List (List Nat)) (idx : List Int) :
    (∃ site, applyIndicesToIndexValues .repaired idx (offsetsF es) es.flatten = .error (.oob site)) ↔
      gather es idx = none := by
  constructor
  · rintro ⟨site, h⟩
    cases hg : gather es idx with
    | none => rfl
    | some rows => exact absurd h (no_oob_apply_indices_to_index_values .repaired es idx rows hg site)
  · exact C09.index_indexed_out_of_range es idx

example : gather [[1], [2, 2], [3]] [2, -3, 1] = some [[3], [1], [2, 2]] := by decide +kernel
example : applyIndicesToIndexValues .repaired [2, -3, 1] (offsetsF [[1], [2, 2], [3]]) [1, 2, 2, 3]
    = .ok ([0, 1, 2, 4], [3, 1, 2, 2]) := by rfl
example : gather [[1], [2, 2], [3]] [3] = none := by decide +kernel

/-- field level (`FieldDataOps.apply_filter_to_field` / `…_to_indexed_field`, any field kind): a filter of the column's
    length never makes the repaired code index out of bounds -/
theorem no_oob_filter_payload (p : Payload) (c c' : Column) (bs : List Bool) (h : Encodes p c)
    (hf : c.filter bs = some c') (site : String) : filterPayload .repaired bs p ≠ .error (.oob site) :=
  ne_oob_of_exists ((C09.filter_payload_spec p c bs h).1 c' hf) site

theorem no_oob_index_payload (p : Payload) (c c' : Column) (idx : List Int) (h : Encodes p c)
    (hg : c.gather idx = some c') (site : String) : indexPayload .repaired idx p ≠ .error (.oob site) :=
  ne_oob_of_exists ((C09.index_payload_spec p c idx h).1 c' hg) site

end Exetera.Props.C10
