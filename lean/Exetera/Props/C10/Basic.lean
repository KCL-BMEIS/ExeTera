import Exetera.Model.Basic
import Exetera.Gen.KernelShape
import Exetera.Gen.KernelPaths
import Exetera.Lemmas.NoOob
/-! C10 — shared vocabulary of the per-family files: the look-ups into the regenerated kernel tables (`Gen.kernelShape`: loop
    guards and subscripts; `Gen.kernelPaths`: the path condition of every subscript occurrence), and how the model's tables
    are compared with them.

    Deciding an equality of strings in the kernel means UTF-8-encoding both literals, which is slow (worse than linear in their
    length), whereas two literals are recognised as the same term at once. So, apart from the subscripts that `eraseDups` has
    to compare in `kernel_paths_sites_match_shape`, the only strings evaluated are the kernel names, once, to see that they
    are distinct (`shape_names_nodup`). `inventory` says which family models which kernel; a family's table is then the part
    of the regenerated table that `inventory` gives it, literally (`rfl`), and in a table with distinct names an entry is what
    its name looks up (`find?_key_eq_some`). -/
namespace Exetera.Props.C10
open Exetera

def lookup (name : String) : Option (String × List String × List String) :=
  Gen.kernelShape.find? (fun k => k.1 == name)

def lookupPaths (name : String) : Option (String × List (String × List String)) :=
  Gen.kernelPaths.find? (fun k => k.1 == name)

/-- the two regenerated tables speak about the same kernels, in the same order, and about the same subscripts: the sites
    that carry a path condition in `Gen.kernelPaths` are, kernel by kernel, exactly the subscripts of `Gen.kernelShape` (no
    subscript of the source is without a path condition, none is invented) -/
theorem kernel_paths_sites_match_shape :
    Gen.kernelPaths.map (fun k => (k.1, (k.2.map (·.1)).eraseDups)) = Gen.kernelShape.map (fun k => (k.1, k.2.2)) := by
  have names : Gen.kernelPaths.map (·.1) = Gen.kernelShape.map (·.1) := rfl
  -- `eraseDups` has to decide equalities between subscripts, so these strings are evaluated
  have sites : Gen.kernelPaths.map (fun k => (k.2.map (·.1)).eraseDups) = Gen.kernelShape.map (·.2.2) := by decide +kernel
  rw [← List.zip_map', ← List.zip_map', names, sites]

section tagged
variable {α : Type _} {τ : Type _} [DecidableEq τ]

def tagged (tags : List τ) (f : τ) (t : List α) : List α :=
  ((t.zip tags).filter (·.2 = f)).map (·.1)

theorem mem_of_mem_tagged {tags : List τ} {f : τ} {t : List α} {a : α} (h : a ∈ tagged tags f t) : a ∈ t := by
  obtain ⟨⟨a', g⟩, hz, rfl⟩ := List.mem_map.mp h
  exact (List.of_mem_zip (List.mem_filter.mp hz).1).1

theorem flatMap_filter_perm {σ : Type _} (tag : σ → τ) (zs : List σ) :
    ∀ {fs : List τ}, fs.Nodup → (fs.flatMap fun f => zs.filter (tag · = f)).Perm (zs.filter (tag · ∈ fs))
  | [], _ => by simp
  | f :: fs, h => by
    obtain ⟨hf, hfs⟩ := List.nodup_cons.mp h
    refine ((flatMap_filter_perm tag zs hfs).append_left _).trans ?_
    -- split `zs.filter (tag · ∈ f :: fs)` into the entries with key `f` and the others
    refine .trans (.of_eq ?_) (List.filter_append_perm (tag · = f) (zs.filter (tag · ∈ f :: fs)))
    rw [List.filter_filter, List.filter_filter]
    congr 1 <;> apply List.filter_congr <;> intro z _
    · by_cases hz : tag z = f <;> simp [hz]
    · by_cases hz : tag z = f <;> simp [hz, hf]

theorem flatMap_tagged_perm {fs tags : List τ} (hfs : fs.Nodup) (htags : ∀ g ∈ tags, g ∈ fs) {t : List α}
    (hlen : t.length ≤ tags.length) : (fs.flatMap (tagged tags · t)).Perm t := by
  have h := (flatMap_filter_perm Prod.snd (t.zip tags) hfs).map Prod.fst
  rw [List.map_flatMap, List.filter_eq_self.mpr, List.map_fst_zip hlen] at h
  · exact h
  · intro z hz; simpa using htags _ (List.of_mem_zip hz).2

end tagged

theorem find?_key_eq_some {β : Type _} {t : List (String × β)} (hnd : (t.map (·.1)).Nodup) {k : String × β} (hk : k ∈ t) :
    t.find? (fun e => e.1 == k.1) = some k := by
  induction t with
  | nil => cases hk
  | cons e t ih =>
    obtain ⟨he, hnd⟩ := List.nodup_cons.mp hnd
    rcases List.mem_cons.mp hk with rfl | hk
    · simp
    · have : e.1 ≠ k.1 := fun h => he (List.mem_map.mpr ⟨k, hk, h.symm⟩)
      rw [List.find?_cons_of_neg (by simpa using this)]
      exact ih hnd hk

/-- `notModelled`: the kernels of `KernelSites.notModelled` -/
inductive Family
  | join | mapValid | spans | filterIndex | unique | concat | journal | transforms | csv | joinFlat | groupBy | notModelled
  deriving DecidableEq

/-- kernel by kernel, in the order of the regenerated tables: the family whose tables `KernelSites.<family>Sites` and
    `KernelPaths.<family>Paths` list it -/
def inventory : List Family := [
  .joinFlat, .mapValid, .mapValid, .mapValid, .mapValid, .joinFlat, .mapValid, .mapValid, .mapValid,
  .filterIndex, .filterIndex,
  .spans, .spans, .spans, .groupBy, .spans, .spans, .spans, .spans, .spans, .spans, .spans, .spans, .spans, .spans, .spans,
  .spans, .spans, .spans, .spans, .spans,
  .concat,
  .join, .join, .join, .join, .join, .join, .joinFlat, .join, .join, .join, .join,
  .joinFlat, .joinFlat, .notModelled, .joinFlat, .notModelled, .joinFlat, .notModelled, .joinFlat, .joinFlat, .notModelled,
  .journal, .journal, .journal, .journal, .journal, .journal, .notModelled,
  .transforms, .transforms, .transforms, .transforms, .transforms,
  .unique, .unique, .unique,
  .csv]

/-- a string's bytes read as the digits of one number. Telling two names apart byte by byte walks both encodings; the kernel
    tells two numerals apart at once, so each name is encoded only once. -/
def nameKey (s : String) : Nat := s.toByteArray.data.toList.foldl (fun n b => n * 256 + b.toNat) 0

theorem shape_names_nodup : (Gen.kernelShape.map (·.1)).Nodup :=
  List.Pairwise.of_map nameKey (fun _ _ h e => h (congrArg nameKey e))
    (by decide +kernel : ((Gen.kernelShape.map (·.1)).map nameKey).Nodup)

theorem paths_names_nodup : (Gen.kernelPaths.map (·.1)).Nodup :=
  (rfl : Gen.kernelPaths.map (·.1) = Gen.kernelShape.map (·.1)) ▸ shape_names_nodup

theorem lookup_of_family (f : Family) {sites : List (String × List String × List String)}
    (h : sites = tagged inventory f Gen.kernelShape) : ∀ k ∈ sites, lookup k.1 = some k :=
  fun _ hk => find?_key_eq_some shape_names_nodup (mem_of_mem_tagged (h ▸ hk))

theorem lookupPaths_of_family (f : Family) {paths : List (String × List (String × List String))}
    (h : paths = tagged inventory f Gen.kernelPaths) : ∀ k ∈ paths, lookupPaths k.1 = some k :=
  fun _ hk => find?_key_eq_some paths_names_nodup (mem_of_mem_tagged (h ▸ hk))

/-- a checked write `xs[i] = v` is refused exactly when `i` is not below the array's length -/
theorem setE_oob_iff {α} (xs : List α) (i : Nat) (v : α) (site : String) :
    (∃ e, setE xs i v site = .error e) ↔ xs.length ≤ i :=
  ite_ok_error_iff.trans Nat.not_lt

/-- a checked read `xs[i]` is refused exactly when `i` is not below the array's length -/
theorem getE_oob_iff {α} (xs : List α) (i : Nat) (site : String) :
    (∃ e, getE xs i site = .error e) ↔ xs.length ≤ i := by
  rw [← List.getElem?_eq_none_iff]; unfold getE; cases xs[i]? <;> simp

end Exetera.Props.C10
