import Exetera.Props.C14
import Exetera.Props.C10.Basic
import Exetera.Model.KernelSitesUnique
import Exetera.Model.KernelPathsUnique
/-!
# C10 — the `isin` / `unique` kernels of indexed strings (owning property: C14)

`isin` / `unique` of every other field type delegate to numpy (`np.isin`, `np.unique`): their bounds are numpy's.
-/
namespace Exetera.Props.C10
open Exetera Exetera.Unique Exetera.Spec

theorem access_sites_covered_unique : ∀ k ∈ KernelSites.uniqueSites, lookup k.1 = some k :=
  lookup_of_family .unique rfl

/-- the PATH CONDITION of every subscript occurrence in these kernels (enclosing loop guards, `if` / `elif` tests, negated
    `else` branches and early exits), as regenerated from the current source (`Gen/KernelPaths.lean`), is exactly the one the
    model was written against (`Model/KernelPathsUnique.lean`): dropping or changing a test that dominates a subscript breaks
    the build; and the table covers exactly the kernels of the site table -/
theorem access_paths_covered_unique :
    (∀ k ∈ KernelPaths.uniquePaths, lookupPaths k.1 = some k) ∧
    KernelPaths.uniquePaths.map (·.1) = KernelSites.uniqueSites.map (·.1) :=
  ⟨lookupPaths_of_family .unique rfl, rfl⟩

example : KernelSites.uniqueSites.length = 3 := by decide +kernel

/-- `compare_arrays` on ANY two byte arrays -/
theorem no_oob_compare_arrays (a b : Bytes) (site : String) : compareArrays a b ≠ .error (.oob site) :=
  ne_oob_of_ok (C14.compare_arrays_is_lex a b) site

/-- the binary search of `isin_indexed_string_speedup` for ANY row value in a sorted test list (`mid` stays inside) -/
theorem no_oob_isin_row (tests : List Bytes) (v : Bytes) (hs : SortedLe tests) (site : String) :
    isinRow tests v ≠ .error (.oob site) :=
  ne_oob_of_ok (C14.binary_search_complete tests v hs) site

/-- the compiled kernel `isin_indexed_string_speedup` on the stored form of any column and any sorted test list -/
theorem no_oob_isin_speedup (tests col : List Bytes) (hs : SortedLe tests) (site : String) :
    isinSpeedup tests (encode col).1 (encode col).2 ≠ .error (.oob site) :=
  ne_oob_of_ok (isinSpeedup_encode tests col hs) site

/-- `IndexedStringField.isin` end to end (the entry point sorts the test elements itself): any column, any test list -/
theorem no_oob_isin (col : List Bytes) (ts : List (Option Bytes)) (site : String) :
    applyIsin refNpIsin id (.indexed (encode col).1 (encode col).2) (some ts) ≠ .error (.oob site) :=
  ne_oob_of_ok (C14.isin_eq_mem col ts) site

example : applyIsin refNpIsin id (.indexed (encode [[1], [2, 2], []]).1 (encode [[1], [2, 2], []]).2)
    (some [some [2, 2], none, some []]) = .ok [false, true, true] := by
  rw [C14.isin_eq_mem]; exact congrArg _ (by decide)

/-- the compiled kernel `get_indexed_string_unique` on the stored form of ANY column, every flag combination -/
theorem no_oob_get_indexed_string_unique (col : List Bytes) (ri rv rc : Bool) (site : String) :
    getIndexedStringUnique (encode col).1 (encode col).2 ri rv rc ≠ .error (.oob site) :=
  ne_oob_of_ok (C14.unique_kernel_discovery_order col ri rv rc) site

example : (getIndexedStringUnique (encode [[1], [2], [1]]).1 (encode [[1], [2], [1]]).2 true true true).toOption.map (·.counts)
    = some (some [2, 1]) := by rfl

/-- `IndexedStringField.unique` end to end (kernel + the re-ordering gathers of `unique_for_indexed_string`).
    `_partial`: the full statement has no `NoTrailingNul` hypothesis. It is the hypothesis of the owning theorem
    `C14.unique_eq_spec_partial` (open finding NC14a: numpy's `<U` sort drops trailing NUL characters, so the sorted
    order of such columns is not the specification's); that the three re-ordering gathers stay in range for columns
    WITH trailing NULs as well (the permutation is still a permutation of the discovery order) is not proved — such
    columns are covered by the differential runs only. -/
theorem no_oob_unique_partial (col : List Bytes) (hn : NoTrailingNul col) (ri rv rc : Bool) (site : String) :
    applyUnique (refNpUnique bytesLe) id (.indexed (encode col).1 (encode col).2) ri rv rc ≠ .error (.oob site) :=
  ne_oob_of_ok (C14.unique_eq_spec_partial col hn ri rv rc) site

example : NoTrailingNul [[1], [2, 2], [1]] := by
  simp [NoTrailingNul]

end Exetera.Props.C10
