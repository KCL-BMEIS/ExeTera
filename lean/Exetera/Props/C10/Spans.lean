import Exetera.Props.C08
import Exetera.Props.C10.Basic
import Exetera.Model.KernelSitesSpans
import Exetera.Model.KernelPathsSpans
/-!
# C10 — the span kernels (owning property: C08)

`no_oob_*`: for every input the owning C08 theorem calls valid (hypotheses repeated verbatim) and every site, the model run
is not `.error (.oob site)`. All statements are about the code with the `fix:` patches applied (`Variant.repaired`).
-/
namespace Exetera.Props.C10
open Exetera Exetera.Spans Exetera.Spec

theorem access_sites_covered_spans : ∀ k ∈ KernelSites.spansSites, lookup k.1 = some k :=
  lookup_of_family .spans rfl

/-- the PATH CONDITION of every subscript occurrence in these kernels (enclosing loop guards, `if` / `elif` tests, negated
    `else` branches and early exits), as regenerated from the current source (`Gen/KernelPaths.lean`), is exactly the one the
    model was written against (`Model/KernelPathsSpans.lean`): dropping or changing a test that dominates a subscript breaks
    the build; and the table covers exactly the kernels of the site table -/
theorem access_paths_covered_spans :
    (∀ k ∈ KernelPaths.spansPaths, lookupPaths k.1 = some k) ∧
    KernelPaths.spansPaths.map (·.1) = KernelSites.spansSites.map (·.1) :=
  ⟨lookupPaths_of_family .spans rfl, rfl⟩

example : KernelSites.spansSites.length = 19 := by decide +kernel

/-- `_get_spans_for_2_fields` / `_get_spans_for_2_fields_njit` on two columns of equal length (including length 0): the
    `len + 1`-sized span buffer is never overrun, whatever the number of boundaries -/
theorem no_oob_get_spans_2_fields (a b : List Int) (hl : a.length = b.length) (site : String) :
    getSpansFor2Fields .repaired a b ≠ .error (.oob site) :=
  ne_oob_of_ok (C08.get_spans_2_fields_eq_spec a b hl) site

/-- `_get_spans_for_multi_fields(_njit)` on ≥ 1 columns of equal length -/
theorem no_oob_get_spans_multi_fields (f0 : List Int) (fs : List (List Int))
    (hf : ∀ f ∈ f0 :: fs, f.length = f0.length) (site : String) :
    getSpansForMultiFields .repaired (f0 :: fs) ≠ .error (.oob site) :=
  ne_oob_of_ok (C08.get_spans_multi_fields_eq_spec f0 fs hf) site

/-- `_get_spans_for_index_string_field` on a well-formed index -/
theorem no_oob_get_spans_indexed (indices values : List Nat) (hv : ValidIndex indices values) (site : String) :
    getSpansForIndexStringField .repaired indices values ≠ .error (.oob site) :=
  ne_oob_of_ok (C08.get_spans_indexed_eq_spec indices values hv) site

/-- `_get_spans_for_2_fields_by_spans` on two well-formed span arrays over the same row count: the unbounded inner
    `while span1[j] < span0[i]` never runs past the end of `span1` -/
theorem no_oob_get_spans_by_spans (s0 s1 : List Nat) (n : Nat) (h0 : Wellformed s0 n) (h1 : Wellformed s1 n)
    (site : String) : getSpansFor2FieldsBySpans s0 s1 ≠ .error (.oob site) :=
  ne_oob_of_exists (C08.merge_spans_eq_union s0 s1 n h0 h1) site

example : Wellformed [0, 1, 3, 4] 4 ∧ Wellformed [0, 2, 4] 4 := ⟨⟨by decide, rfl, rfl⟩, ⟨by decide, rfl, rfl⟩⟩
example : getSpansFor2FieldsBySpans [0, 1, 3, 4] [0, 2, 4] = .ok [0, 1, 2, 3, 4] := rfl
/-- the error branch is real: span arrays over different row counts read `span1` past its end -/
example : getSpansFor2FieldsBySpans [0, 5] [0, 2] = .error (.oob "span1[j]") := rfl

/-- `Session.get_spans(fields=…)` for any number ≥ 1 of valid Fields of equal row count (with fix NC08d all fields are
    folded through `_get_spans_for_2_fields_by_spans`) -/
theorem no_oob_session_get_spans_fields (c0 : Column) (cs : List Column) (hv : ∀ c ∈ c0 :: cs, c.Valid)
    (hl : ∀ c ∈ cs, c.rows.length = c0.rows.length) (site : String) :
    sessionGetSpansFields .repaired (c0 :: cs) ≠ .error (.oob site) :=
  ne_oob_of_ok (C08.session_get_spans_fields_eq_spec c0 cs hv hl) site

/-- the same for ndarray arguments of equal length -/
theorem no_oob_session_get_spans_arrays (a0 : List Int) (as : List (List Int)) (hl : ∀ a ∈ as, a.length = a0.length)
    (site : String) : sessionGetSpansArrays .repaired (a0 :: as) ≠ .error (.oob site) :=
  ne_oob_of_ok (C08.session_get_spans_arrays_eq_spec a0 as hl) site

example : sessionGetSpansFields .repaired
    [.numeric [1, 1, 2, 2], .fixed [[97], [97], [98], [98]], .indexed [0, 1, 2, 3, 5] [120, 121, 121, 122, 122]] =
    .ok [0, 1, 2, 3, 4] := rfl

/-- the kernels that read only `spans`: no out-of-bounds access for ANY span array (an empty one is numpy's
    "negative dimensions" ValueError) -/
theorem no_oob_apply_spans_count (sp : List Nat) (site : String) : applySpansCount sp ≠ .error (.oob site) := by
  unfold applySpansCount forSpans
  split
  · intro h; cases h
  · exact ne_oob_of_ok (forPairs_total (fun c n => (n : Int) - c) sp) site

theorem no_oob_apply_spans_index_of_first (sp : List Nat) (site : String) :
    applySpansIndexOfFirst sp ≠ .error (.oob site) := by
  unfold applySpansIndexOfFirst forSpans
  split
  · intro h; cases h
  · exact ne_oob_of_ok (forPairs_total (fun c _ => (c : Int)) sp) site

theorem no_oob_apply_spans_index_of_last (sp : List Nat) (site : String) :
    applySpansIndexOfLast sp ≠ .error (.oob site) := by
  unfold applySpansIndexOfLast forSpans
  split
  · intro h; cases h
  · exact ne_oob_of_ok (forPairs_total (fun _ n => (n : Int) - 1) sp) site

example : applySpansCount [0, 2, 3] = .ok [2, 1] := rfl

/-- the kernels that read `src_array` through the spans: well-formed spans over the column's row count -/
theorem no_oob_apply_spans_first (sp : List Nat) (src : List Int) (h : Wellformed sp src.length) (site : String) :
    applySpansFirst sp src ≠ .error (.oob site) := ne_oob_of_exists (C08.apply_spans_first_eq sp src h) site

theorem no_oob_apply_spans_last (sp : List Nat) (src : List Int) (h : Wellformed sp src.length) (site : String) :
    applySpansLast sp src ≠ .error (.oob site) := ne_oob_of_exists (C08.apply_spans_last_eq sp src h) site

theorem no_oob_apply_spans_min (sp : List Nat) (src : List Int) (h : Wellformed sp src.length) (site : String) :
    applySpansMin sp src ≠ .error (.oob site) := ne_oob_of_exists (C08.apply_spans_min_eq sp src h) site

theorem no_oob_apply_spans_max (sp : List Nat) (src : List Int) (h : Wellformed sp src.length) (site : String) :
    applySpansMax sp src ≠ .error (.oob site) := ne_oob_of_exists (C08.apply_spans_max_eq sp src h) site

theorem no_oob_apply_spans_index_of_min (sp : List Nat) (src : List Int) (h : Wellformed sp src.length) (site : String) :
    applySpansIndexOfMin sp src ≠ .error (.oob site) := ne_oob_of_exists (C08.apply_spans_index_of_min_eq sp src h) site

theorem no_oob_apply_spans_index_of_max (sp : List Nat) (src : List Int) (h : Wellformed sp src.length) (site : String) :
    applySpansIndexOfMax sp src ≠ .error (.oob site) := ne_oob_of_exists (C08.apply_spans_index_of_max_eq sp src h) site

example : Wellformed [0, 2, 5] [3, 1, 4, 1, (5 : Int)].length := ⟨by decide, rfl, rfl⟩
example : applySpansMax [0, 2, 5] [3, 1, 4, 1, 5] = .ok [3, 5] := rfl
/-- the error branch is real: spans that end beyond the column -/
example : applySpansMax [0, 2, 6] [3, 1, 4, 1, 5] = .error (.oob "src_array[idx]") := rfl

/-- the indexed-string kernels: well-formed index, well-formed spans over its rows -/
theorem no_oob_apply_spans_index_of_min_indexed (sp indices values : List Nat) (hv : ValidIndex indices values)
    (h : Wellformed sp (indices.length - 1)) (site : String) :
    applySpansIndexOfMinIndexed .repaired sp indices values ≠ .error (.oob site) :=
  ne_oob_of_exists (C08.apply_spans_index_of_min_indexed_eq sp indices values hv h) site

theorem no_oob_apply_spans_index_of_max_indexed (sp indices values : List Nat) (hv : ValidIndex indices values)
    (h : Wellformed sp (indices.length - 1)) (site : String) :
    applySpansIndexOfMaxIndexed sp indices values ≠ .error (.oob site) :=
  ne_oob_of_exists (C08.apply_spans_index_of_max_indexed_eq sp indices values hv h) site

example : applySpansIndexOfMinIndexed .repaired [0, 4] [0, 1, 3, 4, 5] [98, 97, 98, 97, 97] = .ok [2] := rfl

/-! ## the `_filter` forms write into caller-supplied buffers -/

/-- `apply_spans_index_of_min_filter` / `…_max_filter`: spans (possibly empty ones) inside the column, one slot per span
    in both buffers -/
theorem no_oob_apply_spans_index_of_min_filter (sp : List Nat) (src dest : List Int) (filt : List Bool)
    (hw : C08.WeakSpans sp src.length) (hd : (pairs sp).length ≤ dest.length) (hf : (pairs sp).length ≤ filt.length)
    (site : String) : applySpansIndexOfMinFilter sp src dest filt ≠ .error (.oob site) := by
  obtain ⟨d, f, h, _⟩ := C08.apply_spans_index_of_min_filter_eq sp src dest filt hw hd hf
  exact ne_oob_of_ok h site

theorem no_oob_apply_spans_index_of_max_filter (sp : List Nat) (src dest : List Int) (filt : List Bool)
    (hw : C08.WeakSpans sp src.length) (hd : (pairs sp).length ≤ dest.length) (hf : (pairs sp).length ≤ filt.length)
    (site : String) : applySpansIndexOfMaxFilter sp src dest filt ≠ .error (.oob site) := by
  obtain ⟨d, f, h, _⟩ := C08.apply_spans_index_of_max_filter_eq sp src dest filt hw hd hf
  exact ne_oob_of_ok h site

/-- `apply_spans_index_of_first_filter` / `…_last_filter`: ANY span array, one slot per span in both buffers -/
theorem no_oob_apply_spans_index_of_first_filter (sp : List Nat) (dest : List Int) (filt : List Bool)
    (hd : (pairs sp).length ≤ dest.length) (hf : (pairs sp).length ≤ filt.length) (site : String) :
    applySpansIndexOfFirstFilter sp dest filt ≠ .error (.oob site) := by
  obtain ⟨d, f, h, _⟩ := C08.apply_spans_index_of_first_filter_eq sp dest filt hd hf
  exact ne_oob_of_ok h site

theorem no_oob_apply_spans_index_of_last_filter (sp : List Nat) (dest : List Int) (filt : List Bool)
    (hd : (pairs sp).length ≤ dest.length) (hf : (pairs sp).length ≤ filt.length) (site : String) :
    applySpansIndexOfLastFilter sp dest filt ≠ .error (.oob site) := by
  obtain ⟨d, f, h, _⟩ := C08.apply_spans_index_of_last_filter_eq sp dest filt hd hf
  exact ne_oob_of_ok h site

example : applySpansIndexOfMinFilter [0, 0, 2, 3] [5, 4, 9] [7, 7, 7] [false, false, false] =
    .ok ([7, 1, 2], [false, true, true]) := rfl
/-- the error branch is real: a filter buffer with fewer slots than spans -/
example : applySpansIndexOfFirstFilter [0, 1, 2] [7, 7] [false] = .error (.oob "filter_array[i]") := rfl

end Exetera.Props.C10
