import Exetera.Props.C07
import Exetera.Props.C10.Basic
import Exetera.Model.KernelSitesGroupBy
import Exetera.Model.KernelPathsGroupBy
/-!
# C10 — group-by: `check_if_sorted_for_multi_fields` and the kernel pipeline of `DataFrame.groupby` (owning property: C07)
-/
namespace Exetera.Props.C10
open Exetera Exetera.GroupBy Exetera.Spec Exetera.Spans

theorem access_sites_covered_group_by : ∀ k ∈ KernelSites.groupBySites, lookup k.1 = some k :=
  lookup_of_family .groupBy rfl

/-- the PATH CONDITION of every subscript occurrence in these kernels (enclosing loop guards, `if` / `elif` tests, negated
    `else` branches and early exits), as regenerated from the current source (`Gen/KernelPaths.lean`), is exactly the one the
    model was written against (`Model/KernelPathsGroupBy.lean`): dropping or changing a test that dominates a subscript breaks
    the build; and the table covers exactly the kernels of the site table -/
theorem access_paths_covered_group_by :
    (∀ k ∈ KernelPaths.groupByPaths, lookupPaths k.1 = some k) ∧
    KernelPaths.groupByPaths.map (·.1) = KernelSites.groupBySites.map (·.1) :=
  ⟨lookupPaths_of_family .groupBy rfl, rfl⟩

example : KernelSites.groupBySites.length = 1 := by decide +kernel

/-- `check_if_sorted_for_multi_fields` on ≥ 1 stacked key columns of equal length -/
theorem no_oob_check_if_sorted (f0 : List Int) (fs : List (List Int)) (n : Nat) (h : Rect n (f0 :: fs)) (site : String) :
    checkIfSorted (f0 :: fs) ≠ .error (.oob site) :=
  ne_oob_of_exists (checkIfSorted_spec f0 fs n h) site

example : Rect 3 [[1, 1, 2], [5, 4, 4]] := by intro c hc; simp at hc; rcases hc with rfl | rfl <;> rfl
example : checkIfSorted [[1, 1, 2], [5, 4, 4]] = .ok false := rfl
/-- the error branch is real: a ragged key array -/
example : checkIfSorted [[1, 1, 1], [4, 4]] = .error (.oob "fields_data[j, i]") := rfl

/-- the whole kernel pipeline of `df.groupby(by, hint).min|max|first|last(target)` — sortedness check, span detection,
    re-indexing, `apply_spans_*` — on a numeric / fixed-string target. `_partial` as its owner
    `C07.groupby_eq_spec_partial`: `Faithful keys` are the keys on which the code as found is right as well (finding D20:
    mixed-dtype compound keys are promoted by the stacking cast); with fix D20 (`.repaired`) the hypothesis is not used. -/
theorem no_oob_groupby_agg_partial (agg : Agg) (keys : List KeyCol) (hint : Bool) (target : List Int) (n : Nat)
    (hframe : C07.Frame keys n) (htarget : target.length = n) (hcast : Faithful keys)
    (hhint : hint = true → RowsSorted (keyRows n (C07.cols keys))) (site : String) :
    groupbyAgg .repaired agg keys hint [.plain target] ≠ .error (.oob site) := by
  obtain ⟨kc, vals, ok, h, _⟩ := C07.groupby_eq_spec_partial agg keys hint target n hframe htarget hcast hhint
  exact ne_oob_of_ok h site

/-- the same for an indexed-string target (`apply_spans_index_of_first` / `_last` / `_min_indexed` / `_max_indexed` +
    `apply_indices_to_index_values`) -/
theorem no_oob_groupby_indexed_partial (agg : Agg) (keys : List KeyCol) (hint : Bool) (indices values : List Nat) (n : Nat)
    (hframe : C07.Frame keys n) (hindex : ValidIndex indices values) (hrows : indices.length = n + 1)
    (hcast : Faithful keys) (hhint : hint = true → RowsSorted (keyRows n (C07.cols keys))) (site : String) :
    groupbyAgg .repaired agg keys hint [.indexed indices values] ≠ .error (.oob site) := by
  obtain ⟨kc, out, ok, h, _⟩ :=
    C07.groupby_indexed_eq_spec_partial agg keys hint indices values n hframe hindex hrows hcast hhint
  exact ne_oob_of_ok h site

/-- `df.groupby(by, hint).count()` (`apply_spans_count`) and `.distinct()` / `drop_duplicates` -/
theorem no_oob_groupby_count_partial (keys : List KeyCol) (hint : Bool) (n : Nat) (hframe : C07.Frame keys n)
    (hcast : Faithful keys) (hhint : hint = true → RowsSorted (keyRows n (C07.cols keys))) (site : String) :
    groupbyCount .repaired keys hint ≠ .error (.oob site) := by
  obtain ⟨kc, counts, ok, h, _⟩ := C07.groupby_count_eq_spec_partial keys hint n hframe hcast hhint
  exact ne_oob_of_ok h site

theorem no_oob_groupby_distinct_partial (keys : List KeyCol) (hint : Bool) (n : Nat) (hframe : C07.Frame keys n)
    (hcast : Faithful keys) (hhint : hint = true → RowsSorted (keyRows n (C07.cols keys))) (site : String) :
    groupbyDistinct .repaired keys hint ≠ .error (.oob site) := by
  obtain ⟨kc, ok, h, _⟩ := C07.drop_duplicates_eq_spec_partial keys hint n hframe hcast hhint
  exact ne_oob_of_ok h site

example : C07.Frame [⟨id, [1, 0, 1, 0, 1]⟩, ⟨id, [5, 7, 5, 7, 3]⟩] 5 ∧ Faithful [⟨id, [1, 0, 1, 0, 1]⟩, ⟨id, [5, 7, 5, 7, 3]⟩] :=
  ⟨⟨by simp, by simp⟩, C07.same_dtype_faithful (by simp [C07.SameDtype])⟩

end Exetera.Props.C10
