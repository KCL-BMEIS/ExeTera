import Exetera.Props.C17
import Exetera.Props.C10.Basic
import Exetera.Model.KernelSitesJournal
import Exetera.Model.KernelPathsJournal
/-!
# C10 — the journalling kernels (owning property: C17)
-/
namespace Exetera.Props.C10
open Exetera Exetera.Journal Exetera.Spec.Journal

theorem access_sites_covered_journal : ∀ k ∈ KernelSites.journalSites, lookup k.1 = some k :=
  lookup_of_family .journal rfl

/-- the PATH CONDITION of every subscript occurrence in these kernels (enclosing loop guards, `if` / `elif` tests, negated
    `else` branches and early exits), as regenerated from the current source (`Gen/KernelPaths.lean`), is exactly the one the
    model was written against (`Model/KernelPathsJournal.lean`): dropping or changing a test that dominates a subscript breaks
    the build; and the table covers exactly the kernels of the site table -/
theorem access_paths_covered_journal :
    (∀ k ∈ KernelPaths.journalPaths, lookupPaths k.1 = some k) ∧
    KernelPaths.journalPaths.map (·.1) = KernelSites.journalSites.map (·.1) :=
  ⟨lookupPaths_of_family .journal rfl, rfl⟩

example : KernelSites.journalSites.length = 6 := by decide +kernel

/-- `ordered_generate_journalling_indices` on EVERY pair of key columns (no sortedness, no uniqueness): the writing pass
    takes exactly the steps of the counting pass, so `joint < total` at every write into the two exactly-sized result
    arrays, whatever the ratio of matched to unmatched keys -/
theorem no_oob_journal_indices (old new : List Int) (site : String) : journalIndices old new ≠ .error (.oob site) := by
  obtain ⟨om, nm, h, _⟩ := C17.journal_indices_safe old new
  exact ne_oob_of_ok h site

example : journalIndices [3, 1, 1, 3, 3] [2, 2, 0] = .ok ([-1, -1, -1, 0, 2, 4], [0, 1, 2, -1, -1, -1]) := by rfl

/-- `compare_rows_for_journalling` / `compare_indexed_rows_for_journalling` over all compared fields (≥ 1, each with one
    cell per row of each table), run on the maps of `ordered_generate_journalling_indices` -/
theorem no_oob_journal_compare (ok nk : List Int) (cols : List Col) (hne : cols ≠ [])
    (hwf : ∀ c, c ∈ cols → c.WF ok.length nk.length) (site : String) :
    compareCols (indices ok nk).1 (indices ok nk).2 (cols.map Col.enc) (List.replicate (indices ok nk).1.length false)
      ≠ .error (.oob site) :=
  ne_oob_of_ok (C17.to_keep_iff_new_or_differs ok nk cols hne hwf) site

/-- `merge_journalled_entries` (numeric field), `merge_indexed_journalled_entries_count` + `merge_indexed_journalled_entries`
    (indexed field) on ascending old keys, strictly ascending snapshot keys, the specified maps and flags (for ANY row
    comparison `d`) and the destination sizes `journal_table` allocates: the destination arrays are never overrun -/
theorem no_oob_journal_merge {ok nk : List Int} (hso : ok.Pairwise (· ≤ ·)) (hsn : nk.Pairwise (· < ·))
    (d : Nat → Nat → Bool) (c : Col) (hwf : c.WF ok.length nk.length) (site : String) :
    mergeCol (indices ok nk).1 (indices ok nk).2 (toKeep ok nk d) (ok.length + (toKeep ok nk d).count true) c.enc
      ≠ .error (.oob site) :=
  ne_oob_of_ok (C17.merge_eq_spec hso hsn d c hwf) site

example : mergeCol [1, 2, -1] [0, -1, 1] [true, false, true] 5 (Col.str [[1], [2], []] [[3], [4]]).enc =
    .ok (.str [0, 1, 2, 3, 3, 4] [1, 2, 3, 4]) := by rfl
/-- the error branch is real: a destination one slot short -/
example : mergeCol [1, 2, -1] [0, -1, 1] [true, false, true] 4 (Col.num [7, 7, 9] [7, 5]).enc
    = .error (.oob "dest[cur_dest]") := by rfl

/-- all kernels in sequence, as `journal_table` runs them after its two sorts -/
theorem no_oob_journal_sorted {ok nk : List Int} (hso : ok.Pairwise (· ≤ ·)) (hsn : nk.Pairwise (· < ·)) (cols : List Col)
    (hwf : ∀ c, c ∈ cols → c.WF ok.length nk.length) (site : String) :
    journalSorted ok nk (cols.map Col.enc) ok.length ≠ .error (.oob site) :=
  ne_oob_of_ok (C17.rows_aligned hso hsn cols hwf) site

/-- `journal_table` end to end on tables in ANY physical order: one `j_valid_from` per old row, unique snapshot keys, one
    cell per row in every compared field -/
theorem no_oob_journal_table {oldIds oldVf newIds : List Int} {cols : List Col}
    (hvf : oldVf.length = oldIds.length) (hu : newIds.Nodup) (hwf : ∀ c, c ∈ cols → c.WF oldIds.length newIds.length)
    (site : String) : journalTable oldIds oldVf newIds cols ≠ .error (.oob site) :=
  ne_oob_of_ok (C17.journal_table_eq hvf hu hwf) site

example : journalTable [2, 1, 1] [1, 2, 1] [3, 1] [.num [20, 12, 11] [30, 12], .str [[5], [6, 7], []] [[8], [6]]] =
    .ok [.num [11, 12, 12, 20, 30], .str [0, 0, 2, 3, 4, 5] [6, 7, 6, 5, 8]] := by rfl

end Exetera.Props.C10
