import Exetera.Props.C16
import Exetera.Props.C10.Basic
import Exetera.Model.KernelSitesConcat
import Exetera.Model.KernelPathsConcat
import Exetera.Lemmas.NoOobConcat
/-!
# C10 — span concatenation: `_apply_spans_concat_2` and its batch driver (owning property: C16)
-/
namespace Exetera.Props.C10
open Exetera Exetera.Concat Exetera.Spec.CsvLine

variable {α : Type} [DecidableEq α]

theorem access_sites_covered_concat : ∀ k ∈ KernelSites.concatSites, lookup k.1 = some k :=
  lookup_of_family .concat rfl

/-- the PATH CONDITION of every subscript occurrence in these kernels (enclosing loop guards, `if` / `elif` tests, negated
    `else` branches and early exits), as regenerated from the current source (`Gen/KernelPaths.lean`), is exactly the one the
    model was written against (`Model/KernelPathsConcat.lean`): dropping or changing a test that dominates a subscript breaks
    the build; and the table covers exactly the kernels of the site table -/
theorem access_paths_covered_concat :
    (∀ k ∈ KernelPaths.concatPaths, lookupPaths k.1 = some k) ∧
    KernelPaths.concatPaths.map (·.1) = KernelSites.concatSites.map (·.1) :=
  ⟨lookupPaths_of_family .concat rfl, rfl⟩

example : KernelSites.concatSites.length = 1 := by decide +kernel

/-- `Session.apply_spans_concat` (repaired: D25, NC16a, NC16b) on the stored form of ANY column, any list of span
    boundaries inside the column, every `src_chunksize ≥ 1` and EVERY `dest_chunksize`, `chunksize_mult` (0 included):
    no out-of-bounds access at any site of the kernel or the driver. In particular the index buffer (`src_chunksize + 1`
    slots) and the value buffer (sized by the chunk parameters, grown to twice the longest span bound) are never
    overrun, whatever the ratio of output bytes to buffer size. -/
theorem no_oob_apply_spans_concat (sep delim : α) (entries : List (List α)) (spans : List Nat)
    (srcChunk destChunk mult : Nat) (hbound : ∀ p ∈ spans, p ≤ entries.length) (hsc : 1 ≤ srcChunk) (site : String) :
    applySpansConcat .repaired sep delim spans (offsets entries) entries.flatten srcChunk destChunk mult
      ≠ .error (.oob site) :=
  ne_oob_of_ok (C16.concat_eq_spec sep delim entries spans srcChunk destChunk mult hbound hsc) site

example : (∀ p ∈ [0, 1, 2, 4, 5], p ≤ C16.exEntries.length) ∧
    (applySpansConcat .repaired (44 : Nat) 34 [0, 1, 2, 4, 5] (offsets C16.exEntries) C16.exEntries.flatten 2 0 0).toOption.isSome := by
  decide

/-- the batch loop alone with a caller-chosen value buffer that has room (the hypotheses of `C16.batches_eq_spec_room`) -/
theorem no_oob_concat_batches (sep delim : α) (entries : List (List α)) (spans : List Nat) (srcChunk valueCap : Nat)
    (hbound : ∀ p ∈ spans, p ≤ entries.length) (hsc : 1 ≤ srcChunk) (M : Nat)
    (hM : ∀ o ∈ concatSpec sep delim entries spans, o.length ≤ M)
    (hMV : M ≤ valueCap) (hV : valueCap / 2 - 1 + M ≤ valueCap) (site : String) :
    runBatches .repaired sep delim spans (offsets entries) entries.flatten srcChunk valueCap ≠ .error (.oob site) :=
  ne_oob_of_exists (C16.batches_eq_spec_room sep delim entries spans srcChunk valueCap hbound hsc M hM hMV hV) site

/-- one call of the compiled kernel under the hypotheses of `C16.kernel_eq_spec` (limits within the buffers, room for
    one more span output once the value limit has not been reached) -/
theorem no_oob_concat_kernel (P : Params α) (entries : List (List α))
    (hidx : P.idx = offsets entries) (hvals : P.vals = entries.flatten) (hbound : ∀ p ∈ P.spans, p ≤ entries.length)
    (M : Nat) (hM : ∀ o ∈ concatSpec P.sep P.delim entries P.spans, o.length ≤ M)
    (hI : P.maxI ≤ P.capI) (hMV : M ≤ P.capV) (hV : P.maxV - 1 + M ≤ P.capV)
    (spStart : Nat) (hs : spStart < P.spans.length - 1) (hci : (if spStart = 0 then 1 else 0) < P.capI)
    (site : String) : kernel P spStart ≠ .error (.oob site) := by
  obtain ⟨k, _, _, h⟩ := C16.kernel_eq_spec P entries hidx hvals hbound M hM hI hMV hV spStart hs hci
  exact ne_oob_of_ok h site

/-- the write `dest_values[d_index_v + delta] = x` is refused by the model exactly when the position is not below the
    buffer size -/
theorem pushV_oob_iff (cap : Nat) (vb : List α) (x : α) (site : String) :
    (∃ e, pushV cap vb x site = .error e) ↔ cap ≤ vb.length :=
  ite_ok_error_iff.trans Nat.not_lt

/-- **result buffers of the concat kernel are never overrun**: whatever the arguments (valid or not, any limits, any
    ratio of output bytes to buffer size), a call of `_apply_spans_concat_2` that returns normally has written at most
    `len(dest_index)` offsets and at most `len(dest_values)` bytes -/
theorem concat_kernel_buffers_bounded (P : Params α) (spStart s' : Nat) (b : Buf α)
    (h : kernel P spStart = .ok (s', b)) : b.ib.length ≤ P.capI ∧ b.vb.length ≤ P.capV :=
  kernel_len P spStart s' b h

example : kernel C16.exParams 1 = .ok (3, ⟨[1, 13], [34, 98, 44, 99, 34, 44, 34, 100, 34, 34, 101, 34]⟩) := by decide +kernel
/-- the error branch is real: the same call with a 5-byte value buffer -/
example : kernel { C16.exParams with capV := 5 } 1 = .error (.oob "dest_values[sep]") := by decide +kernel

end Exetera.Props.C10
