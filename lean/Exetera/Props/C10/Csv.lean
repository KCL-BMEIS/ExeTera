import Exetera.Props.C05
import Exetera.Props.C10.Basic
import Exetera.Model.KernelSitesCsv
import Exetera.Model.KernelPathsCsv
/-!
# C10 — `fast_csv_reader` and its window driver (owning property: C05)

The `no_oob_*` theorems of this file are corollaries of the C05 theorems that assume that no staging buffer fills (`Fits`,
`Supported.min`, `Supported.fit`): every window of the supported regime, cut anywhere, any number of windows. No `no_oob_*`
corollary is stated here for the kernel's early return when `column_inds` / `column_vals` is full and the driver's regrowth
and re-entry; for those runs the owning theorems `C05.fsm_any_buffers_eq_spec` (one kernel call, index buffer of ≥ 1 rows,
value budgets ≥ 1) and `C05.window_chunking_unobservable` (the driver, every starting budget ≥ 1) conclude `.ok`, which
excludes `.error (.oob site)`.
-/
namespace Exetera.Props.C10
open Exetera Exetera.Csv Exetera.Csv.Spec

theorem access_sites_covered_csv : ∀ k ∈ KernelSites.csvSites, lookup k.1 = some k :=
  lookup_of_family .csv rfl

/-- the PATH CONDITION of every subscript occurrence in these kernels (enclosing loop guards, `if` / `elif` tests, negated
    `else` branches and early exits), as regenerated from the current source (`Gen/KernelPaths.lean`), is exactly the one the
    model was written against (`Model/KernelPathsCsv.lean`): dropping or changing a test that dominates a subscript breaks
    the build; and the table covers exactly the kernels of the site table -/
theorem access_paths_covered_csv :
    (∀ k ∈ KernelPaths.csvPaths, lookupPaths k.1 = some k) ∧
    KernelPaths.csvPaths.map (·.1) = KernelSites.csvSites.map (·.1) :=
  ⟨lookupPaths_of_family .csv rfl, rfl⟩

example : KernelSites.csvSites.length = 1 := by decide +kernel

/-- one kernel call on the whole text of a header line and a table, fresh buffers with room (`C05.fsm_whole_eq_spec`) -/
theorem no_oob_fast_csv_reader_whole {ncols maxrow : Nat} {offs : List Nat} (hrow : List Cell) (rows : List (List Cell))
    (hhdr : hrow.length = ncols ∧ ∀ c ∈ hrow, c.WF) (htab : Table ncols rows) (hbuf : C05.Buffers ncols maxrow offs)
    (hfit : C05.Fits ncols offs rows) (hrows : rows.length < maxrow) (site : String) :
    fastCsvReader (render (hrow :: rows)) 0 (zeros2 ncols (maxrow + 1)) (List.replicate (offs.getLastD 0) 0) offs true
      ≠ .error (.oob site) :=
  ne_oob_of_exists (C05.fsm_whole_eq_spec hrow rows hhdr htab hbuf hfit hrows) site

/-- one kernel call entered at a record end behind arbitrary text `pre` (`C05.fsm_split_at_record_end`) -/
theorem no_oob_fast_csv_reader_at_record_end {ncols maxrow : Nat} {offs : List Nat} (pre : List Nat)
    (rowsB : List (List Cell)) (htab : Table ncols rowsB) (hne : rowsB ≠ []) (hbuf : C05.Buffers ncols maxrow offs)
    (hfit : C05.Fits ncols offs rowsB) (hrows : rowsB.length < maxrow) (site : String) :
    fastCsvReader (pre ++ render rowsB) pre.length (zeros2 ncols (maxrow + 1)) (List.replicate (offs.getLastD 0) 0)
      offs false ≠ .error (.oob site) :=
  ne_oob_of_exists (C05.fsm_split_at_record_end pre rowsB htab hne hbuf hfit hrows) site

/-- one kernel call on ANY window of the supported regime: complete records `rowsA`, then the first `m` bytes of the
    next record, cut anywhere — inside a quoted cell, between the two quotes of an escaped quote, inside skipped blanks
    (`C05.fsm_window_eq_spec`): `source[index + 1]` is never read past the window's end -/
theorem no_oob_fast_csv_reader_window {ncols maxrow : Nat} {offs : List Nat} (hh : Bool) (hrow : List Cell)
    (rowsA : List (List Cell)) (r : List Cell) (m : Nat) (pre : List Nat)
    (hhdr : hh = true → hrow.length = ncols ∧ ∀ c ∈ hrow, c.WF) (htab : Table ncols (rowsA ++ [r]))
    (hm : m < (renderCells r).length) (hbuf : C05.Buffers ncols maxrow offs) (hfit : C05.Fits ncols offs (rowsA ++ [r]))
    (hrows : rowsA.length < maxrow) (hne : hh = true ∨ rowsA ≠ []) (site : String) :
    fastCsvReader (pre ++ (((if hh then renderCells hrow else []) ++ render rowsA) ++ (renderCells r).take m)) pre.length
      (zeros2 ncols (maxrow + 1)) (List.replicate (offs.getLastD 0) 0) offs hh ≠ .error (.oob site) :=
  ne_oob_of_exists (C05.fsm_window_eq_spec hh hrow rowsA r m pre hhdr htab hm hbuf hfit hrows hne) site

/-- `read_file_using_fast_csv_reader` (kernel calls + `import_part` of every selected column) over any number of
    windows, for every `chunk_row_size` of the supported regime.
    `_partial`: the full statement has `Supported.reg` alone; `min` and `fit` (part of `Supported`) exclude the runs in
    which a staging buffer fills — see the module comment. -/
theorem no_oob_read_file_partial {file : List Nat} {crs ncols : Nat} {offs : List Nat} {hrow : List Cell}
    {rows : List (List Cell)} (h : C05.Supported file crs ncols offs hrow rows) (im : List Nat)
    (him : ∀ c ∈ im, c < ncols) (fuel : Nat) (hfuel : rows.length + 2 ≤ fuel) (site : String) :
    readFile file crs ncols offs im (im.map (fun _ => ({ kind := .indexed } : Imp))) fuel ≠ .error (.oob site) := by
  obtain ⟨calls, hc⟩ := C05.window_chunking_unobservable_partial h im him fuel hfuel
  exact ne_oob_of_ok hc site

/-- the public entry point `read_csv_with_schema_dict`, all columns imported as indexed strings, any include / exclude
    lists of known names (`C05.read_csv_eq_spec_partial`; `_partial` for the same reason) -/
theorem no_oob_read_csv_partial {file : List Nat} {crs ncols : Nat} {hrow : List Cell} {rows : List (List Cell)}
    (names : List String) (schema : List (String × FieldKind)) (incl excl : Option (List String))
    (hall : ∀ k ∈ names, kindOf schema k = .indexed) (hnames : names.length = ncols)
    (hincl : ∀ l, incl = some l → ∀ k ∈ l, k ∈ names) (hexcl : ∀ l, excl = some l → ∀ k ∈ l, k ∈ names)
    (hfile : file = render (hrow :: rows) ∨ (file ++ [Csv.NL] = render (hrow :: rows) ∧ file.getLast? ≠ some Csv.NL))
    (hne : file ≠ []) (hhdr : hrow.length = ncols ∧ ∀ c ∈ hrow, c.WF) (htab : Table ncols rows) (hcrs : 0 < crs)
    (hreg : ∀ l ∈ hrow :: rows, (renderCells l).length ≤ crs * Gen.Csv.CHUNK_ROW_FACTOR * ncols)
    (hmin : ∀ l ∈ hrow :: rows, ncols < (renderCells l).length)
    (hfit : ∀ c, c < ncols → (column (values rows) c).flatten.length < Gen.Csv.INDEXED_STRING_FIELD_SIZE * crs)
    (fuel : Nat) (hfuel : rows.length + 2 ≤ fuel) (site : String) :
    readCsv file names schema incl excl crs fuel ≠ .error (.oob site) :=
  ne_oob_of_ok (C05.read_csv_eq_spec_partial names schema incl excl hall hnames hincl hexcl hfile hne hhdr htab hcrs hreg
    hmin hfit fuel hfuel) site

/-- non-vacuity: the hypotheses are those of the C05 theorems, shown satisfiable there (`C05.exHeader`, `C05.exRows`:
    quoted separator, doubled quote, quoted line break, blank-led cell; three windows of 12 bytes) -/
example : (match readFile (render (C05.exHeader :: C05.exRows)) 3 2 [0, 100, 200] [0, 1]
                   [{ kind := .indexed }, { kind := .indexed }] 6 with
           | .ok o => decide (o.rows = 3)
           | .error _ => false) = true := by
  decide +kernel

/-- the error branch is real: a value buffer shorter than `column_offsets[-1]` -/
example : (match fastCsvReader (render (C05.exHeader :: C05.exRows)) 0 (zeros2 2 5) (List.replicate 3 0) [0, 20, 40] true with
           | .error (.oob _) => true
           | _ => false) = true := by
  decide +kernel

end Exetera.Props.C10
