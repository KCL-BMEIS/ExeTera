import Exetera.Props.C04
import Exetera.Props.C10.Basic
import Exetera.Model.KernelSitesMapValid
import Exetera.Model.KernelPathsMapValid
/-!
# C10 — the map-valid kernels (owning property: C04)

`no_oob_*`: for every input the owning C04 theorem calls valid (hypotheses repeated verbatim), every chunk size and value
factor it allows and every site, the model run is not `.error (.oob site)`. Each is a corollary of the C04 theorem.
The compiled kernels `ordered_map_valid_partial`, `ordered_map_valid_indexed_partial`, `next_map_subchunk` and
`get_valid_value_extents` are only reachable through the two streams; the stream theorems cover every call the streams
make of them.
-/
namespace Exetera.Props.C10
open Exetera Exetera.MapValid Exetera.Spec

/-- the loop guards and subscripts of the modelled map-valid kernels, as regenerated from the current source, are
    exactly the ones the model was written against -/
theorem access_sites_covered_map_valid : ∀ k ∈ KernelSites.mapValidSites, lookup k.1 = some k :=
  lookup_of_family .mapValid rfl

/-- the PATH CONDITION of every subscript occurrence in these kernels (enclosing loop guards, `if` / `elif` tests, negated
    `else` branches and early exits), as regenerated from the current source (`Gen/KernelPaths.lean`), is exactly the one the
    model was written against (`Model/KernelPathsMapValid.lean`): dropping or changing a test that dominates a subscript breaks
    the build; and the table covers exactly the kernels of the site table -/
theorem access_paths_covered_map_valid :
    (∀ k ∈ KernelPaths.mapValidPaths, lookupPaths k.1 = some k) ∧
    KernelPaths.mapValidPaths.map (·.1) = KernelSites.mapValidSites.map (·.1) :=
  ⟨lookupPaths_of_family .mapValid rfl, rfl⟩

example : KernelSites.mapValidSites.length = 7 := by decide +kernel

/-- `ordered_map_valid_stream` (and through it `ordered_map_valid_partial`, `next_map_subchunk`,
    `get_valid_value_extents`): no out-of-bounds access at any site for every in-range map (ordered or not), every
    marker and every chunk size ≥ 1. In particular the chunk-sized buffer `result_data` is never overrun. -/
theorem no_oob_map_valid_stream {α} (src : List α) (m : List Int) (inv : Int) (cs : Nat) (empty : α)
    (hcs : 1 ≤ cs) (hr : InRange src.length m inv) (site : String) :
    orderedMapValidStream src m inv cs empty ≠ .error (.oob site) :=
  ne_oob_of_exists (C04.map_stream_eq_any src m inv cs empty hcs hr) site

example : InRange 3 [0, 1, 2, 0, 1, 2] INVALID_INDEX_64 := C04.inRange_of_all (by decide)

/-- `ordered_map_valid_indexed_stream` (and through it `ordered_map_valid_indexed_partial`): for a well-formed indexed
    source, every in-range map, every marker, every chunk size ≥ 1 and EVERY value factor — whatever the ratio of the
    mapped bytes to the buffer `chunksize * value_factor` — no out-of-bounds access at any site: the run ends `.ok` or
    with the D5 `ValueError` (an entry longer than the whole value buffer). -/
theorem no_oob_map_valid_indexed_stream {β} (indices : List Int) (values : List β) (m : List Int) (inv : Int)
    (cs vf : Nat) (hok : IndexedOK indices values) (hcs : 1 ≤ cs)
    (hr : InRange (entries indices values).length m inv) (site : String) :
    orderedMapValidIndexedStream indices values m inv cs vf ≠ .error (.oob site) := by
  rcases indexed_stream_total_any indices values m inv cs vf hok hcs hr with ⟨out, es, h, _⟩ | ⟨e, h, he, _⟩
  · exact ne_oob_of_ok h site
  · rw [h, he]; intro h'; cases h'

example : IndexedOK [0, 1, 3, 6] [97, 98, 98, 99, 99, (99 : Int)] ∧
    InRange (entries [0, 1, 3, 6] [97, 98, 98, 99, 99, (99 : Int)]).length [0, 1, 2, 0, 1, 2] INVALID_INDEX_64 :=
  ⟨by unfold IndexedOK; decide, C04.inRange_of_all (by decide)⟩

/-- **result buffers of the indexed kernel are never overrun**: whatever the arguments (valid or not) and whatever the
    ratio of mapped bytes to buffer size, a call of `ordered_map_valid_indexed_partial` that starts with at most
    `capI` / `capV` elements in `result_indices` / `result_values` and returns normally leaves at most `capI` / `capV`
    elements in them — a write at `ri ≥ capI` is the model's `.oob "result_indices[ri]"`, and the byte copy is only
    entered when `rv + (v_end - v_start) ≤ capV`. -/
theorem indexed_partial_buffers_bounded {β} (map_ : List Int) (smEnd : Nat) (indices : List Int) (iStart iMax : Nat)
    (values : List β) (mvStart : Int) (capI capV : Nat) (inv : Int) (sm : Nat) (ri : List Int) (rv : List β)
    (accum : Int) (p : IP β) (hri : ri.length ≤ capI) (hrv : rv.length ≤ capV)
    (h : indexedPartial map_ smEnd indices iStart iMax values mvStart capI capV inv sm ri rv accum = .ok p) :
    p.ri.length ≤ capI ∧ p.rv.length ≤ capV := by
  unfold indexedPartial at h
  split at h
  · cases h
  · rename_i vOffset _
    refine whileE_inv_of_ok _ _ (fun s : IP β => s.ri.length ≤ capI ∧ s.rv.length ≤ capV) ?_ _ _ _ h ⟨hri, hrv⟩
    intro s s' hI hb
    simp only [ipBody] at hb
    split at hb
    · cases hb
    · rename_i k _
      split at hb
      · split at hb
        · cases hb; simp only [List.length_append, List.length_singleton]; omega
        · cases hb
      · split at hb
        · cases hb; exact hI
        · split at hb
          · rename_i a b _ _
            split at hb
            · cases hb; exact hI
            · rename_i hfit
              split at hb
              · cases hb
              · rename_i bytes hbytes
                split at hb
                · cases hb
                  have := readRange_length _ _ _ _ hbytes
                  simp only [List.length_append, List.length_singleton]
                  omega
                · cases hb
          · cases hb
          · cases hb

example : indexedPartial [0, 1] 2 [0, 1, 3] 0 2 [97, 98, (98 : Int)] 0 2 2 (-1) 0 [] [] 0
    = .ok ⟨1, [1], [97], 1, false, true⟩ := by rfl

/-- `safe_map_values` with any filter of the map's length whose set rows are row numbers of `data` -/
theorem no_oob_safe_map_values {α} (data : List α) (m : List Int) (filt : List Bool) (e : Option α) (zero : α)
    (hlen : filt.length = m.length)
    (hr : ∀ (i : Nat) (k : Int), m[i]? = some k → filt[i]? = some true → 0 ≤ k ∧ k < data.length) (site : String) :
    safeMapValues data m filt e zero ≠ .error (.oob site) :=
  ne_oob_of_exists (C04.safe_map_values_rows data m filt e zero hlen hr) site

example : safeMapValues [10, 20, 30] [2, -1, 0] [true, false, true] none (0 : Int) = .ok [30, 0, 10] := by rfl

/-- `map_valid`, allocating its result or writing into a caller-supplied array of the map's length -/
theorem no_oob_map_valid {α} (data : List α) (m : List Int) (result : Option (List α)) (inv : Int) (zero : α)
    (hres : ∀ r, result = some r → r.length = m.length) (hr : InRange data.length m inv) (site : String) :
    mapValid data m result inv zero ≠ .error (.oob site) := by
  cases result with
  | none => exact ne_oob_of_exists (C04.map_valid_eq data m inv zero hr) site
  | some r => exact ne_oob_of_exists (C04.map_valid_rows data m r inv zero (hres r rfl) hr) site

example : mapValid [10, 20, 30] [2, -1, 0] (some [7, 7, 7]) (-1) (0 : Int) = .ok [30, 7, 10] := by rfl

/-- `safe_map_indexed_values` with the filter "entry is not the marker" on a well-formed indexed source. The model checks
    the writes `i_result[i + 1]` and `v_result[dst:dse]` against the sizes the kernel allocates between its two passes
    (`len(map_field) + 1`, the `value_length` of the first pass), so this covers the result arrays too -/
theorem no_oob_safe_map_indexed_values {β} (indices : List Int) (values : List β) (m : List Int) (inv : Int)
    (hok : IndexedOK indices values) (hr : InRange (entries indices values).length m inv) (site : String) :
    safeMapIndexedValues indices values m (m.map (fun k => k != inv)) [] ≠ .error (.oob site) :=
  ne_oob_of_exists (C04.safe_map_indexed_values_eq indices values m inv hok hr) site

example : safeMapIndexedValues [0, 1, 3] [97, 98, 99] [1, -1, 0] ([1, -1, 0].map (fun k => k != -1)) []
    = .ok ([0, 2, 2, 3], [98, 99, 97]) := by rfl

/-- **the result arrays of `safe_map_indexed_values` are never overrun**: whatever the arguments (valid or not) and whatever
    sizes `capI = len(i_result)`, `capV = len(v_result)`, an iteration of the second pass that returns normally has written
    `i_result[i + 1]` inside `i_result`, and a slice it has written to `v_result` ends inside `v_result` -/
theorem safe_map_indexed_step_bounded {β} (indices : List Int) (values : List β) (m : List Int) (filt : List Bool)
    (empty : List β) (capI : Nat) (capV : Int) (i : Nat) (s s' : SI β)
    (h : smivStep indices values m filt empty capI capV i s = .ok s') :
    i + 1 < capI ∧ ((filt[i]? = some true ∨ empty ≠ []) → s'.offset ≤ capV) := by
  unfold smivStep at h
  cases hf : filt[i]? with
  | none => simp only [hf] at h; cases h
  | some b =>
    cases b with
    | true =>
      simp only [hf] at h
      cases hm : m[i]? with
      | none => simp only [hm] at h; cases h
      | some k =>
        simp only [hm] at h
        cases ha : getI indices k "data_indices[map_field[i]]" with
        | error e => simp only [ha] at h; cases h
        | ok sst =>
          cases hb : getI indices (k + 1) "data_indices[map_field[i]+1]" with
          | error e => simp only [ha, hb] at h; cases h
          | ok sse =>
            simp only [ha, hb] at h
            by_cases hc : capI ≤ i + 1
            · simp only [hc, if_true] at h; cases h
            · by_cases hv : capV < s.offset + (sse - sst)
              · simp only [hc, hv, if_true, if_false] at h; cases h
              · simp only [hc, hv, if_false] at h
                cases h
                exact ⟨by omega, fun _ => by simp only; omega⟩
    | false =>
      simp only [hf] at h
      by_cases hc : capI ≤ i + 1
      · simp only [hc, if_true] at h; cases h
      · by_cases hv : (!empty.isEmpty && decide (capV < s.offset + (empty.length : Int))) = true
        · simp only [hc, hv, if_true, if_false] at h; cases h
        · simp only [hc, hv, if_false] at h
          cases h
          refine ⟨by omega, fun hor => ?_⟩
          rcases hor with hor | hor
          · cases hor
          · have hne : empty.isEmpty = false := by cases empty <;> simp_all
            simp only [hne, Bool.not_false, Bool.true_and, decide_eq_true_eq] at hv
            simp only; omega

example : smivStep [0, 1, 3] [97, 98, 99] [1] [true] [] 1 5 0 ⟨0, [0], []⟩ = .error (.oob "i_result[i+1]") ∧
    smivStep [0, 1, 3] [97, 98, 99] [1] [true] [] 2 1 0 ⟨0, [0], []⟩ = .error (.oob "v_result[dst:dse]") ∧
    smivStep [0, 1, 3] [97, 98, 99] [1] [true] [] 2 2 0 ⟨0, [0], []⟩ = .ok ⟨2, [0, 2], [98, 99]⟩ := ⟨by rfl, by rfl, by rfl⟩

/-- `get_map_subchunks_based_on_index_lengths` / `next_map_subchunk` on ANY map, marker and chunk size ≥ 1 -/
theorem no_oob_subchunks (m : List Int) (inv : Int) (cs : Nat) (hcs : 1 ≤ cs) (site : String) :
    subchunks m inv cs ≠ .error (.oob site) :=
  ne_oob_of_exists (C04.subchunks_partition m inv cs hcs) site

/-- `get_valid_value_extents` on a non-empty range inside the chunk -/
theorem no_oob_get_valid_value_extents (m : List Int) (s e : Nat) (inv : Int) (hse : s < e) (he : e ≤ m.length)
    (site : String) : getValidValueExtents m s e inv ≠ .error (.oob site) :=
  ne_oob_of_exists (C04.extents_correct m s e inv hse he) site

example : getValidValueExtents [-1, 1, 5, -1] 0 4 (-1) = .ok (1, 5) := by rfl

end Exetera.Props.C10
