import Exetera.Props.C04
import Exetera.Lemmas.GenKernelsMapValid
import Exetera.Lemmas.GenKernelsMapValidIndexed
import Exetera.Lemmas.GenKernelsSafeMap
import Exetera.Lemmas.GenKernelsSafeMapIndexed
import Exetera.Lemmas.MapValidIndexed
import Exetera.Lemmas.GenKernelsExtents
import Exetera.Lemmas.GenKernelsSubchunk
/-!
  C04 over the TRANSLATED kernels `map_valid`, `ordered_map_valid_partial`, `ordered_map_valid_indexed_partial`,
  `safe_map_values`, `safe_map_indexed_values`, `get_valid_value_extents` and `next_map_subchunk` (`Gen/Kernels.lean`,
  regenerated from operations.py by tools/translate_njit.py on every run).

  * `gen_*_ok`: transfer — whenever the hand-written model returns `.ok r` and no map entry that is used addresses a negative
    source position (a negative subscript is an error branch of the translation; the model, like Python, counts it from the
    end), the translated kernel returns the same `r`, for every fuel ≥ the trip count.  `get_valid_value_extents` and
    `next_map_subchunk` have no such subscript and, given that fuel, agree with their models on every input.
  * the remaining theorems are the statements of Props/C04 (and of the lemma the stream theorems rest on) for the translated
    kernels themselves.
-/
namespace Exetera.Props.C04Gen

open Exetera Exetera.MapValid Exetera.Spec Exetera.GenK Exetera.Gen.Kernels

theorem gen_map_valid_ok (data m : List Int) (result : Option (List Int)) (inv : Int) (r : List Int)
    (hpos : ∀ (i : Nat) (k : Int), m[i]? = some k → k ≠ inv → 0 ≤ k)
    (h : mapValid data m result inv 0 = .ok r) :
    map_valid.run data m result inv = .ok r := map_valid_ok data m result inv r hpos h

/-- the translated `map_valid`, allocating its result: for an in-range map it returns (no subscript out of range or negative)
    the specified column, 0 where the map holds the marker -/
theorem gen_map_valid_eq (data m : List Int) (inv : Int) (hr : InRange data.length m inv) :
    ∃ out, map_valid.run data m none inv = .ok out ∧ mapSpec data inv 0 m = some out := by
  obtain ⟨out, h1, h2⟩ := C04.map_valid_eq data m inv 0 hr
  exact ⟨out, map_valid_ok data m none inv out (fun i k hm hk => (hr i k hm hk).1) h1, h2⟩

/-- … writing into a caller-supplied array of the map's length: marker rows keep what the array held -/
theorem gen_map_valid_rows (data m result : List Int) (inv : Int) (hres : result.length = m.length)
    (hr : InRange data.length m inv) :
    ∃ out, map_valid.run data m (some result) inv = .ok out ∧ out.length = m.length ∧
      ∀ (i : Nat) (k : Int), m[i]? = some k → out[i]? = if k = inv then result[i]? else data[k.toNat]? := by
  obtain ⟨out, h1, h2, h3⟩ := C04.map_valid_rows data m result inv 0 hres hr
  exact ⟨out, map_valid_ok data m (some result) inv out (fun i k hm hk => (hr i k hm hk).1) h1, h2, h3⟩

example : map_valid.run [10, 20, 30] [2, -1, 0, 2] none (-1) = .ok [30, 0, 10, 30] := rfl
example : InRange 3 [2, -1, 0, 2] (-1) := by
  intro i k h hk
  rcases i with _ | _ | _ | _ | i <;> simp at h <;> omega

theorem gen_ordered_map_valid_partial_ok (values m : List Int) (smStart smEnd : Nat) (dStart : Int) (res : List Int)
    (inv empty : Int) (r : List Int) (fuel : Nat) (hse : smStart ≤ smEnd) (hf : smEnd - smStart ≤ fuel)
    (hpos : ∀ (sm : Nat) (k : Int), smStart ≤ sm → sm < smEnd → m[sm]? = some k → k ≠ inv → 0 ≤ k - dStart)
    (h : orderedMapValidPartial values m smStart smEnd dStart res inv empty = .ok r) :
    ordered_map_valid_partial.run values m smStart smEnd dStart res inv empty fuel = .ok ((smEnd : Int), r) :=
  ordered_map_valid_partial_ok values m smStart smEnd dStart res inv empty r fuel hse hf hpos h

/-- the translated partial kernel, called as `ordered_map_valid_stream` calls it (source window `[f, l]` holding every valid
    entry of the sub-chunk `[s, e)`): it returns `e`, finishes within `e - s` iterations, writes exactly positions `[s, e)` of
    the buffer, each with the specified row -/
theorem gen_ordered_map_valid_partial_spec (src m : List Int) (inv empty : Int) (f l : Int) (s e : Nat) (buf : List Int)
    (fuel : Nat) (hfu : e - s ≤ fuel)
    (hse : s ≤ e) (he : e ≤ m.length) (hb : e ≤ buf.length) (hf : 0 ≤ f) (hl : l < src.length)
    (hwin : ∀ p k, s ≤ p → p < e → m[p]? = some k → k ≠ inv → f ≤ k ∧ k ≤ l) :
    ∃ buf', ordered_map_valid_partial.run (pySlice src f (l + 1)) m s e f buf inv empty fuel = .ok ((e : Int), buf') ∧
      buf'.length = buf.length ∧
      (∀ q, q < s ∨ e ≤ q → buf'[q]? = buf[q]?) ∧
      (∀ p k, s ≤ p → p < e → m[p]? = some k → ∃ v, lookup src inv empty k = some v ∧ buf'[p]? = some v) := by
  obtain ⟨buf', h1, h2, h3, h4⟩ := partial_spec src m inv empty f l s e buf hse he hb hf hl hwin
  refine ⟨buf', ?_, h2, h3, h4⟩
  exact ordered_map_valid_partial_ok _ m s e f buf inv empty buf' fuel hse hfu
    (fun sm k h1' h2' hm hk => by have := (hwin sm k h1' h2' hm hk).1; omega) h1

example : ordered_map_valid_partial.run [20, 30] [2, -1, 1, 2] 0 4 1 [7, 7, 7, 7] (-1) 0 4 = .ok (4, [30, 0, 20, 30]) := rfl

/-! ## ordered_map_valid_indexed_partial (the `while` loop with two `break`s of the streamed indexed-string mapper) -/

/-- transfer by `whileE` simulation: every `.ok` run of the guard / body model `indexedPartial` is a run of the translated kernel on
    buffers that start with the model's written prefixes; it returns the model's five scalars and buffers that start with the
    model's new prefixes. Valid map entries of the window must not lie below `mv_start`, the offsets they read not below
    `indices[i_start]` (the model wraps a negative subscript, the translation rejects it) -/
theorem gen_indexed_partial_ok (map_ : List Int) (smStart : Int) (smEnd : Nat) (indices : List Int) (iStart iMax : Nat)
    (values : List Int) (mvStart : Int) (bufI bufV : List Int) (inv : Int) (sm : Nat) (ri rv : List Int) (accum : Int)
    (r : MapValid.IP Int) (fuel : Nat) (hfuel : smEnd - sm + 1 ≤ fuel)
    (hIt : bufI.take ri.length = ri) (hVt : bufV.take rv.length = rv)
    (hpos : ∀ (q : Nat) (k : Int), sm ≤ q → q < smEnd → map_[q]? = some k → k ≠ inv → 0 ≤ k - mvStart)
    (hvs : ∀ (vo : Int), indices[iStart]? = some vo → ∀ (q : Nat) (k a : Int), sm ≤ q → q < smEnd → map_[q]? = some k → k ≠ inv →
      indices[(k - mvStart).toNat]? = some a → vo ≤ a)
    (h : MapValid.indexedPartial map_ smEnd indices iStart iMax values mvStart bufI.length bufV.length inv sm ri rv accum = .ok r) :
    ∃ bI bV, ordered_map_valid_indexed_partial.run map_ smStart smEnd indices iStart iMax values mvStart bufI bufV inv sm ri.length
        rv.length accum fuel = .ok ((r.sm : Int), (r.ri.length : Int), (r.rv.length : Int), r.accum, r.need, bI, bV) ∧
      bI.length = bufI.length ∧ bI.take r.ri.length = r.ri ∧ bV.length = bufV.length ∧ bV.take r.rv.length = r.rv :=
  ordered_map_valid_indexed_partial_ok map_ smStart smEnd indices iStart iMax values mvStart bufI bufV inv sm ri rv accum r fuel
    hfuel hIt hVt hpos hvs h

/-- the statement of `MapValid.indexedPartial_spec` (the lemma the streamed indexed mapper's theorems rest on) for the TRANSLATED
    kernel: called on freshly flushed buffers (`ri = rv = 0`) for the window `[a, b)` of the offsets, it returns normally — no
    subscript out of range or negative, both loops finish — having consumed the map positions `[sm, r.sm)`; the first `ri` offsets
    and `rv` bytes of the buffers are the running sums and the concatenation of the entries consumed; when it stops early it says why -/
theorem gen_indexed_partial_spec (map_ : List Int) (smStart : Int) (sE : Nat) (ix : List Int) (a b : Nat) (values vals : List Int)
    (mv : Int) (bufI bufV : List Int) (inv : Int) (sm : Nat) (accum : Int) (esL : List (List Int)) (A B : Int) (fuel : Nat)
    (hfuel : sE - sm + 1 ≤ fuel)
    (hix : MapValid.WinOK ix values) (hab : a < b) (hb : b < ix.length)
    (hA : ix[a]? = some A) (hB : ix[b]? = some B) (hvals : vals = slice values A.toNat B.toNat)
    (hsE : sE ≤ map_.length) (hesLen : sE ≤ esL.length) (hsm : sm ≤ sE) (hcapI : sE - sm ≤ bufI.length)
    (hwin : ∀ (p : Nat) (k : Int), sm ≤ p → p < sE → map_[p]? = some k → k ≠ inv →
      (a : Int) ≤ k - mv ∧ k - mv + 1 < ix.length)
    (hes : ∀ (p : Nat) (k : Int), sm ≤ p → p < sE → map_[p]? = some k →
      esL[p]? = some (if k = inv then [] else MapValid.wentry ix values (k - mv).toNat)) :
    ∃ (r : MapValid.IP Int) (bI bV : List Int),
      ordered_map_valid_indexed_partial.run map_ smStart sE ix a b vals mv bufI bufV inv sm 0 0 accum fuel
        = .ok ((r.sm : Int), (r.ri.length : Int), (r.rv.length : Int), r.accum, r.need, bI, bV) ∧
      bI.take r.ri.length = r.ri ∧ bV.take r.rv.length = r.rv ∧
      sm ≤ r.sm ∧ r.sm ≤ sE ∧ MapValid.PartialPost esL sm accum bufV.length r ∧
      (r.sm < sE → MapValid.StopReason map_ ix values mv b bufV.length inv r) ∧ (r.sm = sE → r.need = false) := by
  obtain ⟨r, hr, h1, h2, h3, h4, h5⟩ := MapValid.indexedPartial_spec map_ sE ix a b values vals mv bufI.length bufV.length inv sm
    accum esL A B hix hab hb hA hB hvals hsE hesLen hsm hcapI hwin hes
  obtain ⟨bI, bV, hrun, _, hIt, _, hVt⟩ := ordered_map_valid_indexed_partial_ok map_ smStart sE ix a b vals mv bufI bufV inv sm
    [] [] accum r fuel hfuel (by simp) (by simp)
    (fun q k hq1 hq2 hm hk => by have := (hwin q k hq1 hq2 hm hk).1; omega)
    (fun vo hvo q k x hq1 hq2 hm hk hx => by
      have hw := (hwin q k hq1 hq2 hm hk).1
      exact hix.mono a (k - mv).toNat vo x (by omega) hvo hx)
    hr
  exact ⟨r, bI, bV, hrun, hIt, hVt, h1, h2, h3, h4, h5⟩

example : ordered_map_valid_indexed_partial.run [0, -1, 1] 0 3 [0, 2, 3] 0 2 [7, 8, 9] 0 [0, 0, 0] [0, 0, 0, 0] (-1) 0 0 0 0 4
    = .ok (3, 3, 3, 3, false, [2, 2, 3], [7, 8, 9, 0]) := by rfl

/-! ## safe_map_values (optional scalar parameter `empty_value`, tested inside the loop) -/

theorem gen_safe_map_values_ok (data m : List Int) (filt : List Bool) (e : Option Int) (r : List Int)
    (hpos : ∀ (i : Nat) (k : Int), filt[i]? = some true → m[i]? = some k → 0 ≤ k)
    (h : safeMapValues data m filt e 0 = .ok r) :
    safe_map_values.run data m filt e = .ok r :=
  safe_map_values_ok data m filt e r hpos h

/-- the statement of `C04.safe_map_values_rows` for the translated kernel: with a filter of the map's length whose set rows address
    the source, it returns normally (no subscript out of range or negative), one value per map entry — `data[map[i]]` where the
    filter is set, the empty value (the caller's, or 0) elsewhere -/
theorem gen_safe_map_values_rows (data m : List Int) (filt : List Bool) (e : Option Int) (hlen : filt.length = m.length)
    (hr : ∀ (i : Nat) (k : Int), m[i]? = some k → filt[i]? = some true → 0 ≤ k ∧ k < data.length) :
    ∃ out, safe_map_values.run data m filt e = .ok out ∧ out.length = m.length ∧
      ∀ (i : Nat) (k : Int) (b : Bool), m[i]? = some k → filt[i]? = some b →
        out[i]? = if b then data[k.toNat]? else some (e.getD 0) := by
  obtain ⟨out, h1, h2, h3⟩ := C04.safe_map_values_rows data m filt e 0 hlen hr
  exact ⟨out, safe_map_values_ok data m filt e out (fun i k hf hm => (hr i k hm hf).1) h1, h2, h3⟩

example : safe_map_values.run [10, 20, 30] [2, -1, 0] [true, false, true] none = .ok [30, 0, 10] ∧
    safe_map_values.run [10, 20, 30] [2, -1, 0] [true, false, true] (some 7) = .ok [30, 7, 10] := ⟨rfl, rfl⟩

/-- for every fuel ≥ end − start the translated kernel and the model agree on EVERY input — same pair, or the same error class
    (an out-of-range subscript; Python's UnboundLocalError for `end ≤ start`, where the `while` condition reads the loop
    variable of a `for` that never ran) -/
theorem gen_get_valid_value_extents_refines (m : List Int) (start end_ : Nat) (inv : Int) (fuel : Nat)
    (hf : end_ - start ≤ fuel) :
    Sim (get_valid_value_extents.run m start end_ inv fuel) (getValidValueExtents m start end_ inv) :=
  get_valid_value_extents_refines m start end_ inv fuel hf

/-- the translated `get_valid_value_extents` on a non-empty range inside the chunk: reads in bounds, both loops end, and it
    returns the marker twice when the range holds no valid entry, else the first and the last valid entry -/
theorem gen_extents_correct (m : List Int) (s e : Nat) (inv : Int) (hse : s < e) (he : e ≤ m.length) (fuel : Nat)
    (hf : e - s ≤ fuel) :
    ∃ d, get_valid_value_extents.run m s e inv fuel = .ok d ∧
      ((d.1 = inv ∧ ∀ p, s ≤ p → p < e → m[p]? = some inv) ∨
       (d.1 ≠ inv ∧ d.2 ≠ inv ∧ ∃ p0 p1, s ≤ p0 ∧ p0 ≤ p1 ∧ p1 < e ∧ m[p0]? = some d.1 ∧ m[p1]? = some d.2 ∧
          ∀ q x, s ≤ q → q < e → m[q]? = some x → x ≠ inv → p0 ≤ q ∧ q ≤ p1)) := by
  obtain ⟨d, hd, hspec⟩ := C04.extents_correct m s e inv hse he
  exact ⟨d, (get_valid_value_extents_refines m s e inv fuel hf).ok_right hd, hspec⟩

example : get_valid_value_extents.run [-1, 4, -1, 6, -1] 0 5 (-1) 5 = .ok (4, 6) := rfl
example : get_valid_value_extents.run [-1, 4, -1, 6, -1] 3 3 (-1) 5 = .error (.other "UnboundLocalError") := rfl

/-- the translated `next_map_subchunk` never fails (every subscript sits behind `sm < len(map_)`), ends within
    `len(map_) − sm` iterations of either loop, and returns exactly the model function `nextMapSubchunk` that
    `get_map_subchunks_based_on_index_lengths` (`MapValid.subchunks`) iterates — so `subchunks_partition`,
    `subchunk_entries_ordered` and `source_window_bounded` of Props/C04 speak about the sub-chunk boundaries the translated
    kernel computes -/
theorem gen_next_map_subchunk_eq (m : List Int) (sm : Nat) (inv : Int) (cs : Nat) (fuel : Nat) (hf : m.length - sm ≤ fuel) :
    next_map_subchunk.run m sm inv cs fuel = .ok ((nextMapSubchunk m sm inv cs : Nat) : Int) :=
  next_map_subchunk_eq m sm inv cs fuel hf

/-- the NC02a shape: the sub-chunk ends where the map steps back -/
example : next_map_subchunk.run [0, 1, 2, 0, 1, 2] 0 4611686018427387904 1000 6 = .ok 3 := rfl
example : next_map_subchunk.run [-1, -1, 5, 6, 9] 0 (-1) 2 5 = .ok 4 := rfl

/-! ## safe_map_indexed_values (two passes, optional ARRAY parameter `empty_value`, slices assigned to slices) -/

/-- transfer: every `.ok` run of the model `safeMapIndexedValues` is a run of the TRANSLATED `safe_map_indexed_values` with the
    same (offsets, bytes), provided that where the filter is set the row number is not negative (the model wraps a negative
    subscript, the translation rejects it) and the row's two offsets lie in order inside `data_values` (the model appends the
    slice whatever its length; the code assigns it to exactly `delta` slots of `v_result` — numpy's size check) -/
theorem gen_safe_map_indexed_values_ok (indices values m : List Int) (filt : List Bool) (e : Option (List Int))
    (r : List Int × List Int)
    (hpos : ∀ (i : Nat) (k : Int), filt[i]? = some true → m[i]? = some k → 0 ≤ k)
    (hwf : ∀ (i : Nat) (k a b : Int), filt[i]? = some true → m[i]? = some k → indices[k.toNat]? = some a →
      indices[k.toNat + 1]? = some b → 0 ≤ a ∧ a ≤ b ∧ b ≤ values.length)
    (h : safeMapIndexedValues indices values m filt (e.getD []) = .ok r) :
    safe_map_indexed_values.run indices values m filt e = .ok r :=
  safe_map_indexed_values_ok indices values m filt e r hpos hwf h

/-- the statement of `C04.safe_map_indexed_values_eq` for the translated kernel itself: on a well-formed indexed string column
    (`IndexedOK`) and an in-range map, with the filter "entry is not the marker" and no `empty_value` (how `dataframe.merge` and
    `session.merge_*` call it), it returns normally (no subscript out of range or negative, every slice assignment of matching
    size) the stored form of the specified column of entries -/
theorem gen_safe_map_indexed_values_eq (indices values m : List Int) (inv : Int) (hok : IndexedOK indices values)
    (hr : InRange (entries indices values).length m inv) :
    ∃ out, safe_map_indexed_values.run indices values m (m.map (fun k => k != inv)) none = .ok out ∧
      mapIndexedSpec indices values inv m = some out := by
  obtain ⟨out, h1, h2⟩ := C04.safe_map_indexed_values_eq indices values m inv hok hr
  have hw := winOK_of_indexedOK indices values hok
  refine ⟨out, safe_map_indexed_values_ok indices values m _ none out ?_ ?_ h1, h2⟩
  · intro i k hf hm
    simp only [List.getElem?_map, hm, Option.map_some, Option.some.injEq] at hf
    exact (hr i k hm (by simpa using hf)).1
  · intro i k a b _ _ ga gb
    exact ⟨hw.nonneg _ _ ga, hw.mono _ _ _ _ (Nat.le_succ _) ga gb, hw.le_len _ _ gb⟩

example : safe_map_indexed_values.run [0, 1, 3] [97, 98, 99] [1, -1, 0] ([1, -1, 0].map (fun k => k != -1)) none
    = .ok ([0, 2, 2, 3], [98, 99, 97]) := by rfl
example : safe_map_indexed_values.run [0, 1, 3] [97, 98, 99] [1, -1, 0] [true, false, true] (some [120, 121])
    = .ok ([0, 2, 4, 5], [98, 99, 120, 121, 97]) := by rfl
example : IndexedOK ([0, 1, 3] : List Int) ([97, 98, 99] : List Int) := by simp [IndexedOK]
/-- offsets beyond `data_values`: numpy's size check, an error of the translation too (the hand model appends the short slice —
    the reason for the well-formedness hypothesis of the transfer) -/
example : safe_map_indexed_values.run [0, 1, 5] [97, 98, 99] [1] [true] none
    = .error (.valueError "could not broadcast input array") := by rfl

end Exetera.Props.C04Gen
