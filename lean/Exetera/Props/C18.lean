import Exetera.Lemmas.CsvParse
import Exetera.Lemmas.ExportPandas
/-!
  C18 — CSV / pandas export writes exactly the selected rows and columns.

  All theorems are about `Exetera.Export.toCsv` / `toPandas`, the definitions the driver runs, and hold for every frame,
  every valid filter, every valid column selection and every `chunk_row_size ≥ 1` (no size bounds).
-/
namespace Exetera.Props.C18
open Exetera Exetera.Export Exetera.Spec.Export Exetera.Spec.Csv

/-- **to_csv_rows** (functional correctness, with memory safety and termination). For any `writerow`, any frame, a valid
    column selection `sel`, a valid row filter and any `chunk_row_size ≥ 1`: if a column is left to write, `to_csv` ends
    normally and the file is `writerow(names)` followed by `writerow` of exactly the rows `[row i | i < n, filter i]` of the
    selected columns, in order (`names` = the selection without the filter's own column; the fields are those of the frame). -/
theorem to_csv_rows (writerow : List Export.Cell → List Char) (f : Frame) (rf : RowFilter) (cf : ColFilter) (crs : Int)
    (sel : List Export.Cell) (flt : Option (List Bool))
    (hcrs : 0 < crs) (hsel : Selects f cf sel) (hflt : validateRowFilter rf = .ok flt)
    (hne : dropFilterColumn rf sel ≠ []) :
    ∃ fields, f.getAll (dropFilterColumn rf sel) = .ok fields ∧ fields.map (·.name) = dropFilterColumn rf sel ∧
      (∀ c ∈ fields, c ∈ f) ∧
      toCsv writerow f rf cf crs =
        .ok (writerow (dropFilterColumn rf sel) ++ (exportRows (fields.map (·.data)) flt).flatMap writerow) := by
  obtain ⟨fields, hget, hnames, hmem⟩ := getAll_ok f (dropFilterColumn rf sel)
    (fun n hn => hsel.subset n (dropFilterColumn_subset rf sel n hn))
  refine ⟨fields, hget, hnames, hmem, ?_⟩
  have hfne : fields ≠ [] := fun h => hne (by rw [← hnames, h]; rfl)
  simp only [toCsv_of_pos writerow f rf cf hcrs, csvNames_ok hsel hflt, hflt, hget, if_neg hfne]

/-- non-vacuity: the hypotheses hold for a frame filtered by its own boolean column, selection `['b','s']`, chunk size 3 -/
example :=
  to_csv_rows renderRow [⟨['s'], [['a'], [' ', 'b'], ['c', ',', 'd'], ['e']]⟩, ⟨['b'], [['T'], ['F'], ['T'], ['T']]⟩]
    (.field (some ['b']) true true [true, false, true, true]) (.many [['b'], ['s']]) 3 [['b'], ['s']]
    (some [true, false, true, true]) (by decide +kernel) (Selects.many _ (by decide +kernel) (by decide +kernel)) rfl (by decide +kernel)

example : toCsv renderRow [⟨['s'], [['a'], [' ', 'b'], ['c', ',', 'd'], ['e']]⟩, ⟨['b'], [['T'], ['F'], ['T'], ['T']]⟩]
    (.field (some ['b']) true true [true, false, true, true]) (.many [['b'], ['s']]) 3
    = .ok ['s', '\n', 'a', '\n', '"', 'c', ',', 'd', '"', '\n', 'e', '\n'] := by decide +kernel

/-- **crs_unobservable**: the result of `to_csv` (file text or error) is the same for every `chunk_row_size ≥ 1`, for all inputs. -/
theorem crs_unobservable (writerow : List Export.Cell → List Char) (f : Frame) (rf : RowFilter) (cf : ColFilter) (c₁ c₂ : Int)
    (h₁ : 0 < c₁) (h₂ : 0 < c₂) : toCsv writerow f rf cf c₁ = toCsv writerow f rf cf c₂ := by
  rw [toCsv_of_pos writerow f rf cf h₁, toCsv_of_pos writerow f rf cf h₂]

example : toCsv renderRow [⟨['s'], [['a'], ['b'], ['c']]⟩] (.array [true, false]) .none 1
    = toCsv renderRow [⟨['s'], [['a'], ['b'], ['c']]⟩] (.array [true, false]) .none 32768 :=
  crs_unobservable _ _ _ _ _ _ (by decide +kernel) (by decide +kernel)

/-- **terminates**: the chunk loop takes exactly `⌊len(first column)/crs⌋ + 1` iterations — that many suffice, fewer do not. -/
theorem terminates (c0 : List Export.Cell) (rest : List (List Export.Cell)) (flt : Option (List Bool)) (crs : Nat) (hcrs : 0 < crs) :
    exportLoop (c0 :: rest) flt crs (c0.length / crs + 1) = .ok (exportRows (c0 :: rest) flt) ∧
    ∀ fuel, fuel < c0.length / crs + 1 → exportLoop (c0 :: rest) flt crs fuel = .error .outOfFuel := by
  refine ⟨exportLoop_eq _ flt crs _ (by simp) hcrs (by simp [loopFuel]), ?_⟩
  intro fuel hlt
  simp only [exportLoop, exportLoop_needs_fuel c0 rest flt crs hcrs fuel ⟨0, [], false⟩ rfl (by simpa using hlt)]

example : exportLoop [[['a'], ['b'], ['c'], ['d']]] none 2 3 = .ok [[['a']], [['b']], [['c']], [['d']]] ∧
    exportLoop [[['a'], ['b'], ['c'], ['d']]] none 2 2 = .error .outOfFuel := by decide +kernel

/-- What a reader of dialect `d` makes of the file `to_csv` writes with ANY record writer `w` that `d` reads back cell by cell
    as `r` whenever the cells satisfy `P`: the header and the selected rows, every cell mapped by `r`. Every cell written is
    a name or a datum of the frame, so satisfies `P` when those do (`hP`). The reader theorems below are instances. -/
theorem reader_reads_file (d : Dialect) (w : List Export.Cell → List Char) (r : Export.Cell → Export.Cell)
    (P : Export.Cell → Prop)
    (hw : ∀ rows : List (List Export.Cell), (∀ row ∈ rows, ∀ c ∈ row, P c) → parse d (rows.flatMap w) = rows.map (·.map r))
    (f : Frame) (rf : RowFilter) (cf : ColFilter) (crs : Int) (sel : List Export.Cell) (flt : Option (List Bool))
    (hcrs : 0 < crs) (hsel : Selects f cf sel) (hflt : validateRowFilter rf = .ok flt)
    (hne : dropFilterColumn rf sel ≠ []) (hP : ∀ c ∈ f, P c.name ∧ ∀ x ∈ c.data, P x) :
    ∃ fields text, f.getAll (dropFilterColumn rf sel) = .ok fields ∧ toCsv w f rf cf crs = .ok text ∧
      parse d text = (dropFilterColumn rf sel :: exportRows (fields.map (·.data)) flt).map (·.map r) ∧
      ∀ row ∈ dropFilterColumn rf sel :: exportRows (fields.map (·.data)) flt, ∀ c ∈ row, P c := by
  obtain ⟨fields, hget, hnames, hmem, hcsv⟩ := to_csv_rows w f rf cf crs sel flt hcrs hsel hflt hne
  have hcells := written_cells (flt := flt) hnames hmem hP
  exact ⟨fields, _, hget, hcsv, by rw [← List.flatMap_cons]; exact hw _ hcells, hcells⟩

/-- **readers_recover** (with fixes/D30_NC18a: the lines of the file are written by ExeTera's own `_csv_record`, `csvRecord`).
    For every frame — whatever its cells and names hold: separators, quotes, line feeds, carriage returns, leading blanks —
    every valid selection and filter leaving a column to write, every `chunk_row_size ≥ 1`, a reader of ANY of the four
    dialects applied to the file recovers the header and every cell of every selected row exactly. -/
theorem readers_recover (d : Dialect) (f : Frame) (rf : RowFilter) (cf : ColFilter) (crs : Int)
    (sel : List Export.Cell) (flt : Option (List Bool))
    (hcrs : 0 < crs) (hsel : Selects f cf sel) (hflt : validateRowFilter rf = .ok flt)
    (hne : dropFilterColumn rf sel ≠ []) :
    ∃ fields text, f.getAll (dropFilterColumn rf sel) = .ok fields ∧ toCsv csvRecord f rf cf crs = .ok text ∧
      parse d text = dropFilterColumn rf sel :: exportRows (fields.map (·.data)) flt := by
  obtain ⟨fields, text, hget, hcsv, hparse, _⟩ := reader_reads_file d csvRecord id (fun _ => True)
    (fun rows _ => (parse_records d rows).trans (map_map_eq_self (fun _ _ _ _ => rfl)).symm)
    f rf cf crs sel flt hcrs hsel hflt hne (fun _ _ => ⟨trivial, fun _ _ => trivial⟩)
  exact ⟨fields, text, hget, hcsv, hparse.trans (map_map_eq_self (fun _ _ _ _ => rfl))⟩

/-- **std_parser_recovers** (full; with fixes/D30_NC18a): "a standard CSV parser recovers each cell's value" — no hypothesis about
    the contents of the frame. (As found — `csv.writer` of Python < 3.13 — only `std_parser_recovers_partial` below holds:
    `Witness.C18.nc18a_bare_cr_splits_record`.) -/
theorem std_parser_recovers (f : Frame) (rf : RowFilter) (cf : ColFilter) (crs : Int)
    (sel : List Export.Cell) (flt : Option (List Bool))
    (hcrs : 0 < crs) (hsel : Selects f cf sel) (hflt : validateRowFilter rf = .ok flt)
    (hne : dropFilterColumn rf sel ≠ []) :
    ∃ fields text, f.getAll (dropFilterColumn rf sel) = .ok fields ∧ toCsv csvRecord f rf cf crs = .ok text ∧
      parse .std text = dropFilterColumn rf sel :: exportRows (fields.map (·.data)) flt :=
  readers_recover .std f rf cf crs sel flt hcrs hsel hflt hne

/-- **reimport_exact** (full; with fixes/D30_NC18a): "re-importing the file … reproduces the string … columns" — ExeTera's own
    reader dialect recovers every cell exactly, leading blanks included. (As found only `reimport_exact_partial` /
    `reimport_roundtrip` below hold: `Witness.C18.d30_leading_blank_lost`.) -/
theorem reimport_exact (f : Frame) (rf : RowFilter) (cf : ColFilter) (crs : Int)
    (sel : List Export.Cell) (flt : Option (List Bool))
    (hcrs : 0 < crs) (hsel : Selects f cf sel) (hflt : validateRowFilter rf = .ok flt)
    (hne : dropFilterColumn rf sel ≠ []) :
    ∃ fields text, f.getAll (dropFilterColumn rf sel) = .ok fields ∧ toCsv csvRecord f rf cf crs = .ok text ∧
      parse .exetera text = dropFilterColumn rf sel :: exportRows (fields.map (·.data)) flt :=
  readers_recover .exetera f rf cf crs sel flt hcrs hsel hflt hne

example :=
  std_parser_recovers [⟨['s'], [['i', '\r', 'j'], [' ', 'a']]⟩, ⟨['n'], [['1'], ['2']]⟩] .none (.one ['s']) 1 [['s']] none
    (by decide +kernel) (Selects.one _ (by decide +kernel)) rfl (by decide +kernel)

example :=
  reimport_exact [⟨['s'], [[' ', 'a'], [' ', ' '], ['\r']]⟩, ⟨['b'], [['T'], ['F'], ['T']]⟩]
    (.field (some ['b']) true true [true, false, true]) .none 2 [['s'], ['b']] (some [true, false, true])
    (by decide +kernel) Selects.none rfl (by decide +kernel)

/-- non-vacuity: leading blanks, a cell of blanks only, bare carriage returns, a lone CR, separators and quotes -/
example :=
  readers_recover .exetera [⟨[' ', 's'], [[' ', 'a'], [' ', ' '], ['i', '\r', 'j'], ['\r'], ['x', ',', '"']]⟩,
      ⟨['n'], [['1'], ['2'], ['3'], ['4'], ['5']]⟩]
    (.array [true, true, true, true, true]) .none 2 [[' ', 's'], ['n']] (some [true, true, true, true, true]) (by decide +kernel)
    Selects.none rfl (by decide +kernel)

example : toCsv csvRecord [⟨['s'], [[' ', 'a'], ['i', '\r', 'j']]⟩, ⟨['n'], [['1'], ['2']]⟩] .none .none 1
    = .ok ['s', ',', 'n', '\n', '"', ' ', 'a', '"', ',', '1', '\n', '"', 'i', '\r', 'j', '"', ',', '2', '\n'] := by decide +kernel

/-- **csv_record_agrees_with_csv_writer**: the fix changes no other byte — on every frame none of whose cells or names
    starts with a blank or holds a carriage return, `to_csv` writes the same file with `_csv_record` as with `csv.writer`. -/
theorem csv_record_agrees_with_csv_writer (f : Frame) (rf : RowFilter) (cf : ColFilter) (crs : Int)
    (sel : List Export.Cell) (flt : Option (List Bool))
    (hcrs : 0 < crs) (hsel : Selects f cf sel) (hflt : validateRowFilter rf = .ok flt)
    (hne : dropFilterColumn rf sel ≠ [])
    (hplain : ∀ c ∈ f, (c.name.head? ≠ some ' ' ∧ '\r' ∉ c.name) ∧ ∀ x ∈ c.data, x.head? ≠ some ' ' ∧ '\r' ∉ x) :
    toCsv csvRecord f rf cf crs = toCsv renderRow f rf cf crs := by
  obtain ⟨fields, hget, hnames, hmem, hcsv⟩ := to_csv_rows csvRecord f rf cf crs sel flt hcrs hsel hflt hne
  obtain ⟨fields', hget', _, _, hcsv'⟩ := to_csv_rows renderRow f rf cf crs sel flt hcrs hsel hflt hne
  obtain rfl : fields = fields' := Except.ok.inj (hget.symm.trans hget')
  have hrows := written_cells (flt := flt) (P := fun c => c.head? ≠ some ' ' ∧ '\r' ∉ c) hnames hmem hplain
  rw [hcsv, hcsv', ← List.flatMap_cons, ← List.flatMap_cons, List.flatMap_def, List.flatMap_def,
    List.map_congr_left fun row hrow => csvRecord_eq_renderRow row (hrows row hrow)]

example :=
  csv_record_agrees_with_csv_writer [⟨['s'], [['a', ' '], ['p', ',', '"'], ['l', '\n', 'm'], []]⟩, ⟨['n'], [['1'], ['2'], ['3'], ['4']]⟩]
    (.array [true, false, true, true]) (.many [['n'], ['s']]) 3 [['n'], ['s']] (some [true, false, true, true])
    (by decide +kernel) (Selects.many _ (by decide +kernel) (by decide +kernel)) rfl (by decide +kernel) (by decide +kernel)

/- As found (the lines written by `csv.writer`, `renderRow`) the full statement `std_parser_recovers` is false
   (`Witness.C18.nc18a_bare_cr_splits_record`: csv.writer of Python < 3.13 does not quote a bare carriage return); what holds: -/
/-- **std_parser_recovers_partial**: with the specified `csv.writer` (`renderRow`), a standard CSV reader applied to the file written
    by `to_csv` recovers the header and every cell of every selected row exactly — provided no cell or name of the frame holds a
    carriage return without also holding a comma, quote or line feed (finding NC18a: such a cell is written unquoted). -/
theorem std_parser_recovers_partial (f : Frame) (rf : RowFilter) (cf : ColFilter) (crs : Int)
    (sel : List Export.Cell) (flt : Option (List Bool))
    (hcrs : 0 < crs) (hsel : Selects f cf sel) (hflt : validateRowFilter rf = .ok flt)
    (hne : dropFilterColumn rf sel ≠ [])
    (hread : ∀ c ∈ f, Readable .std c.name ∧ ∀ x ∈ c.data, Readable .std x) :
    ∃ fields text, f.getAll (dropFilterColumn rf sel) = .ok fields ∧ toCsv renderRow f rf cf crs = .ok text ∧
      parse .std text = dropFilterColumn rf sel :: exportRows (fields.map (·.data)) flt := by
  obtain ⟨fields, text, hget, hcsv, hparse, _⟩ := reader_reads_file .std renderRow (asRead .std) (Readable .std)
    (parse_render .std) f rf cf crs sel flt hcrs hsel hflt hne hread
  exact ⟨fields, text, hget, hcsv, hparse.trans (map_map_eq_self (fun _ _ c _ => asRead_std c))⟩

/-- non-vacuity: a frame with separators, quotes, a line feed, a leading blank, and a *quoted* carriage return -/
example :=
  std_parser_recovers_partial [⟨['s'], [['a', ',', '"', 'b', '"', '\n', 'c'], [' ', 'x'], ['\r', ',']]⟩, ⟨['n'], [['1'], ['2'], ['3']]⟩]
    (.array [true, true, true, true]) .none 2 [['s'], ['n']] (some [true, true, true, true]) (by decide +kernel) Selects.none rfl
    (by decide +kernel) (by decide +kernel)

example : parse .std (render [[['s'], ['n']], [['a', ',', '"', 'b', '"', '\n', 'c'], ['1']], [[' ', 'x'], ['2']]])
    = [[['s'], ['n']], [['a', ',', '"', 'b', '"', '\n', 'c'], ['1']], [[' ', 'x'], ['2']]] := by decide +kernel

/-- **reimport_roundtrip**: the specification of ExeTera's own reader dialect (only LF ends a record, blanks after a separator
    or line end are skipped) applied to the file written by `to_csv` recovers the header and every cell of every selected row
    *up to unquoted leading blanks* (`asRead .exetera`: finding D30) — for all contents, carriage returns included. -/
theorem reimport_roundtrip (f : Frame) (rf : RowFilter) (cf : ColFilter) (crs : Int)
    (sel : List Export.Cell) (flt : Option (List Bool))
    (hcrs : 0 < crs) (hsel : Selects f cf sel) (hflt : validateRowFilter rf = .ok flt)
    (hne : dropFilterColumn rf sel ≠ []) :
    ∃ fields text, f.getAll (dropFilterColumn rf sel) = .ok fields ∧ toCsv renderRow f rf cf crs = .ok text ∧
      parse .exetera text =
        (dropFilterColumn rf sel :: exportRows (fields.map (·.data)) flt).map (·.map (asRead .exetera)) := by
  obtain ⟨fields, text, hget, hcsv, hparse, _⟩ := reader_reads_file .exetera renderRow (asRead .exetera) (fun _ => True)
    (fun rows _ => parse_render .exetera rows (fun _ _ c _ => readable_exetera c))
    f rf cf crs sel flt hcrs hsel hflt hne (fun _ _ => ⟨trivial, fun _ _ => trivial⟩)
  exact ⟨fields, text, hget, hcsv, hparse⟩

/-- a cell keeps its blanks through the round trip: it has no leading blank, or something in it forces quotes -/
def KeepsBlanks (c : Export.Cell) : Prop := c.head? = some ' ' → c.any special = true

instance (c : Export.Cell) : Decidable (KeepsBlanks c) := by unfold KeepsBlanks; infer_instance

theorem asRead_exetera_of_keepsBlanks (c : Export.Cell) (h : KeepsBlanks c) : asRead .exetera c = c :=
  asRead_eq_self .exetera c (fun _ hs hb => by rw [h hb] at hs; exact nomatch hs)

/- As found (`renderRow`) the full statement `reimport_exact` above is false (`Witness.C18.d30_leading_blank_lost`: csv.writer leaves a
   cell with leading blanks unquoted and the reader skips blanks at the start of a field); `reimport_roundtrip` above states
   exactly what is read instead, and: -/
/-- **reimport_exact_partial**: if every cell and name of the frame keeps its blanks (no leading blank, or quoted anyway), re-import
    through ExeTera's reader dialect reproduces the header and every selected row exactly. -/
theorem reimport_exact_partial (f : Frame) (rf : RowFilter) (cf : ColFilter) (crs : Int)
    (sel : List Export.Cell) (flt : Option (List Bool))
    (hcrs : 0 < crs) (hsel : Selects f cf sel) (hflt : validateRowFilter rf = .ok flt)
    (hne : dropFilterColumn rf sel ≠ [])
    (hkeep : ∀ c ∈ f, KeepsBlanks c.name ∧ ∀ x ∈ c.data, KeepsBlanks x) :
    ∃ fields text, f.getAll (dropFilterColumn rf sel) = .ok fields ∧ toCsv renderRow f rf cf crs = .ok text ∧
      parse .exetera text = dropFilterColumn rf sel :: exportRows (fields.map (·.data)) flt := by
  obtain ⟨fields, text, hget, hcsv, hparse, hcells⟩ := reader_reads_file .exetera renderRow (asRead .exetera) KeepsBlanks
    (fun rows _ => parse_render .exetera rows (fun _ _ c _ => readable_exetera c))
    f rf cf crs sel flt hcrs hsel hflt hne hkeep
  exact ⟨fields, text, hget, hcsv,
    hparse.trans (map_map_eq_self (fun row hrow c hc => asRead_exetera_of_keepsBlanks c (hcells row hrow c hc)))⟩

/-- non-vacuity: trailing blanks, inner blanks, a quoted leading blank and a carriage return all survive -/
example :=
  reimport_exact_partial [⟨['s'], [['x', ' '], [' ', 'y', ','], ['a', '\r', 'b'], ['p', ' ', 'q']]⟩] .none (.one ['s']) 3 [['s']] none
    (by decide +kernel) (Selects.one _ (by decide +kernel)) rfl (by decide +kernel) (by decide +kernel)

example :=
  reimport_roundtrip [⟨['s'], [[' ', 'x'], [' ', 'y', ','], ['a', '\r', 'b']]⟩, ⟨['n'], [['1'], ['2'], ['3']]⟩] .none .none 2 [['s'], ['n']] none
    (by decide +kernel) Selects.none rfl (by decide +kernel)

example : parse .exetera (render [[['s'], ['n']], [[' ', 'x'], ['1']], [[' ', 'y', ','], ['2']], [['a', '\r', 'b'], ['3']]])
    = [[['s'], ['n']], [['x'], ['1']], [[' ', 'y', ','], ['2']], [['a', '\r', 'b'], ['3']]] := by decide +kernel

/-- the part of `to_pandas` both variants share: the columns pass the length check and every column is mapped by `app` -/
theorem to_pandas_core (f : Frame) (cf : ColFilter) (sel : List Export.Cell) (flt : Option (List Bool)) (N : Nat)
    (app : List Export.Cell → Except Err (List Export.Cell))
    (hsel : Selects f cf sel) (hne : sel ≠ []) (hlen : ∀ c ∈ f, c.name ∈ sel → c.data.length = N)
    (happ : ∀ data : List Export.Cell, data.length = N → app data = .ok (filterCol data flt)) :
    pdChecks f cf = .ok () ∧
    ∃ cols, pdLoop f app cf = .ok cols ∧ cols.map (·.1) = firstOccurrences [] sel ∧ ∀ p ∈ cols, GoodCol f flt p := by
  have hall : AllLen f N sel := by
    intro n hn
    obtain ⟨c, hc⟩ := get?_of_mem_keys f n (hsel.subset n hn)
    exact ⟨c, hc, hlen c (get?_some hc).2 (by rw [(get?_some hc).1]; exact hn)⟩
  obtain ⟨out, h1, h2, h3⟩ := pdCollect_ok f app flt N happ sel [] hall (fun _ h => nomatch h)
  have hcheck : pdCheck f sel = .ok () := by
    match sel, hne, hall with
    | n0 :: ns, _, hall =>
      obtain ⟨c0, hc0, hl0⟩ := hall n0 List.mem_cons_self
      simp only [pdCheck, List.getElem?_cons_zero, Frame.getE, hc0, hl0]
      exact pdCheckLengths_ok f N _ hall
  -- the loop runs over the selection `sel` whatever form `cf` has; so does the length check, which a single name (a str) skips
  have hchecks : pdChecks f cf = .ok () := by
    cases hsel with
    | one _ _ => rfl
    | none | many _ _ _ => exact hcheck
  have hloop : pdLoop f app cf = pdCollect f app sel [] := by cases hsel <;> rfl
  exact ⟨hchecks, out, hloop.trans h1, h2, h3⟩

/-- **to_pandas_eq** ("to_pandas returns columns equal to the field data under the same filters"; with the fix NC18b).
    For every frame, every valid non-empty column selection whose columns all have `N` rows, and EVERY row filter the validator
    of `to_csv` accepts (`hflt` is the very hypothesis of `to_csv_rows`: a boolean Field, a boolean or integer array — of any
    length — or, for `to_pandas`, a Python list): `to_pandas` ends normally; its columns are the distinct selected names in
    order of first occurrence; each is `[x_i | i < N, keep flt i]` of the frame's column of that name, where `keep flt` is the
    row selection of `exportRows`, the rows `to_csv` writes (`to_csv_rows`). -/
theorem to_pandas_eq (f : Frame) (pf : PdFilter) (cf : ColFilter) (sel : List Export.Cell) (flt : Option (List Bool)) (N : Nat)
    (hsel : Selects f cf sel) (hne : sel ≠ []) (hlen : ∀ c ∈ f, c.name ∈ sel → c.data.length = N)
    (hflt : validateRowFilter pf.toRowFilter = .ok flt) :
    ∃ cols, toPandas .repaired f pf cf = .ok cols ∧ cols.map (·.1) = firstOccurrences [] sel ∧
      ∀ p ∈ cols, ∃ c, f.get? p.1 = some c ∧ c ∈ f ∧ c.name = p.1 ∧ p.2 = filterCol c.data flt := by
  obtain ⟨hchk, cols, hloop, hnames, hgood⟩ := to_pandas_core f cf sel flt N (fun data => .ok (pdApply flt data)) hsel hne hlen
    (fun data _ => by rw [pdApply_eq_filterCol])
  refine ⟨cols, by simp only [toPandas, hchk, hflt, hloop], hnames, fun p hp => ?_⟩
  obtain ⟨c, hc, he⟩ := hgood p hp
  exact ⟨c, hc, (get?_some hc).2, (get?_some hc).1, he⟩

/-- non-vacuity: a Field shorter than the frame, an integer array longer than the frame, a duplicated selection -/
example :=
  to_pandas_eq [⟨['s'], [['a'], ['b'], ['c']]⟩, ⟨['n'], [['1'], ['2'], ['3']]⟩] (.field true [false, true])
    (.many [['n'], ['s'], ['n']]) [['n'], ['s'], ['n']] (some [false, true]) 3
    (Selects.many _ (by decide +kernel) (by decide +kernel)) (by decide +kernel) (by decide +kernel) rfl

example :=
  to_pandas_eq [⟨['s'], [['a'], ['b'], ['c']]⟩, ⟨['n'], [['1'], ['2'], ['3']]⟩] (.intArray [1, 0, 2, 1, 1])
    .none [['s'], ['n']] (some [true, false, false, true, true]) 3 Selects.none (by decide +kernel) (by decide +kernel) rfl

example : toPandas .repaired [⟨['s'], [['a'], ['b'], ['c']]⟩, ⟨['n'], [['1'], ['2'], ['3']]⟩] (.field true [false, true])
    (.many [['n'], ['s'], ['n']]) = .ok [(['n'], [['2']]), (['s'], [['b']])] := by decide +kernel

example : toPandas .repaired [⟨['s'], [['a'], ['b'], ['c']]⟩] (.intArray [1, 0, 2, 1, 1]) .none = .ok [(['s'], [['a']])] ∧
    toPandas .repaired [⟨['s'], [['a'], ['b'], ['c']]⟩] (.field false [true]) .none
      = .error (.valueError "'row_filter' must be boolean field") := ⟨rfl, rfl⟩

/-- **to_pandas_agrees_with_to_csv**: `to_pandas` and `to_csv` called with the SAME valid `row_filter` object and the same
    non-empty list of distinct names of columns of one length (not containing the filter's own column, which only `to_csv`
    drops) select the same rows: writing the rows of the returned pandas frame — all of them, `exportRows … none` — under the
    header gives exactly the file `to_csv` writes, for every `writerow` and every `chunk_row_size ≥ 1`. -/
theorem to_pandas_agrees_with_to_csv (writerow : List Export.Cell → List Char) (f : Frame) (rf : RowFilter)
    (names : List Export.Cell) (crs : Int) (flt : Option (List Bool)) (N : Nat)
    (hcrs : 0 < crs) (hne : names ≠ []) (hnd : names.Nodup) (hsub : ∀ n ∈ names, n ∈ f.keys)
    (hlen : ∀ c ∈ f, c.name ∈ names → c.data.length = N)
    (hflt : validateRowFilter rf = .ok flt) (hown : dropFilterColumn rf names = names) :
    ∃ cols, toPandas .repaired f (.ofCsv rf) (.many names) = .ok cols ∧ cols.map (·.1) = names ∧
      toCsv writerow f rf (.many names) crs =
        .ok (writerow names ++ (exportRows (cols.map (·.2)) Option.none).flatMap writerow) := by
  have hsel : Selects f (.many names) names := Selects.many _ hne hsub
  obtain ⟨cols, hpd, hnames, hgood⟩ := to_pandas_eq f (.ofCsv rf) (.many names) names flt N hsel hne hlen
    (by rw [validate_ofCsv]; exact hflt)
  rw [firstOccurrences_nodup names [] hnd (by simp), List.nil_append] at hnames
  obtain ⟨fields, hget, hfn, hmem, hcsv⟩ := to_csv_rows writerow f rf (.many names) crs names flt hcrs hsel hflt
    (by rw [hown]; exact hne)
  rw [hown] at hget hfn hcsv
  refine ⟨cols, hpd, hnames, ?_⟩
  rw [hcsv, goodCols_eq f flt cols fields (hnames ▸ hget)
    (fun p hp => by obtain ⟨c, hc, _, _, he⟩ := hgood p hp; exact ⟨c, hc, he⟩),
    exportRows_filterCol (fields.map (·.data)) flt N (fun h => hne (by rw [← hfn, List.map_eq_nil_iff.mp h]; rfl))]
  intro d hd
  obtain ⟨c, hc, rfl⟩ := List.mem_map.mp hd
  exact hlen c (hmem c hc) (hfn ▸ List.mem_map_of_mem hc)

/-- non-vacuity: a memory Field one entry short, an unordered selection, chunk size 2 -/
example :=
  to_pandas_agrees_with_to_csv renderRow [⟨['s'], [['a'], ['b', ','], ['c']]⟩, ⟨['n'], [['1'], ['2'], ['3']]⟩]
    (.field Option.none false true [false, true]) [['n'], ['s']] 2 (some [false, true]) 3
    (by decide +kernel) (by decide +kernel) (by decide +kernel) (by decide +kernel) (by decide +kernel) rfl rfl

example : toCsv renderRow [⟨['s'], [['a'], ['b', ','], ['c']]⟩, ⟨['n'], [['1'], ['2'], ['3']]⟩]
    (.field Option.none false true [false, true]) (.many [['n'], ['s']]) 2
      = .ok ['n', ',', 's', '\n', '2', ',', '"', 'b', ',', '"', '\n'] ∧
    toPandas .repaired [⟨['s'], [['a'], ['b', ','], ['c']]⟩, ⟨['n'], [['1'], ['2'], ['3']]⟩]
      (.ofCsv (.field Option.none false true [false, true])) (.many [['n'], ['s']])
      = .ok [(['n'], [['2']]), (['s'], [['b', ',']])] := by decide +kernel

/- As found the full statement `to_pandas_eq` is false (`Witness.C18.nc18b_to_pandas_refuses_csv_filters`); what holds for BOTH
   variants of the model: -/
/-- **to_pandas_eq_partial**: for a valid, non-empty column selection whose columns all have `N` rows and a row filter that is absent or a
    boolean list / array of length `N`, `to_pandas` — as found or repaired — ends normally; its columns are the distinct selected
    names in order of first occurrence, and each column is `[x_i | i < N, filter i]` of the frame's column of that name. -/
theorem to_pandas_eq_partial (v : Variant) (f : Frame) (rf : PdFilter) (cf : ColFilter) (sel : List Export.Cell)
    (flt : Option (List Bool)) (N : Nat)
    (hsel : Selects f cf sel) (hne : sel ≠ []) (hlen : ∀ c ∈ f, c.name ∈ sel → c.data.length = N)
    (hflt : PdFilterOk N rf flt) :
    ∃ cols, toPandas v f rf cf = .ok cols ∧ cols.map (·.1) = firstOccurrences [] sel ∧
      ∀ p ∈ cols, ∃ c ∈ f, c.name = p.1 ∧ p.2 = filterCol c.data flt := by
  cases v with
  | repaired =>
    obtain ⟨cols, h1, h2, h3⟩ := to_pandas_eq f rf cf sel flt N hsel hne hlen (validate_of_pdFilterOk hflt)
    exact ⟨cols, h1, h2, fun p hp => by obtain ⟨c, _, hc, hn, he⟩ := h3 p hp; exact ⟨c, hc, hn, he⟩⟩
  | asFound =>
    obtain ⟨hchk, cols, hloop, hnames, hgood⟩ := to_pandas_core f cf sel flt N (pdApplyAsFound rf) hsel hne hlen
      (fun data hd => pdApplyAsFound_ok data rf flt (by rw [hd]; exact hflt))
    exact ⟨cols, by simp only [toPandas, hchk, hloop], hnames,
      fun p hp => by obtain ⟨c, hc, he⟩ := hgood p hp; exact ⟨c, (get?_some hc).2, (get?_some hc).1, he⟩⟩

example :=
  to_pandas_eq_partial .asFound [⟨['s'], [['a'], ['b'], ['c']]⟩, ⟨['n'], [['1'], ['2'], ['3']]⟩] (.list [true, false, true])
    (.many [['n'], ['s'], ['n']]) [['n'], ['s'], ['n']] (some [true, false, true]) 3
    (Selects.many _ (by decide +kernel) (by decide +kernel)) (by decide +kernel) (by decide +kernel) (PdFilterOk.list _ rfl)

example : toPandas .asFound [⟨['s'], [['a'], ['b'], ['c']]⟩, ⟨['n'], [['1'], ['2'], ['3']]⟩] (.list [true, false, true])
    (.many [['n'], ['s'], ['n']]) = .ok [(['n'], [['1'], ['3']]), (['s'], [['a'], ['c']])] := by decide +kernel

end Exetera.Props.C18
