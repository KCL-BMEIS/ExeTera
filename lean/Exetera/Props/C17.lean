import Exetera.Lemmas.JournalTable
import Exetera.Lemmas.JournalSort
/-!
# C17 — snapshot journalling keeps all history and appends only changed/new records

The theorems are about the model the correspondence driver executes (`Exetera.Journal.*`, `Driver/C17.lean`) and the
specification `Exetera.Spec.Journal` (`indices`, `toKeep`, `plan`, `planPhys`). An `.ok` result means: no out-of-bounds
subscript in any kernel, no loop out of fuel, no failed `assert`, no size mismatch in a
slice assignment. "Ascending" old keys are `Pairwise (· ≤ ·)` (several versions per key), the snapshot's keys are
`Pairwise (· < ·)` (sorted and unique); `journal_table_eq` needs neither: it takes the tables in any physical order (the
snapshot's keys unique, `Nodup`).

Vocabulary (`Lemmas/JournalDefs.lean`): a `Col` is one compared field (its old and new column, numeric or string), `c.enc` the
arrays the kernels see (an indexed string field as indices + values), `c.WF lo ln` says the field has one cell per row,
`c.differs r j` that old row `r` and snapshot row `j` differ in this field, `differsAny cols` that they differ in some field,
`c.out p` the field read along the plan `p` (strings laid out as indices + values again).
-/
namespace Exetera.Props.C17
open Exetera Exetera.Journal Exetera.Spec.Journal

/-- `ordered_generate_journalling_indices`: one slot per distinct key of old ∪ new in ascending order; the old entry is the
    last row of the key's run (or -1), the new entry the key's snapshot row (or -1). Both passes finish without leaving an array. -/
theorem journal_indices_spec {old new : List Int} (hso : old.Pairwise (· ≤ ·)) (hsn : new.Pairwise (· < ·)) :
    journalIndices old new = .ok (indices old new) :=
  journalIndices_eq hso hsn

example : ([0, 0, 0, 1, 1, 2, 3, 3, 5, 5, 5] : List Int).Pairwise (· ≤ ·) ∧ ([0, 2, 3, 4, 5, 6] : List Int).Pairwise (· < ·) := by
  decide
example : journalIndices [0, 0, 0, 1, 1, 2, 3, 3, 5, 5, 5] [0, 2, 3, 4, 5, 6] =
    .ok ([2, 4, 5, 7, -1, 10, -1], [0, -1, 1, 2, 3, 4, 5]) := by rfl
example : indices [0, 0, 0, 1, 1, 2, 3, 3, 5, 5, 5] [0, 2, 3, 4, 5, 6] = ([2, 4, 5, 7, -1, 10, -1], [0, -1, 1, 2, 3, 4, 5]) := by rfl

/-- memory safety and termination of `ordered_generate_journalling_indices` on *every* input (no sortedness, no uniqueness): both
    passes finish, the writing pass takes exactly the counting pass's steps so `joint < total` at every write, no subscript leaves
    its array, and the two maps have the same length -/
theorem journal_indices_safe (old new : List Int) :
    ∃ om nm, journalIndices old new = .ok (om, nm) ∧ om.length = nm.length :=
  journalIndices_safe old new

example : journalIndices [3, 1, 1, 3, 3] [2, 2, 0] = .ok ([-1, -1, -1, 0, 2, 4], [0, 1, 2, -1, -1, -1]) := by rfl

/-- the compare loop over all compared fields (numeric and indexed, at least one): `to_keep` is, slot by slot, the specified
    flag -/
theorem to_keep_iff_new_or_differs (ok nk : List Int) (cols : List Col) (hne : cols ≠ [])
    (hwf : ∀ c, c ∈ cols → c.WF ok.length nk.length) :
    compareCols (indices ok nk).1 (indices ok nk).2 (cols.map Col.enc) (List.replicate (indices ok nk).1.length false) =
      .ok (toKeep ok nk (differsAny cols)) :=
  compareCols_toKeep ok nk cols hne hwf

/-- reading of the specified flag: a slot is kept iff its key has a snapshot row and is new or differs from its last version -/
theorem keepFlag_iff (d : Nat → Nat → Bool) (j? r? : Option Nat) :
    keepFlag d j? r? = true ↔ ∃ j, j? = some j ∧ (r? = none ∨ ∃ r, r? = some r ∧ d r j = true) := by
  cases j? <;> cases r? <;> simp [keepFlag]

example : compareCols [1, 2, -1] [0, -1, 1] ([Col.num [7, 7, 9] [7, 5], Col.str [[1], [2], []] [[3], [4]]].map Col.enc)
    [false, false, false] = .ok [true, false, true] := by rfl
example : toKeep [4, 4, 6] [4, 8] (differsAny [Col.num [7, 7, 9] [7, 5], Col.str [[1], [2], []] [[3], [4]]]) = [true, false, true] := by
  rfl

/-- `merge_journalled_entries` (numeric field) and `merge_indexed_journalled_entries_count` + `merge_indexed_journalled_entries`
    (indexed string field), run on the specified maps and flags with the destination sizes `journal_table` allocates, write exactly
    the field read along the specification's plan -/
theorem merge_eq_spec {ok nk : List Int} (hso : ok.Pairwise (· ≤ ·)) (hsn : nk.Pairwise (· < ·)) (d : Nat → Nat → Bool)
    (c : Col) (hwf : c.WF ok.length nk.length) :
    mergeCol (indices ok nk).1 (indices ok nk).2 (toKeep ok nk d) (ok.length + (toKeep ok nk d).count true) c.enc =
      .ok (c.out (plan ok nk d)) :=
  mergeCol_spec hso hsn d c hwf

example : mergeCol [1, 2, -1] [0, -1, 1] [true, false, true] 5 (Col.str [[1], [2], []] [[3], [4]]).enc =
    .ok (.str [0, 1, 2, 3, 3, 4] [1, 2, 3, 4]) := by rfl

/-- **journal_table on sorted tables** (`rows_aligned`): every result field — numeric or indexed — is its old and new column read
    along one and the same plan, the specification's: per key ascending all old versions in order, then the snapshot row iff the key
    is new or the row differs from the last old version in some compared field -/
theorem rows_aligned {ok nk : List Int} (hso : ok.Pairwise (· ≤ ·)) (hsn : nk.Pairwise (· < ·)) (cols : List Col)
    (hwf : ∀ c, c ∈ cols → c.WF ok.length nk.length) :
    journalSorted ok nk (cols.map Col.enc) ok.length = .ok (cols.map (Col.out (plan ok nk (differsAny cols)))) :=
  journalSorted_eq hso hsn cols hwf

/-- every result field has the same number of rows: `len(old) + to_keep.sum()`, the length of the plan -/
theorem columns_equal_length {ok nk : List Int} (hso : ok.Pairwise (· ≤ ·)) (hsn : nk.Pairwise (· < ·)) (cols : List Col)
    (hwf : ∀ c, c ∈ cols → c.WF ok.length nk.length) :
    ∃ outs, journalSorted ok nk (cols.map Col.enc) ok.length = .ok outs ∧ outs.length = cols.length ∧
      ∀ o, o ∈ outs → o.rows = (plan ok nk (differsAny cols)).length ∧
        o.rows = ok.length + (toKeep ok nk (differsAny cols)).count true := by
  refine ⟨_, journalSorted_eq hso hsn cols hwf, by rw [List.length_map], fun o ho => ?_⟩
  obtain ⟨c, hc, rfl⟩ := List.mem_map.1 ho
  have h := out_rows hso hsn (differsAny cols) c (hwf c hc)
  exact ⟨h.trans (plan_facts (differsAny cols) hso hsn).2.2.symm, h⟩

/-- keys absent from the snapshot keep their history and get no new row -/
theorem absent_keys_keep_history (ok nk : List Int) (d : Nat → Nat → Bool) (k : Int) (h : k ∉ nk) :
    block ok nk d k = (positions k ok).map .old := by
  have : positions k nk = [] := positionsFrom_of_not_mem h
  simp [block, this, newPart]

/-- a key that is only in the snapshot contributes exactly its snapshot row -/
theorem new_keys_are_appended (ok nk : List Int) (d : Nat → Nat → Bool) (k : Int) (h : k ∉ ok) (h' : k ∈ nk) :
    ∃ j, (positions k nk).head? = some j ∧ block ok nk d k = [.new j] := by
  have ho : positions k ok = [] := positionsFrom_of_not_mem h
  have hn := positions_ne_nil h'
  cases hp : positions k nk with
  | nil => exact absurd hp hn
  | cons j rest => exact ⟨j, rfl, by simp [block, ho, hp, newPart, keepFlag]⟩

/-- **journal_table**, tables in any physical order (old table: several versions per key anywhere; snapshot: unique keys in any
    order): the model of `journal_table` — two stable sorts, index generation, compare loop, merge loop — returns, for every compared
    field, the field read along `planPhys`: per key ascending the key's old versions in (valid_from, physical row) order, then the
    snapshot row iff the key is new or the row differs from the latest old version in some compared field -/
theorem journal_table_eq {oldIds oldVf newIds : List Int} {cols : List Col}
    (hvf : oldVf.length = oldIds.length) (hu : newIds.Nodup) (hwf : ∀ c, c ∈ cols → c.WF oldIds.length newIds.length) :
    journalTable oldIds oldVf newIds cols = .ok (cols.map (Col.out (planPhys oldIds oldVf newIds (differsAny cols)))) :=
  journalTable_of_sorted (fun _ _ cols hso hsn hwf => journalSorted_eq hso hsn cols hwf) hvf hu hwf

example : ([2, 1, 1] : List Int).length = 3 ∧ ([3, 1] : List Int).Nodup := by decide
example :
    journalTable [2, 1, 1] [1, 2, 1] [3, 1] [.num [20, 12, 11] [30, 12], .str [[5], [6, 7], []] [[8], [6]]] =
      .ok [.num [11, 12, 12, 20, 30], .str [0, 0, 2, 3, 4, 5] [6, 7, 6, 5, 8]] := by rfl
example : planPhys [2, 1, 1] [1, 2, 1] [3, 1] (differsAny [.num [20, 12, 11] [30, 12], .str [[5], [6, 7], []] [[8], [6]]]) =
    [.old 2, .old 1, .new 1, .old 0, .new 0] := by rfl

/-- the history of a key consists exactly of the rows of that key -/
theorem history_rows {ids vf : List Int} (hvf : vf.length = ids.length) {k : Int} {r : Nat} :
    r ∈ history ids vf k ↔ ids[r]? = some k :=
  mem_history hvf

/-- what `history` means, without reference to a sorting algorithm: the rows of the key, with their `valid_from` attached, strictly
    ascending in (valid_from, physical row) — so the last one is the latest version, ties broken by the later physical row -/
theorem history_order (okeys ovf : List Int) (k : Int) :
    ∃ L : List (Int × Nat), history okeys ovf k = L.map (·.2) ∧ L.Pairwise TimeRowLt ∧
      ∀ p, p ∈ L → ovf[p.2]? = some p.1 ∧ okeys[p.2]? = some k :=
  history_time_row_order okeys ovf k

example : history [2, 1, 1, 1] [1, 5, 1, 5] 1 = [2, 1, 3] := by rfl

end Exetera.Props.C17
