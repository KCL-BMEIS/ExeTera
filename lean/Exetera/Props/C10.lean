import Exetera.Props.C12
import Exetera.Model.KernelSitesJoin
import Exetera.Model.KernelPathsJoin
import Exetera.Model.KernelSitesNotModelled
import Exetera.Gen.KernelShape
import Exetera.Props.C10.Basic
import Exetera.Props.C10.MapValid
import Exetera.Props.C10.Spans
import Exetera.Props.C10.FilterIndex
import Exetera.Props.C10.Unique
import Exetera.Props.C10.Concat
import Exetera.Props.C10.Journal
import Exetera.Props.C10.Transforms
import Exetera.Props.C10.Csv
import Exetera.Props.C10.JoinFlat
import Exetera.Props.C10.GroupBy
/-!
# C10 — compiled kernels never touch memory outside their arrays

Every array subscript of a modelled kernel goes through a checked accessor (`getE`, `setE`, a capacity check on a buffer that
is filled front to back), which yields `.error (.oob site)` when out of range. So each `… = .ok …` refinement theorem of the
owning property is a memory-safety theorem for the model's accesses. This property adds, per kernel family
(`Props/C10/<Family>.lean`, all in namespace `Exetera.Props.C10`):

* `no_oob_<kernel>`: for every input the owning theorem calls valid (its hypotheses repeated verbatim), every chunk / buffer
  size it allows and every `site`, the model run is not `.error (.oob site)` — a corollary of the owning theorem;
* `access_sites_covered_<family>`: the loop guards and subscripts of the family's kernels, regenerated from the CURRENT
  source into `Gen/KernelShape.lean`, are exactly the ones the model was written against (`Model/KernelSites<Family>.lean`,
  whose doc comment maps every source subscript to the model accessor that stands for it) — a dropped guard conjunct or a
  new subscript in the source breaks the build instead of going unmodelled;
* `access_paths_covered_<family>`: the same for the PATH CONDITION of every occurrence of every subscript — the ordered list
  of enclosing loop guards, `if` / `elif` tests, negated `else` branches, negated early exits (`if …: break | continue |
  return | raise`) and `and` / `or` operands to the left under which it executes — regenerated into `Gen/KernelPaths.lean`
  and compared with `Model/KernelPaths<Family>.lean` (whose doc comment says which conjunct each checked accessor relies
  on): a dominating test that is dropped, weakened or moved breaks the build. `kernel_paths_sites_match_shape`
  (`Props/C10/Basic.lean`): the two generated tables list the same kernels and the same subscripts;
* buffer statements that hold for ALL arguments: `push_oob_iff` / `pushV_oob_iff` / `setE_oob_iff` (a write is refused
  exactly when the position is not below the buffer size), `indexed_partial_buffers_bounded`,
  `concat_kernel_buffers_bounded` (no normally returning call leaves more elements in a result buffer than it has slots);
* `kernel_inventory_complete`: every compiled kernel of the current source is in a site table or in the explicit
  not-modelled list.

This file: the streamed join kernels (owning properties C03 / C12) and the inventory.

Families and owners: join (C03/C12, here), MapValid (C04), Spans (C08), FilterIndex (C09), Unique (C14), Concat (C16),
Journal (C17), Transforms (C06), Csv (C05), JoinFlat (C19), GroupBy (C07).

Differential only (listed where they belong): kernels without a model (`KernelSites.notModelled`); indexed `unique` on
columns with trailing NULs (`no_oob_unique_partial`). Without a `no_oob_*` corollary (the `.ok` theorems of C05 cover them):
the buffer-full / regrowth runs of the CSV reader (`Props/C10/Csv.lean`).
Every subscript of a modelled kernel is checked by its model (the column subscript of the import transforms:
`Transforms.withCol`; the result arrays of `numeric_bool_transform` and `safe_map_indexed_values`: capacity checks).
A path condition is syntactic (the text of the tests passed, each true when it was passed): that an accessor is safe under
it is the content of the `no_oob_*` theorems about the model; that the code has exactly these tests is
`access_paths_covered_*`.
What no model exhibits: the effect of an actual stray write on the heap.
-/
namespace Exetera.Props.C10
open Exetera Exetera.Join Exetera.Spec

/-- the loop guards and subscripts of the modelled join kernels, as regenerated from the current source, are exactly the
    ones the model was written against -/
theorem access_sites_covered_join : ∀ k ∈ KernelSites.joinSites, lookup k.1 = some k :=
  lookup_of_family .join rfl

/-- the PATH CONDITION of every subscript occurrence in these kernels (enclosing loop guards, `if` / `elif` tests, negated
    `else` branches and early exits), as regenerated from the current source (`Gen/KernelPaths.lean`), is exactly the one the
    model was written against (`Model/KernelPathsJoin.lean`): dropping or changing a test that dominates a subscript breaks
    the build; and the table covers exactly the kernels of the site table -/
theorem access_paths_covered_join :
    (∀ k ∈ KernelPaths.joinPaths, lookupPaths k.1 = some k) ∧
    KernelPaths.joinPaths.map (·.1) = KernelSites.joinSites.map (·.1) :=
  ⟨lookupPaths_of_family .join rfl, rfl⟩

/-- no out-of-bounds access at any site, in any of the eight join-map generators, for every valid input and every chunk
    size ≥ 1; in particular the chunk-sized result buffers are never overrun whatever the ratio of matches to rows -/
theorem no_oob_join_streamed (v : Variant) {L R : List Int} {cs : Nat} (inv : Int) (hcs : 0 < cs) (hv : C12.Valid v L R)
    (fuel : Nat) (hfuel : C12.bound L R ≤ fuel) (site : String) :
    streamed v fuel cs inv L R ≠ .error (.oob site) := by
  obtain ⟨o, ho, _⟩ := C12.join_streamed_terminates v inv hcs hv fuel hfuel
  rw [ho]; intro h; cases h

/-- the write `result[r] = …` is refused by the model exactly when `r` is not below the buffer size -/
theorem push_oob_iff (cap : Nat) (s : K) (a b : Int) (site : String) :
    (∃ e, push cap s a b site = .error e) ↔ cap ≤ s.rb.length :=
  ite_ok_error_iff.trans Nat.not_lt

example : KernelSites.joinSites.length = 10 := by decide +kernel

/-- all site tables: the compiled kernels that have a model -/
def modelledSites : List (String × List String × List String) :=
  KernelSites.joinSites ++ KernelSites.mapValidSites ++ KernelSites.spansSites ++ KernelSites.filterIndexSites ++
  KernelSites.uniqueSites ++ KernelSites.concatSites ++ KernelSites.journalSites ++ KernelSites.transformsSites ++
  KernelSites.csvSites ++ KernelSites.joinFlatSites ++ KernelSites.groupBySites

/-- every compiled kernel found in the current source is modelled (has a site table entry, hence an
    `access_sites_covered_*` obligation) or is in the explicit not-modelled list; and no table names a kernel twice -/
theorem kernel_inventory_complete :
    (∀ k ∈ Gen.kernelShape, k.1 ∈ modelledSites.map (·.1) ∨ k.1 ∈ KernelSites.notModelled) ∧
    (modelledSites.map (·.1) ++ KernelSites.notModelled).Nodup := by
  let families : List Family :=
    [.join, .mapValid, .spans, .filterIndex, .unique, .concat, .journal, .transforms, .csv, .joinFlat, .groupBy, .notModelled]
  -- family by family, the model's names are the names of `Gen.kernelShape`, sorted by `inventory`
  have sorted : modelledSites.map (·.1) ++ KernelSites.notModelled =
      (families.flatMap (tagged inventory · Gen.kernelShape)).map (·.1) := rfl
  have hperm : (modelledSites.map (·.1) ++ KernelSites.notModelled).Perm (Gen.kernelShape.map (·.1)) :=
    sorted ▸ (flatMap_tagged_perm (by decide) (by decide) (by decide)).map _
  exact ⟨fun k hk => List.mem_append.mp (hperm.mem_iff.mpr (List.mem_map_of_mem hk)), hperm.nodup_iff.mpr shape_names_nodup⟩

example : modelledSites.length = 64 ∧ KernelSites.notModelled.length = 5 ∧ Gen.kernelShape.length = 69 := by decide +kernel

end Exetera.Props.C10
