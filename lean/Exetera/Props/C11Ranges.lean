import Exetera.Props.C04
import Exetera.Props.C05
import Exetera.Props.C08
import Exetera.Props.C09
import Exetera.Props.C16
import Exetera.Props.C17
import Exetera.Lemmas.RangeOffsets
/-!
# C11 — range lemmas for the kernels that compute indices and offsets (beyond the join maps of `Props/C11.lean`)

The models compute over unbounded `Int`/`Nat`; the compiled kernels store the same quantities into `int32`/`int64` arrays. Each
`range_safe_<kernel>` lemma derives, from the owning property's functional theorem (result = specification), that every STORED
value is a row number below the row count, or an offset between 0 and the number of bytes of the destination (or the kernel's
own marker) — so for row counts below 2^31 (int32 span/map arrays) resp. row and byte counts below 2^63 (int64 offsets) no
fixed-width wrap-around can occur, and JIT and interpreter, which differ in the model only by wrap-around, agree.
`FitsInt32`/`FitsInt64` are the value ranges of the numpy dtypes (`Lemmas/RangeOffsets.lean`).
Intermediate quantities of the kernels are differences of two stored offsets or of two row numbers of one window, hence bounded
by the same counts; buffer positions (`ri`, `rv`, `d_index_i`, …) are bounded by the buffer capacities because every write in
the models is a checked access (an `.ok` result excludes an overrun).
-/
namespace Exetera.Props.C11
open Exetera

section MapValid
open Exetera.MapValid Exetera.Spec

/-- **range_safe_map_indexed.** `ordered_map_valid_indexed_stream`: every offset written to the destination's `indices`
    (each is a value `ri_accum` took) lies between 0 and the number of bytes written to the destination's `values`; with fewer
    than 2^63 destination bytes they all fit int64. -/
theorem range_safe_map_indexed {β} (indices : List Int) (values : List β) (m : List Int) (inv : Int) (cs vf : Nat)
    (hok : IndexedOK indices values) (hcs : 1 ≤ cs) (hr : InRange (entries indices values).length m inv)
    (hcap : ∀ (r : Nat) (k : Int) (x : List β), m[r]? = some k → k ≠ inv →
      (entries indices values)[k.toNat]? = some x → x.length ≤ cs * vf) :
    ∃ out, orderedMapValidIndexedStream indices values m inv cs vf = .ok out ∧
      (∀ x ∈ out.1, 0 ≤ x ∧ x ≤ (out.2.length : Int)) ∧
      (out.2.length < 2 ^ 63 → ∀ x ∈ out.1, FitsInt64 x) := by
  obtain ⟨out, hrun, hspec⟩ := C04.map_indexed_stream_eq_any indices values m inv cs vf hok hcs hr hcap
  simp only [mapIndexedSpec, Option.map_eq_some_iff] at hspec
  obtain ⟨es, _, rfl⟩ := hspec
  have hrange : ∀ x ∈ (encodeIndexed es).1, 0 ≤ x ∧ x ≤ ((encodeIndexed es).2.length : Int) := by
    intro x hx
    have := offsetsFromI_range es 0 x hx
    simp only [encodeIndexed]
    omega
  exact ⟨_, hrun, hrange, fun hn x hx => FitsInt64.of_bounds (hrange x hx).1 (hrange x hx).2 hn⟩

/-- **range_safe_map_window.** The subscript `map_values[sm] - d_start` that `ordered_map_valid_partial` computes: inside every
    piece of the splitter, a later valid entry minus an earlier one lies in `[0, chunksize)` — it is an index into the source
    window of at most `chunksize` elements, whatever the marker and however large the row numbers themselves are. -/
theorem range_safe_map_window (m : List Int) (inv : Int) (cs : Nat) (hcs : 1 ≤ cs) :
    ∃ subs, subchunks m inv cs = .ok subs ∧
      ∀ t ∈ subs, ∀ (p q : Nat) (a b : Int), t.1 ≤ p → p ≤ q → q < t.2 → m[p]? = some a → m[q]? = some b →
        a ≠ inv → b ≠ inv → 0 ≤ b - a ∧ b - a < cs := by
  obtain ⟨subs, h1, _, hord⟩ := C04.subchunk_entries_ordered m inv cs hcs
  obtain ⟨subs', h1', _, hmade⟩ := subchunks_made m inv cs hcs
  rw [h1] at h1'
  cases h1'
  refine ⟨subs, h1, ?_⟩
  intro t ht p q a b hp hpq hq hpa hqb ha hb
  refine ⟨by have := hord t ht p q a b hp hpq hq hpa hqb ha hb; omega, ?_⟩
  have hq2 := hq
  rw [hmade t ht] at hq2
  exact nextMapSubchunk_span m t.1 inv cs p q a b hp (by omega) (by omega) hq2 hpa hqb ha hb

-- non-vacuity: the NC02a witness map (not ordered), chunk size 2; several value sub-chunks in the indexed stream
example : subchunks [0, 1, 2, 0, 1, 2] INVALID_INDEX_64 2 = .ok [(0, 2), (2, 3), (3, 5), (5, 6)] := by rfl
example : orderedMapValidIndexedStream [0, 1, 3, 6, 10] [1, 2, 2, 3, 3, 3, 4, 4, 4, (4 : Int)] [0, 1, -1, 2, 2, 3] (-1) 2 2
    = .ok ([0, 1, 3, 3, 6, 9, 13], [1, 2, 2, 3, 3, 3, 3, 3, 3, 4, 4, 4, 4]) := by rfl

end MapValid

section Spans
open Exetera.Spans Exetera.Spec

/-- **range_safe_spans.** Every value `get_spans_for_field` stores is a row position `≤` the row count: with fewer than 2^31
    rows the span array fits int32, with fewer than 2^63 rows int64. -/
theorem range_safe_spans {α} (ne : α → α → Bool) (xs : List α) :
    (∀ x ∈ getSpansForField ne xs, x ≤ xs.length) ∧
    (xs.length < 2 ^ 31 → ∀ x ∈ getSpansForField ne xs, FitsInt32 (x : Int)) ∧
    (xs.length < 2 ^ 63 → ∀ x ∈ getSpansForField ne xs, FitsInt64 (x : Int)) := by
  have h : ∀ x ∈ getSpansForField ne xs, x ≤ xs.length := by
    intro x hx
    rw [C08.get_spans_for_field_eq_spec] at hx
    exact le_getLast_of_pairwise _ _ (spans_pairwise ne xs) (spans_getLast ne xs) x hx
  exact ⟨h, fun hn x hx => FitsInt32.of_nat_le (h x hx) hn, fun hn x hx => FitsInt64.of_nat_le (h x hx) hn⟩

/-- **range_safe_spans_int32** (`C08.span_values_fit_int32` lifted): whenever one of the three entry points CHOOSES int32 for
    the span array (threshold `INT64_INDEX_LENGTH = 2^31 - 1`), every stored value fits int32. -/
theorem range_safe_spans_int32 {α} (ne : α → α → Bool) (xs : List α)
    (hd : spanDtypeField INT64_INDEX_LENGTH xs.length = .i32 ∨ spanDtype2 INT64_INDEX_LENGTH xs.length xs.length = .i32 ∨
      spanDtypeMulti INT64_INDEX_LENGTH xs.length = .i32) :
    ∀ x ∈ getSpansForField ne xs, FitsInt32 (x : Int) := by
  intro x hx
  rw [C08.get_spans_for_field_eq_spec] at hx
  have := C08.span_values_fit_int32 ne xs hd x hx
  unfold FitsInt32
  omega

example : getSpansForField (fun (a b : Int) => a != b) [1, 2, 2, 1, 1, 1, 3] = [0, 1, 3, 6, 7] ∧
    spanDtypeField INT64_INDEX_LENGTH 7 = .i32 := by decide +kernel

end Spans

section FilterIndex
open Exetera.FilterIndex Exetera.Spec

/-- **range_safe_filter_indexed.** `apply_filter_to_index_values`: every offset stored in the destination index is between 0
    and the number of destination bytes, which is at most the number of source bytes. -/
theorem range_safe_filter_indexed (v : Variant) (es : List (List Nat)) (flt : List Bool) (h : flt.length = es.length) :
    ∃ out, applyFilterToIndexValues v flt (offsetsF es) es.flatten = .ok out ∧
      (∀ x ∈ out.1, x ≤ out.2.length) ∧ out.2.length ≤ es.flatten.length ∧
      (es.flatten.length < 2 ^ 63 → ∀ x ∈ out.1, FitsInt64 (x : Int)) := by
  refine ⟨_, C09.filter_indexed_eq v es flt h, ?_, ?_, ?_⟩
  · intro x hx
    have := offsetsFromF_range (filterBy flt es) 0 x hx
    show x ≤ (filterBy flt es).flatten.length
    omega
  · exact sublist_flatten_length_le (C09.filter_subset flt es)
  · intro hn x hx
    have h1 := offsetsFromF_range (filterBy flt es) 0 x hx
    have h2 := sublist_flatten_length_le (C09.filter_subset flt es)
    exact FitsInt64.of_nat_le (n := es.flatten.length) (by omega) hn

/-- **range_safe_index_indexed.** `apply_indices_to_index_values`: every offset stored in the destination index is between 0
    and the number of destination bytes (the gathered rows may repeat source rows, so the bound is the destination's size). -/
theorem range_safe_index_indexed (v : Variant) (es : List (List Nat)) (idx : List Int) (rows : List (List Nat))
    (h : gather es idx = some rows) :
    ∃ out, applyIndicesToIndexValues v idx (offsetsF es) es.flatten = .ok out ∧
      (∀ x ∈ out.1, x ≤ out.2.length) ∧ (out.2.length < 2 ^ 63 → ∀ x ∈ out.1, FitsInt64 (x : Int)) := by
  refine ⟨_, C09.index_indexed_eq v es idx rows h, ?_, ?_⟩
  · intro x hx
    have := offsetsFromF_range rows 0 x hx
    show x ≤ rows.flatten.length
    omega
  · intro hn x hx
    have h1 := offsetsFromF_range rows 0 x hx
    exact FitsInt64.of_nat_le (n := rows.flatten.length) (by omega) hn

example : applyFilterToIndexValues .repaired [true, false, true, true] (offsetsF [[97], [], [99, 99, 99], [100, 195, 169]])
    [97, 99, 99, 99, 100, 195, 169] = .ok ([0, 1, 4, 7], [97, 99, 99, 99, 100, 195, 169]) := by rfl
example : gather [[97], [], [99, 99]] [2, -3, 1, 2] = some [[99, 99], [97], [], [99, 99]] := by decide +kernel

end FilterIndex

section Concat
open Exetera.Concat Exetera.Spec.CsvLine
variable {α : Type} [DecidableEq α]

/-- **range_safe_concat.** `Session.apply_spans_concat`: every offset stored in `dest.indices` (`d_index_v + dest_start_v`)
    is at most the number of bytes stored in `dest.values`. -/
theorem range_safe_concat (sep delim : α) (entries : List (List α)) (spans : List Nat) (srcChunk destChunk mult : Nat)
    (hbound : ∀ p ∈ spans, p ≤ entries.length) (hsc : 1 ≤ srcChunk) :
    ∃ d, applySpansConcat .repaired sep delim spans (offsets entries) entries.flatten srcChunk destChunk mult = .ok d ∧
      (∀ x ∈ d.indices, x ≤ d.values.length) ∧ (d.values.length < 2 ^ 63 → ∀ x ∈ d.indices, FitsInt64 (x : Int)) := by
  refine ⟨_, C16.concat_eq_spec sep delim entries spans srcChunk destChunk mult hbound hsc, ?_, ?_⟩
  · exact csvLine_storedIndices_range _
  · intro hn x hx
    exact FitsInt64.of_nat_le (csvLine_storedIndices_range _ x hx) hn

example : applySpansConcat .repaired (44 : Nat) 34 [0, 1, 4, 5] (offsets C16.exEntries) C16.exEntries.flatten 1 1 1
      = .ok ⟨[0, 1, 13, 15], [97, 34, 98, 44, 99, 34, 44, 34, 100, 34, 34, 101, 34, 195, 169]⟩ := by decide +kernel

end Concat

section Journal
open Exetera.Journal Exetera.Spec.Journal

/-- **range_safe_journal_indices.** `ordered_generate_journalling_indices` on ascending old keys and a sorted, duplicate-free
    snapshot: every entry of the old map is `-1` or a row number of the old table, every entry of the new map is `-1` or a row
    number of the snapshot. -/
theorem range_safe_journal_indices {old new : List Int} (hso : old.Pairwise (· ≤ ·)) (hsn : new.Pairwise (· < ·)) :
    ∃ om nm, journalIndices old new = .ok (om, nm) ∧
      (∀ x ∈ om, x = -1 ∨ (0 ≤ x ∧ x < old.length)) ∧ (∀ x ∈ nm, x = -1 ∨ (0 ≤ x ∧ x < new.length)) ∧
      (old.length < 2 ^ 63 → new.length < 2 ^ 63 → ∀ x ∈ om ++ nm, FitsInt64 x) := by
  have hidx : ∀ (k : Int) (xs : List Int) (o : Option Nat), (∀ r, o = some r → r ∈ positions k xs) →
      idxOr o = -1 ∨ (0 ≤ idxOr o ∧ idxOr o < xs.length) := by
    intro k xs o ho
    cases o with
    | none => left; rfl
    | some r =>
      right
      have := positions_lt (ho r rfl)
      simp only [idxOr]; omega
  have h1 : ∀ x ∈ (indices old new).1, x = -1 ∨ (0 ≤ x ∧ x < old.length) := by
    intro x hx
    simp only [indices, List.mem_map] at hx
    obtain ⟨k, _, rfl⟩ := hx
    exact hidx k old _ (fun r hr => List.mem_of_getLast? hr)
  have h2 : ∀ x ∈ (indices old new).2, x = -1 ∨ (0 ≤ x ∧ x < new.length) := by
    intro x hx
    simp only [indices, List.mem_map] at hx
    obtain ⟨k, _, rfl⟩ := hx
    exact hidx k new _ (fun r hr => List.mem_of_head? hr)
  refine ⟨_, _, C17.journal_indices_spec hso hsn, h1, h2, ?_⟩
  intro ho hn x hx
  unfold FitsInt64
  rcases List.mem_append.mp hx with hx | hx
  · rcases h1 x hx with h | h <;> omega
  · rcases h2 x hx with h | h <;> omega

example : journalIndices [0, 0, 0, 1, 1, 2, 3, 3, 5, 5, 5] [0, 2, 3, 4, 5, 6] =
    .ok ([2, 4, 5, 7, -1, 10, -1], [0, -1, 1, 2, 3, 4, 5]) := by rfl

end Journal

section Csv
open Exetera.Csv Exetera.Csv.Spec

/- FULL STATEMENT (not proved): the same for every supported file, including runs with regrowth of the staging buffers.
   Missing: C05's driver theorem without its two no-regrowth hypotheses. -/
/-- **range_safe_csv_offsets_partial.** `read_file_using_fast_csv_reader` (supported regime, no regrowth — the hypotheses of
    C05's driver theorem): in every imported indexed-string field every stored offset is at most the number of bytes stored
    in the field's `values`, and the row count is the number of records. -/
theorem range_safe_csv_offsets_partial {file : List Nat} {crs ncols : Nat} {offs : List Nat} {hrow : List Cell}
    {rows : List (List Cell)} (h : C05.Supported file crs ncols offs hrow rows) (im : List Nat) (him : ∀ c ∈ im, c < ncols)
    (fuel : Nat) (hfuel : rows.length + 2 ≤ fuel) :
    ∃ o, readFile file crs ncols offs im (im.map (fun _ => ({ kind := .indexed } : Imp))) fuel = .ok o ∧
      o.rows = rows.length ∧ (∀ f ∈ o.imps, ∀ x ∈ f.idx, x ≤ f.vals.length) ∧
      (∀ f ∈ o.imps, f.vals.length < 2 ^ 63 → ∀ x ∈ f.idx, FitsInt64 (x : Int)) := by
  obtain ⟨calls, hrun⟩ := C05.window_chunking_unobservable_partial h im him fuel hfuel
  have hr : ∀ f ∈ im.map (fun c => fieldOf (column (values rows) c)), ∀ x ∈ f.idx, x ≤ f.vals.length := by
    intro f hf x hx
    simp only [List.mem_map] at hf
    obtain ⟨c, _, rfl⟩ := hf
    simp only [fieldOf, indexOf, bytesOf, csv_offsetsFrom_eq] at hx ⊢
    have := offsetsFromF_range _ 0 x hx
    omega
  exact ⟨_, hrun, rfl, hr, fun f hf hn x hx => FitsInt64.of_nat_le (hr f hf x hx) hn⟩

end Csv

end Exetera.Props.C11
