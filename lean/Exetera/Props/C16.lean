import Exetera.Model.Concat
import Exetera.Spec.CsvLine
import Exetera.Lemmas.CsvLine
import Exetera.Lemmas.ConcatBatch
/-!
  C16 — span concatenation produces the CSV-joined non-empty entries of each span, whatever the batching.

  All theorems are about `Exetera.Concat.applySpansConcat .repaired` / `Exetera.Concat.kernel` — the definitions the
  driver runs — for every alphabet `α` with decidable equality, every column `entries`, every list of span boundaries
  inside the column (partitions are the special case `0 = b₀ < … < b_k = entries.length`; the theorems do not even
  need monotone boundaries), every `src_chunksize ≥ 1` and every `dest_chunksize`, `chunksize_mult` (the repaired code
  sizes the value buffer itself, fix NC16b).  `= .ok …` carries memory safety (every subscript of the kernel is a
  checked access in the model) and termination (the batch loop is run with fuel `spans.length`).
-/
namespace Exetera.Props.C16

open Exetera Exetera.Concat Exetera.Spec.CsvLine

variable {α : Type} [DecidableEq α]

/-- the column used by the non-vacuity examples: `a`, ``, `b,c`, `d"e`, `é` (bytes) -/
def exEntries : List (List Nat) := [[97], [], [98, 44, 99], [100, 34, 101], [195, 169]]

/-- Reading the CSV line written for `xs` returns `xs` — for every list of entries except the
    single empty string (whose line is the empty line, read as "no fields"; `apply_spans_concat` never writes it because
    it drops empty entries). -/
theorem parse_join_roundtrip (sep delim : α) (hsd : sep ≠ delim) (xs : List (List α)) (hxs : xs ≠ [[]]) :
    parseCsvLine sep delim (joinCsv sep delim xs) = xs := by
  by_cases h : xs = []
  · subst h; rfl
  · have hne : joinCsv sep delim xs ≠ [] := fun hnil => ((joinCsv_eq_nil_iff sep delim xs).mp hnil).elim h hxs
    rw [parseCsvLine, List.isEmpty_eq_false_iff.mpr hne]
    obtain ⟨x, ys, rfl⟩ := List.exists_cons_of_ne_nil h
    exact parseGo_joinCsv sep delim hsd x ys

example : parseCsvLine (44 : Nat) 34 (joinCsv 44 34 exEntries) = exEntries ∧ (44 : Nat) ≠ 34 ∧ exEntries ≠ [[]]
    ∧ joinCsv (44 : Nat) 34 exEntries = [97, 44, 44, 34, 98, 44, 99, 34, 44, 34, 100, 34, 34, 101, 34, 44, 195, 169] := by
  decide +kernel

/-- every output string of the specification reads back as the non-empty strings of its span -/
theorem parse_spanOut (sep delim : α) (hsd : sep ≠ delim) (entries : List (List α)) (a b : Nat) :
    parseCsvLine sep delim (spanOut sep delim entries a b) = nonEmpty (slice entries a b) := by
  apply parse_join_roundtrip sep delim hsd
  intro h
  have : ([] : List α) ∈ nonEmpty (slice entries a b) := by rw [h]; simp
  simp [nonEmpty] at this

example : parseCsvLine (44 : Nat) 34 (spanOut 44 34 exEntries 1 4) = [[98, 44, 99], [100, 34, 101]] := by decide +kernel

/-- `_apply_spans_concat_2`, called on the index/value arrays of a column with `sp_start` inside
    the span list, limits within the buffers (`max_index_i ≤ len(dest_index)`, room for `dest_index[0]` in the first
    batch) and a value buffer that still has room for one span output of length `≤ M` when the value limit has not been
    reached (`max_value_i - 1 + M ≤ len(dest_values)`): it performs no out-of-range access, handles `k ≥ 1` spans and
    returns `sp_start + k` together with exactly the running offsets (shifted by `dest_start_v`) and the bytes of the
    outputs of the spans `sp_start … sp_start + k - 1`. -/
theorem kernel_eq_spec (P : Params α) (entries : List (List α))
    (hidx : P.idx = offsets entries) (hvals : P.vals = entries.flatten) (hbound : ∀ p ∈ P.spans, p ≤ entries.length)
    (M : Nat) (hM : ∀ o ∈ concatSpec P.sep P.delim entries P.spans, o.length ≤ M)
    (hI : P.maxI ≤ P.capI) (hMV : M ≤ P.capV) (hV : P.maxV - 1 + M ≤ P.capV)
    (spStart : Nat) (hs : spStart < P.spans.length - 1) (hci : (if spStart = 0 then 1 else 0) < P.capI) :
    ∃ k, 0 < k ∧ spStart + k ≤ P.spans.length - 1 ∧
      kernel P spStart = .ok (spStart + k,
        ⟨(if spStart = 0 then [P.index0] else []) ++ offsetsFrom P.destStartV
            (((concatSpec P.sep P.delim entries P.spans).drop spStart).take k),
         (((concatSpec P.sep P.delim entries P.spans).drop spStart).take k).flatten⟩) :=
  kernel_spec P entries hidx hvals hbound M hM hI hMV hV spStart hs hci

/-- a second batch (`sp_start = 1`, `dest_start_v = 1`) that stops on the index budget after two of three spans -/
def exParams : Params Nat :=
  { spans := [0, 1, 2, 4, 5], idx := offsets exEntries, vals := exEntries.flatten, sep := 44, delim := 34,
    capI := 2, capV := 24, maxI := 2, maxV := 12, destStartV := 1 }

example : (∀ p ∈ exParams.spans, p ≤ exEntries.length) ∧
    (∀ o ∈ concatSpec exParams.sep exParams.delim exEntries exParams.spans, o.length ≤ 12) ∧
    exParams.maxI ≤ exParams.capI ∧ exParams.maxV - 1 + 12 ≤ exParams.capV ∧ 1 < exParams.spans.length - 1 ∧
    kernel exParams 1 = .ok (3, ⟨[1, 13], [34, 98, 44, 99, 34, 44, 34, 100, 34, 34, 101, 34]⟩) := by decide +kernel

/-- The batch loop, run with a value buffer of `V` bytes, equals the specification under the
    exact room condition: every span output has at most `M` bytes, `M ≤ V` and `V/2 - 1 + M ≤ V` (a batch continues
    only while fewer than `V/2` bytes are written, so the next span finds at least `V - (V/2 - 1)` free bytes; the first
    span of a batch finds `V`). For every column, every list of span boundaries inside it and every `src_chunksize ≥ 1`
    the loop terminates without an out-of-range access, having stored exactly the offsets and the bytes of `concatSpec`.
    (Without the room condition this is false — `Witness.C16.room_hypothesis_needed`; that is finding NC16b.) -/
theorem batches_eq_spec_room (sep delim : α) (entries : List (List α)) (spans : List Nat) (srcChunk valueCap : Nat)
    (hbound : ∀ p ∈ spans, p ≤ entries.length) (hsc : 1 ≤ srcChunk) (M : Nat)
    (hM : ∀ o ∈ concatSpec sep delim entries spans, o.length ≤ M)
    (hMV : M ≤ valueCap) (hV : valueCap / 2 - 1 + M ≤ valueCap) :
    ∃ st, runBatches .repaired sep delim spans (offsets entries) entries.flatten srcChunk valueCap = .ok st ∧
      st.dest = ⟨storedIndices (concatSpec sep delim entries spans), (concatSpec sep delim entries spans).flatten⟩ :=
  runBatches_spec sep delim spans entries srcChunk valueCap hbound hsc M hM hMV hV

/-- longest output 12 bytes, buffer 21 (`21/2 = 10 < 12`, but `10 - 1 + 12 ≤ 21`) -/
example : (∀ o ∈ concatSpec (44 : Nat) 34 exEntries [0, 1, 4, 5], o.length ≤ 12) ∧ 12 ≤ 21 ∧ 21 / 2 - 1 + 12 ≤ 21 ∧
    (runBatches .repaired (44 : Nat) 34 [0, 1, 4, 5] (offsets exEntries) exEntries.flatten 2 21).map (·.dest)
      = .ok ⟨[0, 1, 13, 15], [97, 34, 98, 44, 99, 34, 44, 34, 100, 34, 34, 101, 34, 195, 169]⟩ := by decide +kernel

/-- The sizing step of the repaired operation never fails for span boundaries inside the column,
    never shrinks the requested buffer, and leaves every span output at most half the buffer. -/
theorem value_buffer_sized (sep delim : α) (entries : List (List α)) (spans : List Nat) (destChunk mult : Nat)
    (hbound : ∀ p ∈ spans, p ≤ entries.length) :
    ∃ cap, valueCap .repaired spans (offsets entries) destChunk mult = .ok cap ∧ destChunk * mult ≤ cap ∧
      ∀ o ∈ concatSpec sep delim entries spans, o.length ≤ cap / 2 :=
  valueCap_spec sep delim entries spans destChunk mult hbound

/-- requested buffer 2·2 = 4 bytes, longest span bound 2·6 + 3·3 = 21: the buffer is grown to 42 -/
example : valueCap .repaired [0, 1, 4, 5] (offsets exEntries) 2 2 = .ok 42 ∧
    (∀ o ∈ concatSpec (44 : Nat) 34 exEntries [0, 1, 4, 5], o.length ≤ 42 / 2) := by decide +kernel

/-- For every column, every list of span boundaries inside it, every `src_chunksize ≥ 1` and every
    `dest_chunksize`, `chunksize_mult`: `Session.apply_spans_concat` (with the D25, NC16a and NC16b repairs) terminates
    without an out-of-range access and leaves in `dest.indices` / `dest.values` exactly the offsets and the bytes of
    `concatSpec` — one CSV line of the non-empty entries per span. -/
theorem concat_eq_spec (sep delim : α) (entries : List (List α)) (spans : List Nat) (srcChunk destChunk mult : Nat)
    (hbound : ∀ p ∈ spans, p ≤ entries.length) (hsc : 1 ≤ srcChunk) :
    applySpansConcat .repaired sep delim spans (offsets entries) entries.flatten srcChunk destChunk mult
      = .ok ⟨storedIndices (concatSpec sep delim entries spans), (concatSpec sep delim entries spans).flatten⟩ := by
  obtain ⟨st, hrun, hdest⟩ := applySpansConcatS_spec sep delim entries spans srcChunk destChunk mult hbound hsc
  simp only [applySpansConcat, hrun, hdest]

/-- two batches (`src_chunksize = 1`: one span, then two); requested value buffer of 1 byte (grown by the sizing step) -/
example : (∀ p ∈ [0, 1, 4, 5], p ≤ exEntries.length) ∧
    applySpansConcat .repaired (44 : Nat) 34 [0, 1, 4, 5] (offsets exEntries) exEntries.flatten 1 1 1
      = .ok ⟨[0, 1, 13, 15], [97, 34, 98, 44, 99, 34, 44, 34, 100, 34, 34, 101, 34, 195, 169]⟩ ∧
    (applySpansConcatS .repaired (44 : Nat) 34 [0, 1, 4, 5] (offsets exEntries) exEntries.flatten 1 1 1).map (·.calls)
      = .ok 2 := by decide +kernel

/-- the strings read from the stored (indices, values) pair are the span outputs (at least one span) -/
theorem concat_strings (sep delim : α) (entries : List (List α)) (spans : List Nat) (srcChunk destChunk mult : Nat)
    (hbound : ∀ p ∈ spans, p ≤ entries.length) (hsc : 1 ≤ srcChunk) (hsp : 2 ≤ spans.length) :
    ∃ d, applySpansConcat .repaired sep delim spans (offsets entries) entries.flatten srcChunk destChunk mult = .ok d ∧
      decode d.indices d.values = concatSpec sep delim entries spans := by
  refine ⟨_, concat_eq_spec sep delim entries spans srcChunk destChunk mult hbound hsc, ?_⟩
  have : (concatSpec sep delim entries spans).isEmpty = false :=
    List.isEmpty_eq_false_iff.mpr (List.ne_nil_of_length_pos (by rw [concatSpec_length]; omega))
  simp only [storedIndices, this]
  exact decode_offsets _

example : decode [0, 1, 13, 15] [97, 34, 98, 44, 99, 34, 44, 34, 100, 34, 34, 101, 34, 195, 169]
    = concatSpec (44 : Nat) 34 exEntries [0, 1, 4, 5] := by decide +kernel

/-- every stored string, read as a CSV line, gives back the non-empty strings of its span -/
theorem stored_entries_parse (sep delim : α) (hsd : sep ≠ delim) (entries : List (List α)) (spans : List Nat) :
    (concatSpec sep delim entries spans).map (parseCsvLine sep delim)
      = (spanPairs spans).map (fun p => nonEmpty (slice entries p.1 p.2)) := by
  simp only [concatSpec, List.map_map]
  apply List.map_congr_left
  intro p _
  exact parse_spanOut sep delim hsd entries p.1 p.2

example : (concatSpec (44 : Nat) 34 exEntries [0, 1, 4, 5]).map (parseCsvLine 44 34)
    = [[[97]], [[98, 44, 99], [100, 34, 101]], [[195, 169]]] := by decide +kernel

/-- Any two batch settings give the same stored offsets and bytes. -/
theorem batching_unobservable (sep delim : α) (entries : List (List α)) (spans : List Nat)
    (sc₁ dc₁ m₁ sc₂ dc₂ m₂ : Nat) (hbound : ∀ p ∈ spans, p ≤ entries.length) (h₁ : 1 ≤ sc₁) (h₂ : 1 ≤ sc₂) :
    applySpansConcat .repaired sep delim spans (offsets entries) entries.flatten sc₁ dc₁ m₁
      = applySpansConcat .repaired sep delim spans (offsets entries) entries.flatten sc₂ dc₂ m₂ := by
  rw [concat_eq_spec sep delim entries spans sc₁ dc₁ m₁ hbound h₁,
      concat_eq_spec sep delim entries spans sc₂ dc₂ m₂ hbound h₂]

/-- one batch (`src_chunksize = 50`, large buffer) and two batches (`src_chunksize = 1`) -/
example : applySpansConcat .repaired (44 : Nat) 34 [0, 1, 4, 5] (offsets exEntries) exEntries.flatten 50 64 16
    = applySpansConcat .repaired (44 : Nat) 34 [0, 1, 4, 5] (offsets exEntries) exEntries.flatten 1 6 4 ∧
    (applySpansConcatS .repaired (44 : Nat) 34 [0, 1, 4, 5] (offsets exEntries) exEntries.flatten 50 64 16).map (·.calls)
      = .ok 1 ∧
    (applySpansConcatS .repaired (44 : Nat) 34 [0, 1, 4, 5] (offsets exEntries) exEntries.flatten 1 6 4).map (·.calls)
      = .ok 2 := by decide +kernel

/-- the operation terminates: the batch loop is run with fuel `spans.length` (one kernel call per span at most) and
    never runs out of it -/
theorem concat_terminates (sep delim : α) (entries : List (List α)) (spans : List Nat) (srcChunk destChunk mult : Nat)
    (hbound : ∀ p ∈ spans, p ≤ entries.length) (hsc : 1 ≤ srcChunk) :
    ∃ st, applySpansConcatS .repaired sep delim spans (offsets entries) entries.flatten srcChunk destChunk mult = .ok st := by
  obtain ⟨st, hrun, _⟩ := applySpansConcatS_spec sep delim entries spans srcChunk destChunk mult hbound hsc
  exact ⟨st, hrun⟩

example : (applySpansConcatS .repaired (44 : Nat) 34 [0, 1, 4, 5] (offsets exEntries) exEntries.flatten 2 0 0).map (·.calls)
    = .ok 2 := by decide +kernel

end Exetera.Props.C16
