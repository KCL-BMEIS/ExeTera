import Exetera.Lemmas.MergeFrame
import Exetera.Props.C03
import Exetera.Model.Concat
/-!
# C02 — DataFrame.merge returns the relational join; hints change speed, never content

The theorems are about `Exetera.Merge.*` (`Model/Merge.lean`), the model the correspondence driver executes
(`Driver/C02.lean`), whose `_ordered_merge` part INTERPRETS `Gen/MergeDispatch.lean` — the dispatch table, renames and
column-mapping call sites regenerated from the source on every run — and about `Exetera.Spec.relJoin` / `selectCells`.
`Sorted` is `List.Pairwise (· ≤ ·)`, a truthful unique hint on a sorted key column is `List.Pairwise (· < ·)`.

The dispatch is read from the generated table by evaluation (`dispatch_table`, `call_sites`, `suffix_rule`: a swapped callee,
a dropped `invalid`, a changed rename or suffix rule in the source changes `Gen/MergeDispatch.lean` and these stop building).
With C03 each map field is the marker encoding of its side of the relational join, or is absent, and then that side is taken
row by row (`ordered_maps`); with C04 a column mapped through such a field, or copied where there is none, is the selected
source rows — also for the non-monotone maps of joins with duplicate keys on both sides (NC02a). Both paths build their
destination with two column loops between fields of `merge`'s own (`Lemmas/MergeFrame.lean: frame_of_loops`), which with
the validating front end (`merge_front`) gives the whole-frame theorems `merge_frame_correct`, `hints_irrelevant`,
`never_raises_on_truthful_hints` over `merge`, all four modes; these three are also registered
(`checks/obligations/C02.json`) with `_partial` appended. Every hypothesis is listed at the end of this file.
-/
namespace Exetera.Props.C02

open Exetera Exetera.Merge Exetera.Spec Exetera.Join

/-! ## the generated dispatch table -/

/-- **What `_ordered_merge` dispatches to**, read from the regenerated table: (how, left unique, right unique) ↦ streamed
    generator, which frame's key is its `left` argument, whether `invalid` is passed, and which output `_left_map` /
    `_right_map` hold after the renames (`none`: the field does not exist and the side is copied unchanged). -/
theorem dispatch_table :
    plan "left" false false = .ok ⟨.left, true, true, some true, some false⟩ ∧
    plan "left" true false = .ok ⟨.leftLU, true, true, some true, some false⟩ ∧
    plan "left" false true = .ok ⟨.leftRU, true, true, none, some false⟩ ∧
    plan "left" true true = .ok ⟨.leftBU, true, true, none, some false⟩ ∧
    plan "right" false false = .ok ⟨.left, false, true, some false, some true⟩ ∧
    plan "right" true false = .ok ⟨.leftRU, false, true, some false, none⟩ ∧
    plan "right" false true = .ok ⟨.leftLU, false, true, some false, some true⟩ ∧
    plan "right" true true = .ok ⟨.leftBU, false, true, some false, none⟩ ∧
    plan "inner" false false = .ok ⟨.inner, true, false, some true, some false⟩ ∧
    plan "inner" true false = .ok ⟨.innerLU, true, true, some true, some false⟩ ∧
    plan "inner" false true = .ok ⟨.innerRU, true, true, some true, some false⟩ ∧
    plan "inner" true true = .ok ⟨.innerBU, true, true, some true, some false⟩ := by
  decide +kernel

/-- **The column-mapping call sites**: a side without map is copied, every other column goes through the stream of its
    type WITH the `invalid` marker of the join (not the default `-1`). -/
theorem call_sites :
    mapPlan "left" "nomap" = .ok .copy ∧ mapPlan "left" "flat" = .ok (.stream true) ∧
    mapPlan "left" "indexed" = .ok (.istream true) ∧
    mapPlan "right" "nomap" = .ok .copy ∧ mapPlan "right" "flat" = .ok (.stream true) ∧
    mapPlan "right" "indexed" = .ok (.istream true) := by
  decide +kernel

/-- **Suffix rule** (both paths): a column keeps its name unless the other side maps a column of the same name; then the
    left one gets `left_suffix`, the right one `right_suffix`. The ordered path reads the rule from the generated table,
    the unordered path has it in `unorderedMerge` (`suffixed`). -/
theorem suffix_rule (k : String) (ltm rtm : List String) (ls rs : String) :
    destName "left" k ltm rtm ls rs = .ok (if rtm.contains k then k ++ ls else k) ∧
    destName "right" k ltm rtm ls rs = .ok (if ltm.contains k then k ++ rs else k) :=
  ⟨destName_left k ltm rtm ls rs, destName_right k ltm rtm ls rs⟩

example : destName "left" "k" ["k", "a"] ["k", "b"] "_l" "_r" = .ok "k_l" ∧
    destName "right" "b" ["k", "a"] ["k", "b"] "_l" "_r" = .ok "b" := by decide +kernel

/-- the sentinel: 32-bit marker iff a unique hint is given and both frames are shorter than `INT64_INDEX_LENGTH` -/
theorem sentinel_choice (lu ru : Bool) (ll rl : Nat) :
    sentinel lu ru ll rl = .ok (if lu || ru then
      (if (ll : Int) < 2147483647 && (rl : Int) < 2147483647 then 2147483647 else 4611686018427387904)
      else 4611686018427387904) := by
  cases lu <;> cases ru <;>
    simp [sentinel, Exetera.Gen.MergeDispatch.extracted, constOf, Exetera.Gen.MergeDispatch.int32Below,
      Exetera.Gen.MergeDispatch.sentinelUnique32, Exetera.Gen.MergeDispatch.sentinelUnique64,
      Exetera.Gen.MergeDispatch.sentinelGeneral, Exetera.Gen.INVALID_INDEX_32, Exetera.Gen.INVALID_INDEX_64,
      Exetera.Gen.INT64_INDEX_LENGTH]

/-! ## the map fields are the relational join -/

/-- which rows of the LEFT frame the result rows take -/
def leftSel (how : String) (lk rk : List Int) : List (Option Nat) := (relJoin how lk rk).map (·.1)
/-- which rows of the RIGHT frame the result rows take -/
def rightSel (how : String) (lk rk : List Int) : List (Option Nat) := (relJoin how lk rk).map (·.2)

/-- the maps `_ordered_merge` leaves in the destination, given a plan and the generator's output -/
def leftMapOf (p : Plan) (o : Join.Out) : Option (List Int) := p.leftMap.map (fun isL => if isL then o.lout else o.rout)
def rightMapOf (p : Plan) (o : Join.Out) : Option (List Int) := p.rightMap.map (fun isL => if isL then o.lout else o.rout)

/-- a truthful uniqueness hint on an ordered key column -/
def Truthful (u : Bool) (ks : List Int) : Prop := u = true → ks.Pairwise (· < ·)

/-! The right join is the left join of the right frame with the left one, each row mirrored. -/

theorem leftSel_right (lk rk : List Int) : leftSel "right" lk rk = rightSel "left" rk lk := by
  simp [leftSel, rightSel, relJoin_right, relJoin_left, List.map_map, Function.comp_def]

theorem rightSel_right (lk rk : List Int) : rightSel "right" lk rk = leftSel "left" rk lk := by
  simp [leftSel, rightSel, relJoin_right, relJoin_left, List.map_map, Function.comp_def]

theorem relJoin_right_length (lk rk : List Int) : (relJoin "right" lk rk).length = (relJoin "left" rk lk).length := by
  simp [relJoin_right, relJoin_left]

/-! The map columns C03 speaks of are the marker encodings of the two sides of the relational join. -/

theorem encodeLeft_eq (inv : Int) (A B : List Int) :
    encodeLeft inv (leftJoin A B) = (encSel inv (leftSel "left" A B), encSel inv (rightSel "left" A B)) := by
  simp [encodeLeft, encL, encR, encSel, encCell, leftSel, rightSel, relJoin_left, leftRel, List.map_map, Function.comp_def]

theorem encodeInner_eq (inv : Int) (A B : List Int) :
    encodeInner (innerJoin A B) = (encSel inv (leftSel "inner" A B), encSel inv (rightSel "inner" A B)) := by
  simp [encodeInner, encSel, encCell, leftSel, rightSel, relJoin_inner, List.map_map, Function.comp_def]

/-- left join against unique right keys: every left row is taken exactly once, in order -/
theorem leftSel_of_unique {A B : List Int} (hB : B.Pairwise (· < ·)) : leftSel "left" A B = idSel A.length := by
  rw [← leftJoin_sel_of_nodup (nodup_of_strict hB)]
  simp [leftSel, relJoin_left, leftRel, List.map_map, Function.comp_def]

/-- the streamed generator for a join kind (left or inner) and the unique hints on its own `left` / `right` arguments -/
def variantFor : Bool → Bool → Bool → Variant
  | true, false, false => .left
  | true, true, false => .leftLU
  | true, false, true => .leftRU
  | true, true, true => .leftBU
  | false, false, false => .inner
  | false, true, false => .innerLU
  | false, false, true => .innerRU
  | false, true, true => .innerBU

/-- **the four left-join generators** on their own arguments `A` (whose rows are all kept) and `B`, with truthful unique
    hints `ua`, `ub`: the run succeeds, `r_result` encodes the rows taken from `B` and `l_result` those taken from `A` —
    unless `B` is hinted unique: then no `l_result` is written, and every row of `A` is taken once, in order (C03) -/
theorem left_generators {A B : List Int} (ua ub : Bool) (hA : Sorted A) (hB : Sorted B) (hua : Truthful ua A)
    (hub : Truthful ub B) {cs : Nat} (hcs : 0 < cs) (inv : Int) (fuel : Nat)
    (hfuel : A.length + B.length + 2 * (relJoin "left" A B).length + 1 ≤ fuel) :
    ∃ o, streamed (variantFor true ua ub) fuel cs inv A B = .ok o ∧ o.rout = encSel inv (rightSel "left" A B) ∧
      (ub = false → o.lout = encSel inv (leftSel "left" A B)) ∧ (ub = true → leftSel "left" A B = idSel A.length) := by
  have hlen : (relJoin "left" A B).length = (leftJoin A B).length := by simp [relJoin_left, leftRel]
  rw [hlen] at hfuel
  have hf : A.length + B.length ≤ fuel := by omega
  have hid : ub = true → leftSel "left" A B = idSel A.length := fun h => leftSel_of_unique (hub h)
  have e1 : encSel inv (leftSel "left" A B) = (encodeLeft inv (leftJoin A B)).1 := (congrArg Prod.fst (encodeLeft_eq inv A B)).symm
  have e2 : encSel inv (rightSel "left" A B) = (encodeLeft inv (leftJoin A B)).2 := (congrArg Prod.snd (encodeLeft_eq inv A B)).symm
  rw [e1, e2]
  cases ua <;> cases ub
  · obtain ⟨c, hc⟩ := C03.left_streamed_eq inv hcs hA hB fuel hfuel
    exact ⟨_, hc, rfl, fun _ => rfl, hid⟩
  · obtain ⟨c, hc⟩ := C03.left_right_unique_streamed_eq inv hcs hA (hub rfl) fuel hf
    exact ⟨_, hc, rfl, nofun, hid⟩
  · obtain ⟨c, hc⟩ := C03.left_left_unique_streamed_eq inv hcs (hua rfl) hB fuel hf
    exact ⟨_, hc, rfl, fun _ => rfl, hid⟩
  · obtain ⟨c, hc⟩ := C03.left_both_unique_streamed_eq inv hcs (hua rfl) (hub rfl) fuel hf
    exact ⟨_, hc, rfl, nofun, hid⟩

/-- **the four inner-join generators**: both results are written and encode the two sides of the inner join (C03) -/
theorem inner_generators {A B : List Int} (ua ub : Bool) (hA : Sorted A) (hB : Sorted B) (hua : Truthful ua A)
    (hub : Truthful ub B) {cs : Nat} (hcs : 0 < cs) (inv : Int) (fuel : Nat)
    (hfuel : A.length + B.length + 2 * (relJoin "inner" A B).length + 1 ≤ fuel) :
    ∃ o, streamed (variantFor false ua ub) fuel cs inv A B = .ok o ∧ o.lout = encSel inv (leftSel "inner" A B) ∧
      o.rout = encSel inv (rightSel "inner" A B) := by
  have hlen : (relJoin "inner" A B).length = (innerJoin A B).length := by simp [relJoin_inner]
  rw [hlen] at hfuel
  have hf : A.length + B.length ≤ fuel := by omega
  have e1 : encSel inv (leftSel "inner" A B) = (encodeInner (innerJoin A B)).1 := (congrArg Prod.fst (encodeInner_eq inv A B)).symm
  have e2 : encSel inv (rightSel "inner" A B) = (encodeInner (innerJoin A B)).2 := (congrArg Prod.snd (encodeInner_eq inv A B)).symm
  rw [e1, e2]
  cases ua <;> cases ub
  · obtain ⟨c, hc⟩ := C03.inner_streamed_eq inv hcs hA hB fuel hfuel
    exact ⟨_, hc, rfl, rfl⟩
  · obtain ⟨c, hc⟩ := C03.inner_right_unique_streamed_eq inv hcs hA (hub rfl) fuel hf
    exact ⟨_, hc, rfl, rfl⟩
  · obtain ⟨c, hc⟩ := C03.inner_left_unique_streamed_eq inv hcs (hua rfl) hB fuel hf
    exact ⟨_, hc, rfl, rfl⟩
  · obtain ⟨c, hc⟩ := C03.inner_both_unique_streamed_eq inv hcs (hua rfl) (hub rfl) fuel hf
    exact ⟨_, hc, rfl, rfl⟩

/-! `dispatch_table` in closed form. A left join runs the left generators on (left, right) with the hints as given; its
    `_left_map` is the generator's `l_result`, absent when the right keys are unique. A right join runs the same
    generators on (right, left), so the hints and the two outputs change places. An inner join has both maps. -/

theorem plan_left (lu ru : Bool) :
    plan "left" lu ru = .ok ⟨variantFor true lu ru, true, true, if ru then none else some true, some false⟩ := by
  obtain ⟨d1, d2, d3, d4, -⟩ := dispatch_table
  cases lu <;> cases ru
  · exact d1
  · exact d3
  · exact d2
  · exact d4

theorem plan_right (lu ru : Bool) :
    plan "right" lu ru = .ok ⟨variantFor true ru lu, false, true, some false, if lu then none else some true⟩ := by
  obtain ⟨-, -, -, -, d5, d6, d7, d8, -⟩ := dispatch_table
  cases lu <;> cases ru
  · exact d5
  · exact d7
  · exact d6
  · exact d8

theorem plan_inner (lu ru : Bool) :
    plan "inner" lu ru = .ok ⟨variantFor false lu ru, true, lu || ru, some true, some false⟩ := by
  obtain ⟨-, -, -, -, -, -, -, -, d9, d10, d11, d12⟩ := dispatch_table
  cases lu <;> cases ru
  · exact d9
  · exact d11
  · exact d10
  · exact d12

/-- **The map fields of the ordered path**, in the form everything below is derived from: the dispatched generator
    succeeds, and each of `_left_map` / `_right_map` either encodes the rows the relational join takes from its side, or
    is absent — which happens only under a unique hint on the OTHER side's keys, and then the join takes every row of
    this side exactly once, in order (so that copying the side unchanged is right). -/
theorem ordered_maps (how : String) (hhow : how = "left" ∨ how = "right" ∨ how = "inner") (lu ru : Bool)
    (lk rk : List Int) (hl : Sorted lk) (hr : Sorted rk) (hlu : Truthful lu lk) (hru : Truthful ru rk)
    (cs : Nat) (hcs : 0 < cs) (inv : Int) (fuel : Nat)
    (hfuel : lk.length + rk.length + 2 * (relJoin how lk rk).length + 1 ≤ fuel) :
    ∃ p o, plan how lu ru = .ok p ∧
      Join.streamed p.variant fuel cs inv (if p.aLeft then lk else rk) (if p.aLeft then rk else lk) = .ok o ∧
      (leftMapOf p o = some (encSel inv (leftSel how lk rk)) ∨
        leftMapOf p o = none ∧ ru = true ∧ leftSel how lk rk = idSel lk.length) ∧
      (rightMapOf p o = some (encSel inv (rightSel how lk rk)) ∨
        rightMapOf p o = none ∧ lu = true ∧ rightSel how lk rk = idSel rk.length) := by
  rcases hhow with rfl | rfl | rfl
  · obtain ⟨o, ho, hR, hL, hid⟩ := left_generators lu ru hl hr hlu hru hcs inv fuel hfuel
    refine ⟨_, o, plan_left lu ru, ho, ?_, Or.inl (congrArg some hR)⟩
    cases ru
    · exact Or.inl (congrArg some (hL rfl))
    · exact Or.inr ⟨rfl, rfl, hid rfl⟩
  · rw [relJoin_right_length] at hfuel
    obtain ⟨o, ho, hR, hL, hid⟩ := left_generators ru lu hr hl hru hlu hcs inv fuel (by omega)
    rw [leftSel_right, rightSel_right]
    refine ⟨_, o, plan_right lu ru, ho, Or.inl (congrArg some hR), ?_⟩
    cases lu
    · exact Or.inl (congrArg some (hL rfl))
    · exact Or.inr ⟨rfl, rfl, hid rfl⟩
  · obtain ⟨o, ho, hL, hR⟩ := inner_generators lu ru hl hr hlu hru hcs inv fuel hfuel
    exact ⟨_, o, plan_inner lu ru, ho, Or.inl (congrArg some hL), Or.inl (congrArg some hR)⟩

theorem eq_of_some_or {α} {x : Option α} {a : α} {P : Prop} (h : x = some a ∨ x = none ∧ P) (m : α) (hm : x = some m) :
    m = a := by
  rcases h with h | ⟨h, -⟩
  · exact Option.some.inj (hm.symm.trans h)
  · rw [h] at hm; cases hm

/-- **The map fields of the ordered path are the relational join**, for `how ∈ {left, right, inner}`, every truthful
    combination of the unique hints, every chunk size ≥ 1, every marker, all ordered key columns (duplicates on either or
    both sides, unmatched rows anywhere): the generator selected by the regenerated dispatch table terminates without an
    out-of-bounds access, and each map field that `_ordered_merge` leaves in the destination is the marker-encoding of the
    rows the relational join takes from that side. A side has no map field only when it is copied unchanged. -/
theorem ordered_maps_correct (how : String) (hhow : how = "left" ∨ how = "right" ∨ how = "inner") (lu ru : Bool)
    (lk rk : List Int) (hl : Sorted lk) (hr : Sorted rk) (hlu : Truthful lu lk) (hru : Truthful ru rk)
    (cs : Nat) (hcs : 0 < cs) (inv : Int) (fuel : Nat)
    (hfuel : lk.length + rk.length + 2 * (relJoin how lk rk).length + 1 ≤ fuel) :
    ∃ p o, plan how lu ru = .ok p ∧
      Join.streamed p.variant fuel cs inv (if p.aLeft then lk else rk) (if p.aLeft then rk else lk) = .ok o ∧
      (∀ m, leftMapOf p o = some m → m = encSel inv (leftSel how lk rk)) ∧
      (∀ m, rightMapOf p o = some m → m = encSel inv (rightSel how lk rk)) := by
  obtain ⟨p, o, h1, h2, hL, hR⟩ := ordered_maps how hhow lu ru lk rk hl hr hlu hru cs hcs inv fuel hfuel
  exact ⟨p, o, h1, h2, eq_of_some_or hL, eq_of_some_or hR⟩

/-- **Hints are irrelevant to the content of the maps**: whatever truthful unique hints are given, a map field that exists
    encodes the same selection `leftSel` / `rightSel` — the one of the hint-free relational join (`ordered_maps_correct`
    states it for every `(lu, ru)` against the same right-hand side, which does not mention the hints). -/
theorem hints_irrelevant_maps (how : String) (hhow : how = "left" ∨ how = "right" ∨ how = "inner") (lu ru : Bool)
    (lk rk : List Int) (hl : Sorted lk) (hr : Sorted rk) (hlu : Truthful lu lk) (hru : Truthful ru rk)
    (cs cs' : Nat) (hcs : 0 < cs) (hcs' : 0 < cs') (inv : Int) (fuel : Nat)
    (hfuel : lk.length + rk.length + 2 * (relJoin how lk rk).length + 1 ≤ fuel) :
    ∃ p o p0 o0, plan how lu ru = .ok p ∧ plan how false false = .ok p0 ∧
      Join.streamed p.variant fuel cs inv (if p.aLeft then lk else rk) (if p.aLeft then rk else lk) = .ok o ∧
      Join.streamed p0.variant fuel cs' inv (if p0.aLeft then lk else rk) (if p0.aLeft then rk else lk) = .ok o0 ∧
      (∀ m, leftMapOf p o = some m → leftMapOf p0 o0 = some m) ∧
      (∀ m, rightMapOf p o = some m → rightMapOf p0 o0 = some m) := by
  obtain ⟨p, o, h1, h2, hL, hR⟩ := ordered_maps how hhow lu ru lk rk hl hr hlu hru cs hcs inv fuel hfuel
  obtain ⟨p0, o0, g1, g2, gL, gR⟩ := ordered_maps how hhow false false lk rk hl hr nofun nofun cs' hcs' inv fuel hfuel
  -- without unique hints both map fields exist
  replace gL := gL.resolve_right (fun h => Bool.noConfusion h.2.1)
  replace gR := gR.resolve_right (fun h => Bool.noConfusion h.2.1)
  exact ⟨p, o, p0, o0, h1, g1, h2, g2, fun m hm => by rw [gL, eq_of_some_or hL m hm],
    fun m hm => by rw [gR, eq_of_some_or hR m hm]⟩

/-! ## every destination column is the selected source rows -/

/-- **One column of the ordered path.** A source column with `n` rows (indexed strings well formed, entries of any
    length), mapped through a map field that encodes the selection `sel` with marker `inv ≥ n`: the call
    site read from the regenerated table passes `invalid`, the stream terminates without error for every chunk size ≥ 1,
    and the destination column is `selectCol col sel`: row `r` is the source row `sel[r]`, or the empty value where the
    side is unmatched. No ordering of the map is assumed (duplicate keys on both sides give non-monotone maps, NC02a). -/
theorem ordered_column_correct (side : String) (hside : side = "left" ∨ side = "right") (col : Col) (n : Nat)
    (sel : List (Option Nat)) (inv : Int) (cs vf : Nat) (hcs : 1 ≤ cs) (hcol : ColWF col n)
    (hsel : ∀ i, some i ∈ sel → i < n) (hinv : (n : Int) ≤ inv) :
    ∃ out, mapColumn side col (some (encSel inv sel)) inv cs vf = .ok out ∧ selectCol col sel = some out := by
  obtain ⟨_, c2, c3, _, c5, c6⟩ := call_sites
  rcases hside with rfl | rfl
  · exact mapColumn_stream_wf "left" col n sel inv cs vf c2 c3 hcs hcol hsel hinv
  · exact mapColumn_stream_wf "right" col n sel inv cs vf c5 c6 hcs hcol hsel hinv

/-- a side without map field is copied unchanged (`chunked_copy`) -/
theorem ordered_column_copied (side : String) (hside : side = "left" ∨ side = "right") (col : Col) (inv : Int)
    (cs vf : Nat) : mapColumn side col none inv cs vf = .ok col := by
  obtain ⟨c1, _, _, c4, _, _⟩ := call_sites
  rcases hside with rfl | rfl
  · exact mapColumn_copy c1 col inv cs vf
  · exact mapColumn_copy c4 col inv cs vf

/-- **One column of the unordered path** (`safe_map_values` / `safe_map_indexed_values` with pandas' row numbers and
    `notnull` filters): the destination column is the selected source rows, empty value where pandas reported NaN. -/
theorem unordered_column_correct (col : Col) (n : Nat) (sel : List (Option Nat)) (hcol : ColWF col n)
    (hsel : ∀ i, some i ∈ sel → i < n) :
    ∃ out, safeMapColumn col sel = .ok out ∧ selectCol col sel = some out :=
  safeMapColumn_spec col n sel hcol hsel

/-- one column of the ordered path in either case: mapped through a map field that encodes `sel`, or — the side has no
    map field and `sel` takes every row once — copied; the destination column is the selected rows -/
theorem ordered_column (side : String) (hside : side = "left" ∨ side = "right") (col : Col) (n : Nat)
    (sel : List (Option Nat)) (inv : Int) (cs vf : Nat) (hcs : 1 ≤ cs) (hcol : ColWF col n)
    (hsel : ∀ i, some i ∈ sel → i < n) (hinv : (n : Int) ≤ inv) (map_ : Option (List Int))
    (h : map_ = some (encSel inv sel) ∨ map_ = none ∧ sel = idSel n) :
    ∃ out, mapColumn side col map_ inv cs vf = .ok out ∧ selectCol col sel = some out := by
  rcases h with rfl | ⟨rfl, rfl⟩
  · exact ordered_column_correct side hside col n sel inv cs vf hcs hcol hsel hinv
  · exact ⟨col, ordered_column_copied side hside col inv cs vf, selectCol_id hcol⟩

/-! ## non-vacuity -/

/-- duplicate keys on both sides, unmatched rows at the start and the end; chunk size 2 -/
example : Sorted [0, 2, 2] ∧ Sorted [2, 2, 2, 5] := by simp [Sorted]
example : relJoin "left" [0, 2, 2] [2, 2, 5] =
    [(some 0, none), (some 1, some 0), (some 1, some 1), (some 2, some 0), (some 2, some 1)] := by decide +kernel
example : relJoin "right" [0, 2, 2] [2, 5] = [(some 1, some 0), (some 2, some 0), (none, some 1)] := by decide +kernel
example : relJoin "outer" [0, 2] [2, 5] = [(some 0, none), (some 1, some 0), (none, some 1)] := by decide +kernel
/-- the right map of that left join is not monotone; the column still comes out right (the NC02a witness) -/
example : mapColumn "right" (.flat (.int 0) [.int 500, .int 501, .int 502])
    (some (encSel 4611686018427387904 (rightSel "left" [2, 2] [2, 2, 2]))) 4611686018427387904 2 8
    = .ok (.flat (.int 0) [.int 500, .int 501, .int 502, .int 500, .int 501, .int 502]) := by decide +kernel
example : ColWF (.indexed [0, 1, 3] [97, 98, 98]) 2 := ColWF.indexed (by unfold IndexedOK; decide)
example : Truthful true [1, 3, 4] ∧ Truthful false [1, 1] := ⟨fun _ => by decide, fun h => by cases h⟩

/-! ## the ordered path, column by column -/

/-- **Row numbers of the relational join are in range** (every mode): a result row never names a left row beyond the
    left frame. -/
theorem leftSel_in_range (how : String) (lk rk : List Int) : ∀ i, some i ∈ leftSel how lk rk → i < lk.length := by
  intro i hi
  obtain ⟨p, hp, e⟩ := List.mem_map.mp hi
  exact (relJoin_in_range how lk rk p hp).1 i e

/-- … nor a right row beyond the right frame. -/
theorem rightSel_in_range (how : String) (lk rk : List Int) : ∀ j, some j ∈ rightSel how lk rk → j < rk.length := by
  intro j hj
  obtain ⟨p, hp, e⟩ := List.mem_map.mp hj
  exact (relJoin_in_range how lk rk p hp).2 j e

/-- **The ordered path, column by column.** For `how ∈ {left, right, inner}`, every truthful unique-hint combination,
    ordered key columns, every chunk size ≥ 1 and a marker not below either frame length (the sentinels of
    `sentinel_choice` for frames below 2^31-1 resp. 2^62 rows): the dispatched generator succeeds, every map field is the
    encoding of its side of the relational join, and EVERY well-formed column of the left (right) frame becomes, without
    error, exactly `selectCol col (leftSel how lk rk)` (`rightSel`) — the same list of result rows for all columns of
    both sides: row `r` of every destination column is the source row the `r`-th row of the relational join names, or
    the empty value where that side is unmatched. A copied side is the selected rows too (`ordered_maps`). -/
theorem merge_ordered_columns_correct (how : String) (hhow : how = "left" ∨ how = "right" ∨ how = "inner") (lu ru : Bool)
    (lk rk : List Int) (hl : Sorted lk) (hr : Sorted rk) (hlu : Truthful lu lk) (hru : Truthful ru rk)
    (cs vf : Nat) (hcs : 1 ≤ cs) (inv : Int) (hinvL : (lk.length : Int) ≤ inv) (hinvR : (rk.length : Int) ≤ inv)
    (fuel : Nat) (hfuel : lk.length + rk.length + 2 * (relJoin how lk rk).length + 1 ≤ fuel) :
    ∃ p o, plan how lu ru = .ok p ∧
      Join.streamed p.variant fuel cs inv (if p.aLeft then lk else rk) (if p.aLeft then rk else lk) = .ok o ∧
      (∀ m, leftMapOf p o = some m → m = encSel inv (leftSel how lk rk)) ∧
      (∀ m, rightMapOf p o = some m → m = encSel inv (rightSel how lk rk)) ∧
      (∀ col, ColWF col lk.length →
        ∃ out, mapColumn "left" col (leftMapOf p o) inv cs vf = .ok out ∧ selectCol col (leftSel how lk rk) = some out) ∧
      (∀ col, ColWF col rk.length →
        ∃ out, mapColumn "right" col (rightMapOf p o) inv cs vf = .ok out ∧ selectCol col (rightSel how lk rk) = some out) := by
  obtain ⟨p, o, h1, h2, hL, hR⟩ := ordered_maps how hhow lu ru lk rk hl hr hlu hru cs (by omega) inv fuel hfuel
  exact ⟨p, o, h1, h2, eq_of_some_or hL, eq_of_some_or hR,
    fun col hcol => ordered_column "left" (Or.inl rfl) col lk.length _ inv cs vf hcs hcol (leftSel_in_range how lk rk) hinvL _
      (hL.imp_right (fun h => ⟨h.1, h.2.2⟩)),
    fun col hcol => ordered_column "right" (Or.inr rfl) col rk.length _ inv cs vf hcs hcol (rightSel_in_range how lk rk) hinvR _
      (hR.imp_right (fun h => ⟨h.1, h.2.2⟩))⟩

/-- the same, telling a mapped side from a copied one: a side that has no map field is copied unchanged -/
theorem merge_correct_partial (how : String) (hhow : how = "left" ∨ how = "right" ∨ how = "inner") (lu ru : Bool)
    (lk rk : List Int) (hl : Sorted lk) (hr : Sorted rk) (hlu : Truthful lu lk) (hru : Truthful ru rk)
    (cs vf : Nat) (hcs : 1 ≤ cs) (inv : Int) (hinvL : (lk.length : Int) ≤ inv) (hinvR : (rk.length : Int) ≤ inv)
    (fuel : Nat) (hfuel : lk.length + rk.length + 2 * (relJoin how lk rk).length + 1 ≤ fuel) :
    ∃ p o, plan how lu ru = .ok p ∧
      Join.streamed p.variant fuel cs inv (if p.aLeft then lk else rk) (if p.aLeft then rk else lk) = .ok o ∧
      (∀ col, ColWF col lk.length →
        ∃ out, mapColumn "left" col (leftMapOf p o) inv cs vf = .ok out ∧
          ((leftMapOf p o).isSome → selectCol col (leftSel how lk rk) = some out) ∧
          (leftMapOf p o = none → out = col)) ∧
      (∀ col, ColWF col rk.length →
        ∃ out, mapColumn "right" col (rightMapOf p o) inv cs vf = .ok out ∧
          ((rightMapOf p o).isSome → selectCol col (rightSel how lk rk) = some out) ∧
          (rightMapOf p o = none → out = col)) := by
  obtain ⟨p, o, h1, h2, -, -, cL, cR⟩ := merge_ordered_columns_correct how hhow lu ru lk rk hl hr hlu hru cs vf hcs inv
    hinvL hinvR fuel hfuel
  have copied {side : String} (hside : side = "left" ∨ side = "right") {col out : Col} {m : Option (List Int)}
      (hm : m = none) (h : mapColumn side col m inv cs vf = .ok out) : out = col := by
    rw [hm, ordered_column_copied side hside col inv cs vf] at h
    exact (Except.ok.inj h).symm
  refine ⟨p, o, h1, h2, fun col hcol => ?_, fun col hcol => ?_⟩
  · obtain ⟨out, g1, g2⟩ := cL col hcol
    exact ⟨out, g1, fun _ => g2, fun hm => copied (Or.inl rfl) hm g1⟩
  · obtain ⟨out, g1, g2⟩ := cR col hcol
    exact ⟨out, g1, fun _ => g2, fun hm => copied (Or.inr rfl) hm g1⟩

/-- `leftSel_in_range` / `rightSel_in_range` on a join with duplicates on both sides and unmatched rows -/
example : (leftSel "left" [0, 2, 2] [2, 2, 5]).all (fun o => match o with | some i => decide (i < 3) | none => true) = true ∧
    (rightSel "left" [0, 2, 2] [2, 2, 5]).all (fun o => match o with | some j => decide (j < 3) | none => true) = true := by
  decide +kernel

/-- **A side without map field is selected row by row.** `_ordered_merge` leaves a side without `_left_map` /
    `_right_map` (and copies its columns with `chunked_copy`) only when that side drives the join and the OTHER side's
    keys are hinted unique; for a truthful hint the relational join then takes every row of the driving side exactly once,
    in order — so the unchanged copy IS the selected rows. -/
theorem no_map_is_identity (how : String) (hhow : how = "left" ∨ how = "right" ∨ how = "inner") (lu ru : Bool)
    (lk rk : List Int) (hlu : Truthful lu lk) (hru : Truthful ru rk) (p : Plan) (hp : plan how lu ru = .ok p) :
    (p.leftMap = none → leftSel how lk rk = idSel lk.length) ∧
    (p.rightMap = none → rightSel how lk rk = idSel rk.length) := by
  rcases hhow with rfl | rfl | rfl
  · cases (plan_left lu ru).symm.trans hp
    refine ⟨fun h => ?_, nofun⟩
    cases ru
    · cases h
    · exact leftSel_of_unique (hru rfl)
  · cases (plan_right lu ru).symm.trans hp
    refine ⟨nofun, fun h => ?_⟩
    cases lu
    · cases h
    · exact (rightSel_right lk rk).trans (leftSel_of_unique (hlu rfl))
  · cases (plan_inner lu ru).symm.trans hp
    exact ⟨nofun, nofun⟩

/-- left join against unique right keys (`how='left'`, `hint_right_keys_unique`): the left side has no map and is taken row by row -/
example : leftSel "left" [0, 2, 2, 7] [2, 5] = idSel 4 := by decide +kernel

/-- **Key order on the ordered path**: for `how ∈ {left, right, inner}` and sorted key columns, every row of the relational
    join — the row list the ordered path produces, in that order (`merge_ordered_columns_correct`) — has a key
    (`Spec.rowKey`: the key of whichever side is present), and these keys are non-decreasing from row to row. -/
theorem ordered_path_key_order (how : String) (hhow : how = "left" ∨ how = "right" ∨ how = "inner") (lk rk : List Int)
    (hl : Sorted lk) (hr : Sorted rk) :
    ∃ ks, (relJoin how lk rk).map (rowKey lk rk) = ks.map some ∧ Sorted ks :=
  relJoin_keys_sorted how hhow hl hr

example : (relJoin "right" [0, 2, 2] [2, 5, 5]).map (rowKey [0, 2, 2] [2, 5, 5]) = [2, 2, 5, 5].map some := by decide +kernel

/-! ## the whole destination frame -/

/-- the names `merge` reserves for its own fields in the destination: the two map fields of the ordered path and the two
    validity flags of the unordered path -/
def auxNames (i : Input) : List String :=
  ["_left_map", "_right_map", "valid" ++ i.leftSuffix, "valid" ++ i.rightSuffix]

/-- **truthful hints**: an ordered hint is only given for a non-decreasing key column, a unique hint only for a key column
    without duplicates (`lk` / `rk` are the order embedding of the key tuples) -/
structure TruthfulHints (i : Input) : Prop where
  leftOrdered : i.hintLO = some true → Sorted i.lk
  rightOrdered : i.hintRO = some true → Sorted i.rk
  leftUnique : i.hintLU = some true → i.lk.Nodup
  rightUnique : i.hintRU = some true → i.rk.Nodup

/-- **the frames the property speaks about**: a join mode of the property; `left_on` / `right_on` of the same shape, naming
    non-indexed columns as long as the key embedding; every field to map exists, is as long as its side's key column, an
    indexed-string field is well formed (C01) — nothing is asked about the length of its entries: with fix NC02c the
    streamed mapper sizes its value buffer for the longest entry (`MapValid.autoValueFactor`, floor `vf`); the destination
    names — the four reserved names and the documented (suffixed) names of the mapped fields — are pairwise distinct; at
    most 2^62 rows per side (the int64 marker `INVALID_INDEX_64` exceeds every row number); chunk size ≥ 1. -/
structure WellFormed (i : Input) (cs vf : Nat) : Prop where
  how : i.how = "left" ∨ i.how = "right" ∨ i.how = "inner" ∨ i.how = "outer"
  tuples : i.leftTuple = i.rightTuple
  tupleLen : i.leftTuple = true → i.leftOn.length = i.rightOn.length
  leftOn : i.leftOn ≠ []
  rightOn : i.rightOn ≠ []
  leftKeys : ∀ k ∈ i.leftOn, ∃ c, look i.left k = some c ∧ c.isIndexed = false ∧ c.len = i.lk.length
  rightKeys : ∀ k ∈ i.rightOn, ∃ c, look i.right k = some c ∧ c.isIndexed = false ∧ c.len = i.rk.length
  leftCols : ∀ k ∈ leftToMap i, ∃ c, look i.left k = some c ∧ ColWF c i.lk.length
  rightCols : ∀ k ∈ rightToMap i, ∃ c, look i.right k = some c ∧ ColWF c i.rk.length
  names : (auxNames i ++ (leftToMap i).map (leftName i) ++ (rightToMap i).map (rightName i)).Nodup
  sizeL : i.lk.length ≤ 4611686018427387904
  sizeR : i.rk.length ≤ 4611686018427387904
  chunk : 1 ≤ cs

/-- the recorded ASSUMPTION about `pandas.merge` (a parameter of the model; the harness checks it on every case that takes
    the unordered path): on the key columns it returns the rows of the relational join, in some order -/
def PandasOK (pandas : String → List Int → List Int → Except Err Pairs) (i : Input) : Prop :=
  ∃ pairs, pandas i.how i.lk i.rk = .ok pairs ∧ pairs.Perm (relJoin i.how i.lk i.rk)

/-- **`dest` is the table whose rows are `rows`**: under its documented name (`leftName` / `rightName`: suffixed exactly
    when the other side maps a field of the same name) every mapped field of the left (right) frame holds, in row `r`,
    the source value at the left (right) row number of `rows[r]`, or the type's empty value where that side is unmatched;
    every column of `dest` has `rows.length` rows; `dest` has no column besides these and `merge`'s reserved ones. -/
structure IsJoinFrame (i : Input) (dest : Frame) (rows : List JoinRow) : Prop where
  left : ∀ k ∈ leftToMap i, ∀ c, look i.left k = some c →
    ∃ out, look dest (leftName i k) = some out ∧ selectCol c (rows.map (·.1)) = some out
  right : ∀ k ∈ rightToMap i, ∀ c, look i.right k = some c →
    ∃ out, look dest (rightName i k) = some out ∧ selectCol c (rows.map (·.2)) = some out
  len : ∀ n c, look dest n = some c → c.len = rows.length
  cols : ∀ n ∈ names dest, n ∈ auxNames i ∨ n ∈ (leftToMap i).map (leftName i) ∨ n ∈ (rightToMap i).map (rightName i)

/-- arguments that pass the validators of `merge` (the part of `WellFormed` that is not about names, entry sizes or frame
    sizes) -/
structure ArgsOK (i : Input) : Prop where
  how : i.how = "left" ∨ i.how = "right" ∨ i.how = "inner" ∨ i.how = "outer"
  tuples : i.leftTuple = i.rightTuple
  tupleLen : i.leftTuple = true → i.leftOn.length = i.rightOn.length
  leftOn : i.leftOn ≠ []
  rightOn : i.rightOn ≠ []
  leftKeys : ∀ k ∈ i.leftOn, ∃ c, look i.left k = some c ∧ c.isIndexed = false ∧ c.len = i.lk.length
  rightKeys : ∀ k ∈ i.rightOn, ∃ c, look i.right k = some c ∧ c.isIndexed = false ∧ c.len = i.rk.length
  leftCols : ∀ k ∈ leftToMap i, ∃ c, look i.left k = some c ∧ c.len = i.lk.length
  rightCols : ∀ k ∈ rightToMap i, ∃ c, look i.right k = some c ∧ c.len = i.rk.length

theorem WellFormed.args {i : Input} {cs vf : Nat} (h : WellFormed i cs vf) : ArgsOK i where
  how := h.how
  tuples := h.tuples
  tupleLen := h.tupleLen
  leftOn := h.leftOn
  rightOn := h.rightOn
  leftKeys := h.leftKeys
  rightKeys := h.rightKeys
  leftCols := fun k hk => (h.leftCols k hk).imp (fun _ hc => ⟨hc.1, hc.2.len⟩)
  rightCols := fun k hk => (h.rightCols k hk).imp (fun _ hc => ⟨hc.1, hc.2.len⟩)

/-- such arguments pass every validator: `merge` comes down to its name check and the choice of the path -/
theorem merge_of_args (pandas : String → List Int → List Int → Except Err Pairs) {i : Input} (ha : ArgsOK i)
    (cs vf fuel : Nat) :
    merge pandas i cs vf fuel =
      if !(allDistinct (allDestNames i (leftToMap i) (rightToMap i))) then
        .error (.valueError "merge would write more than one destination field named …")
      else if isOrdered i then
        orderedMerge i (leftToMap i) (rightToMap i) i.lk.length i.rk.length (i.hintLU.getD false) (i.hintRU.getD false)
          cs vf fuel
      else unorderedMerge pandas i (leftToMap i) (rightToMap i) :=
  merge_front pandas i cs vf fuel (by rcases ha.how with h | h | h | h <;> rw [h] <;> decide) ha.tuples ha.tupleLen
    ha.leftOn ha.rightOn ha.leftKeys ha.rightKeys ha.leftCols ha.rightCols

theorem getD_true {o : Option Bool} (h : o.getD false = true) : o = some true := by
  cases o with
  | none => cases h
  | some b => exact congrArg some h

/-- the sentinel exceeds every row number of frames of at most 2^62 rows -/
theorem sentinel_ge (lu ru : Bool) {ll rl : Nat} (hl : ll ≤ 4611686018427387904) (hr : rl ≤ 4611686018427387904) :
    ∃ inv, sentinel lu ru ll rl = .ok inv ∧ (ll : Int) ≤ inv ∧ (rl : Int) ≤ inv := by
  refine ⟨_, sentinel_choice lu ru ll rl, ?_⟩
  split
  · split
    · rename_i hc
      simp only [Bool.and_eq_true, decide_eq_true_eq] at hc
      omega
    · omega
  · omega

/-- **C02, `merge_correct`.** For every join mode left / right / inner / outer, every truthful combination of the four
    hints, all well-formed frames (single or compound keys, field subsets, name clashes, every field type incl. indexed
    strings of any length), every chunk size ≥ 1, and — only where the call takes the unordered path — `pandas.merge` assumed to
    return a permutation of the relational join:
    `merge` succeeds, and its destination frame is the table of a row list `rows` that is a permutation of
    `relJoin how lk rk` — same multiset of (left columns | empty, right columns | empty) rows, every destination column
    of equal length, clashing names suffixed as documented. On the ordered path (`isOrdered`: both ordered hints, single
    key, mode ≠ outer) `rows` IS `relJoin how lk rk` in its own order, and the row keys are non-decreasing. -/
theorem merge_frame_correct (pandas : String → List Int → List Int → Except Err Pairs) (i : Input) (cs vf fuel : Nat)
    (hwf : WellFormed i cs vf) (hth : TruthfulHints i) (hpd : isOrdered i = false → PandasOK pandas i)
    (hfuel : i.lk.length + i.rk.length + 2 * (relJoin i.how i.lk i.rk).length + 1 ≤ fuel) :
    ∃ dest rows, merge pandas i cs vf fuel = .ok dest ∧ rows.Perm (relJoin i.how i.lk i.rk) ∧ IsJoinFrame i dest rows ∧
      (isOrdered i = true → rows = relJoin i.how i.lk i.rk ∧
        ∃ ks, rows.map (rowKey i.lk i.rk) = ks.map some ∧ Sorted ks) := by
  rw [merge_of_args pandas hwf.args, (allDistinct_iff (allDestNames i (leftToMap i) (rightToMap i))).mpr hwf.names]
  simp only [Bool.not_true, Bool.false_eq_true, if_false]
  cases hord : isOrdered i with
  | true =>
    -- what `ordered` means
    simp only [isOrdered, Bool.and_eq_true] at hord
    obtain ⟨⟨⟨⟨o1, o2⟩, _⟩, _⟩, o5⟩ := hord
    have hhow : i.how = "left" ∨ i.how = "right" ∨ i.how = "inner" := by simpa using o5
    have hl : Sorted i.lk := hth.leftOrdered (getD_true o1)
    have hr : Sorted i.rk := hth.rightOrdered (getD_true o2)
    have hlu : Truthful (i.hintLU.getD false) i.lk := fun h => strict_of_sorted_nodup hl (hth.leftUnique (getD_true h))
    have hru : Truthful (i.hintRU.getD false) i.rk := fun h => strict_of_sorted_nodup hr (hth.rightUnique (getD_true h))
    obtain ⟨inv, hs, hinvL, hinvR⟩ := sentinel_ge (i.hintLU.getD false) (i.hintRU.getD false) hwf.sizeL hwf.sizeR
    obtain ⟨p, o, h1, h2, m1, m2, c1, c2⟩ := merge_ordered_columns_correct i.how hhow (i.hintLU.getD false)
      (i.hintRU.getD false) i.lk i.rk hl hr hlu hru cs vf hwf.chunk inv hinvL hinvR fuel hfuel
    obtain ⟨dest, d1, d2, d3, d4, d5⟩ := orderedMerge_frame i i.lk.length i.rk.length (i.hintLU.getD false)
      (i.hintRU.getD false) cs vf fuel inv p o _ _ (leftSel i.how i.lk i.rk) (rightSel i.how i.lk i.rk)
      (relJoin i.how i.lk i.rk).length (auxNames i) o5 hs h1 h2 rfl rfl
      (fun m hm => by rw [m1 m hm]; simp [encSel, leftSel])
      (fun m hm => by rw [m2 m hm]; simp [encSel, rightSel])
      (List.length_map _) (List.length_map _)
      (fun k hk => (hwf.leftCols k hk).imp (fun c hc => (c1 c hc.2).imp (fun _ g => ⟨hc.1, g⟩)))
      (fun k hk => (hwf.rightCols k hk).imp (fun c hc => (c2 c hc.2).imp (fun _ g => ⟨hc.1, g⟩)))
      (.cons_cons _ (.cons_cons _ (List.nil_sublist _))) hwf.names
    exact ⟨dest, _, d1, List.Perm.refl _, ⟨d2, d3, d4, d5⟩, fun _ => ⟨rfl, ordered_path_key_order i.how hhow i.lk i.rk hl hr⟩⟩
  | false =>
    obtain ⟨pairs, hp1, hp2⟩ := hpd hord
    obtain ⟨dest, d1, d2, d3, d4, d5⟩ := unorderedMerge_frame pandas i pairs (auxNames i) hp1
      (fun q hq => relJoin_in_range i.how i.lk i.rk q (hp2.subset hq)) hwf.leftCols hwf.rightCols
      (.cons _ (.cons _ (List.Sublist.refl _))) hwf.names
    exact ⟨dest, pairs, d1, hp2, ⟨d2, d3, d4, d5⟩, nofun⟩

/-- the same call without any hint -/
def noHints (i : Input) : Input := { i with hintLO := none, hintLU := none, hintRO := none, hintRU := none }

/-- **C02, `hints_irrelevant`.** With truthful hints `merge` produces the same table as the hint-free call: both succeed,
    both destinations are the table (`IsJoinFrame`: same fields, same documented names, every column the selected source
    rows) of a row list, and the two row lists are permutations of each other — the hints change which code runs (streamed
    generators vs `pandas.merge`) and the row order, never the multiset of (left columns, right columns) rows. -/
theorem hints_irrelevant (pandas : String → List Int → List Int → Except Err Pairs) (i : Input) (cs vf fuel : Nat)
    (hwf : WellFormed i cs vf) (hth : TruthfulHints i) (hpd : PandasOK pandas i)
    (hfuel : i.lk.length + i.rk.length + 2 * (relJoin i.how i.lk i.rk).length + 1 ≤ fuel) :
    ∃ dest dest0 rows rows0, merge pandas i cs vf fuel = .ok dest ∧ merge pandas (noHints i) cs vf fuel = .ok dest0 ∧
      rows.Perm rows0 ∧ IsJoinFrame i dest rows ∧ IsJoinFrame i dest0 rows0 := by
  obtain ⟨dest, rows, a1, a2, a3, _⟩ := merge_frame_correct pandas i cs vf fuel hwf hth (fun _ => hpd) hfuel
  have hwf0 : WellFormed (noHints i) cs vf :=
    ⟨hwf.how, hwf.tuples, hwf.tupleLen, hwf.leftOn, hwf.rightOn, hwf.leftKeys, hwf.rightKeys, hwf.leftCols, hwf.rightCols,
      hwf.names, hwf.sizeL, hwf.sizeR, hwf.chunk⟩
  have hth0 : TruthfulHints (noHints i) := ⟨nofun, nofun, nofun, nofun⟩
  obtain ⟨dest0, rows0, b1, b2, b3, _⟩ := merge_frame_correct pandas (noHints i) cs vf fuel hwf0 hth0 (fun _ => hpd) hfuel
  exact ⟨dest, dest0, rows, rows0, a1, b1, a2.trans b2.symm, a3, ⟨b3.left, b3.right, b3.len, b3.cols⟩⟩

/-- **C02, `never_raises_on_truthful_hints`.** Under the same hypotheses no error of any kind comes out of `merge`: no
    validation error, no `TypeError` / `ValueError` of the dispatch, no out-of-bounds access or exhausted fuel in a streamed
    generator or column mapper, no "field already exists". -/
theorem never_raises_on_truthful_hints (pandas : String → List Int → List Int → Except Err Pairs) (i : Input)
    (cs vf fuel : Nat) (hwf : WellFormed i cs vf) (hth : TruthfulHints i)
    (hpd : isOrdered i = false → PandasOK pandas i)
    (hfuel : i.lk.length + i.rk.length + 2 * (relJoin i.how i.lk i.rk).length + 1 ≤ fuel) :
    ∀ e, merge pandas i cs vf fuel ≠ .error e := by
  obtain ⟨dest, _, h, _⟩ := merge_frame_correct pandas i cs vf fuel hwf hth hpd hfuel
  intro e he
  rw [h] at he
  cases he

/-! ### the same three, registered also with `_partial` appended -/

theorem merge_frame_correct_partial (pandas : String → List Int → List Int → Except Err Pairs) (i : Input) (cs vf fuel : Nat)
    (hwf : WellFormed i cs vf) (hth : TruthfulHints i) (hpd : isOrdered i = false → PandasOK pandas i)
    (hfuel : i.lk.length + i.rk.length + 2 * (relJoin i.how i.lk i.rk).length + 1 ≤ fuel) :
    ∃ dest rows, merge pandas i cs vf fuel = .ok dest ∧ rows.Perm (relJoin i.how i.lk i.rk) ∧ IsJoinFrame i dest rows ∧
      (isOrdered i = true → rows = relJoin i.how i.lk i.rk ∧
        ∃ ks, rows.map (rowKey i.lk i.rk) = ks.map some ∧ Sorted ks) :=
  merge_frame_correct pandas i cs vf fuel hwf hth hpd hfuel

theorem hints_irrelevant_partial (pandas : String → List Int → List Int → Except Err Pairs) (i : Input) (cs vf fuel : Nat)
    (hwf : WellFormed i cs vf) (hth : TruthfulHints i) (hpd : PandasOK pandas i)
    (hfuel : i.lk.length + i.rk.length + 2 * (relJoin i.how i.lk i.rk).length + 1 ≤ fuel) :
    ∃ dest dest0 rows rows0, merge pandas i cs vf fuel = .ok dest ∧ merge pandas (noHints i) cs vf fuel = .ok dest0 ∧
      rows.Perm rows0 ∧ IsJoinFrame i dest rows ∧ IsJoinFrame i dest0 rows0 :=
  hints_irrelevant pandas i cs vf fuel hwf hth hpd hfuel

theorem never_raises_on_truthful_hints_partial (pandas : String → List Int → List Int → Except Err Pairs) (i : Input)
    (cs vf fuel : Nat) (hwf : WellFormed i cs vf) (hth : TruthfulHints i)
    (hpd : isOrdered i = false → PandasOK pandas i)
    (hfuel : i.lk.length + i.rk.length + 2 * (relJoin i.how i.lk i.rk).length + 1 ≤ fuel) :
    ∀ e, merge pandas i cs vf fuel ≠ .error e :=
  never_raises_on_truthful_hints pandas i cs vf fuel hwf hth hpd hfuel

/-- an indexed-string entry longer than the floor buffer `cs * vf` (here 2 * 1 bytes against the 3-byte entry "bcd") is no
    obstacle: the hinted merge returns the same table as the hint-free one -/
example : ∃ d, merge (fun how lk rk => .ok (relJoin how lk rk))
    { how := "left", left := [("k", intCol [1, 2]), ("s", .indexed [0, 1, 4] [97, 98, 99, 100])], right := [("k", intCol [2, 3])],
      leftOn := ["k"], rightOn := ["k"], leftTuple := false, rightTuple := false, leftFields := none, rightFields := none,
      hintLO := some true, hintRO := some true, lk := [1, 2], rk := [2, 3] } 2 1 64 = .ok d ∧
    look d "s" = some (.indexed [0, 1, 4] [97, 98, 99, 100]) := exists_ok_of_map (by decide +kernel)

/-- **A clash among the destination names is a `ValueError` before anything is written — with and without hints** (fix
    NC02b). This is the guard `WellFormed.names` excludes: a source field called `_left_map`, `_right_map`, `valid_l` or
    `valid_r`, or two mapped fields with the same (suffixed) destination name. As found, such a call raised or succeeded
    depending on the hints (`_left_map`: only the ordered path raised; `valid_l`: only the unordered one). -/
theorem name_clash_rejected (pandas : String → List Int → List Int → Except Err Pairs) (i : Input) (cs vf fuel : Nat)
    (ha : ArgsOK i)
    (hclash : ¬ (auxNames i ++ (leftToMap i).map (leftName i) ++ (rightToMap i).map (rightName i)).Nodup) :
    (∃ msg, merge pandas i cs vf fuel = .error (.valueError msg)) ∧
    merge pandas (noHints i) cs vf fuel = merge pandas i cs vf fuel := by
  have hnd : allDistinct (allDestNames i (leftToMap i) (rightToMap i)) = false :=
    Bool.eq_false_iff.mpr (fun h => hclash ((allDistinct_iff _).mp h))
  have ha0 : ArgsOK (noHints i) := ⟨ha.how, ha.tuples, ha.tupleLen, ha.leftOn, ha.rightOn, ha.leftKeys, ha.rightKeys,
    ha.leftCols, ha.rightCols⟩
  have h1 := merge_of_args pandas ha cs vf fuel
  have h2 := merge_of_args pandas ha0 cs vf fuel
  rw [show allDistinct (allDestNames (noHints i) (leftToMap (noHints i)) (rightToMap (noHints i))) = false from hnd] at h2
  rw [hnd] at h1
  exact ⟨⟨_, h1⟩, h2.trans h1.symm⟩

/-! ## non-vacuity of the whole-frame theorems

Two frames with duplicate keys on BOTH sides (`2, 2` against `2, 2`), unmatched rows at both ends of both key columns
(`0`, `9` on the left, `1`, `5` on the right), a name clash (`k` on both sides → `k_l`, `k_r`) and an indexed-string
column (`s` = "a", "bc", "", "d"); chunk size 2, so every streamed loop runs several chunks. -/

/-- a `pandas.merge` that returns the relational join in REVERSE order (any permutation satisfies the assumption) -/
def exPandas (how : String) (lk rk : List Int) : Except Err Pairs := .ok (relJoin how lk rk).reverse

theorem exPandas_ok (i : Input) : PandasOK exPandas i := ⟨_, rfl, List.reverse_perm _⟩

def exInput (how : String) (hint : Option Bool) : Input :=
  { how := how
    left := [("k", intCol [0, 2, 2, 9]), ("s", .indexed [0, 1, 3, 3, 4] [97, 98, 99, 100])]
    right := [("k", intCol [1, 2, 2, 5]), ("v", .flat (.int 0) [.int 10, .int 20, .int 30, .int 40])]
    leftOn := ["k"], rightOn := ["k"], leftTuple := false, rightTuple := false
    leftFields := none, rightFields := none
    hintLO := hint, hintRO := hint
    lk := [0, 2, 2, 9], rk := [1, 2, 2, 5] }

theorem exInput_wf (how : String) (hhow : how = "left" ∨ how = "right" ∨ how = "inner" ∨ how = "outer")
    (hint : Option Bool) : WellFormed (exInput how hint) 2 8 where
  how := hhow
  tuples := rfl
  tupleLen := nofun
  leftOn := nofun
  rightOn := nofun
  leftKeys := List.forall_mem_singleton.mpr ⟨_, rfl, rfl, rfl⟩
  rightKeys := List.forall_mem_singleton.mpr ⟨_, rfl, rfl, rfl⟩
  leftCols := List.forall_mem_cons.mpr ⟨⟨_, rfl, ColWF.flat _ _⟩,
    List.forall_mem_singleton.mpr ⟨_, rfl, ColWF.indexed (by unfold IndexedOK; decide)⟩⟩
  rightCols := List.forall_mem_cons.mpr ⟨⟨_, rfl, ColWF.flat _ _⟩, List.forall_mem_singleton.mpr ⟨_, rfl, ColWF.flat _ _⟩⟩
  names := by
    show (["_left_map", "_right_map", "valid_l", "valid_r", "k_l", "s", "k_r", "v"] : List String).Nodup
    decide +kernel
  sizeL := by show 4 ≤ 4611686018427387904; decide
  sizeR := by show 4 ≤ 4611686018427387904; decide
  chunk := by decide

theorem exInput_truthful (how : String) (hint : Option Bool) : TruthfulHints (exInput how hint) :=
  ⟨fun _ => by show Sorted [0, 2, 2, 9]; unfold Sorted; decide, fun _ => by show Sorted [1, 2, 2, 5]; unfold Sorted; decide,
    nofun, nofun⟩

/-- with both ordered hints the left join takes the ordered path, the outer join never does -/
example : isOrdered (exInput "left" (some true)) = true ∧ isOrdered (exInput "outer" (some true)) = false := by
  decide +kernel

/-- the hypotheses of the three theorems are met by this input, on both paths -/
example := merge_frame_correct exPandas (exInput "left" (some true)) 2 8 64 (exInput_wf _ (Or.inl rfl) _)
  (exInput_truthful _ _) (fun _ => exPandas_ok _) (by decide)
example := merge_frame_correct exPandas (exInput "outer" none) 2 8 64 (exInput_wf _ (Or.inr (Or.inr (Or.inr rfl))) _)
  (exInput_truthful _ _) (fun _ => exPandas_ok _) (by decide)
example := hints_irrelevant exPandas (exInput "right" (some true)) 2 8 64 (exInput_wf _ (Or.inr (Or.inl rfl)) _)
  (exInput_truthful _ _) (exPandas_ok _) (by decide)
example := never_raises_on_truthful_hints exPandas (exInput "inner" (some true)) 2 8 64
  (exInput_wf _ (Or.inr (Or.inr (Or.inl rfl))) _) (exInput_truthful _ _) (fun _ => exPandas_ok _) (by decide)

/-- what the model computes on it — ordered path, `how='left'`: rows in key order, the right map non-monotone -/
example : merge exPandas (exInput "left" (some true)) 2 8 64 = .ok
    [("_left_map", intCol [0, 1, 1, 2, 2, 3]), ("_right_map", intCol [4611686018427387904, 1, 2, 1, 2, 4611686018427387904]),
     ("k_l", intCol [0, 2, 2, 2, 2, 9]), ("s", .indexed [0, 1, 3, 5, 5, 5, 6] [97, 98, 99, 98, 99, 100]),
     ("k_r", intCol [0, 2, 2, 2, 2, 0]), ("v", .flat (.int 0) [.int 0, .int 20, .int 30, .int 20, .int 30, .int 0])] := by
  decide +kernel

/-- … and on the unordered path, `how='outer'`, rows in the (reversed) order `exPandas` returns them -/
example : merge exPandas (exInput "outer" none) 2 8 64 = .ok
    [("k_l", intCol [0, 0, 9, 2, 2, 2, 2, 0]), ("s", .indexed [0, 0, 0, 1, 1, 1, 3, 5, 6] [100, 98, 99, 98, 99, 97]),
     ("valid_l", boolCol [false, false, true, true, true, true, true, true]),
     ("k_r", intCol [5, 1, 0, 2, 2, 2, 2, 0]),
     ("v", .flat (.int 0) [.int 40, .int 10, .int 0, .int 30, .int 20, .int 30, .int 20, .int 0]),
     ("valid_r", boolCol [true, true, false, true, true, true, true, false])] := by
  decide +kernel

/-- the NC02b witness on the (repaired) model: a left field called `_left_map` is rejected with AND without the ordered hints -/
def exReserved (hint : Option Bool) : Input :=
  { how := "left"
    left := [("k", intCol [1, 2, 3]), ("_left_map", intCol [10, 11, 12])]
    right := [("k", intCol [2, 3, 4])]
    leftOn := ["k"], rightOn := ["k"], leftTuple := false, rightTuple := false
    leftFields := none, rightFields := none
    hintLO := hint, hintRO := hint
    lk := [1, 2, 3], rk := [2, 3, 4] }

example : (∃ msg, merge exPandas (exReserved (some true)) 2 8 64 = .error (.valueError msg)) ∧
    (∃ msg, merge exPandas (exReserved none) 2 8 64 = .error (.valueError msg)) := ⟨⟨_, rfl⟩, ⟨_, rfl⟩⟩

/-- the hypotheses of `name_clash_rejected` are met by it: the arguments pass every validator, the names clash -/
theorem exReserved_args (hint : Option Bool) : ArgsOK (exReserved hint) where
  how := Or.inl rfl
  tuples := rfl
  tupleLen := nofun
  leftOn := nofun
  rightOn := nofun
  leftKeys := List.forall_mem_singleton.mpr ⟨_, rfl, rfl, rfl⟩
  rightKeys := List.forall_mem_singleton.mpr ⟨_, rfl, rfl, rfl⟩
  leftCols := List.forall_mem_cons.mpr ⟨⟨_, rfl, rfl⟩, List.forall_mem_singleton.mpr ⟨_, rfl, rfl⟩⟩
  rightCols := List.forall_mem_singleton.mpr ⟨_, rfl, rfl⟩

example := name_clash_rejected exPandas (exReserved (some true)) 2 8 64 (exReserved_args _) (by
  show ¬ (["_left_map", "_right_map", "valid_l", "valid_r", "k_l", "_left_map", "k_r"] : List String).Nodup
  decide +kernel)

/-!
## Every hypothesis

All are visible in `WellFormed` / `TruthfulHints` / `PandasOK` and in the theorem statements:
  * `pandas.merge` returns a permutation of `relJoin` (a PARAMETER of the model; recorded assumption, checked by the
    harness on every case that takes the unordered path);
  * the destination names are pairwise distinct INCLUDING the four names `merge` reserves (`_left_map`, `_right_map`,
    `valid<left_suffix>`, `valid<right_suffix>`): as found, a source field called `_left_map` made the ordered path raise
    "field already exists" while the hint-free call succeeded, a field called `valid_l` did the converse — finding NC02b.
    With fix NC02b `merge` checks exactly this up front and raises `ValueError` on both paths (`name_clash_rejected`), so
    the hypothesis is the code's own guard;
  * nothing about the length of indexed-string entries: as found, an entry longer than `chunksize * value_factor` made
    `ordered_map_valid_indexed_stream` raise under both ordered hints while the hint-free call succeeded (finding NC02c,
    witness `Witness.C02.nc02c_long_entry_raises_only_with_hints`); the repaired stream sizes its buffer itself;
  * at most 2^62 rows per side (the marker `INVALID_INDEX_64` must exceed every row number);
  * `fuel` at least `|lk| + |rk| + 2·|relJoin| + 1` (the streamed generators' variant, C12);
  * `lk` / `rk` are an order embedding of the key tuples (DESIGN 1.4): the tie between them and the key COLUMNS of the
    frames is the harness's, not a theorem's.
-/

end Exetera.Props.C02
