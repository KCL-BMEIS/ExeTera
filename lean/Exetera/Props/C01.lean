import Exetera.Model.IndexedWriter
import Exetera.Model.Storage
import Exetera.Spec.Storage
import Exetera.Lemmas.Storage
import Exetera.Lemmas.Offsets
import Exetera.Lemmas.IndexedWriter
import Exetera.Lemmas.IndexedReader
import Exetera.Model.Reader
import Exetera.Spec.PySlice
import Exetera.Lemmas.PySlice
import Exetera.Lemmas.ReaderItems
import Exetera.Gen.FieldTypeMap
/-!
  C01 — field storage round-trip: what is written is what is read.

  All theorems are about the definitions the driver runs (`Exetera.IndexedWriter.writeField / writeRounds`,
  `Exetera.Storage.writeParts / storeKeyValues / readDtype / reopenClass`, `Exetera.Reader.getIndexed / plainGet`) and
  the parts these are built from (`writeOnto`, `getSlice / getAll / getItem`), in the `repaired` variant (ExeTera with
  the patches D1, D2, D32, NC01a, NC01b, NC01c of /verif/fixes applied); the `asFound` variants are refuted on
  their witnesses in `Witness/C01.lean`.  Every `… = .ok …` carries memory safety of the staging buffers (each buffer
  write is a checked `setE`, each offset read a checked `getE`) and termination (the model is structurally recursive).
-/
namespace Exetera.Props.C01

open Exetera Exetera.Storage Exetera.IndexedWriter Exetera.Spec Exetera.Reader

/-! ### (a) the indexed-string writer stores exactly the written sequence -/

/-- Writing any list of `write_part` calls, with any chunk size `c ≥ 1`, through a new writer onto a well-formed field
    holding the entries `xs0` (either backend for either array) and calling `complete()` succeeds, and afterwards the
    values array is the concatenation of all entries' bytes, the index array is exactly `offsets` of all entries, and
    both staging buffers are drained. -/
theorem indexed_append (c : Nat) (hc : 1 ≤ c) (ix : Arr Nat) (vals : Arr Byte) (xs0 : List Bytes)
    (hv : vals.contents = xs0.flatten) (hi : ix.contents = offsets xs0 ∨ (ix.contents = [] ∧ xs0 = []))
    (parts : List (List Bytes)) :
    ∃ s, writeOnto .repaired c ix vals parts = .ok s ∧
      s.values.contents = (xs0 ++ written parts).flatten ∧
      s.indices.contents = offsets (xs0 ++ written parts) ∧
      s.valueIndex = 0 ∧ s.indexIndex = 0 := by
  obtain ⟨s, h, hC, _⟩ := writeRound_inv (init_inv c hc ix vals xs0 hv hi) parts
  exact ⟨s, h .repaired (.inl rfl), hC.values, hC.indices, hC.valueIndex, hC.indexIndex⟩

/-- The round trip on a fresh field (memory-backed or HDF5): for every chunk size `c ≥ 1` and every partition of the
    sequence into `write_part` calls (empty parts and the empty sequence included), the stored bytes are the
    concatenation of the written entries and the stored offsets are `offsets` of the written sequence. -/
theorem indexed_roundtrip (c : Nat) (hc : 1 ≤ c) (h5 : Bool) (parts : List (List Bytes)) :
    ∃ s, writeField .repaired c h5 parts = .ok s ∧
      s.values.contents = (written parts).flatten ∧
      s.indices.contents = offsets (written parts) ∧
      s.valueIndex = 0 ∧ s.indexIndex = 0 := by
  have := indexed_append c hc (Arr.fresh h5) (Arr.fresh h5) [] (by simp) (Or.inr ⟨by simp, rfl⟩) parts
  simpa [writeField] using this

example : ∃ s, writeField .repaired 2 true [[[97, 98], [], [195, 169]], [], [[120, 121, 122]]] = .ok s ∧
    s.values.contents = [97, 98, 195, 169, 120, 121, 122] ∧ s.indices.contents = [0, 2, 2, 4, 7] :=
  ⟨_, rfl, rfl, rfl⟩

example : ∃ s, writeField .repaired 3 false [] = .ok s ∧ s.values.contents = [] ∧ s.indices.contents = [0] :=
  ⟨_, rfl, rfl, rfl⟩

/-- Histories: one or more rounds (each a list of `write_part` calls closed by `complete()`), either going on with the
    same writer object or taking a new one on the field's arrays for every round (`field.writeable()`, a reopened
    dataset), leave the concatenation of everything written, with its offsets. -/
theorem indexed_rounds (c : Nat) (hc : 1 ≤ c) (h5 rewrap : Bool) (rounds : List (List (List Bytes))) (hne : rounds ≠ []) :
    ∃ s, writeRounds .repaired c h5 rewrap rounds = .ok s ∧
      s.values.contents = (written (rounds.map written)).flatten ∧
      s.indices.contents = offsets (written (rounds.map written)) ∧
      s.valueIndex = 0 ∧ s.indexIndex = 0 := by
  obtain ⟨s, h, _, hC⟩ := writeRounds_inv c hc h5 rewrap rounds
  have hC := hC hne
  exact ⟨s, h, hC.values, hC.indices, hC.valueIndex, hC.indexIndex⟩

example : ∃ s, writeRounds .repaired 2 true true [[[[97, 98]]], [], [[[99]], [[], [100]]]] = .ok s ∧
    s.values.contents = [97, 98, 99, 100] ∧ s.indices.contents = [0, 2, 3, 3, 4] :=
  ⟨_, rfl, rfl, rfl⟩

/-- The stored offsets start at 0, never decrease, end at the number of stored bytes and number one more than the
    entries — for every chunk size `≥ 1`, partition and backend, the empty sequence included. -/
theorem offsets_invariants (c : Nat) (hc : 1 ≤ c) (h5 : Bool) (parts : List (List Bytes)) :
    ∃ s, writeField .repaired c h5 parts = .ok s ∧
      s.indices.contents.head? = some 0 ∧
      s.indices.contents.Pairwise (· ≤ ·) ∧
      s.indices.contents.getLast? = some s.values.contents.length ∧
      s.indices.contents.length = (written parts).length + 1 := by
  obtain ⟨s, hs, hv, hi, _, _⟩ := indexed_roundtrip c hc h5 parts
  refine ⟨s, hs, ?_, ?_, ?_, ?_⟩
  · rw [hi]; exact offsets_head? _
  · rw [hi]; exact offsets_pairwise _
  · rw [hi, hv]; exact offsets_getLast? _
  · rw [hi]; exact length_offsets _

example : ∃ s, writeField .repaired 1 false [[[], [97]], [[]]] = .ok s ∧ s.indices.contents = [0, 0, 1, 1] :=
  ⟨_, rfl, rfl⟩

/-! ### (b) partition, chunk-size and backend independence -/

/-- Two runs that write the same sequence — through any two partitions into `write_part` calls, any two chunk sizes
    `≥ 1`, memory-backed or HDF5 — end with the same stored bytes and the same stored offsets. -/
theorem representation_independent (c₁ c₂ : Nat) (h₁ : 1 ≤ c₁) (h₂ : 1 ≤ c₂) (b₁ b₂ : Bool)
    (parts₁ parts₂ : List (List Bytes)) (hsame : written parts₁ = written parts₂) :
    ∃ s₁ s₂, writeField .repaired c₁ b₁ parts₁ = .ok s₁ ∧ writeField .repaired c₂ b₂ parts₂ = .ok s₂ ∧
      s₁.values.contents = s₂.values.contents ∧ s₁.indices.contents = s₂.indices.contents := by
  obtain ⟨s₁, e₁, v₁, i₁, _, _⟩ := indexed_roundtrip c₁ h₁ b₁ parts₁
  obtain ⟨s₂, e₂, v₂, i₂, _, _⟩ := indexed_roundtrip c₂ h₂ b₂ parts₂
  exact ⟨s₁, s₂, e₁, e₂, by rw [v₁, v₂, hsame], by rw [i₁, i₂, hsame]⟩

/-- any two partitions of the same sequence (same chunk size, same backend) -/
theorem partition_irrelevant (c : Nat) (hc : 1 ≤ c) (h5 : Bool) (parts₁ parts₂ : List (List Bytes))
    (hsame : written parts₁ = written parts₂) :
    ∃ s₁ s₂, writeField .repaired c h5 parts₁ = .ok s₁ ∧ writeField .repaired c h5 parts₂ = .ok s₂ ∧
      s₁.values.contents = s₂.values.contents ∧ s₁.indices.contents = s₂.indices.contents :=
  representation_independent c c hc hc h5 h5 parts₁ parts₂ hsame

/-- any two chunk sizes `≥ 1` (same partition, same backend) -/
theorem chunksize_irrelevant (c₁ c₂ : Nat) (h₁ : 1 ≤ c₁) (h₂ : 1 ≤ c₂) (h5 : Bool) (parts : List (List Bytes)) :
    ∃ s₁ s₂, writeField .repaired c₁ h5 parts = .ok s₁ ∧ writeField .repaired c₂ h5 parts = .ok s₂ ∧
      s₁.values.contents = s₂.values.contents ∧ s₁.indices.contents = s₂.indices.contents :=
  representation_independent c₁ c₂ h₁ h₂ h5 h5 parts parts rfl

example : written [[[1], [2, 3]], [], [[4]]] = written [[[1]], [[2, 3], [4]]] (α := Bytes) := rfl

/-! ### (c) reading back: slices, the whole field, single entries — both readers -/

/-- On a well-formed field (`indices = offsets xs`, `values = xs.flatten` — what `indexed_roundtrip` establishes and
    what a reopened dataset hands back under the persistence assumption) both `WriteableIndexedFieldArray.__getitem__`
    (`writeable = true`) and `ReadOnlyIndexedFieldArray.__getitem__` return exactly `xs[a:b]` for every
    `0 ≤ a ≤ b ≤ n`, no place left `None`, no offset read out of bounds. -/
theorem slice_read (writeable : Bool) (xs : List Bytes) (a b : Nat) (hab : a ≤ b) (hb : b ≤ xs.length) :
    getSlice writeable (offsets xs) xs.flatten a b = .ok ((pySlice xs a b).map some) :=
  getSlice_wellformed writeable xs a b hab hb

/-- `data[:]` returns the whole sequence, both readers -/
theorem all_read (writeable : Bool) (xs : List Bytes) :
    getAll writeable (offsets xs) xs.flatten = .ok (xs.map some) :=
  getAll_wellformed writeable xs

/-- `data[i]` returns the `i`-th entry for every `i < n` -/
theorem item_read (xs : List Bytes) (i : Nat) (hi : i < xs.length) :
    getItem (offsets xs) xs.flatten i = .ok xs[i] :=
  getItem_wellformed xs i hi

/-- `len(field)` is the number of entries -/
theorem len_read (xs : List Bytes) : fieldLen (offsets xs) = xs.length := by simp [fieldLen]

example : getSlice false (offsets [[97], [], [98, 99]]) [97, 98, 99] 1 3 = .ok [some [], some [98, 99]] := rfl
example : getItem (offsets [[97], [], [98, 99]]) [97, 98, 99] 2 = .ok [98, 99] := rfl

/-- End to end: write the sequence through any partition / chunk size ≥ 1 / backend, then read any in-range slice, the
    whole field, any entry and the length through either reader: the written sequence comes back. -/
theorem write_then_read (c : Nat) (hc : 1 ≤ c) (h5 : Bool) (parts : List (List Bytes)) (writeable : Bool) :
    ∃ s, writeField .repaired c h5 parts = .ok s ∧
      (∀ a b, a ≤ b → b ≤ (written parts).length →
        getSlice writeable s.indices.contents s.values.contents a b = .ok ((pySlice (written parts) a b).map some)) ∧
      getAll writeable s.indices.contents s.values.contents = .ok ((written parts).map some) ∧
      (∀ i (hi : i < (written parts).length),
        getItem s.indices.contents s.values.contents i = .ok (written parts)[i]) ∧
      fieldLen s.indices.contents = (written parts).length := by
  obtain ⟨s, hs, hv, hi, _, _⟩ := indexed_roundtrip c hc h5 parts
  refine ⟨s, hs, ?_, ?_, ?_, ?_⟩
  · intro a b hab hb; rw [hi, hv]; exact slice_read writeable _ a b hab hb
  · rw [hi, hv]; exact all_read writeable _
  · intro i hlt; rw [hi, hv]; exact item_read _ i hlt
  · rw [hi]; exact len_read _

/-! ### (d) plain fields (numeric of any dtype, fixed string, categorical, timestamp): append is concatenation -/

/-- Any list of `write_part` calls on a field array fresh from its constructor — `MemoryFieldArray` (with its
    reallocate-and-copy append) or the HDF5 dataset (`DataWriter.write`: resize, assign the tail) — succeeds and leaves
    exactly the concatenation of the parts; polymorphic in the element type, so it holds for every dtype whose values
    are written as that dtype. Empty parts anywhere are harmless (D1 repaired). -/
theorem plain_append {α} (z : α) (h5 : Bool) (parts : List (List α)) :
    ∃ a, writeParts .repaired z (Arr.fresh h5) parts = .ok a ∧ a.contents = written parts :=
  ⟨_, writeParts_eq .repaired z _ parts (.inl rfl), by simp [written]⟩

/-- …and appending to an array that already holds data -/
theorem plain_append_onto {α} (z : α) (a : Arr α) (parts : List (List α)) :
    ∃ a', writeParts .repaired z a parts = .ok a' ∧ a'.contents = a.contents ++ written parts :=
  ⟨_, writeParts_eq .repaired z a parts (.inl rfl), contents_foldl_appended a parts⟩

/-- partition and backend independence for plain fields -/
theorem plain_partition_irrelevant {α} (z : α) (b₁ b₂ : Bool) (parts₁ parts₂ : List (List α))
    (hsame : written parts₁ = written parts₂) :
    ∃ a₁ a₂, writeParts .repaired z (Arr.fresh b₁) parts₁ = .ok a₁ ∧ writeParts .repaired z (Arr.fresh b₂) parts₂ = .ok a₂ ∧
      a₁.contents = a₂.contents := by
  obtain ⟨a₁, e₁, c₁⟩ := plain_append z b₁ parts₁
  obtain ⟨a₂, e₂, c₂⟩ := plain_append z b₂ parts₂
  exact ⟨a₁, a₂, e₁, e₂, by rw [c₁, c₂, hsame]⟩

example : ∃ a, writeParts .repaired (0 : Int) (Arr.fresh false) [[1, 2], [], [3]] = .ok a ∧ a.contents = [1, 2, 3] :=
  ⟨_, rfl, rfl⟩
example : ∃ a, writeParts .repaired (0 : Int) (Arr.fresh true) [[], [1, 2], [3]] = .ok a ∧ a.contents = [1, 2, 3] :=
  ⟨_, rfl, rfl⟩

/-! ### (d') what holds for the code as found (without the D1 / D2 patches) -/

/-- The as-found indexed writer equals the repaired one whenever at least one entry is written (every chunk size `≥ 1`,
    partition — empty parts included — and backend): D1 cannot be reached through the indexed writer, and D2 is confined
    to `complete()` on a field without entries. All theorems above about `writeField` therefore hold for the unpatched
    writer on every non-empty sequence. -/
theorem indexed_asFound_agrees (c : Nat) (hc : 1 ≤ c) (h5 : Bool) (parts : List (List Bytes))
    (hne : written parts ≠ []) :
    writeField .asFound c h5 parts = writeField .repaired c h5 parts :=
  writeField_asFound_eq c hc h5 parts hne

/-- the round trip for the code as found, excluding the D2 witness shape by the explicit hypothesis `written parts ≠ []`.
    (Full statement without that hypothesis: `indexed_roundtrip`, which needs the D2 patch —
    `Witness.C01.d2_empty_field_has_no_offset` refutes it for the code as found.) -/
theorem indexed_roundtrip_asFound_partial (c : Nat) (hc : 1 ≤ c) (h5 : Bool) (parts : List (List Bytes))
    (hne : written parts ≠ []) :
    ∃ s, writeField .asFound c h5 parts = .ok s ∧
      s.values.contents = (written parts).flatten ∧ s.indices.contents = offsets (written parts) := by
  obtain ⟨s, hs, hv, hi, _, _⟩ := indexed_roundtrip c hc h5 parts
  exact ⟨s, by rw [indexed_asFound_agrees c hc h5 parts hne]; exact hs, hv, hi⟩

example : written [[[97]], ([] : List Bytes)] ≠ [] := by decide

/-- plain fields as found: when no `write_part` call is empty the as-found append equals the repaired one (D1 is the
    empty part after data: `Witness.C01.d1_empty_part_raises`). -/
theorem plain_append_asFound_partial {α} (z : α) (h5 : Bool) (parts : List (List α)) (hne : ∀ p ∈ parts, p ≠ []) :
    ∃ a, writeParts .asFound z (Arr.fresh h5) parts = .ok a ∧ a.contents = written parts :=
  ⟨_, writeParts_eq .asFound z _ parts (.inr hne), by simp [written]⟩

example : ∀ p ∈ [[1, 2], [3]], p ≠ ([] : List Int) := by decide

/-! ### (e) dtype, categorical key, reopen dispatch -/

/-- `data[:]` has the declared dtype, also for a memory field nothing was ever written to (NC01a repaired) -/
theorem dtype_read (h5 : Bool) (declared : String) (everWritten : Bool) :
    readDtype .repaired h5 declared everWritten = declared := by
  cases h5 <;> cases everWritten <;> rfl

/-- A non-empty categorical key whose values are representable in the field's own `nformat` is stored unchanged
    (D32 repaired: not only values in `[-128, 127]`). -/
theorem key_roundtrip (nformat : String) (lo hi : Int) (hfmt : intRange nformat = some (lo, hi))
    (kv : List Int) (hne : kv ≠ []) (hin : ∀ x ∈ kv, lo ≤ x ∧ x ≤ hi) :
    storeKeyValues .repaired nformat kv = .ok kv := by
  have h1 : kv.isEmpty = false := by cases kv <;> simp_all
  have h2 : (kv.all fun x => decide (lo ≤ x) && decide (x ≤ hi)) = true := by
    simp only [List.all_eq_true, Bool.and_eq_true, decide_eq_true_eq]
    exact hin
  simp [storeKeyValues, storeInts, h1, hfmt, h2]

example : storeKeyValues .repaired "int32" [1000, -5] = .ok [1000, -5] :=
  key_roundtrip "int32" _ _ rfl _ (by simp) (by decide)

/-- Every field constructor writes a `fieldtype` attribute that `Session.get` maps back to the class the field was
    created as: a reopened group is wrapped as the type that wrote it. -/
theorem reopen_dispatch (k : Kind) : reopenClass k = .ok k.cls := by
  cases k <;> rfl

example : reopenClass (.fixedString 5) = .ok .FixedStringField := rfl

/-! The same over the tables that `tools/translate.py` regenerates from the source text of session.py / fields.py /
    dataframe.py on every run (`Gen/FieldTypeMap.lean`): these theorems are checked against the source text itself. -/

/-- Source level: for every `HDF5DataFrame.create_*` method, the constructor it calls writes a `fieldtype` attribute
    whose head `Session.get`'s `fieldtype_map` maps to the very class the method wrapped the new group in. -/
theorem reopen_dispatch_source :
    Gen.FieldTypeMap.createMethods.all (fun m =>
      Gen.FieldTypeMap.constructorAttr.any (fun a =>
        a.1 == m.2.1 && Gen.FieldTypeMap.fieldtypeMap.lookup a.2.1 == some m.2.2)) = true := by decide +kernel

/-- The hand-written dispatch table of the model agrees with the source's `fieldtype_map` on every key of the source, -/
theorem model_fieldtypeMap_matches_source :
    Gen.FieldTypeMap.fieldtypeMap.all (fun p => (fieldtypeMap p.1).map FieldClass.name == some p.2) = true := by
  decide +kernel

/-- and every attribute head the model's constructors write is one a source constructor writes. -/
theorem model_fieldtypeHead_in_source (k : Kind) :
    Gen.FieldTypeMap.constructorAttr.any (fun a => a.2.1 == k.fieldtypeHead) = true := by
  cases k <;> simp only [Kind.fieldtypeHead] <;> decide

/-- Source level (D32): the categorical constructor passes the field's own `nformat` as dtype of `key_values`. -/
theorem key_values_dtype_source : Gen.FieldTypeMap.keyValuesDtype = "nformat" := rfl
example : readDtype .repaired false "int32" false = "int32" := rfl
example : fieldLen (offsets [[97], [], [98, 99]]) = 3 := rfl

/-! ### (f) EVERY item: negative indices, `None` / negative / out-of-range bounds, steps of either sign

  The SPEC is Python's own sequence indexing (`Spec/PySlice.lean`: `pySliceG xs start stop step` = `xs[start:stop:step]`,
  `pyIndex xs i` = `xs[i]`, built on `sliceIndices` = `slice.indices` and `pyRange` = `range`; compared with Python itself on
  an exhaustive small scope by the harness). The theorems are about the readers WITH the patches NC01b / NC01c
  (`Variant.repaired`); the readers as found are refuted on their witnesses in `Witness/C01.lean` and have the `_partial`
  theorems at the end of this section. -/

/-- Spec sanity (no totalisation at work): every position `range(*slice(start, stop, step).indices(n))` visits is a row,
    `0 ≤ r < n` — so `pySliceG`, which looks rows up with `xs[r]?`, never drops or wraps one … -/
theorem pyslice_visits_rows {n : Nat} {start stop step : Option Int} {a b st : Int}
    (h : sliceIndices n start stop step = .ok (a, b, st)) {r : Int} (hr : r ∈ pyRange a b st) : 0 ≤ r ∧ r < n :=
  pyRange_rows h hr

/-- … and `xs[start:stop:step]` has exactly `len(range(…))` entries. -/
theorem pyslice_length {α} (xs : List α) (start stop step : Option Int) {a b st : Int}
    (h : sliceIndices xs.length start stop step = .ok (a, b, st)) :
    ∃ ys, pySliceG xs start stop step = .ok ys ∧ ys.length = rangeLen a b st :=
  pySliceG_length xs start stop step h

/-- The general slice restricted to natural bounds without a step is the `pySlice` the theorems of section (c) use. -/
theorem pyslice_nat {α} (xs : List α) (a b : Nat) :
    pySliceG xs (some (a : Int)) (some (b : Int)) none = .ok (pySlice xs a b) :=
  pySliceG_nat xs a b

example : pySliceG [10, 20, 30, 40, 50] (some (-2)) none none = .ok [40, 50] := rfl
example : pySliceG [10, 20, 30, 40, 50] none (some (-1)) none = .ok [10, 20, 30, 40] := rfl
example : pySliceG [10, 20, 30, 40, 50] (some 1) (some 4) (some 2) = .ok [20, 40] := rfl
example : pySliceG [10, 20, 30, 40, 50] none none (some (-1)) = .ok [50, 40, 30, 20, 10] := rfl
example : pySliceG [10, 20, 30, 40, 50] (some 3) (some (-9)) (some (-2)) = .ok [40, 20] := rfl
example : pySliceG [10, 20, 30, 40, 50] (some 7) (some 9) none = .ok [] := rfl
example : pySliceG [10, 20, 30] none none (some 0) = .error (.valueError "slice step cannot be zero") := rfl
example : pyIndex [10, 20, 30] (-1) = .ok 30 ∧ pyIndex [10, 20, 30] (-3) = .ok 10 := ⟨rfl, rfl⟩
example : pyIndex [10, 20, 30] (-4) = .error (.oob "list index out of range") := rfl
example : sliceIndices 5 (some (-2)) none (some (-1)) = .ok (3, -1, -1) := rfl

/-- `data[start:stop:step]` on a well-formed indexed string field, the writeable and the read-only reader, for EVERY
    combination of `None`, negative, out-of-range start / stop and any step: exactly Python's `xs[start:stop:step]`
    (ValueError for step 0 included), no place left `None`, no offset read out of bounds. -/
theorem slice_read_any (writeable : Bool) (xs : List Bytes) (start stop step : Option Int) :
    getIndexed .repaired writeable (offsets xs) xs.flatten (.slice start stop step)
      = (match pySliceG xs start stop step with
         | .ok ys => .ok (.rows (ys.map some))
         | .error e => .error e) := by
  simp only [getIndexed, getSliceRepaired_wellformed]
  cases pySliceG xs start stop step <;> rfl

/-- `data[i]` for EVERY Python int: row `i` for `0 ≤ i < n`, row `n + i` for `-n ≤ i < 0`; outside `[-n, n)` the field
    raises (ValueError, where a list raises IndexError). -/
theorem item_read_any (writeable : Bool) (xs : List Bytes) (i : Int) :
    getIndexed .repaired writeable (offsets xs) xs.flatten (.int i)
      = (match pyIndex xs i with
         | .ok x => .ok (.entry x)
         | .error _ => .error (.valueError "Index is out of range")) := by
  simp only [getIndexed, getIntRepaired_wellformed]
  cases pyIndex xs i <;> rfl

example : getIndexed .repaired false (offsets [[97], [], [98, 99], [100]]) [97, 98, 99, 100] (.slice (some (-3)) none (some 2))
    = .ok (.rows [some [], some [100]]) := rfl
example : getIndexed .repaired true (offsets [[97], [], [98, 99], [100]]) [97, 98, 99, 100] (.slice none none (some (-1)))
    = .ok (.rows [some [100], some [98, 99], some [], some [97]]) := rfl
example : getIndexed .repaired false (offsets [[97], [], [98, 99], [100]]) [97, 98, 99, 100] (.int (-2))
    = .ok (.entry [98, 99]) := rfl

/-- End to end: write the sequence through any partition / chunk size ≥ 1 / backend, then read it with ANY int or slice
    item through either reader: Python's answer on the written sequence. -/
theorem write_then_read_any (c : Nat) (hc : 1 ≤ c) (h5 : Bool) (parts : List (List Bytes)) (writeable : Bool) :
    ∃ s, writeField .repaired c h5 parts = .ok s ∧
      (∀ start stop step,
        getIndexed .repaired writeable s.indices.contents s.values.contents (.slice start stop step)
          = (match pySliceG (written parts) start stop step with
             | .ok ys => .ok (.rows (ys.map some))
             | .error e => .error e)) ∧
      (∀ i, getIndexed .repaired writeable s.indices.contents s.values.contents (.int i)
          = (match pyIndex (written parts) i with
             | .ok x => .ok (.entry x)
             | .error _ => .error (.valueError "Index is out of range"))) := by
  obtain ⟨s, hs, hv, hi, _, _⟩ := indexed_roundtrip c hc h5 parts
  refine ⟨s, hs, ?_, ?_⟩
  · intro start stop step; rw [hi, hv]; exact slice_read_any writeable _ start stop step
  · intro i; rw [hi, hv]; exact item_read_any writeable _ i

/-- Plain fields (numeric of any dtype, fixed string, categorical, timestamp), either backing: after any list of
    `write_part` calls on a field fresh from its constructor — an HDF5 field, or a memory field with at least one call —
    `data[item]` is numpy's = Python's answer on the written sequence for EVERY int / slice item; in particular an
    HDF5-backed array answers a negative step (h5py itself refuses it: NC01c). -/
theorem plain_read_any {α} (z : α) (h5 : Bool) (parts : List (List α)) (hw : h5 = true ∨ parts ≠ []) (item : Item) :
    ∃ a, writeParts .repaired z (Arr.fresh h5) parts = .ok a ∧ plainGet .repaired a item = numpyGet (written parts) item := by
  refine ⟨_, writeParts_eq .repaired z _ parts (.inl rfl), ?_⟩
  rw [plainGet_written _ (foldl_appended_ne_none _ _ (hw.imp_left (by rintro rfl; simp [Arr.fresh]))) item,
    contents_foldl_appended, Arr.contents_fresh]
  rfl

/-- A memory field to which nothing was written answers every slice (step ≠ 0) as the empty sequence does. -/
theorem plain_unwritten_read {α} (start stop step : Option Int) (hstep : step ≠ some 0) :
    plainGet .repaired (.mem none : Arr α) (.slice start stop step) = numpyGet ([] : List α) (.slice start stop step) :=
  plainGet_unwritten start stop step hstep

example : ∃ a, writeParts .repaired (0 : Int) (Arr.fresh true) [[10, 20], [30]] = .ok a ∧
    plainGet .repaired a (.slice none none (some (-1))) = .ok (.array [30, 20, 10]) := ⟨.h5 [10, 20, 30], rfl, rfl⟩
example : ∃ a, writeParts .repaired (0 : Int) (Arr.fresh false) [[10, 20], [30]] = .ok a ∧
    plainGet .repaired a (.int (-3)) = .ok (.scalar 10) := ⟨.mem (some [10, 20, 30]), rfl, rfl⟩
example : (true = true ∨ ([] : List (List Int)) ≠ []) := Or.inl rfl

/-! #### what holds for the readers as found (without NC01b / NC01c) -/

/-- The indexed readers as found agree with Python on the items whose bounds are both given, non-negative, ordered and
    in range, with no step or step 1, and on ints `0 ≤ i < n`.
    (Full statement: `slice_read_any` / `item_read_any`, which need the patch NC01b; `Witness.C01.nc01b_*` refute them for the
    code as found: negative index, negative bound, any other step, and — read-only reader — `start > stop`.) -/
theorem indexed_read_asFound_partial (writeable : Bool) (xs : List Bytes) (a b : Nat) (hab : a ≤ b) (hb : b ≤ xs.length)
    (step : Option Int) (hstep : step = none ∨ step = some 1) (i : Nat) (hi : i < xs.length) :
    getIndexed .asFound writeable (offsets xs) xs.flatten (.slice (some (a : Int)) (some (b : Int)) step)
      = (match pySliceG xs (some (a : Int)) (some (b : Int)) step with
         | .ok ys => .ok (.rows (ys.map some))
         | .error e => .error e) ∧
    getIndexed .asFound writeable (offsets xs) xs.flatten (.int (i : Int))
      = (match pyIndex xs (i : Int) with
         | .ok x => .ok (.entry x)
         | .error _ => .error (.valueError "Index is out of range")) := by
  constructor
  · have hsame : pySliceG xs (some (a : Int)) (some (b : Int)) step = pySliceG xs (some (a : Int)) (some (b : Int)) none := by
      rcases hstep with h | h <;> subst h <;> rfl
    rw [hsame, pySliceG_nat]
    simp only [getIndexed, getSliceAsFound_nat, getSlice_wellformed writeable xs a b hab hb]
  · have h1 := pyIndex_in_range xs (i : Int) (by omega) (by omega)
    rw [h1]
    simp only [getIndexed, getIntAsFound_nat, getItem_wellformed xs i hi]
    have e : ¬ ((i : Int) < 0) := by omega
    simp only [e, if_false, Int.toNat_natCast]

example : (1 : Nat) ≤ 3 ∧ 3 ≤ [[97], [], [98, 99], [100]].length ∧ ((some 1 : Option Int) = none ∨ (some 1 : Option Int) = some 1) := by
  decide

/-- An HDF5-backed plain array as found answers every item except a slice with a negative step as numpy does.
    (Full statement: `plain_read_any`, which needs NC01c; `Witness.C01.nc01c_negative_step_refused`.) -/
theorem h5_read_asFound_partial {α} (xs : List α) (item : Item)
    (hstep : ∀ start stop st, item = .slice start stop (some st) → 0 ≤ st) :
    h5Get .asFound xs item = numpyGet xs item := by
  cases item with
  | int i => rfl
  | slice start stop step =>
    cases step with
    | none => rfl
    | some st =>
      have := hstep start stop st rfl
      have hn : ¬ (st < 0) := by omega
      simp only [h5Get, hn, if_false]

example : ∀ start stop st, (Item.slice (some 1) none (some 2)) = .slice start stop (some st) → 0 ≤ st := by
  intro _ _ st h; injection h with _ _ h; injection h with h; omega

end Exetera.Props.C01
