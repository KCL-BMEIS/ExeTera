import Exetera.Lemmas.DatesPeriods
import Exetera.Lemmas.JoinFlatDec
/-!
# C20 — date helpers bucket timestamps into the day and the period that contain them

All theorems are about `Exetera.Dates.*` (lean/Exetera/Model/Dates.lean), the model the correspondence driver executes
(lean/Driver/C20.lean), over exact integer seconds, for all inputs (no size bounds). The vocabulary (`IsDayOf`, `IsOrigin`,
`inRangeFlag`, `boundaries`, `InPeriod`) is in lean/Exetera/Spec/Dates.lean. An `.ok` result means: no numpy/datetime error
point of the code is reached (no IndexError, ValueError, OverflowError) and the stepping loop terminated.
-/
namespace Exetera.Props.C20
open Exetera Exetera.Dates Exetera.Spec.Dates

/-! ## get_days -/

/-- `get_days_floor` + `origin_is_min_unfiltered`: whatever `get_days` returns, there is an origin `o` — the explicit
    `start_date`, else the least timestamp among the rows passing the filter — such that every row's day number `d` satisfies
    `o + 86400·d ≤ t < o + 86400·(d+1)`. -/
theorem get_days_floor {ts : List Int} {filt : Option (List Int)} {start end_ : Option Int} {out : DaysOut}
    (h : getDays ts filt start end_ = .ok out) :
    ∃ o, IsOrigin ts filt start o ∧ out.days.length = ts.length ∧
      ∀ (i : Nat) (t : Int), ts[i]? = some t → ∃ d, out.days[i]? = some d ∧ IsDayOf o t d := by
  obtain ⟨o, ho, hd, _, _⟩ := getDays_spec h
  refine ⟨o, ho, by simp [hd], ?_⟩
  intro i t ht
  exact ⟨floorDays o t, by simp [hd, ht], floorDays_isDayOf o t⟩

example : getDays [172805, 5, 518405] (some [0, 0, 2]) none none = .ok ⟨[-4, -6, 0], some [false, false, true]⟩ := by decide +kernel

/-- `origin_is_min_unfiltered`, spelled out: without a `start_date` the origin is a timestamp of a row that passes the filter,
    no row passing the filter is earlier, and the day numbers are `⌊(t − o)/86400⌋`. -/
theorem origin_is_min_unfiltered {ts : List Int} {filt : Option (List Int)} {end_ : Option Int} {out : DaysOut}
    (h : getDays ts filt none end_ = .ok out) :
    ∃ o, (∃ i : Nat, ts[i]? = some o ∧ passes filt i = true) ∧
      (∀ (i : Nat) (t : Int), ts[i]? = some t → passes filt i = true → o ≤ t) ∧
      out.days = ts.map (fun t => (t - o) / 86400) := by
  obtain ⟨o, ho, hd, _, _⟩ := getDays_spec h
  exact ⟨o, ho.1, ho.2, by rw [hd]; rfl⟩

example : getDays [172805, 5, 518405] (some [1, 0, 1]) none (some 200000) = .ok ⟨[0, -2, 4], some [true, false, false]⟩ := by
  decide +kernel

/-- the day number is unique: `IsDayOf o t` determines `d`. -/
theorem day_unique {o t d d' : Int} (h : IsDayOf o t d) (h' : IsDayOf o t d') : d = d' := by
  unfold IsDayOf at h h'
  omega

example : IsDayOf 5 172805 2 := by unfold IsDayOf; omega

/-- `in_range_iff`: the flag of a row is true iff the row passes the filter (`bool`, or `int8` non-zero) and its timestamp lies
    in `[start, end)` (each bound only if given); no flags are returned exactly when neither filter nor bounds were given. -/
theorem in_range_iff {ts : List Int} {filt : Option (List Int)} {start end_ : Option Int} {out : DaysOut}
    (h : getDays ts filt start end_ = .ok out) :
    ((filt = none ∧ start = none ∧ end_ = none) → out.inRange = none) ∧
    (¬(filt = none ∧ start = none ∧ end_ = none) → ∃ fl, out.inRange = some fl ∧ fl.length = ts.length ∧
      ∀ (i : Nat) (t : Int), ts[i]? = some t → fl[i]? = some (inRangeFlag filt start end_ i t)) := by
  obtain ⟨_, _, _, h1, h2⟩ := getDays_spec h
  exact ⟨h1, h2⟩

example : getDays [172805, 5, 518405] (some [2, 0, 1]) (some 6) (some 518405) =
    .ok ⟨[1, -1, 5], some [true, false, false]⟩ := by decide +kernel

/-- `get_days` is total where the property is defined: if the filter (when given) has one element per row and an origin exists
    (a `start_date`, or at least one row passing the filter), the call returns. -/
theorem get_days_ok {ts : List Int} {filt : Option (List Int)} (start end_ : Option Int)
    (hlen : ∀ f, filt = some f → f.length = ts.length)
    (horg : start = none → ∃ i, i < ts.length ∧ passes filt i = true) :
    ∃ out, getDays ts filt start end_ = .ok out := by
  obtain ⟨o, ho⟩ : ∃ o, originE ts filt start = .ok o := by
    cases start with
    | some s => exact ⟨s, rfl⟩
    | none => exact minE_ok_of_ne_nil (mt passing_eq_nil_iff.mp (not_not_intro (horg rfl)))
  exact ⟨_, by rw [getDays_eq hlen, ho]⟩

example : ∃ i, i < [172805, 5, 518405].length ∧ passes (some [0, 0, 2]) i = true := ⟨2, by decide, by decide⟩

/-- … and the origin hypothesis is exactly what is needed: with a filter (when given) of one element per row, but without a
    `start_date` and without a passing row, the call raises numpy's `ValueError` (empty minimum). -/
theorem get_days_no_origin {ts : List Int} {filt : Option (List Int)} (end_ : Option Int)
    (hlen : ∀ f, filt = some f → f.length = ts.length)
    (hno : ¬ ∃ i, i < ts.length ∧ passes filt i = true) :
    ∃ msg, getDays ts filt none end_ = .error (.valueError msg) :=
  ⟨_, by rw [getDays_eq hlen, originE, passing_eq_nil_iff.mpr hno]; rfl⟩

example : ¬ ∃ i, i < [5, 7].length ∧ passes (some [0, 0]) i = true := by decide

/-- an `.ok` result implies the filter had one element per row (a mismatch is an error, never a silent truncation). -/
theorem get_days_ok_lengths {ts : List Int} {filt : Option (List Int)} {start end_ : Option Int} {out : DaysOut}
    (h : getDays ts filt start end_ = .ok out) : ∀ f, filt = some f → f.length = ts.length :=
  getDays_ok_len h

example : getDays [5, 7, 9] (some [1, 0]) (some 0) none = .error (.valueError "operands could not be broadcast together") := by
  decide +kernel

/-! ## get_periods

`start`, `end_` are seconds since `datetime.min`; `0 … DT_MAX` is the representable range. `u` is the unit in days (1 or 7), the
step is `delta·u·86400` seconds. A valid call: known unit, `delta ≠ 0`, `start ≤ end` for a positive and `end ≤ start` for a
negative `delta`, and a step that `timedelta` can represent (`|delta·u| ≤ 999999999` days). -/

/-- functional correctness and termination of the stepping loop: on every valid call `get_periods` returns — no
    `OverflowError` even when the range touches `datetime.min`/`datetime.max` — exactly the list
    `start, start+step, …, start+n·step` with `n = ⌊|end−start| / |step|⌋`. -/
theorem get_periods_eq {start end_ : Int} {period : String} {delta u : Int} (hu : unitDays period = some u)
    (hdelta : delta ≠ 0) (hdir : (0 < delta → start ≤ end_) ∧ (delta < 0 → end_ ≤ start))
    (htd : (delta * u).natAbs ≤ TD_MAX_DAYS)
    (hs : 0 ≤ start ∧ start ≤ DT_MAX) (he : 0 ≤ end_ ∧ end_ ≤ DT_MAX) :
    getPeriods start end_ period delta =
      .ok (boundaries start (delta * u * 86400) ((end_ - start).natAbs / (delta * u * 86400).natAbs)) := by
  obtain ⟨hstep, hdir', _⟩ := step_dir hu hdelta hdir
  obtain ⟨s', hw, hdates⟩ := periods_loop hstep hdir' hs he
  have h1 : ¬(delta < 0 ∧ start < end_) := fun ⟨a, b⟩ => Int.not_lt.mpr (hdir.2 a) b
  have h2 : ¬(0 < delta ∧ end_ < start) := fun ⟨a, b⟩ => Int.not_lt.mpr (hdir.1 a) b
  simp only [getPeriods, hu, if_neg hdelta, if_neg h1, if_neg h2, if_neg (Nat.not_lt.mpr htd), hw, hdates]

example : getPeriods 315535305600 315537897599 "week" 1 =
    .ok [315535305600, 315535910400, 315536515200, 315537120000, 315537724800] := by decide +kernel
example : getPeriods 1814400 100 "weeks" (-1) = .ok [1814400, 1209600, 604800] := by decide +kernel

/-- `periods_equally_spaced`: the result has `n+1 = ⌊|end−start|/|step|⌋+1` entries, entry `k` is `start + k·step` (so the
    first is `start` and consecutive entries differ by `step`, which has the sign of `delta`), every entry lies in the closed
    range between `start` and `end`, and the list is maximal: one more step would leave that range. -/
theorem periods_equally_spaced {start end_ : Int} {period : String} {delta u : Int} (hu : unitDays period = some u)
    (hdelta : delta ≠ 0) (hdir : (0 < delta → start ≤ end_) ∧ (delta < 0 → end_ ≤ start))
    (htd : (delta * u).natAbs ≤ TD_MAX_DAYS)
    (hs : 0 ≤ start ∧ start ≤ DT_MAX) (he : 0 ≤ end_ ∧ end_ ≤ DT_MAX) :
    ∃ ps n, getPeriods start end_ period delta = .ok ps ∧
      n = (end_ - start).natAbs / (delta * u * 86400).natAbs ∧ ps.length = n + 1 ∧
      (∀ k : Nat, k ≤ n → ps[k]? = some (start + (k : Int) * (delta * u * 86400))) ∧
      (∀ p ∈ ps, min start end_ ≤ p ∧ p ≤ max start end_) ∧
      ¬(min start end_ ≤ start + ((n + 1 : Nat) : Int) * (delta * u * 86400) ∧
        start + ((n + 1 : Nat) : Int) * (delta * u * 86400) ≤ max start end_) := by
  obtain ⟨hstep, hdir', _⟩ := step_dir hu hdelta hdir
  refine ⟨_, _, get_periods_eq hu hdelta hdir htd hs he, rfl, boundaries_length _ _ _,
    fun k hk => boundaries_get _ _ _ k hk, fun p hp => ?_, ?_⟩
  · obtain ⟨k, hk, rfl⟩ := mem_boundaries hp
    exact (within_iff hstep hdir' k).mpr hk
  · rw [within_iff hstep hdir']
    exact Nat.not_succ_le_self _

example : unitDays "week" = some 7 ∧ ((1 : Int) * 7).natAbs ≤ TD_MAX_DAYS ∧ (315535305600 : Int) ≤ DT_MAX := by decide

/-- the argument checks: an unknown unit, `delta = 0` or a range pointing against the sign of `delta` is a `ValueError`. -/
theorem get_periods_invalid {start end_ : Int} {period : String} {delta : Int}
    (h : unitDays period = none ∨ delta = 0 ∨ (delta < 0 ∧ start < end_) ∨ (0 < delta ∧ end_ < start)) :
    ∃ msg, getPeriods start end_ period delta = .error (.valueError msg) := by
  unfold getPeriods
  cases hu : unitDays period with
  | none => exact ⟨_, rfl⟩
  | some u =>
    simp only []
    by_cases h0 : delta = 0
    · exact ⟨_, by rw [if_pos h0]⟩
    · rw [if_neg h0]
      by_cases h1 : delta < 0 ∧ start < end_
      · exact ⟨_, by rw [if_pos h1]⟩
      · rw [if_neg h1]
        by_cases h2 : 0 < delta ∧ end_ < start
        · exact ⟨_, by rw [if_pos h2]⟩
        · rcases h with h | h | h | h
          · rw [hu] at h; cases h
          · exact absurd h h0
          · exact absurd h h1
          · exact absurd h h2

example : unitDays "month" = none := by decide

/-- `offset_map_halfopen`: for ascending period boundaries `ps` (any number ≥ 1, repeated boundaries allowed) the map has one
    entry per whole day between the first and the last boundary, and the entry of day `d` is the index `k` of *the* period whose
    half-open interval of day offsets `[⌊(ps[k]−ps[0])/86400⌋, ⌊(ps[k+1]−ps[0])/86400⌋)` contains `d` (it exists and is unique). -/
theorem offset_map_halfopen {ps : List Int} (hne : ps ≠ []) (hasc : Ascending ps) :
    ∃ m first last, ps.head? = some first ∧ ps.getLast? = some last ∧ offsetMap ps = .ok m ∧
      (m.length : Int) = (last - first) / 86400 ∧
      ∀ d : Nat, d < m.length → ∃ k : Nat, m[d]? = some (k : Int) ∧
        InPeriod (ps.map (fun p => (p - first) / 86400)) k d ∧
        ∀ k', InPeriod (ps.map (fun p => (p - first) / 86400)) k' d → k' = k := by
  cases ps with
  | nil => exact absurd rfl hne
  | cons p0 rest =>
    obtain ⟨m, l, hl, hm, hlen, hget⟩ := offsetMap_spec p0 rest hasc
    refine ⟨m, p0, l, rfl, hl, hm, hlen, fun d hd => ?_⟩
    obtain ⟨k, hk, hin⟩ := hget d hd
    exact ⟨k, hk, hin, fun k' hk' => inPeriod_unique (periodDeltas_ascending hasc) hk' hin⟩

example : offsetMap [432000, 1036800, 1641600, 2246400] =
    .ok [0, 0, 0, 0, 0, 0, 0, 1, 1, 1, 1, 1, 1, 1, 2, 2, 2, 2, 2, 2, 2] := by decide +kernel
example : Ascending [432000, 1036800, 1641600, 2246400] := by unfold Ascending; decide

/-- for ascending boundaries a value lies in at most one half-open period, so "the period containing it" is well defined
    (used for day offsets above and for timestamps below). -/
theorem period_unique {bs : List Int} (hasc : Ascending bs) {k k' : Nat} {x : Int}
    (h : InPeriod bs k x) (h' : InPeriod bs k' x) : k = k' :=
  inPeriod_unique hasc h h'

example : InPeriod [0, 7, 7, 14] 2 9 := ⟨7, 14, rfl, rfl, by decide, by decide⟩

/-- `period_offsets_eq`: with an `in_range` array (`bool`, or `int8` where non-zero means in range) of the right length, if every
    in-range day lies inside the map then the call returns, and row `i` gets the map entry of its day when it is in range and
    −1 when it is not. (No condition at all is put on the out-of-range rows or on the map: it may be empty.) -/
theorem period_offsets_eq (pbd days inr : List Int) (hlen : inr.length = days.length)
    (hin : ∀ (i : Nat) (d : Int), days[i]? = some d → keeps inr[i]? = true → 0 ≤ d ∧ d < pbd.length) :
    ∃ out, getPeriodOffsets pbd days (some inr) = .ok out ∧ out.length = days.length ∧
      ∀ (i : Nat) (d : Int), days[i]? = some d →
        out[i]? = if keeps inr[i]? = true then pbd[d.toNat]? else some (-1) := by
  have hk : ∀ i : Nat, (inr.map (fun v => v != 0))[i]? = some true ↔ keeps inr[i]? = true := mask_true_iff inr
  obtain ⟨out, ho, hl, hg⟩ := lookupMasked_spec pbd days (inr.map (fun v => v != 0)) (by simpa using hlen)
    (fun i d h1 h2 => hin i d h1 ((hk i).mp h2))
  exact ⟨out, ho, hl, fun i d hd => by simp only [hg i d hd, hk]⟩

example : getPeriodOffsets [] [3, 5] (some [0, 0]) = .ok [-1, -1] := by decide +kernel
example : getPeriodOffsets [0, 0, 0, 1, 1, 1, 2] [0, 3, 6, 7, -1] (some [1, 2, 1, 0, 0]) = .ok [0, 1, 2, -1, -1] := by decide +kernel

/-- without `in_range`: if every day lies inside the map, row `i` gets the map entry of its day. -/
theorem period_offsets_all (pbd days : List Int)
    (hin : ∀ (i : Nat) (d : Int), days[i]? = some d → 0 ≤ d ∧ d < pbd.length) :
    ∃ out, getPeriodOffsets pbd days none = .ok out ∧ out.length = days.length ∧
      ∀ (i : Nat) (d : Int), days[i]? = some d → out[i]? = pbd[d.toNat]? := by
  obtain ⟨out, ho, hl, hg⟩ := lookupMasked_spec pbd days (List.replicate days.length true) List.length_replicate
    (fun i d h1 _ => hin i d h1)
  refine ⟨out, by rw [← ho]; exact lookupAll_eq_masked pbd days, hl, fun i d hd => ?_⟩
  have hi : i < days.length := (List.getElem?_eq_some_iff.mp hd).1
  rw [hg i d hd, if_pos (by simp [hi])]

example : getPeriodOffsets [0, 0, 0, 1, 1, 1, 2] [3, 6, 0] none = .ok [1, 2, 0] := by decide +kernel

/-! ## the four helpers together

`bucket ts filt ps` is the use documented in the docstring of `get_period_offsets`, with the first and last boundary passed
as `start_date`/`end_date` and the flags passed on: `days, in_range = get_days(ts, filter, ps[0], ps[-1])` followed by
`get_period_offsets(generate_period_offset_map(ps), days, in_range)`; `pipeline` first obtains `ps` from `get_periods`
(reversing a backwards-generated list into ascending order). Timestamps and boundaries live on one integer time axis. -/

/-- C20 end to end, for any ascending boundaries (at least one) that are whole days apart and a filter (when given) of one
    element per row: the call returns one offset per row; a row that
    passes the filter and whose timestamp lies in the half-open period `[ps[k], ps[k+1])` gets `k`; a row that is filtered out,
    or whose timestamp lies in no period, gets −1. -/
theorem bucket_correct {ts : List Int} {filt : Option (List Int)} {ps : List Int} (hne : ps ≠ [])
    (hasc : Ascending ps) (hal : DayAligned ps) (hlen : ∀ f, filt = some f → f.length = ts.length) :
    ∃ out, bucket ts filt ps = .ok out ∧ out.length = ts.length ∧
      ∀ (i : Nat) (t : Int), ts[i]? = some t →
        (∀ k : Nat, passes filt i = true → InPeriod ps k t → out[i]? = some (k : Int)) ∧
        ((passes filt i = false ∨ ∀ k, ¬ InPeriod ps k t) → out[i]? = some (-1)) := by
  cases ps with
  | nil => exact absurd rfl hne
  | cons p0 rest =>
    have hal' : ∀ p ∈ p0 :: rest, (p - p0) % 86400 = 0 := hal p0 rfl
    obtain ⟨m, l, hl, hm, hmlen, hmget⟩ := offsetMap_spec p0 rest hasc
    -- `get_days` is called with both bounds: the origin is `p0`, a row is flagged iff it passes and lies in `[p0, l)`
    have hd := getDays_eq hlen (some p0) (some l)
    simp only [originE, reduceCtorEq, and_false, if_false] at hd
    have hflag : ∀ i t, inRangeFlag filt (some p0) (some l) i t = true ↔ passes filt i = true ∧ p0 ≤ t ∧ t < l := by
      intro i t
      simp only [inRangeFlag, afterStart, beforeEnd, Bool.and_eq_true, decide_eq_true_eq, and_assoc]
    -- the day of a timestamp in `[p0, l)` is an index into the map
    have hday : ∀ t, p0 ≤ t → t < l → 0 ≤ (t - p0) / 86400 ∧ (t - p0) / 86400 < m.length := fun t h1 h2 =>
      ⟨Int.ediv_nonneg (Int.sub_nonneg_of_le h1) (by decide),
       hmlen ▸ ediv_lt_of_aligned (hal' l (List.mem_of_getLast? hl)) (Int.sub_lt_sub_right h2 p0)⟩
    obtain ⟨out, hout, holen, hoget⟩ := lookupMasked_spec m (ts.map (floorDays p0))
      (ts.mapIdx (inRangeFlag filt (some p0) (some l))) (by rw [List.length_mapIdx, List.length_map]) (fun i d hdi hfi => by
        rw [List.getElem?_map] at hdi
        rw [List.getElem?_mapIdx] at hfi
        cases ht : ts[i]? with
        | none => rw [ht] at hdi; cases hdi
        | some t =>
          rw [ht] at hdi hfi
          cases hdi
          obtain ⟨_, h1, h2⟩ := (hflag i t).mp (Option.some.inj hfi)
          exact hday t h1 h2)
    refine ⟨out, ?_, holen.trans (List.length_map _), fun i t ht => ?_⟩
    · simpa only [bucket, hm, List.head?_cons, hl, hd, Option.map_some, getPeriodOffsets, boolToInt_mask] using hout
    have hres := hoget i (floorDays p0 t) (by rw [List.getElem?_map, ht]; rfl)
    simp only [List.getElem?_mapIdx, ht, Option.map_some, Option.some.injEq, floorDays_eq] at hres
    constructor
    · intro k hp hk
      obtain ⟨h1, h2⟩ := inPeriod_bounds hasc hl hk
      obtain ⟨h3, h4⟩ := hday t h1 h2
      -- the map entry of the row's day is a period containing the day; so is `k`, by alignment; periods do not overlap
      obtain ⟨k', hk', hin'⟩ := hmget ((t - p0) / 86400).toNat ((Int.toNat_lt h3).mpr h4)
      rw [Int.toNat_of_nonneg h3] at hin'
      rw [hres, if_pos ((hflag i t).mpr ⟨hp, h1, h2⟩), hk',
        inPeriod_unique (periodDeltas_ascending hasc) (inPeriod_days hal' hk) hin']
    · intro hno
      rw [hres, if_neg]
      intro hf
      obtain ⟨hp, h1, h2⟩ := (hflag i t).mp hf
      rcases hno with hno | hno
      · rw [hp] at hno
        cases hno
      · obtain ⟨j, hj⟩ := exists_inPeriod rest p0 hasc l hl t h1 h2
        exact hno j hj

example : bucket [5, 86400, 700000, 1209599, 1209600, -1] (some [1, 1, 1, 0, 1, 1]) [0, 604800, 1209600] =
    .ok [0, 0, 1, -1, -1, -1] := by decide +kernel
example : Ascending [0, 604800, 1209600] ∧ DayAligned [0, 604800, 1209600] := by
  refine ⟨by unfold Ascending; decide, ?_⟩
  intro first h p hp
  simp only [List.head?_cons, Option.some.injEq] at h
  subst h
  simp only [List.mem_cons, List.not_mem_nil, or_false] at hp
  rcases hp with rfl | rfl | rfl <;> decide

/-- the `DayAligned` hypothesis cannot be dropped: the map is per whole day, so with a boundary 1.5 days after the first one a
    timestamp 28 hours in (period 0) is put into period 1 — same as the real code. `get_periods` only produces aligned lists. -/
example : bucket [100800] none [0, 129600, 259200] = .ok [1] ∧ InPeriod [0, 129600, 259200] 0 100800 :=
  ⟨by decide +kernel, 0, 129600, rfl, rfl, by decide, by decide⟩

/-- … and with the boundaries coming from `get_periods` (either sign of `delta`, days or weeks, any valid range including one
    shorter than a period or touching `datetime.min`/`datetime.max`): every step of the pipeline returns, and each row gets the
    index of the generated period that contains its timestamp, or −1. `ascBoundaries start step n` is
    `start, start+step, …, start+n·step` put into ascending order. -/
theorem pipeline_correct {ts : List Int} {filt : Option (List Int)} {start end_ : Int} {period : String} {delta u : Int}
    (hu : unitDays period = some u) (hdelta : delta ≠ 0)
    (hdir : (0 < delta → start ≤ end_) ∧ (delta < 0 → end_ ≤ start))
    (htd : (delta * u).natAbs ≤ TD_MAX_DAYS)
    (hs : 0 ≤ start ∧ start ≤ DT_MAX) (he : 0 ≤ end_ ∧ end_ ≤ DT_MAX)
    (hlen : ∀ f, filt = some f → f.length = ts.length) :
    ∃ out, pipeline ts filt start end_ period delta = .ok out ∧ out.length = ts.length ∧
      ∀ (i : Nat) (t : Int), ts[i]? = some t →
        (∀ k : Nat, passes filt i = true →
          InPeriod (ascBoundaries start (delta * u * 86400) ((end_ - start).natAbs / (delta * u * 86400).natAbs)) k t →
          out[i]? = some (k : Int)) ∧
        ((passes filt i = false ∨ ∀ k,
          ¬ InPeriod (ascBoundaries start (delta * u * 86400) ((end_ - start).natAbs / (delta * u * 86400).natAbs)) k t) →
          out[i]? = some (-1)) := by
  obtain ⟨_, _, hsign⟩ := step_dir hu hdelta hdir
  have hpipe : pipeline ts filt start end_ period delta =
      bucket ts filt (ascBoundaries start (delta * u * 86400) ((end_ - start).natAbs / (delta * u * 86400).natAbs)) := by
    simp only [pipeline, get_periods_eq hu hdelta hdir htd hs he, ascBoundaries, hsign]
  rw [hpipe]
  exact bucket_correct (ascBoundaries_ne _ _ _) (ascBoundaries_ascending _ _ _)
    (ascBoundaries_aligned start (delta * u) _) hlen

example : pipeline [5, 86400, 700000, 1209599, 1209600, -1] none 1209600 0 "week" (-1) = .ok [0, 0, 1, 1, -1, -1] := by decide +kernel
example : ascBoundaries 1209600 (-1 * 7 * 86400) ((0 - 1209600 : Int).natAbs / (-1 * 7 * 86400 : Int).natAbs) =
    [0, 604800, 1209600] := by decide +kernel
example : pipeline [7, 8] none 1000 1000 "day" 1 = .ok [-1, -1] := by decide +kernel

end Exetera.Props.C20
