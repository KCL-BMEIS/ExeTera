import Exetera.Props.C05
import Exetera.Lemmas.GenKernelsCsvRun
/-!
  C05 over the TRANSLATED `fast_csv_reader` (`Gen/Kernels.lean`, regenerated from exetera/core/csv_reader_speedup.py by
  tools/translate_njit.py on every run) — the byte-level CSV state machine the property rests on.

  * `gen_fast_csv_reader_ok` (call-level transfer): on rectangular staging arrays (every row of `column_inds` has `maxrow + 1`
    slots: `np.zeros((count_columns, count_rows + 1))`), every `.ok` run of the hand model `Csv.fastCsvReader` is the run of the
    translated kernel on the same bytes, any fuel ≥ `len(source) + 1`: same `next_pos`, `written_row_count`, the two "full" flags,
    `val_full_col_idx`, and the same final `column_inds` / `column_vals` (`outOf`).  Transfer and not refinement because the model
    keeps `row_index == -1` as a flag, reads `column_inds[col, -1]` as slot `maxrow`, computes a column budget in `Nat`, and names
    its subscript sites differently.  The theorem also says: no subscript of the translated kernel is out of range, the only
    negative subscript is the wrap-around read `column_inds[col_index, -1]` on the header line, both blank-skipping loops and
    `while True:` end within the fuel, and the `return` inside the loop is reached.
  * `gen_fsm_*`: the statements of C05 about ONE call of the state machine (`C05.fsm_*`) for the translated kernel itself.  Every
    window / chunking / regrowth theorem of C05 is built from calls of the form of `fsm_any_buffers_eq_spec`.
-/
namespace Exetera.Props.C05Gen

open Exetera Exetera.Csv Exetera.Csv.Spec Exetera.PyRt Exetera.GenK Exetera.GenK.CsvK Exetera.Gen.Kernels Exetera.Props.C05

/-- what the translated kernel returns when the model returns `o`: `(next_pos, written_row_count, is_column_inds_full,
    is_column_vals_full, val_full_col_idx, final column_inds, final column_vals)` -/
def outOf (o : KOut) : Int × Int × Bool × Bool × Int × List (List Int) × List Int :=
  ((o.nextPos : Int), o.written, o.indsFull, o.valsFull, vfcInt o.vfc, ints2 o.inds, ints o.vals)

/-- the translated kernel on the bytes / staging arrays of the model, with the four special bytes of the source -/
def genRun (src : Csv.Bytes) (start : Nat) (inds : List (List Nat)) (vals offs : List Nat) (hdr : Bool) (fuel : Nat) :=
  fast_csv_reader.run (ints src) (start : Int) (ints2 inds) (ints vals) (ints offs) hdr ((Csv.QUOTE : Nat) : Int)
    ((Csv.SEP : Nat) : Int) ((Csv.NL : Nat) : Int) ((Csv.WS : Nat) : Int) fuel

theorem gen_fast_csv_reader_ok (src : Csv.Bytes) (start : Nat) (inds : List (List Nat)) (vals offs : List Nat) (hdr : Bool)
    (maxrow : Nat) (hrect : ∀ r ∈ inds, r.length = maxrow + 1) (o : KOut)
    (h : fastCsvReader src start inds vals offs hdr = .ok o) (fuel : Nat) (hf : src.length + 1 ≤ fuel) :
    genRun src start inds vals offs hdr fuel = .ok (outOf o) :=
  fast_csv_reader_ok src start inds vals offs hdr maxrow hrect o h fuel hf

theorem zeros2_rect (ncols maxrow : Nat) : ∀ r ∈ zeros2 ncols (maxrow + 1), r.length = maxrow + 1 := by
  intro r hr
  simp only [zeros2, List.mem_replicate] at hr
  rw [hr.2]; simp

theorem shape_rect {ncols maxrow : Nat} {offs : List Nat} {inds : List (List Nat)} {vals : List Nat}
    (h : Shape ncols maxrow offs inds vals) : ∀ r ∈ inds, r.length = maxrow + 1 := by
  intro r hr
  obtain ⟨c, hc⟩ := List.getElem?_of_mem hr
  exact h.rowLen c r hc

/-- `C05.fsm_whole_eq_spec` for the translated kernel: one call on the text of a header line and a table, fresh buffers that
    are large enough -/
theorem gen_fsm_whole_eq_spec {ncols maxrow : Nat} {offs : List Nat} (hrow : List Cell) (rows : List (List Cell))
    (hhdr : hrow.length = ncols ∧ ∀ c ∈ hrow, c.WF) (htab : Table ncols rows) (hbuf : Buffers ncols maxrow offs)
    (hfit : Fits ncols offs rows) (hrows : rows.length < maxrow) (fuel : Nat)
    (hf : (render (hrow :: rows)).length + 1 ≤ fuel) :
    ∃ o, genRun (render (hrow :: rows)) 0 (zeros2 ncols (maxrow + 1)) (List.replicate (offs.getLastD 0) 0) offs true fuel
          = .ok (outOf o) ∧
      o.nextPos = (render (hrow :: rows)).length ∧ o.written = rows.length ∧ o.indsFull = false ∧ o.valsFull = false ∧
      o.vfc = none ∧
      ∀ c, c < ncols →
        Imp.importPart { kind := .indexed } o.inds o.vals offs c rows.length = .ok (fieldOf (column (values rows) c)) := by
  obtain ⟨o, hk, hrest⟩ := fsm_whole_eq_spec hrow rows hhdr htab hbuf hfit hrows
  exact ⟨o, gen_fast_csv_reader_ok _ _ _ _ _ _ maxrow (zeros2_rect ncols maxrow) o hk fuel hf, hrest⟩

/-- `C05.fsm_split_at_record_end` for the translated kernel: a call entered at a record end (byte `|pre|`, whatever lies in
    front) yields exactly the records that follow -/
theorem gen_fsm_split_at_record_end {ncols maxrow : Nat} {offs : List Nat} (pre : List Nat) (rowsB : List (List Cell))
    (htab : Table ncols rowsB) (hne : rowsB ≠ []) (hbuf : Buffers ncols maxrow offs) (hfit : Fits ncols offs rowsB)
    (hrows : rowsB.length < maxrow) (fuel : Nat) (hf : (pre ++ render rowsB).length + 1 ≤ fuel) :
    ∃ o, genRun (pre ++ render rowsB) pre.length (zeros2 ncols (maxrow + 1)) (List.replicate (offs.getLastD 0) 0)
          offs false fuel = .ok (outOf o) ∧
      o.nextPos = (pre ++ render rowsB).length ∧ o.written = rowsB.length ∧ o.indsFull = false ∧ o.valsFull = false ∧
      ∀ c, c < ncols →
        Imp.importPart { kind := .indexed } o.inds o.vals offs c rowsB.length = .ok (fieldOf (column (values rowsB) c)) := by
  obtain ⟨o, hk, hrest⟩ := fsm_split_at_record_end pre rowsB htab hne hbuf hfit hrows
  exact ⟨o, gen_fast_csv_reader_ok _ _ _ _ _ _ maxrow (zeros2_rect ncols maxrow) o hk fuel hf, hrest⟩

/-- `C05.fsm_window_eq_spec` for the translated kernel: a window that ends inside a record, cut anywhere -/
theorem gen_fsm_window_eq_spec {ncols maxrow : Nat} {offs : List Nat} (hh : Bool) (hrow : List Cell) (rowsA : List (List Cell))
    (r : List Cell) (m : Nat) (pre : List Nat)
    (hhdr : hh = true → hrow.length = ncols ∧ ∀ c ∈ hrow, c.WF) (htab : Table ncols (rowsA ++ [r]))
    (hm : m < (renderCells r).length) (hbuf : Buffers ncols maxrow offs) (hfit : Fits ncols offs (rowsA ++ [r]))
    (hrows : rowsA.length < maxrow) (hne : hh = true ∨ rowsA ≠ []) (fuel : Nat)
    (hf : (pre ++ (((if hh then renderCells hrow else []) ++ render rowsA) ++ (renderCells r).take m)).length + 1 ≤ fuel) :
    ∃ o, genRun (pre ++ (((if hh then renderCells hrow else []) ++ render rowsA) ++ (renderCells r).take m)) pre.length
          (zeros2 ncols (maxrow + 1)) (List.replicate (offs.getLastD 0) 0) offs hh fuel = .ok (outOf o) ∧
      o.nextPos = (pre ++ ((if hh then renderCells hrow else []) ++ render rowsA)).length ∧ o.written = rowsA.length ∧
      o.indsFull = false ∧ o.valsFull = false ∧ o.vfc = none ∧
      ∀ c, c < ncols →
        Imp.importPart { kind := .indexed } o.inds o.vals offs c rowsA.length = .ok (fieldOf (column (values rowsA) c)) := by
  obtain ⟨o, hk, hrest⟩ := fsm_window_eq_spec hh hrow rowsA r m pre hhdr htab hm hbuf hfit hrows hne
  exact ⟨o, gen_fast_csv_reader_ok _ _ _ _ _ _ maxrow (zeros2_rect ncols maxrow) o hk fuel hf, hrest⟩

/-- `C05.fsm_any_buffers_eq_spec` for the translated kernel: one call with ARBITRARY staging buffers (stale contents, any
    `maxrow ≥ 1`, budgets ≥ 1) — it returns, reports exactly the first `a` records, and one of: no flag and everything read;
    indices full and `a = maxrow`; values full with the column whose budget is exhausted -/
theorem gen_fsm_any_buffers_eq_spec {ncols maxrow : Nat} {offs : List Nat} {inds : List (List Nat)} {vals : List Nat}
    (hh : Bool) (hrow : List Cell) (rowsW : List (List Cell)) (nxt : Option (List Cell × Nat)) (pre : List Nat)
    (hnxt : ∀ r m, nxt = some (r, m) → m < (renderCells r).length ∧ r.length = ncols ∧ ∀ c ∈ r, c.WF)
    (hhdr : hh = true → hrow.length = ncols ∧ ∀ c ∈ hrow, c.WF) (htab : Table ncols rowsW)
    (hbuf : Budgets ncols offs) (hsh : Shape ncols maxrow offs inds vals) (hmax : 0 < maxrow)
    (hz : ∀ c, c < ncols → ∃ r, inds[c]? = some r ∧ r[0]? = some 0) (fuel : Nat)
    (hf : (pre ++ (((if hh then renderCells hrow else []) ++ render rowsW) ++ tailText nxt)).length + 1 ≤ fuel) :
    ∃ o a, genRun (pre ++ (((if hh then renderCells hrow else []) ++ render rowsW) ++ tailText nxt)) pre.length inds vals
          offs hh fuel = .ok (outOf o) ∧
      a ≤ rowsW.length ∧ o.written = (a : Int) ∧
      o.nextPos = (pre ++ ((if hh then renderCells hrow else []) ++ render (rowsW.take a))).length ∧
      (∀ c, c < ncols →
        Imp.importPart { kind := .indexed } o.inds o.vals offs c a = .ok (fieldOf (column (values (rowsW.take a)) c))) ∧
      ((o.indsFull = false ∧ o.valsFull = false ∧ o.vfc = none ∧ a = rowsW.length)
       ∨ (o.indsFull = true ∧ o.valsFull = false ∧ o.vfc = none ∧ a = maxrow)
       ∨ (o.indsFull = false ∧ o.valsFull = true ∧ ∃ j, j < ncols ∧ o.vfc = some j ∧
            offAt offs (j + 1) - offAt offs j ≤
              (column (values ((rowsW ++ tailRows nxt).take (a + 1))) j).flatten.length)) := by
  obtain ⟨o, a, hk, hrest⟩ := fsm_any_buffers_eq_spec hh hrow rowsW nxt pre hnxt hhdr htab hbuf hsh hmax hz
  exact ⟨o, a, gen_fast_csv_reader_ok _ _ _ _ _ _ maxrow (shape_rect hsh) o hk fuel hf, hrest⟩

/-- the translated kernel evaluated: header `a,bb`, records `x,1` and `"y",2`; two records reported, resume at byte 15 -/
example : genRun [97, 44, 98, 98, 10, 120, 44, 49, 10, 34, 121, 34, 44, 50, 10] 0 (zeros2 2 5) (List.replicate 16 0) [0, 8, 16]
    true 16 = .ok (15, 2, false, false, -1, [[0, 1, 2, 0, 0], [0, 1, 2, 0, 0]], [120, 121, 0, 0, 0, 0, 0, 0, 49, 50, 0, 0, 0, 0, 0, 0]) := by
  rfl

/-- and the hypothesis of `gen_fast_csv_reader_ok` on that input: the model returns, the staging array is rectangular -/
example : (fastCsvReader [97, 44, 98, 98, 10, 120, 44, 49, 10, 34, 121, 34, 44, 50, 10] 0 (zeros2 2 5) (List.replicate 16 0)
    [0, 8, 16] true).toOption.isSome = true ∧ ∀ r ∈ zeros2 2 (4 + 1), r.length = 4 + 1 :=
  ⟨by decide +kernel, zeros2_rect 2 4⟩

end Exetera.Props.C05Gen
