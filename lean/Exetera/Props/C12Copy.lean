import Exetera.Lemmas.ChunkedCopy
/-!
# C12 — `element_chunked_copy` / `chunked_copy` (the column copy of `DataFrame.merge`)

The loop advances `i` by the length of the chunk just written. For every chunk size ≥ 1 it needs exactly `⌈n / cs⌉` iterations
(stated without division: `n ≤ w·cs < n + cs` for the number `w` of writes), so any fuel `≥ n` suffices; the destination is
the source appended to what it held. With `chunksize = 0` (outside the property: "any chunk size ≥ 1") the code spins — recorded
as a fixpoint example, not as a finding.
-/
namespace Exetera.Props.C12
open Exetera Exetera.ChunkedCopy

/-- **chunked_copy_eq.** For every chunk size ≥ 1 and every fuel with `n ≤ fuel · cs` (i.e. `fuel ≥ ⌈n/cs⌉`):
    `element_chunked_copy` finishes, the destination is its previous contents followed by exactly the source, and the number of
    `write` calls `w` is `⌈n/cs⌉` (`n ≤ w·cs < n + cs`). -/
theorem chunked_copy_eq {α} (src dest0 : List α) (cs fuel : Nat) (hcs : 1 ≤ cs) (hfuel : src.length ≤ fuel * cs) :
    ∃ st, elementChunkedCopy src dest0 cs fuel = .ok st ∧ st.dest = dest0 ++ src ∧ st.i = src.length ∧
      src.length ≤ st.writes * cs ∧ st.writes * cs < src.length + cs := by
  obtain ⟨s', hw, hI, hfin⟩ := loop_spec src dest0 cs hcs fuel _ (inv_init src dest0 cs hcs)
    (Nat.le_trans hfuel (Nat.le_add_left _ _))
  refine ⟨s', hw, ?_, hfin, hfin ▸ hI.wlo, hfin ▸ hI.whi⟩
  rw [hI.dest, hfin, List.take_length]

/-- **chunked_copy_terminates** (the linear bound made visible): `B = 1·|src| + 0·|dest| + 0`; every fuel `≥ B` suffices for
    every chunk size ≥ 1, and the number of iterations is at most `|src|`. -/
theorem chunked_copy_terminates {α} (src dest0 : List α) (cs fuel : Nat) (hcs : 1 ≤ cs)
    (hfuel : 1 * src.length + 0 * (dest0 ++ src).length + 0 ≤ fuel) :
    ∃ st, elementChunkedCopy src dest0 cs fuel = .ok st ∧ st.dest = dest0 ++ src ∧ st.writes ≤ src.length := by
  obtain ⟨st, hrun, hd, _, _, hhi⟩ := chunked_copy_eq src dest0 cs fuel hcs
    (Nat.le_trans (by rw [Nat.one_mul, Nat.zero_mul] at hfuel; exact hfuel) (Nat.le_mul_of_pos_right fuel hcs))
  -- `w·cs < n + cs ≤ (n + 1)·cs`
  have h : st.writes * cs < (src.length + 1) * cs :=
    Nat.lt_of_lt_of_le hhi (Nat.succ_mul .. ▸ Nat.add_le_add_right (Nat.le_mul_of_pos_right _ hcs) cs)
  exact ⟨st, hrun, hd, Nat.le_of_lt_succ (Nat.lt_of_mul_lt_mul_right h)⟩

/-- **chunked_copy_never_spins.** Every iteration of the loop (chunk size ≥ 1, from any state the loop reaches) strictly
    advances `i` — by `min cs (n - i)` — and writes exactly the elements `[i, i')` of the source: the measure `n - i` strictly
    decreases and the output grows by the same amount. -/
theorem chunked_copy_never_spins {α} (src dest0 : List α) (cs : Nat) (hcs : 1 ≤ cs) (s : St α)
    (hI : Inv src dest0 cs s) (hg : ChunkedCopy.guard src s = true) :
    ∃ s', body src cs s = .ok s' ∧ Inv src dest0 cs s' ∧ src.length - s'.i < src.length - s.i ∧
      s'.dest.length = s.dest.length + (s'.i - s.i) := by
  have hg' : s.i < src.length := of_decide_eq_true hg
  obtain ⟨s', hb, hI', _, hlt, hd⟩ := body_inv src dest0 cs hcs s hI hg'
  refine ⟨s', hb, hI', Nat.sub_lt_sub_left hg' hlt, ?_⟩
  rw [hd, List.length_append, slice_length, Nat.min_eq_left (Nat.sub_le_sub_right hI'.le _)]

/-- a copy into a fresh destination with fuel `≥ |src|` returns the source -/
theorem copy_fresh {α} (src : List α) (cs fuel : Nat) (hcs : 1 ≤ cs) (h : src.length ≤ fuel) :
    ∃ st, elementChunkedCopy src [] cs fuel = .ok st ∧ st.dest = src :=
  let ⟨st, hrun, hd, _⟩ := chunked_copy_eq src [] cs fuel hcs (Nat.le_trans h (Nat.le_mul_of_pos_right fuel hcs))
  ⟨st, hrun, hd⟩

/-- the whole-field form: a plain field and an indexed field are copied element array by element array -/
theorem chunked_copy_field_eq {α} (f : Field α) (cs fuel : Nat) (hcs : 1 ≤ cs)
    (hfuel : (match f with | .plain d => d.length | .indexed i v => max i.length v.length) ≤ fuel) :
    ∃ w, chunkedCopy f cs fuel = .ok ⟨f, w⟩ := by
  cases f with
  | plain d =>
    obtain ⟨st, hrun, hd⟩ := copy_fresh d cs fuel hcs hfuel
    exact ⟨st.writes, by simp only [chunkedCopy, hrun, hd]⟩
  | indexed i v =>
    obtain ⟨s1, hr1, hd1⟩ := copy_fresh i cs fuel hcs (Nat.le_trans (Nat.le_max_left _ _) hfuel)
    obtain ⟨s2, hr2, hd2⟩ := copy_fresh v cs fuel hcs (Nat.le_trans (Nat.le_max_right _ _) hfuel)
    exact ⟨s1.writes + s2.writes, by simp only [chunkedCopy, hr1, hr2, hd1, hd2]⟩

-- non-vacuity: a source longer than the chunk (7 elements, chunk size 3: three writes), fuel exactly ⌈7/3⌉ = 3
example : (7 : Nat) ≤ 3 * 3 ∧
    elementChunkedCopy [1, 2, 3, 4, 5, 6, 7] ([0] : List Nat) 3 3 = .ok ⟨7, (7, 7), [0, 1, 2, 3, 4, 5, 6, 7], 3⟩ := ⟨by decide, by rfl⟩
-- one fewer iteration does not suffice
example : elementChunkedCopy [1, 2, 3, 4, 5, 6, 7] ([0] : List Nat) 3 2 = .error .outOfFuel := by rfl
-- a source exactly filling two chunks; the empty source (no iteration)
example : elementChunkedCopy [1, 2, 3, 4] ([] : List Nat) 2 4 = .ok ⟨4, (4, 4), [1, 2, 3, 4], 2⟩ ∧
    elementChunkedCopy ([] : List Nat) [9] 5 0 = .ok ⟨0, (0, 0), [9], 0⟩ := ⟨by rfl, by rfl⟩
example : Inv [1, 2, 3, 4, 5] ([0] : List Nat) 2 ⟨2, (2, 4), [0, 1, 2], 1⟩ ∧ ChunkedCopy.guard [1, 2, 3, 4, 5] (⟨2, (2, 4), [0, 1, 2], 1⟩ : St Nat) = true :=
  ⟨⟨by decide, by decide, by decide, by decide, by decide, by decide⟩, by decide⟩
example : chunkedCopy (.indexed [0, 1, 3] ([97, 98, 99] : List Int)) 2 3 = .ok ⟨.indexed [0, 1, 3] [97, 98, 99], 4⟩ := by rfl
/-- outside the property (chunk size 0): the loop body has a fixpoint with the guard true, so no fuel suffices -/
example : ∀ fuel, elementChunkedCopy [1, 2] ([] : List Nat) 0 fuel = .error .outOfFuel :=
  zero_chunk_fixpoint [1, 2] (by decide) _ rfl (by decide)

end Exetera.Props.C12
