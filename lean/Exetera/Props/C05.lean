import Exetera.Lemmas.CsvReadCsv
/-!
# C05 — CSV import reproduces the file's records exactly, independent of chunking

All theorems are about the model the correspondence driver executes (`Driver/C05.lean` → `Exetera.Csv.fastCsvReader`,
`readFile`, `readCsv` of `Model/Csv.lean`, which mirrors the code with the fixes D26, NC05a, NC05b, D27 applied) and about the
specification `Spec/Csv.lean`: a file is `render (header :: rows)` for rows of well-formed cells (`Table`), and the import
must produce `values rows` (the cell texts; blanks in front of a bare cell skipped), column by column, as indexed string
fields `fieldOf (column (values rows) c)` (offsets `[0, |e₀|, |e₀|+|e₁|, …]` and the concatenated bytes).

An `.ok` result means: every subscript of the compiled kernel was in bounds, no `raise` was reached, the kernel loop ended
within its fuel `len(source) + 1` (termination), and the driver ended within the given number of kernel calls.

The full statements include every run in which a staging buffer fills and the driver re-enters the window with enlarged
buffers (any number of index-buffer and value-buffer regrowths), with an explicit bound on the number of kernel calls
(`records + 2 + regrowthBound`, `regrowth_count_logarithmic`). The `…_partial` forms state the same under two explicit
no-regrowth hypotheses, with the sharper call bound `records + 2`.
-/
namespace Exetera.Props.C05
open Exetera Exetera.Csv Exetera.Csv.Spec

/-- the staging buffers as the driver allocates them: `ncols` index rows of `maxrow + 1` zeros, `column_vals` of
    `column_offsets[-1]` zeros; `column_offsets` has `ncols + 1` non-decreasing entries starting at 0 -/
structure Buffers (ncols maxrow : Nat) (offs : List Nat) : Prop where
  len : offs.length = ncols + 1
  zero : offAt offs 0 = 0
  mono : ∀ c, c < ncols → offAt offs c ≤ offAt offs (c + 1)

/-- every column's bytes fit strictly into its budget `column_offsets[c+1] - column_offsets[c]` (no regrowth needed) -/
def Fits (ncols : Nat) (offs : List Nat) (rows : List (List Cell)) : Prop :=
  ∀ c, c < ncols → offAt offs c + (column (values rows) c).flatten.length < offAt offs (c + 1)

/-- **fsm_whole_eq_spec.** One call of `fast_csv_reader` on the text of a header line and a table, entered at byte 0 with
    fresh buffers that are large enough: it returns `next_pos = len(source)`, `written_row_count = number of records`,
    no full flag, and what `import_part` then reads from the staging buffers for column `c` is exactly column `c` of the
    table's values. -/
theorem fsm_whole_eq_spec {ncols maxrow : Nat} {offs : List Nat} (hrow : List Cell) (rows : List (List Cell))
    (hhdr : hrow.length = ncols ∧ ∀ c ∈ hrow, c.WF) (htab : Table ncols rows) (hbuf : Buffers ncols maxrow offs)
    (hfit : Fits ncols offs rows) (hrows : rows.length < maxrow) :
    ∃ o, fastCsvReader (render (hrow :: rows)) 0 (zeros2 ncols (maxrow + 1)) (List.replicate (offs.getLastD 0) 0) offs true
          = .ok o ∧
      o.nextPos = (render (hrow :: rows)).length ∧ o.written = rows.length ∧ o.indsFull = false ∧ o.valsFull = false ∧
      o.vfc = none ∧
      ∀ c, c < ncols →
        Imp.importPart { kind := .indexed } o.inds o.vals offs c rows.length = .ok (fieldOf (column (values rows) c)) := by
  obtain ⟨hnc, htab'⟩ := htab
  obtain ⟨o, hker, hok⟩ :=
    kernel_fits (src := render (hrow :: rows)) (offs := offs) true hrow rows none [] (by simp [render, tailText])
      (fun _ _ h => by cases h) (fun _ => hhdr) htab' hnc (shape_zeros (maxrow := maxrow) hbuf.len hbuf.zero hbuf.mono)
      (by omega) (fun c hc => zeros_first c hc) (by rw [show tailRows none = [] from rfl, List.append_nil]; exact hfit) hrows
  exact ⟨o, by simpa using hker, by rw [hok.nextPos]; simp [render], hok.written, hok.indsFull, hok.valsFull, hok.vfc,
    fun c hc => importPart_staged rows htab' hbuf.len hc (hok.cols c hc)⟩

/-- **fsm_split_at_record_end.** The state of the FSM at a record end is its initial state: a call entered at a record
    end (at byte `|pre|`, whatever text `pre` lies in front) on a window that continues with the records
    `rowsB` yields exactly `rowsB` — its result does not depend on `pre` — and resumes at the end of the window. Together
    with `render_append` / `column_append` this is how parsing splits at record boundaries. -/
theorem fsm_split_at_record_end {ncols maxrow : Nat} {offs : List Nat} (pre : List Nat) (rowsB : List (List Cell))
    (htab : Table ncols rowsB) (hne : rowsB ≠ []) (hbuf : Buffers ncols maxrow offs) (hfit : Fits ncols offs rowsB)
    (hrows : rowsB.length < maxrow) :
    ∃ o, fastCsvReader (pre ++ render rowsB) pre.length (zeros2 ncols (maxrow + 1)) (List.replicate (offs.getLastD 0) 0)
          offs false = .ok o ∧
      o.nextPos = (pre ++ render rowsB).length ∧ o.written = rowsB.length ∧ o.indsFull = false ∧ o.valsFull = false ∧
      ∀ c, c < ncols →
        Imp.importPart { kind := .indexed } o.inds o.vals offs c rowsB.length = .ok (fieldOf (column (values rowsB) c)) := by
  obtain ⟨hnc, htab'⟩ := htab
  obtain ⟨o, hker, hok⟩ :=
    kernel_fits (src := pre ++ render rowsB) (offs := offs) false [] rowsB none pre (by simp [tailText])
      (fun _ _ h => by cases h) (fun h => by cases h) htab' hnc
      (shape_zeros (maxrow := maxrow) hbuf.len hbuf.zero hbuf.mono) (by omega) (fun c hc => zeros_first c hc)
      (by rw [show tailRows none = [] from rfl, List.append_nil]; exact hfit) hrows
  exact ⟨o, hker, by rw [hok.nextPos]; simp, hok.written, hok.indsFull, hok.valsFull,
    fun c hc => importPart_staged rowsB htab' hbuf.len hc (hok.cols c hc)⟩

/-- **fsm_window_eq_spec** (the kernel half of `window_chunking_unobservable`). One call of `fast_csv_reader` on *any* window of
    the supported regime — entered at a record boundary `|pre|` (at byte 0 with the header line, or behind arbitrary text
    `pre` without it), holding the complete records `rowsA` and then only the first `m` bytes of the next record `r`, cut
    anywhere: inside a quoted cell, between the two quotes of an escaped quote, right behind a closing quote, inside the
    skipped blanks, at the record end (`m = 0`): the call reports exactly the records `rowsA`, `next_pos` is the start of
    `r` (so the driver re-reads `r` with the next window), no flag is raised, and nothing of the unfinished record is
    observable through `import_part`. Buffers need room for `rowsA` and `r` (`Fits`), and `rowsA` must not fill the index
    buffer. -/
theorem fsm_window_eq_spec {ncols maxrow : Nat} {offs : List Nat} (hh : Bool) (hrow : List Cell) (rowsA : List (List Cell))
    (r : List Cell) (m : Nat) (pre : List Nat)
    (hhdr : hh = true → hrow.length = ncols ∧ ∀ c ∈ hrow, c.WF) (htab : Table ncols (rowsA ++ [r]))
    (hm : m < (renderCells r).length) (hbuf : Buffers ncols maxrow offs) (hfit : Fits ncols offs (rowsA ++ [r]))
    (hrows : rowsA.length < maxrow) (hne : hh = true ∨ rowsA ≠ []) :
    ∃ o, fastCsvReader (pre ++ (((if hh then renderCells hrow else []) ++ render rowsA) ++ (renderCells r).take m)) pre.length
          (zeros2 ncols (maxrow + 1)) (List.replicate (offs.getLastD 0) 0) offs hh = .ok o ∧
      o.nextPos = (pre ++ ((if hh then renderCells hrow else []) ++ render rowsA)).length ∧ o.written = rowsA.length ∧
      o.indsFull = false ∧ o.valsFull = false ∧ o.vfc = none ∧
      ∀ c, c < ncols →
        Imp.importPart { kind := .indexed } o.inds o.vals offs c rowsA.length = .ok (fieldOf (column (values rowsA) c)) := by
  obtain ⟨hnc, htab'⟩ := htab
  have htabA : ∀ x ∈ rowsA, x.length = ncols ∧ ∀ c ∈ x, c.WF := fun x hx => htab' x (by simp [hx])
  obtain ⟨o, hker, hok⟩ :=
    kernel_fits (offs := offs) hh hrow rowsA (some (r, m)) pre rfl
      (fun r' m' h => by cases h; exact ⟨hm, htab' r (by simp)⟩) hhdr htabA hnc
      (shape_zeros (maxrow := maxrow) hbuf.len hbuf.zero hbuf.mono) (by omega) (fun c hc => zeros_first c hc) hfit hrows
  exact ⟨o, hker, hok.nextPos, hok.written, hok.indsFull, hok.valsFull, hok.vfc,
    fun c hc => importPart_staged rowsA htabA hbuf.len hc (hok.cols c hc)⟩

theorem render_append (a b : List (List Cell)) : render (a ++ b) = render a ++ render b :=
  render_append' a b

theorem column_append (a b : List (List Cell)) (c : Nat) :
    column (values (a ++ b)) c = column (values a) c ++ column (values b) c := by
  simp [column, values]

/-- **import_single_window_eq_spec.** `read_file_using_fast_csv_reader` on a well-formed file (with or without the final
    line break) whose bytes fit in one window (`len ≤ 2·chunk_row_size·columns`), whose columns fit their value budgets and
    whose records fit the index buffer (`rows < 2·chunk_row_size`): one kernel call, and the destination field of every
    column of `index_map` is exactly that column of the table, in file order; the row count is the number of records. -/
theorem import_single_window_eq_spec {file : List Nat} {crs ncols : Nat} {offs : List Nat} (hrow : List Cell)
    (rows : List (List Cell)) (im : List Nat) (fuel : Nat)
    (hfile : file = render (hrow :: rows) ∨ (file ++ [Csv.NL] = render (hrow :: rows) ∧ file.getLast? ≠ some Csv.NL))
    (hne : file ≠ []) (hhdr : hrow.length = ncols ∧ ∀ c ∈ hrow, c.WF) (htab : Table ncols rows) (hcrs : 0 < crs)
    (hwin : file.length ≤ crs * Gen.Csv.CHUNK_ROW_FACTOR * ncols)
    (hbuf : Buffers ncols (crs * Gen.Csv.CHUNK_ROW_FACTOR) offs) (hfit : Fits ncols offs rows)
    (hrows : rows.length < crs * Gen.Csv.CHUNK_ROW_FACTOR) (him : ∀ c ∈ im, c < ncols) (hfuel : 0 < fuel) :
    readFile file crs ncols offs im (im.map (fun _ => ({ kind := .indexed } : Imp))) fuel =
      .ok ⟨rows.length, im.map (fun c => fieldOf (column (values rows) c)), [(rows.length : Int)]⟩ :=
  readFile_single_window hrow rows im fuel hfile hne hhdr htab.2 htab.1 hcrs hwin hbuf.len hbuf.zero hbuf.mono hfit hrows
    him hfuel

/-- The supported regime of the property and the two no-regrowth conditions, for a file `file` that is the text of the header
    line `hrow` and the table `rows` (with or without the final line break), read with `chunk_row_size = crs`:
    * `reg`: every line (header line, every record, with its line break) fits the byte window `2·crs·ncols`
      — the regime stated in the property;
    * `min`: no line consists of empty cells only (such a line has exactly `ncols` bytes) — then a window never holds
      `2·crs` records and the index buffer never fills;
    * `fit`: every column's bytes fit its value budget — the value buffer never fills. -/
structure Supported (file : List Nat) (crs ncols : Nat) (offs : List Nat) (hrow : List Cell) (rows : List (List Cell)) :
    Prop where
  isFile : file = render (hrow :: rows) ∨ (file ++ [Csv.NL] = render (hrow :: rows) ∧ file.getLast? ≠ some Csv.NL)
  nonempty : file ≠ []
  hdr : hrow.length = ncols ∧ ∀ c ∈ hrow, c.WF
  tab : Table ncols rows
  crsPos : 0 < crs
  reg : ∀ l ∈ hrow :: rows, (renderCells l).length ≤ crs * Gen.Csv.CHUNK_ROW_FACTOR * ncols
  min : ∀ l ∈ hrow :: rows, ncols < (renderCells l).length
  buf : Buffers ncols (crs * Gen.Csv.CHUNK_ROW_FACTOR) offs
  fit : Fits ncols offs rows

/-- **window_chunking_unobservable_partial.** For *every* `chunk_row_size` in the supported regime — any number of windows,
    window boundaries anywhere (inside quoted cells, between the quotes of an escaped quote, at record ends) — the driver
    `read_file_using_fast_csv_reader` terminates within `rows + 2` kernel calls and the destination fields are exactly the
    columns of the table: the same result as reading the file in one window (`import_single_window_eq_spec`).
    Partial: the hypotheses `min` and `fit` exclude the runs in which a staging buffer fills (regrowth). -/
theorem window_chunking_unobservable_partial {file : List Nat} {crs ncols : Nat} {offs : List Nat} {hrow : List Cell}
    {rows : List (List Cell)} (h : Supported file crs ncols offs hrow rows) (im : List Nat) (him : ∀ c ∈ im, c < ncols)
    (fuel : Nat) (hfuel : rows.length + 2 ≤ fuel) :
    ∃ calls, readFile file crs ncols offs im (im.map (fun _ => ({ kind := .indexed } : Imp))) fuel =
      .ok ⟨rows.length, im.map (fun c => fieldOf (column (values rows) c)), calls⟩ :=
  readFile_fit
    { isFile := h.isFile, hdr := h.hdr, tab := h.tab.2, nc := h.tab.1, crsPos := h.crsPos, reg := h.reg, imOk := him }
    h.nonempty (impHom_indexed ncols) (fun _ _ _ _ => trivial) h.min h.buf.len h.buf.zero h.fit fuel hfuel

/-- **chunk_size_unobservable_partial.** Two imports of the same file with different `chunk_row_size` (and the budgets
    that go with them), both in the supported regime without regrowth, produce the same row count and the same fields. -/
theorem chunk_size_unobservable_partial {file : List Nat} {crs₁ crs₂ ncols : Nat} {offs₁ offs₂ : List Nat} {hrow : List Cell}
    {rows : List (List Cell)} (h₁ : Supported file crs₁ ncols offs₁ hrow rows) (h₂ : Supported file crs₂ ncols offs₂ hrow rows)
    (im : List Nat) (him : ∀ c ∈ im, c < ncols) (fuel : Nat) (hfuel : rows.length + 2 ≤ fuel) :
    ∃ o₁ o₂, readFile file crs₁ ncols offs₁ im (im.map (fun _ => ({ kind := .indexed } : Imp))) fuel = .ok o₁ ∧
      readFile file crs₂ ncols offs₂ im (im.map (fun _ => ({ kind := .indexed } : Imp))) fuel = .ok o₂ ∧
      o₁.rows = o₂.rows ∧ o₁.imps = o₂.imps := by
  obtain ⟨c1, e1⟩ := window_chunking_unobservable_partial h₁ im him fuel hfuel
  obtain ⟨c2, e2⟩ := window_chunking_unobservable_partial h₂ im him fuel hfuel
  exact ⟨_, _, e1, e2, rfl, rfl⟩

/-- **read_csv_eq_spec_partial.** The public entry point `read_csv_with_schema_dict` on a file whose columns are all imported
    as indexed strings (`String()` in the schema, or missing from it), for any include / exclude lists of known names and
    every `chunk_row_size` in the supported regime (no regrowth: every column holds fewer than
    `INDEXED_STRING_FIELD_SIZE · chunk_row_size` bytes, no record of empty cells only): the destination frame holds exactly
    the selected columns (`fieldsToUse`, in file order), each with exactly the records' cell values, and `rows` (the length
    of `j_valid_from`) is the number of records. -/
theorem read_csv_eq_spec_partial {file : List Nat} {crs ncols : Nat} {hrow : List Cell} {rows : List (List Cell)}
    (names : List String) (schema : List (String × FieldKind)) (incl excl : Option (List String))
    (hall : ∀ k ∈ names, kindOf schema k = .indexed) (hnames : names.length = ncols)
    (hincl : ∀ l, incl = some l → ∀ k ∈ l, k ∈ names) (hexcl : ∀ l, excl = some l → ∀ k ∈ l, k ∈ names)
    (hfile : file = render (hrow :: rows) ∨ (file ++ [Csv.NL] = render (hrow :: rows) ∧ file.getLast? ≠ some Csv.NL))
    (hne : file ≠ []) (hhdr : hrow.length = ncols ∧ ∀ c ∈ hrow, c.WF) (htab : Table ncols rows) (hcrs : 0 < crs)
    (hreg : ∀ l ∈ hrow :: rows, (renderCells l).length ≤ crs * Gen.Csv.CHUNK_ROW_FACTOR * ncols)
    (hmin : ∀ l ∈ hrow :: rows, ncols < (renderCells l).length)
    (hfit : ∀ c, c < ncols → (column (values rows) c).flatten.length < Gen.Csv.INDEXED_STRING_FIELD_SIZE * crs)
    (fuel : Nat) (hfuel : rows.length + 2 ≤ fuel) :
    readCsv file names schema incl excl crs fuel =
      .ok ⟨rows.length, (fieldsToUse names incl excl).map
        (fun k => ⟨k, fieldOf (column (values rows) (names.idxOf k))⟩)⟩ := by
  subst hnames
  exact readCsv_windows names schema incl excl hall hincl hexcl
    { isFile := hfile, hdr := hhdr, tab := htab.2, nc := htab.1, crsPos := hcrs, reg := hreg,
      imOk := indexMap_lt names incl excl }
    hne hmin hfit fuel hfuel

/-- **include_exclude_selects.** include / exclude lists select exactly the named columns, in file order, and
    `index_map` points at them. -/
theorem include_exclude_selects (names : List String) (incl excl : Option (List String)) :
    (fieldsToUse names incl excl).Sublist names ∧
    (∀ k, k ∈ fieldsToUse names incl excl ↔
      k ∈ names ∧ (∀ i, incl = some i → k ∈ i) ∧ (∀ e, excl = some e → k ∉ e)) ∧
    (∀ k ∈ fieldsToUse names incl excl, names[names.idxOf k]? = some k) := by
  refine ⟨fieldsToUse_sublist names incl excl, ?_, ?_⟩
  · intro k
    unfold fieldsToUse
    cases incl <;> cases excl <;> simp [List.mem_filter]
    intro _; exact And.comm
  · intro k hk
    have hmem : k ∈ names := (fieldsToUse_sublist names incl excl).subset hk
    have hlt : names.idxOf k < names.length := List.idxOf_lt_length_of_mem hmem
    rw [List.getElem?_eq_getElem hlt]
    simp [List.getElem_idxOf hlt]

/-! ### non-vacuity: a concrete file with a quoted separator, a doubled quote, a quoted line break and a blank-led cell -/

/-- header `a,b`; records `x,"p,q"` / ` y,"r""s"` / `,"t⏎u"` -/
def exHeader : List Cell := [⟨false, [97]⟩, ⟨false, [98]⟩]
def exRows : List (List Cell) :=
  [[⟨false, [120]⟩, ⟨true, [112, 44, 113]⟩], [⟨false, [32, 121]⟩, ⟨true, [114, 34, 115]⟩], [⟨false, []⟩, ⟨true, [116, 10, 117]⟩]]

example : Table 2 exRows := by unfold Table; decide +kernel

example : Buffers 2 4 [0, 20, 40] := ⟨rfl, rfl, by decide +kernel⟩
example : Fits 2 [0, 20, 40] exRows := by unfold Fits; decide +kernel

/-- the model evaluated on that file (read in one window, `chunk_row_size = 10`): 3 records, `" y"` stored as `"y"` -/
example : (match readFile (render (exHeader :: exRows)) 10 2 [0, 100, 200] [0, 1]
                   [{ kind := .indexed }, { kind := .indexed }] 5 with
           | .ok o => decide (o = ⟨3, [fieldOf [[120], [121], []], fieldOf [[112, 44, 113], [114, 34, 115], [116, 10, 117]]], [3]⟩)
           | .error _ => false) = true := by
  decide +kernel

/-- a window cut between the two quotes of the doubled quote of the second record: one record reported, resume at byte 12 -/
example : (match fastCsvReader (render [exHeader, [⟨false, [120]⟩, ⟨true, [112, 44, 113]⟩]] ++
                 (renderCells [⟨false, [32, 121]⟩, ⟨true, [114, 34, 115]⟩]).take 6) 0 (zeros2 2 5) (List.replicate 40 0)
                 [0, 20, 40] true with
           | .ok o => decide (o.nextPos = 12 ∧ o.written = 1 ∧ o.indsFull = false ∧ o.valsFull = false)
           | .error _ => false) = true := by
  decide +kernel

example : Table 2 ([[⟨false, [120]⟩, ⟨true, [112, 44, 113]⟩]] ++ [[⟨false, [32, 121]⟩, ⟨true, [114, 34, 115]⟩]]) ∧
    6 < (renderCells [⟨false, [32, 121]⟩, ⟨true, [114, 34, 115]⟩]).length := by unfold Table; decide +kernel

/-- the example file read with `chunk_row_size = 3` (windows of 12 bytes: three kernel calls) is in the supported regime -/
example : Supported (render (exHeader :: exRows)) 3 2 [0, 100, 200] exHeader exRows :=
  ⟨Or.inl rfl, by decide +kernel, ⟨rfl, by decide +kernel⟩, by unfold Table; decide +kernel, by decide, by decide +kernel,
    by decide +kernel, ⟨rfl, rfl, by decide +kernel⟩, by unfold Fits; decide +kernel⟩

example : (match readFile (render (exHeader :: exRows)) 3 2 [0, 100, 200] [0, 1]
                   [{ kind := .indexed }, { kind := .indexed }] 6 with
           | .ok o => decide (o = ⟨3, [fieldOf [[120], [121], []], fieldOf [[112, 44, 113], [114, 34, 115], [116, 10, 117]]],
                                   [1, 1, 1]⟩)
           | .error _ => false) = true := by
  decide +kernel

/-- the public path on the example file: `include=["b","a"]`, `exclude=["a"]`, `chunk_row_size = 3` selects column `b` -/
example : (match readCsv (render (exHeader :: exRows)) ["a", "b"] [("a", .indexed)] (some ["b", "a"]) (some ["a"]) 3 6 with
           | .ok o => decide (o = ⟨3, [⟨"b", fieldOf [[112, 44, 113], [114, 34, 115], [116, 10, 117]]⟩]⟩)
           | .error _ => false) = true := by
  decide +kernel

example : values exRows = [[[120], [112, 44, 113]], [[121], [114, 34, 115]], [[], [116, 10, 117]]] := by decide
example : fieldsToUse ["a", "b", "c"] (some ["c", "a"]) (some ["a"]) = ["c"] := by decide

/-! ### the full statements: any number of buffer regrowths -/

/-- `column_offsets` as the driver needs them: `ncols + 1` entries starting at 0, every column's value budget
    `column_offsets[c+1] - column_offsets[c]` at least one byte (`read_csv_with_schema_dict` guarantees it: fix NC05b) -/
structure Budgets (ncols : Nat) (offs : List Nat) : Prop where
  len : offs.length = ncols + 1
  zero : offAt offs 0 = 0
  pos : ∀ c, c < ncols → offAt offs c < offAt offs (c + 1)

/-- **fsm_any_buffers_eq_spec** (what one call of `fast_csv_reader` does when a staging buffer may fill). The window holds,
    from the record boundary `|pre|` on, (the header line,) the complete records `rowsW` and then what `nxt` says: nothing, or
    the first `m` bytes of one more record. Index buffer of `maxrow ≥ 1` rows, value budgets ≥ 1, stale contents allowed
    (`Shape`, first index entry 0). The call returns `.ok` (no subscript out of bounds, loop terminates), reports some number
    `a ≤ |rowsW|` of records — *exactly the first `a` records*, column by column, through `import_part` — resumes at the end
    of record `a`, and one of three things holds: no flag and `a = |rowsW|`; `is_column_inds_full` only and `a = maxrow`;
    `is_column_vals_full` only, `val_full_col_idx = j < ncols`, and the budget of column `j` is at most the bytes of
    column `j` in the first `a + 1` records (so doubling it is progress). -/
theorem fsm_any_buffers_eq_spec {ncols maxrow : Nat} {offs : List Nat} {inds : List (List Nat)} {vals : List Nat}
    (hh : Bool) (hrow : List Cell) (rowsW : List (List Cell)) (nxt : Option (List Cell × Nat)) (pre : List Nat)
    (hnxt : ∀ r m, nxt = some (r, m) → m < (renderCells r).length ∧ r.length = ncols ∧ ∀ c ∈ r, c.WF)
    (hhdr : hh = true → hrow.length = ncols ∧ ∀ c ∈ hrow, c.WF) (htab : Table ncols rowsW)
    (hbuf : Budgets ncols offs) (hsh : Shape ncols maxrow offs inds vals) (hmax : 0 < maxrow)
    (hz : ∀ c, c < ncols → ∃ r, inds[c]? = some r ∧ r[0]? = some 0) :
    ∃ o a, fastCsvReader (pre ++ (((if hh then renderCells hrow else []) ++ render rowsW) ++ tailText nxt)) pre.length inds vals
          offs hh = .ok o ∧
      a ≤ rowsW.length ∧ o.written = (a : Int) ∧
      o.nextPos = (pre ++ ((if hh then renderCells hrow else []) ++ render (rowsW.take a))).length ∧
      (∀ c, c < ncols →
        Imp.importPart { kind := .indexed } o.inds o.vals offs c a = .ok (fieldOf (column (values (rowsW.take a)) c))) ∧
      ((o.indsFull = false ∧ o.valsFull = false ∧ o.vfc = none ∧ a = rowsW.length)
       ∨ (o.indsFull = true ∧ o.valsFull = false ∧ o.vfc = none ∧ a = maxrow)
       ∨ (o.indsFull = false ∧ o.valsFull = true ∧ ∃ j, j < ncols ∧ o.vfc = some j ∧
            offAt offs (j + 1) - offAt offs j ≤
              (column (values ((rowsW ++ tailRows nxt).take (a + 1))) j).flatten.length)) := by
  obtain ⟨hnc, htab'⟩ := htab
  obtain ⟨o, a, hker, hale, hres, hout⟩ :=
    kernel_general (offs := offs) hh hrow rowsW nxt pre rfl hnxt hhdr htab' hnc hsh hmax hz hbuf.pos
  refine ⟨o, a, hker, hale, hres.written, hres.nextPos, ?_, ?_⟩
  · intro c hc
    have h := importPart_staged (rowsW.take a) (fun x hx => htab' x (List.mem_of_mem_take hx)) hbuf.len hc (hres.cols c hc)
    rwa [List.length_take, Nat.min_eq_left hale] at h
  · rcases hout with h | h | ⟨h1, h2, j, hj, h3, h4⟩
    · exact Or.inl h
    · exact Or.inr (Or.inl h)
    · exact Or.inr (Or.inr ⟨h1, h2, j, hj, h3, by omega⟩)

/-- The supported regime of the property — and nothing else — for a file `file` that is the text of the header line `hrow`
    and the table `rows` (RFC-4180 cells; with or without the final line break), read with `chunk_row_size = crs`:
    every line (the header line, every record, with its line break) fits the byte window `2·crs·ncols`. -/
structure Regime (file : List Nat) (crs ncols : Nat) (hrow : List Cell) (rows : List (List Cell)) : Prop where
  isFile : file = render (hrow :: rows) ∨ (file ++ [Csv.NL] = render (hrow :: rows) ∧ file.getLast? ≠ some Csv.NL)
  nonempty : file ≠ []
  hdr : hrow.length = ncols ∧ ∀ c ∈ hrow, c.WF
  tab : Table ncols rows
  crsPos : 0 < crs
  reg : ∀ l ∈ hrow :: rows, (renderCells l).length ≤ crs * Gen.Csv.CHUNK_ROW_FACTOR * ncols

theorem Regime.setting {file : List Nat} {crs ncols : Nat} {hrow : List Cell} {rows : List (List Cell)}
    (h : Regime file crs ncols hrow rows) {im : List Nat} (him : ∀ c ∈ im, c < ncols) :
    SettingR file crs ncols im hrow rows :=
  { isFile := h.isFile, hdr := h.hdr, tab := h.tab.2, nc := h.tab.1, crsPos := h.crsPos, reg := h.reg, imOk := him }

/-- **regrowth_count_logarithmic.** `need b t` — the number of times a buffer of size `b` is enlarged (multiplied by the
    driver's `larger_factor`, generated from the source and checked to be ≥ 2) before it exceeds `t` — satisfies
    `b · 2^(need b t − 1) ≤ t`: at most `log₂ (t / b) + 1` regrowths. `regrowthBound rows ncols offs maxrow` is
    `need maxrow |rows|` (index buffer) plus, for every column `c`, `need (budget c) (bytes of column c)`. -/
theorem regrowth_count_logarithmic (b t : Nat) (h : 0 < need b t) : b * 2 ^ (need b t - 1) ≤ t :=
  need_pow t (t + 1 - b) b (Nat.le_refl _) h

/-- **window_chunking_unobservable** (full statement). For *every* `chunk_row_size` in the supported regime, *every* starting
    value budgets ≥ 1 and whatever regrowth they force — the index buffer filling (records of empty cells), a value budget
    filling (cells longer than the budget), any number of times, in any window, also in the window that holds the header —
    `read_file_using_fast_csv_reader` returns `.ok` within `records + 2 + regrowthBound` kernel calls, and the destination
    fields are exactly the columns of the table: the same result as reading the file in one window with ample buffers
    (`import_single_window_eq_spec`). -/
theorem window_chunking_unobservable {file : List Nat} {crs ncols : Nat} {offs : List Nat} {hrow : List Cell}
    {rows : List (List Cell)} (h : Regime file crs ncols hrow rows) (hb : Budgets ncols offs) (im : List Nat)
    (him : ∀ c ∈ im, c < ncols) (fuel : Nat)
    (hfuel : rows.length + 2 + regrowthBound rows ncols offs (crs * Gen.Csv.CHUNK_ROW_FACTOR) ≤ fuel) :
    ∃ calls, readFile file crs ncols offs im (im.map (fun _ => ({ kind := .indexed } : Imp))) fuel =
      .ok ⟨rows.length, im.map (fun c => fieldOf (column (values rows) c)), calls⟩ :=
  readFile_regrowth (h.setting him) h.nonempty hb.len hb.zero hb.pos fuel hfuel

/-- **regrowth_unobservable.** Two imports of the same file with the same `chunk_row_size` and different starting budgets
    (each ≥ 1 byte per column; e.g. one that never fills and one that fills in every window) produce the same row count and
    the same fields: how the internal buffers had to grow is not observable. -/
theorem regrowth_unobservable {file : List Nat} {crs ncols : Nat} {offs₁ offs₂ : List Nat} {hrow : List Cell}
    {rows : List (List Cell)} (h : Regime file crs ncols hrow rows) (hb₁ : Budgets ncols offs₁) (hb₂ : Budgets ncols offs₂)
    (im : List Nat) (him : ∀ c ∈ im, c < ncols) (fuel : Nat)
    (hfuel₁ : rows.length + 2 + regrowthBound rows ncols offs₁ (crs * Gen.Csv.CHUNK_ROW_FACTOR) ≤ fuel)
    (hfuel₂ : rows.length + 2 + regrowthBound rows ncols offs₂ (crs * Gen.Csv.CHUNK_ROW_FACTOR) ≤ fuel) :
    ∃ o₁ o₂, readFile file crs ncols offs₁ im (im.map (fun _ => ({ kind := .indexed } : Imp))) fuel = .ok o₁ ∧
      readFile file crs ncols offs₂ im (im.map (fun _ => ({ kind := .indexed } : Imp))) fuel = .ok o₂ ∧
      o₁.rows = o₂.rows ∧ o₁.imps = o₂.imps := by
  obtain ⟨c1, e1⟩ := window_chunking_unobservable h hb₁ im him fuel hfuel₁
  obtain ⟨c2, e2⟩ := window_chunking_unobservable h hb₂ im him fuel hfuel₂
  exact ⟨_, _, e1, e2, rfl, rfl⟩

/-- **chunk_size_unobservable** (full statement). Two imports of the same file with different `chunk_row_size` (both in the
    supported regime) and any starting budgets ≥ 1 produce the same row count and the same fields, whatever regrowth
    either of them goes through. -/
theorem chunk_size_unobservable {file : List Nat} {crs₁ crs₂ ncols : Nat} {offs₁ offs₂ : List Nat} {hrow : List Cell}
    {rows : List (List Cell)} (h₁ : Regime file crs₁ ncols hrow rows) (h₂ : Regime file crs₂ ncols hrow rows)
    (hb₁ : Budgets ncols offs₁) (hb₂ : Budgets ncols offs₂) (im : List Nat) (him : ∀ c ∈ im, c < ncols) (fuel : Nat)
    (hfuel₁ : rows.length + 2 + regrowthBound rows ncols offs₁ (crs₁ * Gen.Csv.CHUNK_ROW_FACTOR) ≤ fuel)
    (hfuel₂ : rows.length + 2 + regrowthBound rows ncols offs₂ (crs₂ * Gen.Csv.CHUNK_ROW_FACTOR) ≤ fuel) :
    ∃ o₁ o₂, readFile file crs₁ ncols offs₁ im (im.map (fun _ => ({ kind := .indexed } : Imp))) fuel = .ok o₁ ∧
      readFile file crs₂ ncols offs₂ im (im.map (fun _ => ({ kind := .indexed } : Imp))) fuel = .ok o₂ ∧
      o₁.rows = o₂.rows ∧ o₁.imps = o₂.imps := by
  obtain ⟨c1, e1⟩ := window_chunking_unobservable h₁ hb₁ im him fuel hfuel₁
  obtain ⟨c2, e2⟩ := window_chunking_unobservable h₂ hb₂ im him fuel hfuel₂
  exact ⟨_, _, e1, e2, rfl, rfl⟩

/-- **read_csv_eq_spec** (full statement). The public entry point `read_csv_with_schema_dict` on a well-formed file whose
    columns are imported as text (`String()` in the schema, or missing from it — typed conversion is C06), for any
    include / exclude lists of known names and *every* `chunk_row_size` in the supported regime, with the budgets the
    function itself computes (`INDEXED_STRING_FIELD_SIZE · chunk_row_size` bytes per column, `2 · chunk_row_size` index rows)
    and every regrowth they force: the destination frame holds exactly the selected columns (`fieldsToUse`, in file order),
    each with exactly the records' cell values, and `rows` (the length of `j_valid_from`) is the number of records. The
    number of kernel calls is at most `records + 2 + csvRegrowthBound`. -/
theorem read_csv_eq_spec {file : List Nat} {crs ncols : Nat} {hrow : List Cell} {rows : List (List Cell)}
    (names : List String) (schema : List (String × FieldKind)) (incl excl : Option (List String))
    (hall : ∀ k ∈ names, kindOf schema k = .indexed) (hnames : names.length = ncols)
    (hincl : ∀ l, incl = some l → ∀ k ∈ l, k ∈ names) (hexcl : ∀ l, excl = some l → ∀ k ∈ l, k ∈ names)
    (h : Regime file crs ncols hrow rows)
    (fuel : Nat) (hfuel : rows.length + 2 + csvRegrowthBound rows ncols crs ≤ fuel) :
    readCsv file names schema incl excl crs fuel =
      .ok ⟨rows.length, (fieldsToUse names incl excl).map
        (fun k => ⟨k, fieldOf (column (values rows) (names.idxOf k))⟩)⟩ := by
  subst hnames
  exact readCsv_regrowth names schema incl excl hall hincl hexcl (h.setting (indexMap_lt names incl excl)) h.nonempty fuel
    hfuel

/-! ### non-vacuity of the full statements: the example file with one-byte budgets (three regrowths in the first window) -/

example : Regime (render (exHeader :: exRows)) 3 2 exHeader exRows :=
  ⟨Or.inl rfl, by decide +kernel, ⟨rfl, by decide +kernel⟩, by unfold Table; decide +kernel, by decide, by decide +kernel⟩

example : Budgets 2 [0, 1, 2] := ⟨rfl, rfl, by decide +kernel⟩

/-- the bound of `window_chunking_unobservable` for that run: at most `3 + 2 + 6` calls (with `larger_factor = 2` column `b`,
    9 bytes, goes 1 → 2 → 4 → 8 → 16 and column `a`, 2 bytes, 1 → 2 → 4) -/
example : regrowthBound exRows 2 [0, 1, 2] (3 * Gen.Csv.CHUNK_ROW_FACTOR) ≤ 6 := by decide +kernel

/-- the model on that run (with `larger_factor = 2`: six kernel calls `[0, 0, 0, 1, 1, 1]`, three of them ended by
    `is_column_vals_full` without a complete record) -/
example : (match readFile (render (exHeader :: exRows)) 3 2 [0, 1, 2] [0, 1]
                   [{ kind := .indexed }, { kind := .indexed }] 11 with
           | .ok o => decide (o.rows = 3 ∧ o.imps = [fieldOf [[120], [121], []],
                                fieldOf [[112, 44, 113], [114, 34, 115], [116, 10, 117]]] ∧ 3 < o.calls.length)
           | .error _ => false) = true := by
  decide +kernel

/-- eleven records of empty cells read with `chunk_row_size = 3` (windows of 12 bytes, 6 index rows): the second window holds
    exactly 6 records, the index buffer fills at its last byte, is doubled, and the resumed call finds nothing left -/
example : (match readFile (render (exHeader :: List.replicate 11 [⟨false, []⟩, ⟨false, []⟩])) 3 2 [0, 1, 2] [0]
                   [{ kind := .indexed }] 30 with
           | .ok o => decide (o.rows = 11 ∧ o.calls = [4, 6, 0, 1])
           | .error _ => false) = true := by
  decide +kernel

/-- a kernel call that ends with `is_column_vals_full`: one record reported (resume at byte 12), the budget of column 1
    (4 bytes) is used up inside record 2 -/
example : (match fastCsvReader (render (exHeader :: exRows)) 0 (zeros2 2 5) (List.replicate 7 0) [0, 3, 7] true with
           | .ok o => decide (o.nextPos = 12 ∧ o.written = 1 ∧ o.indsFull = false ∧ o.valsFull = true ∧ o.vfc = some 1)
           | .error _ => false) = true := by
  decide +kernel

/-- a kernel call that ends with `is_column_inds_full`: two index rows, two records of one empty cell reported -/
example : (match fastCsvReader (render ([⟨false, [97]⟩] :: List.replicate 5 [⟨false, []⟩])) 2 (zeros2 1 3) (List.replicate 1 0)
                 [0, 1] false with
           | .ok o => decide (o.nextPos = 4 ∧ o.written = 2 ∧ o.indsFull = true ∧ o.valsFull = false ∧ o.vfc = none)
           | .error _ => false) = true := by
  decide +kernel

example : csvRegrowthBound exRows 2 3 = 0 := by decide +kernel

/-- hypotheses of `fsm_any_buffers_eq_spec` for the call above: budgets 3 and 4, fresh buffers with 4 index rows -/
example : Budgets 2 [0, 3, 7] ∧ Shape 2 4 [0, 3, 7] (zeros2 2 5) (List.replicate ([0, 3, 7].getLastD 0) 0) ∧
    (∀ c, c < 2 → ∃ r, (zeros2 2 5)[c]? = some r ∧ r[0]? = some 0) := by
  have hb : Budgets 2 [0, 3, 7] := ⟨rfl, rfl, by decide +kernel⟩
  exact ⟨hb, shape_zeros hb.len hb.zero (fun c hc => Nat.le_of_lt (hb.pos c hc)), fun c hc => zeros_first c hc⟩

/-- the public path with a regrowth: six columns, `chunk_row_size = 3` (window 36 bytes, budget 30 bytes per column), one record
    whose first cell has 30 bytes and fills the window exactly: the second kernel call ends with `is_column_vals_full`, the
    third one (budget 60) imports the record; `1 + 2 + csvRegrowthBound = 4` calls suffice -/
def exHeader6 : List Cell := [⟨false, [97]⟩, ⟨false, [98]⟩, ⟨false, [99]⟩, ⟨false, [100]⟩, ⟨false, [101]⟩, ⟨false, [102]⟩]
def exRows6 : List (List Cell) :=
  [[⟨false, List.replicate 30 120⟩, ⟨false, []⟩, ⟨false, []⟩, ⟨false, []⟩, ⟨false, []⟩, ⟨false, []⟩]]

example : Regime (render (exHeader6 :: exRows6)) 3 6 exHeader6 exRows6 :=
  ⟨Or.inl rfl, by decide +kernel, ⟨rfl, by decide +kernel⟩, by unfold Table; decide +kernel, by decide, by decide +kernel⟩

example : csvRegrowthBound exRows6 6 3 = 1 := by decide +kernel

example : (match readCsv (render (exHeader6 :: exRows6)) ["a", "b", "c", "d", "e", "f"] [] (some ["a"]) none 3 4 with
           | .ok o => decide (o = ⟨1, [⟨"a", fieldOf [List.replicate 30 120]⟩]⟩)
           | .error _ => false) = true := by
  decide +kernel

example : (match readFile (render (exHeader6 :: exRows6)) 3 6 [0, 30, 60, 90, 120, 150, 180] [0] [{ kind := .indexed }] 4 with
           | .ok o => decide (o.rows = 1 ∧ o.calls = [0, 0, 1])
           | .error _ => false) = true := by
  decide +kernel

end Exetera.Props.C05
