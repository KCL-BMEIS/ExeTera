import Exetera.Props.C09
/-!
# C09 — the SORT clause as one statement

`frame_sort_correct` composes the pieces proved in `Props.C09` (or the lemmas they are instances of), so that the property's
sentence for `sort_values` is one kernel-checked statement. Nothing here is stronger than those theorems.
-/
namespace Exetera.Props.C09
open Exetera Exetera.FilterIndex Exetera.Spec

/-- the column whose row `j` is row `p[j]` of the given column -/
def permuteCol (p : List Nat) : Column → Column
  | .nums xs => .nums (gatherNat xs p)
  | .strs es => .strs (gatherNat es p)

/-- every column re-ordered by the SAME list of row numbers `p` (names, order, metadata kept): row `j` of the result is,
    in every column, row `p[j]` of the source — rows stay intact -/
def permuteCols {μ} (p : List Nat) (cols : List (ColSpec μ)) : List (ColSpec μ) :=
  cols.map (fun c => { c with content := permuteCol p c.content })

/-- the entries of a column re-ordered by `p` are the column's entries, each as often as before -/
def SameEntries (p : List Nat) : Column → Prop
  | .nums xs => (gatherNat xs p).Perm xs
  | .strs es => (gatherNat es p).Perm es

theorem column_gather_perm (c : Column) (p : List Nat) (hp : p.Perm (List.range c.length)) :
    c.gather (p.map (fun (k : Nat) => (k : Int))) = some (permuteCol p c) ∧ SameEntries p c := by
  cases c with
  | nums xs => exact ⟨by rw [Column.gather, (gather_perm xs p hp).1]; rfl, (gather_perm xs p hp).2⟩
  | strs es => exact ⟨by rw [Column.gather, (gather_perm es p hp).1]; rfl, (gather_perm es p hp).2⟩

theorem mapCols_gather_perm {μ} (cols : List (ColSpec μ)) (n : Nat) (hrect : ∀ c ∈ cols, c.content.length = n)
    (p : List Nat) (hp : p.Perm (List.range n)) :
    mapCols (Column.gather (p.map (fun (k : Nat) => (k : Int)))) cols = some (permuteCols p cols) ∧
      ∀ c ∈ cols, SameEntries p c.content := by
  induction cols with
  | nil => exact ⟨rfl, fun _ h => nomatch h⟩
  | cons c cs ih =>
    obtain ⟨h1, h2⟩ := ih (fun c' hc' => hrect c' (List.mem_cons_of_mem _ hc'))
    obtain ⟨hg, hs⟩ := column_gather_perm c.content p (by rw [hrect c List.mem_cons_self]; exact hp)
    exact ⟨mapCols_cons_eq_some.mpr ⟨_, _, hg, h1, rfl⟩, List.forall_mem_cons.mpr ⟨hs, h2⟩⟩

/-- **C09, sort.** `df.sort_values(by, ddf)` (code with the fix patches applied) on a well-formed frame: the store holds the
    frame `sf` under `src`, `sf` holds the columns `cols` (`Holds`), all of `n` rows, and `by` (not empty) names key columns
    of any mix of kinds (`keyColsAll cols by = some keys`). Then there is ONE list of row numbers `p` such that

    * `p` holds every row `0..n-1` once, in non-decreasing lexicographic order of the key tuples (as numpy sees the keys:
      `KeyCol.numpyView`, trailing NULs of string keys dropped — NC09g), rows with equal tuples in their original order
      (`IsStableSortPermK`: ascending, stable), and it is the only such list;
    * every column of the source, re-ordered by `p`, holds the entries it held, each as often (`SameEntries`);
    * IN PLACE (hypothesis: every field of `sf` writeable): the call returns `.ok`, the store differs only in `src`, whose
      frame now holds `permuteCols p cols` — same names, order and metadata, and in EVERY column row `j` is the source's row
      `p[j]`, so rows are intact and the rows of the result are a permutation of the source's rows;
    * INTO a destination `d` holding `df` (hypothesis `Fresh sf df`: the source's column names are distinct and none exists
      in `df`): the call returns `.ok`, the store differs only in `d` (so for `d ≠ src` the source frame is unchanged),
      whose frame is `df` followed by new writeable columns holding `permuteCols p cols`.

    Composition of `dfSortValues_eq_enc` with `sortPerm_enc_stableK` (together: `frame_sort_is_index_all_keys`),
    `frame_index_inplace`, `frame_index_into`, `gather_perm` (`permutation_preserves_rows` with its result named) and
    `lookup_put_ne` (what `source_untouched` rests on); for the bytewise order of the stored strings add `NoTrailingNul` as in
    `frame_sort_is_index_all_keys_partial`. -/
theorem frame_sort_correct (st : Store) (src : String) (sf : Frame) (cols : List (ColSpec Meta))
    (hs : st.lookup src = some sf) (hh : Holds sf cols) (n : Nat) (hrect : ∀ c ∈ cols, c.content.length = n)
    (by_ : List String) (hne : by_ ≠ []) (keys : List KeyCol) (hk : keyColsAll cols by_ = some keys) :
    ∃ p : List Nat,
      (IsStableSortPermK (keys.map KeyCol.numpyView) n p ∧
        ∀ q, IsStableSortPermK (keys.map KeyCol.numpyView) n q → q = p) ∧
      (∀ c ∈ cols, SameEntries p c.content) ∧
      (AllWriteable sf → ∃ rf, dfSortValues .repaired st src by_ none = .ok (st.put src rf) ∧
        Holds rf (permuteCols p cols) ∧ AllWriteable rf ∧
        ∀ k, k ≠ src → (st.put src rf).lookup k = st.lookup k) ∧
      (∀ d df, st.lookup d = some df → Fresh sf df →
        ∃ rf, dfSortValues .repaired st src by_ (some d) = .ok (st.put d (df ++ rf)) ∧
          Holds rf (permuteCols p cols) ∧ AllWriteable rf ∧
          ∀ k, k ≠ d → (st.put d (df ++ rf)).lookup k = st.lookup k) := by
  -- `p` is the permutation the model computes; `dfSortValues_eq_enc` names it, so both branches speak of the same list
  have he := dfSortValues_eq_enc .repaired st src sf cols hs hh n hrect by_ hne keys hk
  obtain ⟨hp, hu⟩ := sortPerm_enc_stableK n (keys.map KeyCol.numpyView) (keyColsAll_length hrect hk)
  obtain ⟨hm, hsame⟩ := mapCols_gather_perm cols n hrect _ hp.1
  refine ⟨_, ⟨hp, hu⟩, hsame, fun hw => ?_, fun d df hd hf => ?_⟩
  · obtain ⟨rf, hr, hH, hW⟩ := frame_index_inplace st src sf cols _ n _ hs hh hw hrect hm
    exact ⟨rf, (he none).trans hr, hH, hW, fun k hk' => lookup_put_ne st src k rf hk'⟩
  · obtain ⟨rf, hr, hH, hW⟩ := frame_index_into st src d sf df cols _ _ hs hd hh hf hm
    exact ⟨rf, (he (some d)).trans hr, hH, hW, fun k hk' => lookup_put_ne st d k _ hk'⟩

/-- non-vacuity: the two-column frame of `Props.C09` (strings ["a","","cc"], numbers [5,6,7]) sorted by its string column,
    in place and into the empty frame `d0` — every hypothesis of `frame_sort_correct` holds -/
example : ∃ p : List Nat,
    (IsStableSortPermK ([KeyCol.strs [[97], [], [99, 99]]].map KeyCol.numpyView) 3 p ∧
      ∀ q, IsStableSortPermK ([KeyCol.strs [[97], [], [99, 99]]].map KeyCol.numpyView) 3 q → q = p) ∧
    (∀ c ∈ exCols, SameEntries p c.content) ∧
    (AllWriteable exFrame → ∃ rf, dfSortValues .repaired [("src", exFrame), ("d0", [])] "src" ["s"] none =
        .ok (Store.put [("src", exFrame), ("d0", [])] "src" rf) ∧
      Holds rf (permuteCols p exCols) ∧ AllWriteable rf ∧
      ∀ k, k ≠ "src" → (Store.put [("src", exFrame), ("d0", [])] "src" rf).lookup k =
        List.lookup k [("src", exFrame), ("d0", [])]) ∧
    (∀ d df, List.lookup d [("src", exFrame), ("d0", [])] = some df → Fresh exFrame df →
      ∃ rf, dfSortValues .repaired [("src", exFrame), ("d0", [])] "src" ["s"] (some d) =
          .ok (Store.put [("src", exFrame), ("d0", [])] d (df ++ rf)) ∧
        Holds rf (permuteCols p exCols) ∧ AllWriteable rf ∧
        ∀ k, k ≠ d → (Store.put [("src", exFrame), ("d0", [])] d (df ++ rf)).lookup k =
          List.lookup k [("src", exFrame), ("d0", [])]) :=
  frame_sort_correct [("src", exFrame), ("d0", [])] "src" exFrame exCols rfl exHolds 3 exRect
    ["s"] (List.cons_ne_nil _ _) [.strs [[97], [], [99, 99]]] rfl

/-- the hypotheses of the two branches are satisfiable on that frame: it is writeable, and `Fresh` against the empty `d0` -/
example : AllWriteable exFrame ∧ List.lookup "d0" [("src", exFrame), ("d0", ([] : Frame))] = some [] ∧ Fresh exFrame [] :=
  ⟨exWriteable, rfl, by decide +kernel, by intro p _; rfl⟩

/-- what `permuteCols` is on that frame for the sort permutation `[1, 0, 2]` ("" < "a" < "cc") -/
example : permuteCols [1, 0, 2] exCols =
    [{ name := "s", info := exInfoS, content := .strs [[], [97], [99, 99]] },
     { name := "n", info := exInfoN, content := .nums [6, 5, 7] }] := rfl

end Exetera.Props.C09
