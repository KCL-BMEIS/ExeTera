import Exetera.Model.Spans
import Exetera.Spec.Spans
import Exetera.Lemmas.Spans
import Exetera.Lemmas.SpansApply
import Exetera.Lemmas.SpansScan
import Exetera.Lemmas.SpansMerge
import Exetera.Lemmas.SpansEntryN
import Exetera.Lemmas.SpansIndexed
/-!
  C08 — spans are the maximal runs of equal adjacent rows; reductions respect them.
  Every theorem is about the definitions of `Model/Spans.lean` that the driver runs, for all inputs meeting its hypotheses.
-/
namespace Exetera.Props.C08

open Exetera Exetera.Spans Exetera.Spec

/-- `get_spans_for_field` returns exactly the specification's span array, whatever the element comparison. -/
theorem get_spans_for_field_eq_spec {α} (ne : α → α → Bool) (xs : List α) :
    getSpansForField ne xs = spans ne xs :=
  getSpansForField_eq_spec ne xs

example : getSpansForField (fun (a b : Int) => a != b) [1, 2, 2, 1, 1, 1, 3] = [0, 1, 3, 6, 7] := by decide

/-- the result is strictly increasing, starts at 0 and ends at the row count (also for 0 and 1 rows) -/
theorem spans_wellformed {α} (ne : α → α → Bool) (xs : List α) :
    Wellformed (getSpansForField ne xs) xs.length := by
  rw [getSpansForField_eq_spec]; exact spans_wellformed' ne xs

example : Wellformed (getSpansForField (fun (a b : Int) => a != b) []) 0 := spans_wellformed _ _

/-- a row number `0 < i < n` is a span start iff row `i-1` and row `i` differ -/
theorem boundary_iff_adjacent_differ {α} (ne : α → α → Bool) (xs : List α) (i : Nat) (h0 : 0 < i) (hi : i < xs.length) :
    i ∈ getSpansForField ne xs ↔ ne (xs[i - 1]'(by omega)) xs[i] = true := by
  rw [getSpansForField_eq_spec, mem_spans, isBoundary_eq ne xs i h0 hi]
  constructor
  · rintro (h | h | h)
    · omega
    · omega
    · exact h
  · intro h; exact Or.inr (Or.inr h)

/-- maximality: two rows `i ≤ j` are in the same span iff all rows between them are equal to their neighbours -/
theorem same_span_iff_run {α} [BEq α] [LawfulBEq α] (xs : List α) (i j : Nat) (hij : i ≤ j) (hj : j < xs.length) :
    SameSpan (getSpansForField neq xs) i j ↔ ∀ k (_ : i < k) (hk : k ≤ j), xs[k - 1]'(by omega) = xs[k]'(by omega) := by
  constructor
  · intro hs k hik hkj
    by_cases heq : xs[k - 1]'(by omega) = xs[k]'(by omega)
    · exact heq
    · exfalso
      have hm : k ∈ getSpansForField neq xs :=
        (boundary_iff_adjacent_differ neq xs k (by omega) (by omega)).2 (by simpa [neq] using heq)
      have := (hs k hm).2 hkj
      omega
  · intro hrun b hbm
    constructor
    · intro h; omega
    · intro hbj
      by_cases hbi : b ≤ i
      · exact hbi
      · exfalso
        have hb := (boundary_iff_adjacent_differ neq xs b (by omega) (by omega)).1 hbm
        have := hrun b (by omega) hbj
        simp [neq, this] at hb

/-- **adjacent rows are equal iff they lie in the same span** (`ne a b = (a != b)`: byte-exact for strings, all
    fields jointly for tuples) -/
theorem same_span_iff_equal_adjacent {α} [BEq α] [LawfulBEq α] (xs : List α) (i : Nat) (h0 : 0 < i) (hi : i < xs.length) :
    SameSpan (getSpansForField neq xs) (i - 1) i ↔ xs[i - 1]'(by omega) = xs[i] :=
  (same_span_iff_run xs (i - 1) i (by omega) hi).trans
    ⟨fun h => h i (by omega) (Nat.le_refl i), fun h k h1 h2 => by
      obtain rfl : k = i := by omega
      exact h⟩

example : SameSpan (getSpansForField neq [5, 5, 7]) 0 1 ∧ ¬ SameSpan (getSpansForField neq [5, 5, 7]) 1 2 := by
  refine ⟨(same_span_iff_equal_adjacent [5, 5, 7] 1 (by decide) (by decide)).2 rfl, ?_⟩
  intro h; have := (same_span_iff_equal_adjacent [5, 5, 7] 2 (by decide) (by decide)).1 h
  simp at this

/-! ## the other entry points: in bounds, terminating, and equal to the spans of the joint column -/

/-- `_get_spans_for_2_fields(a, b)` (with fix NC08b) returns `.ok` — so no subscript of the compiled kernel is out of
    bounds, for every length including 0 — and the result is the span array of the zipped column. -/
theorem get_spans_2_fields_eq_spec (a b : List Int) (hl : a.length = b.length) :
    getSpansFor2Fields .repaired a b = .ok (spans neq (a.zip b)) :=
  getSpansFor2Fields_eq_spec a b hl

example : getSpansFor2Fields .repaired [1, 1, 1, 2] [5, 6, 6, 6] = .ok [0, 1, 3, 4] := rfl
example : getSpansFor2Fields .repaired [] [] = .ok [0] := rfl

/-- `_get_spans_for_multi_fields(fields_data)` for any number ≥ 1 of equal-length columns -/
theorem get_spans_multi_fields_eq_spec (f0 : List Int) (fs : List (List Int))
    (hf : ∀ f ∈ f0 :: fs, f.length = f0.length) :
    getSpansForMultiFields .repaired (f0 :: fs) = .ok (spans neq (jointRows (f0 :: fs) f0.length)) :=
  getSpansForMultiFields_eq_spec f0 fs hf

example : getSpansForMultiFields .repaired [[1, 1, 1, 2], [5, 6, 6, 6], [0, 0, 0, 0]] = .ok [0, 1, 3, 4] := rfl

/-- `_get_spans_for_index_string_field(indices, values)` (with fix NC08c) for every well-formed index: the spans of
    the decoded byte strings, compared byte-exactly (length first, then bytes — which is just list inequality). -/
theorem get_spans_indexed_eq_spec (indices values : List Nat) (hv : ValidIndex indices values) :
    getSpansForIndexStringField .repaired indices values = .ok (spans neq (decodeRows indices values)) :=
  getSpansForIndexStringField_eq_spec indices values hv

-- rows "a", "a ", "a ", "", "" : trailing blank matters, empty strings are equal
example : getSpansForIndexStringField .repaired [0, 1, 3, 5, 5, 5] [97, 97, 32, 97, 32] = .ok [0, 1, 3, 5] := rfl
example : ValidIndex [0, 1, 3, 5, 5, 5] [97, 97, 32, 97, 32] := by
  refine ⟨by decide, ?_⟩
  intro x hx; simp at hx; rcases hx with rfl | rfl | rfl | rfl <;> decide

/-- `_get_spans_for_2_fields_by_spans`: merging the span arrays of two equal-length columns of any element types
    never reads `span1` out of bounds and yields the span array of the zipped column -/
theorem get_spans_by_spans_eq_spec {α β} [BEq α] [BEq β] (a : List α) (b : List β) (hl : a.length = b.length) :
    getSpansFor2FieldsBySpans (getSpansForField neq a) (getSpansForField neq b) = .ok (spans neq (a.zip b)) := by
  rw [getSpansForField_eq_spec, getSpansForField_eq_spec]
  exact getSpansFor2FieldsBySpans_eq_spec a b hl

/-- more generally: any two well-formed span arrays over the same row count merge, in bounds, into their sorted union -/
theorem merge_spans_eq_union (s0 s1 : List Nat) (n : Nat) (h0 : Wellformed s0 n) (h1 : Wellformed s1 n) :
    ∃ m, getSpansFor2FieldsBySpans s0 s1 = .ok m ∧ Wellformed m n ∧ ∀ z, z ∈ m ↔ z ∈ s0 ∨ z ∈ s1 := by
  obtain ⟨m, hm, hp, hmem⟩ := merge_wellformed s0 s1 n h0 h1
  refine ⟨m, hm, ⟨hp, ?_, ?_⟩, hmem⟩
  · -- head is 0: 0 ∈ m and everything in m is ≥ 0
    have h0m : 0 ∈ m := (hmem 0).2 (Or.inl (by
      have := h0.2.1; cases s0 with
      | nil => simp at this
      | cons a t => simp at this; simp [this]))
    cases m with
    | nil => simp at h0m
    | cons a t =>
      rcases List.mem_cons.1 h0m with h | h
      · simp [← h]
      · have := (List.pairwise_cons.1 hp).1 0 h; omega
  · -- last is n: n ∈ m and everything in m is ≤ n
    have hle : ∀ z ∈ m, z ≤ n := by
      intro z hz
      rcases (hmem z).1 hz with h | h
      · exact le_getLast_of_pairwise s0 n h0.1 h0.2.2 z h
      · exact le_getLast_of_pairwise s1 n h1.1 h1.2.2 z h
    have hnm : n ∈ m := (hmem n).2 (Or.inl (by
      have := h0.2.2; rw [List.getLast?_eq_some_iff] at this
      obtain ⟨ys, hys⟩ := this; rw [hys]; simp))
    obtain ⟨ys, l, hys⟩ : ∃ ys l, m = ys ++ [l] := by
      cases hm' : m.getLast? with
      | none => rw [List.getLast?_eq_none_iff] at hm'; rw [hm'] at hnm; simp at hnm
      | some l => exact ⟨_, l, (List.getLast?_eq_some_iff.1 hm').choose_spec⟩
    subst hys
    have hl : l ≤ n := hle l (by simp)
    have : n ≤ l := by
      rcases List.mem_append.1 hnm with h | h
      · have := (List.pairwise_append.1 hp).2.2 n h l (by simp); omega
      · simp at h; omega
    have : l = n := by omega
    simp [this]

example : getSpansFor2FieldsBySpans [0, 2, 5] [0, 1, 2, 4, 5] = .ok [0, 1, 2, 4, 5] := rfl

/-- **the entry points agree**: for two equal-length columns the two-array kernel, the multi-array kernel and the merge
    of the two single-column span arrays (what `Session.get_spans(fields=(f0, f1))` does for Fields) return the same
    span array, namely that of the zipped column. -/
theorem entrypoints_agree (a b : List Int) (hl : a.length = b.length) :
    getSpansFor2Fields .repaired a b = .ok (spans neq (a.zip b)) ∧
    getSpansForMultiFields .repaired [a, b] = .ok (spans neq (a.zip b)) ∧
    getSpansFor2FieldsBySpans (getSpansForField neq a) (getSpansForField neq b) = .ok (spans neq (a.zip b)) ∧
    sessionGetSpansArrays .repaired [a, b] = .ok (spans neq (a.zip b)) ∧
    sessionGetSpansFields .repaired [.numeric a, .numeric b] = .ok (spans neq (a.zip b)) := by
  refine ⟨getSpansFor2Fields_eq_spec a b hl, ?_, get_spans_by_spans_eq_spec a b hl, getSpansFor2Fields_eq_spec a b hl, ?_⟩
  · rw [getSpansForMultiFields_eq_spec a [b] (by intro f hf; simp at hf; rcases hf with rfl | rfl <;> simp [hl])]
    congr 1
    exact spans_congr _ _ _ _ (by simp [jointRows_length, List.length_zip, hl]) (isBoundary_jointRows2 a b hl)
  · have h : getSpansFor2FieldsBySpans (getSpansForField (fun x y => x != y) a) (getSpansForField (fun x y => x != y) b) =
        .ok (spans neq (a.zip b)) := get_spans_by_spans_eq_spec a b hl
    simp only [sessionGetSpansFields, columnSpans, foldColumnSpans, h]

/-- the Field / ndarray / Session single-column entry points of every column kind return the spans of the column's rows
    (numbers, or byte strings compared byte-exactly); an indexed string column needs a well-formed index -/
theorem column_spans_eq_spec (c : Column) (hv : c.Valid) : columnSpans .repaired c = .ok (spans neq c.rows) :=
  columnSpans_eq_spec c hv

/-- **`Session.get_spans(fields=…)` for any number of Fields** (full statement; needs fix NC08d, the as-found behaviour
    is `Witness.C08.nc08d_third_field_ignored`): for `k ≥ 1` Fields of any kinds (numeric, fixed string, indexed
    string with a well-formed index) of equal length the result is the span array of the joint column — adjacent rows lie in
    the same span iff they agree in ALL fields. -/
theorem session_get_spans_fields_eq_spec (c0 : Column) (cs : List Column) (hv : ∀ c ∈ c0 :: cs, c.Valid)
    (hl : ∀ c ∈ cs, c.rows.length = c0.rows.length) :
    sessionGetSpansFields .repaired (c0 :: cs) = .ok (spans neq (jointCols (c0 :: cs) c0.rows.length)) :=
  sessionGetSpansFields_all c0 cs hv hl

/-- the same for ndarray arguments (exactly two arrays take the two-array kernel, any other number is folded) -/
theorem session_get_spans_arrays_eq_spec (a0 : List Int) (as : List (List Int)) (hl : ∀ a ∈ as, a.length = a0.length) :
    sessionGetSpansArrays .repaired (a0 :: as) = .ok (spans neq (jointCols ((a0 :: as).map .numeric) a0.length)) :=
  sessionGetSpansArrays_all a0 as hl

/-- a boundary of the joint column is a boundary of at least one field: the joint spans are the common refinement -/
theorem joint_boundary_iff (cols : List Column) (n : Nat) (hl : ∀ c ∈ cols, c.rows.length = n) (i : Nat) :
    isBoundary neq (jointCols cols n) i = cols.any (fun c => isBoundary neq c.rows i) :=
  isBoundary_jointCols cols n hl i

-- non-vacuity: three fields of three kinds; the third one splits both spans of the first two
example : sessionGetSpansFields .repaired
    [.numeric [1, 1, 2, 2], .fixed [[97], [97], [98], [98]], .indexed [0, 1, 2, 3, 5] [120, 121, 121, 122, 122]] =
    .ok [0, 1, 2, 3, 4] := rfl
example : Column.Valid (.indexed [0, 1, 2, 3, 5] [120, 121, 121, 122, 122]) := by
  simp only [Column.Valid]; unfold ValidIndex; decide

/-- the two-field instance, the only shape the `fields=` branch as found handles (NC08d) -/
theorem session_get_spans_fields_eq_spec_partial (cols : List Column) (c0 c1 : Column) (h2 : cols = [c0, c1])
    (h0 : c0.Valid) (h1 : c1.Valid) (hl : c0.rows.length = c1.rows.length) :
    sessionGetSpansFields .repaired cols = .ok (spans neq (c0.rows.zip c1.rows)) := by
  subst h2; exact sessionGetSpansFields_eq_spec c0 c1 h0 h1 hl

example : sessionGetSpansFields .repaired [.fixed [[97], [97, 32], [97, 32]], .numeric [1, 1, 2]] = .ok [0, 1, 2, 3] := rfl

/-- the two-array kernel's result is well-formed (strictly increasing, from 0 to the row count) -/
theorem spans_wellformed_all (a b : List Int) (hl : a.length = b.length) :
    ∃ sp, getSpansFor2Fields .repaired a b = .ok sp ∧ Wellformed sp a.length := by
  refine ⟨_, getSpansFor2Fields_eq_spec a b hl, ?_⟩
  have := spans_wellformed' neq (a.zip b)
  simpa [List.length_zip, hl] using this


/-! ## span dtype: the int32 branch is only taken when every entry fits -/

/-- with the real threshold `utils.INT64_INDEX_LENGTH = 2^31 - 1`, whenever an entry point chooses int32 for the span
    array, every entry (they are all ≤ the row count) is at most the largest int32; `get_spans_for_field` compares with
    `<`, the two-array and multi-array wrappers with `>` — both are safe. -/
theorem span_values_fit_int32 {α} (ne : α → α → Bool) (xs : List α) :
    (spanDtypeField INT64_INDEX_LENGTH xs.length = .i32 ∨ spanDtype2 INT64_INDEX_LENGTH xs.length xs.length = .i32 ∨
      spanDtypeMulti INT64_INDEX_LENGTH xs.length = .i32) →
    ∀ x ∈ spans ne xs, x ≤ 2 ^ 31 - 1 := by
  intro hd x hx
  have hle := le_getLast_of_pairwise _ _ (spans_pairwise ne xs) (spans_getLast ne xs) x hx
  have hn : xs.length ≤ 2 ^ 31 - 1 := by
    unfold spanDtypeField spanDtype2 spanDtypeMulti INT64_INDEX_LENGTH at hd
    rcases hd with hd | hd | hd
    · by_cases h : xs.length < 2 ^ 31 - 1
      · omega
      · simp [h] at hd
    · by_cases h : xs.length > 2 ^ 31 - 1
      · simp [h] at hd
      · omega
    · by_cases h : xs.length > 2 ^ 31 - 1
      · simp [h] at hd
      · omega
  omega

example : spanDtypeField INT64_INDEX_LENGTH 5 = .i32 ∧ spanDtypeField 5 5 = .i64 ∧ spanDtype2 5 5 5 = .i32 ∧
    spanDtype2 5 6 6 = .i64 := by decide

/-! ## apply_spans_* : one entry per span, computed over exactly the rows of that span -/

/-- count = number of rows of each span -/
theorem apply_spans_count_eq (sp : List Nat) (src : List Int) (h : Wellformed sp src.length) :
    applySpansCount sp = .ok ((pairs sp).map (fun p => ((rowsOf src p).length : Int))) :=
  applySpansCount_eq sp src h

example : applySpansCount [0, 2, 3] = .ok [2, 1] := rfl

/-- index_of_first / index_of_last = first / last row number of each span -/
theorem apply_spans_index_of_first_eq (sp : List Nat) (hne : sp.isEmpty = false) :
    applySpansIndexOfFirst sp = .ok ((pairs sp).map (fun p => (p.1 : Int))) := by
  unfold applySpansIndexOfFirst forSpans
  simp only [hne, Bool.false_eq_true, if_false]
  exact forPairs_total (fun c _ => (c : Int)) sp

theorem apply_spans_index_of_last_eq (sp : List Nat) (hne : sp.isEmpty = false) :
    applySpansIndexOfLast sp = .ok ((pairs sp).map (fun p => (p.2 : Int) - 1)) := by
  unfold applySpansIndexOfLast forSpans
  simp only [hne, Bool.false_eq_true, if_false]
  exact forPairs_total (fun _ n => (n : Int) - 1) sp

example : applySpansIndexOfLast [0, 2, 3] = .ok [1, 2] := rfl

/-- first = first row of each span (no out-of-bounds read) -/
theorem apply_spans_first_eq (sp : List Nat) (src : List Int) (h : Wellformed sp src.length) :
    ∃ r, applySpansFirst sp src = .ok r ∧ r.map some = (pairs sp).map (fun p => (rowsOf src p).head?) :=
  applySpansFirst_spec sp src h

/-- last = last row of each span -/
theorem apply_spans_last_eq (sp : List Nat) (src : List Int) (h : Wellformed sp src.length) :
    ∃ r, applySpansLast sp src = .ok r ∧ r.map some = (pairs sp).map (fun p => (rowsOf src p).getLast?) :=
  applySpansLast_spec sp src h

example : applySpansLast [0, 2, 3] [7, 8, 9] = .ok [8, 9] := rfl

/-- min / max = minimum / maximum over exactly the rows of each span -/
theorem apply_spans_min_eq (sp : List Nat) (src : List Int) (h : Wellformed sp src.length) :
    ∃ r, applySpansMin sp src = .ok r ∧ r.map some = (pairs sp).map (fun p => (rowsOf src p).min?) :=
  applySpansMin_spec sp src h

theorem apply_spans_max_eq (sp : List Nat) (src : List Int) (h : Wellformed sp src.length) :
    ∃ r, applySpansMax sp src = .ok r ∧ r.map some = (pairs sp).map (fun p => (rowsOf src p).max?) :=
  applySpansMax_spec sp src h

example : applySpansMin [0, 2, 5] [3, 1, 4, 1, 5] = .ok [1, 1] ∧ applySpansMax [0, 2, 5] [3, 1, 4, 1, 5] = .ok [3, 5] :=
  ⟨rfl, rfl⟩

/-- index_of_min / index_of_max = row number of the FIRST minimal / maximal row of each span (numpy argmin/argmax) -/
theorem apply_spans_index_of_min_eq (sp : List Nat) (src : List Int) (h : Wellformed sp src.length) :
    ∃ r, applySpansIndexOfMin sp src = .ok r ∧
      r.map some = (pairs sp).map (fun p => (argminOf (rowsOf src p)).map (fun k => ((p.1 + k : Nat) : Int))) :=
  forSpans_spec _ _ sp (wellformed_ne_nil h) (fun p hp =>
    have hw := pairs_wellformed h p hp
    spanIndexOfMin_spec src p.1 p.2 hw.1 hw.2)

theorem apply_spans_index_of_max_eq (sp : List Nat) (src : List Int) (h : Wellformed sp src.length) :
    ∃ r, applySpansIndexOfMax sp src = .ok r ∧
      r.map some = (pairs sp).map (fun p => (argmaxOf (rowsOf src p)).map (fun k => ((p.1 + k : Nat) : Int))) :=
  forSpans_spec _ _ sp (wellformed_ne_nil h) (fun p hp =>
    have hw := pairs_wellformed h p hp
    spanIndexOfMax_spec src p.1 p.2 hw.1 hw.2)

example : applySpansIndexOfMin [0, 2, 5] [3, 1, 4, 1, 1] = .ok [1, 3] ∧
    applySpansIndexOfMax [0, 2, 5] [3, 3, 4, 5, 5] = .ok [0, 3] := ⟨rfl, rfl⟩


/-! ### indexed string columns: min / max are lexicographic, ties go to the first row (needs fix D18) -/

/-- `apply_spans_index_of_min_indexed` (with fix D18): for a well-formed index and well-formed spans the kernel returns
    `.ok` (no out-of-bounds read of `src_indices` / `src_values`, all loops terminate), one entry per span, and the entry
    of span `[a, b)` is the row number of the FIRST row of the span that is lexicographically minimal (bytewise, a proper
    prefix is smaller). -/
theorem apply_spans_index_of_min_indexed_eq (sp indices values : List Nat) (hv : ValidIndex indices values)
    (h : Wellformed sp (indices.length - 1)) :
    ∃ r, applySpansIndexOfMinIndexed .repaired sp indices values = .ok r ∧ r.length = (pairs sp).length ∧
      ∀ pv ∈ (pairs sp).zip r, ∃ k : Nat, pv.2 = (k : Int) ∧ IsFirstMinIn (decodeRows indices values) pv.1.1 pv.1.2 k := by
  unfold applySpansIndexOfMinIndexed forSpans
  simp only [wellformed_ne_nil h, Bool.false_eq_true, if_false]
  apply forPairs_rel _ (fun p v => ∃ k : Nat, v = (k : Int) ∧ IsFirstMinIn (decodeRows indices values) p.1 p.2 k)
  intro p hp
  have hw := pairs_wellformed h p hp
  exact spanIndexOfMinIndexed_spec hv p.1 p.2 hw.1 (by omega)

theorem apply_spans_index_of_max_indexed_eq (sp indices values : List Nat) (hv : ValidIndex indices values)
    (h : Wellformed sp (indices.length - 1)) :
    ∃ r, applySpansIndexOfMaxIndexed sp indices values = .ok r ∧ r.length = (pairs sp).length ∧
      ∀ pv ∈ (pairs sp).zip r, ∃ k : Nat, pv.2 = (k : Int) ∧ IsFirstMaxIn (decodeRows indices values) pv.1.1 pv.1.2 k := by
  unfold applySpansIndexOfMaxIndexed forSpans
  simp only [wellformed_ne_nil h, Bool.false_eq_true, if_false]
  apply forPairs_rel _ (fun p v => ∃ k : Nat, v = (k : Int) ∧ IsFirstMaxIn (decodeRows indices values) p.1 p.2 k)
  intro p hp
  have hw := pairs_wellformed h p hp
  exact spanIndexOfMaxIndexed_spec hv p.1 p.2 hw.1 (by omega)

-- rows "b", "ab", "a", "a" (D18's witness plus a tie): min is row 2 (the first "a"), max is row 0
example : applySpansIndexOfMinIndexed .repaired [0, 4] [0, 1, 3, 4, 5] [98, 97, 98, 97, 97] = .ok [2] ∧
    applySpansIndexOfMaxIndexed [0, 4] [0, 1, 3, 4, 5] [98, 97, 98, 97, 97] = .ok [0] := ⟨rfl, rfl⟩
example : ValidIndex [0, 1, 3, 4, 5] [98, 97, 98, 97, 97] ∧ Wellformed [0, 4] ([0, 1, 3, 4, 5].length - 1) := by
  refine ⟨⟨by decide, ?_⟩, by decide, rfl, rfl⟩
  intro x hx; simp at hx; rcases hx with rfl | rfl | rfl | rfl | rfl <;> decide


/-! ### the `_filter` forms: spans may be empty; `filter_array` marks the non-empty ones -/

/-- spans that may be empty: non-decreasing and inside the column -/
def WeakSpans (sp : List Nat) (n : Nat) : Prop := ∀ p ∈ pairs sp, p.1 ≤ p.2 ∧ p.2 ≤ n

/-- `apply_spans_index_of_min_filter` / `…_max_filter`: with room for one entry per span in both caller-supplied buffers
    the kernels return `.ok` (every subscript in bounds); `filter_array[k]` is True exactly for the non-empty spans;
    `dest_array[k]` is untouched for an empty span and otherwise the row number of the span's first minimum (maximum);
    entries beyond the spans are untouched. -/
theorem apply_spans_index_of_min_filter_eq (sp : List Nat) (src dest : List Int) (filt : List Bool)
    (hw : WeakSpans sp src.length) (hd : (pairs sp).length ≤ dest.length) (hf : (pairs sp).length ≤ filt.length) :
    ∃ (d : List Int) (f : List Bool), applySpansIndexOfMinFilter sp src dest filt = .ok (d, f) ∧ d.length = dest.length ∧ f.length = filt.length ∧
      (∀ (k : Nat) (p : Nat × Nat), (pairs sp)[k]? = some p → f[k]? = some (p.1 != p.2) ∧
        ((p.1 = p.2 ∧ d[k]? = dest[k]?) ∨ (p.1 ≠ p.2 ∧ ∃ v, d[k]? = some v ∧
          (argminOf (rowsOf src p)).map (fun j => ((p.1 + j : Nat) : Int)) = some v))) ∧
      (∀ k : Nat, (pairs sp).length ≤ k → d[k]? = dest[k]? ∧ f[k]? = filt[k]?) :=
  filterLoop_spec_zero (spanIndexOfMin src) _ sp dest filt
    (fun p hp hne => spanIndexOfMin_spec src p.1 p.2 (by have := (hw p hp).1; omega) (hw p hp).2) hd hf

theorem apply_spans_index_of_max_filter_eq (sp : List Nat) (src dest : List Int) (filt : List Bool)
    (hw : WeakSpans sp src.length) (hd : (pairs sp).length ≤ dest.length) (hf : (pairs sp).length ≤ filt.length) :
    ∃ (d : List Int) (f : List Bool), applySpansIndexOfMaxFilter sp src dest filt = .ok (d, f) ∧ d.length = dest.length ∧ f.length = filt.length ∧
      (∀ (k : Nat) (p : Nat × Nat), (pairs sp)[k]? = some p → f[k]? = some (p.1 != p.2) ∧
        ((p.1 = p.2 ∧ d[k]? = dest[k]?) ∨ (p.1 ≠ p.2 ∧ ∃ v, d[k]? = some v ∧
          (argmaxOf (rowsOf src p)).map (fun j => ((p.1 + j : Nat) : Int)) = some v))) ∧
      (∀ k : Nat, (pairs sp).length ≤ k → d[k]? = dest[k]? ∧ f[k]? = filt[k]?) :=
  filterLoop_spec_zero (spanIndexOfMax src) _ sp dest filt
    (fun p hp hne => spanIndexOfMax_spec src p.1 p.2 (by have := (hw p hp).1; omega) (hw p hp).2) hd hf

/-- `apply_spans_index_of_first_filter` / `…_last_filter`: first / last row number of every non-empty span, for ANY span array -/
theorem apply_spans_index_of_first_filter_eq (sp : List Nat) (dest : List Int) (filt : List Bool)
    (hd : (pairs sp).length ≤ dest.length) (hf : (pairs sp).length ≤ filt.length) :
    ∃ (d : List Int) (f : List Bool), applySpansIndexOfFirstFilter sp dest filt = .ok (d, f) ∧ d.length = dest.length ∧ f.length = filt.length ∧
      (∀ (k : Nat) (p : Nat × Nat), (pairs sp)[k]? = some p → f[k]? = some (p.1 != p.2) ∧
        ((p.1 = p.2 ∧ d[k]? = dest[k]?) ∨ (p.1 ≠ p.2 ∧ d[k]? = some (p.1 : Int)))) ∧
      (∀ k : Nat, (pairs sp).length ≤ k → d[k]? = dest[k]? ∧ f[k]? = filt[k]?) :=
  filterLoop_total (fun cur _ => (cur : Int)) sp dest filt hd hf

theorem apply_spans_index_of_last_filter_eq (sp : List Nat) (dest : List Int) (filt : List Bool)
    (hd : (pairs sp).length ≤ dest.length) (hf : (pairs sp).length ≤ filt.length) :
    ∃ (d : List Int) (f : List Bool), applySpansIndexOfLastFilter sp dest filt = .ok (d, f) ∧ d.length = dest.length ∧ f.length = filt.length ∧
      (∀ (k : Nat) (p : Nat × Nat), (pairs sp)[k]? = some p → f[k]? = some (p.1 != p.2) ∧
        ((p.1 = p.2 ∧ d[k]? = dest[k]?) ∨ (p.1 ≠ p.2 ∧ d[k]? = some ((p.2 : Int) - 1)))) ∧
      (∀ k : Nat, (pairs sp).length ≤ k → d[k]? = dest[k]? ∧ f[k]? = filt[k]?) :=
  filterLoop_total (fun _ next => (next : Int) - 1) sp dest filt hd hf

-- spans [0,0,2,3]: the first span is empty
example : applySpansIndexOfMinFilter [0, 0, 2, 3] [5, 4, 9] [7, 7, 7] [false, false, false] =
    .ok ([7, 1, 2], [false, true, true]) := rfl
example : WeakSpans [0, 0, 2, 3] 3 := by
  intro p hp; simp [pairs] at hp; rcases hp with rfl | rfl | rfl <;> decide

/-! ### the Session / Field wrappers add nothing on well-formed spans -/

/-- `Session.apply_spans_*(spans, target)`: the length check `len(target) == spans[-1]` passes, the kernel's result is returned -/
theorem session_apply_spans_transparent (kernel : List Nat → List Int → Except Err (List Int)) (sp : List Nat)
    (src : List Int) (h : Wellformed sp src.length) : sessionApplySpansSrc kernel sp src = kernel sp src :=
  sessionApplySpansSrc_eq kernel sp src h

/-- `Field.apply_spans_*(spans)`: the "spans with empty entries" guard does not fire, the kernel's result is returned -/
theorem field_apply_spans_transparent (kernel : List Nat → List Int → Except Err (List Int)) (sp : List Nat)
    (src : List Int) (n : Nat) (h : Wellformed sp n) : fieldApplySpans kernel sp src = kernel sp src :=
  fieldApplySpans_eq kernel sp src n h

theorem field_apply_spans_indexed_transparent (kernel : List Nat → Except Err (List Int)) (sp : List Nat)
    (n : Nat) (h : Wellformed sp n) : fieldApplySpansIndexed kernel sp = kernel sp :=
  fieldApplySpansIndexed_eq kernel sp n h

example : sessionApplySpansSrc applySpansMin [0, 2, 3] [4, 1, 7] = .ok [1, 7] ∧
    sessionApplySpansSrc applySpansMin [0, 2] [4, 1, 7] = .error (.valueError "'target' length must equal spans[-1]") :=
  ⟨rfl, rfl⟩

/-- hypotheses of the reduction theorems are met by the spans the library itself computes … -/
example (xs : List Int) : Wellformed (getSpansForField neq xs) xs.length := spans_wellformed neq xs

/-- … and by concrete non-trivial inputs: a 5-row column cut into the spans [0,2) and [2,5) -/
example : Wellformed [0, 2, 5] [3, 1, 4, 1, 5].length := ⟨by decide, rfl, rfl⟩

example : applySpansCount [0, 2, 5] = .ok [2, 3] ∧ (pairs [0, 2, 5]).map (fun p => ((rowsOf [3, 1, 4, 1, 5] p).length : Int)) = [2, 3] :=
  ⟨rfl, rfl⟩

/-- the boundary characterisation on a concrete column: rows 1|2 differ, rows 0|1 do not -/
example : 2 ∈ getSpansForField neq [5, 5, 7] ∧ 1 ∉ getSpansForField neq [5, 5, 7] := by decide

/-- a run of three equal rows is one span; the run theorem's hypotheses (i ≤ j < n) hold for i = 0, j = 2 -/
example : SameSpan (getSpansForField neq [4, 4, 4, 9]) 0 2 :=
  (same_span_iff_run [4, 4, 4, 9] 0 2 (by decide) (by decide)).2 (by
    intro k h1 h2
    have : k = 1 ∨ k = 2 := by omega
    rcases this with rfl | rfl <;> rfl)

/-- entry points on a concrete pair of columns (equal lengths, both with runs) -/
example : getSpansFor2Fields .repaired [1, 1, 2, 2] [7, 8, 8, 8] = .ok [0, 1, 2, 4] ∧
    getSpansForMultiFields .repaired [[1, 1, 2, 2], [7, 8, 8, 8]] = .ok [0, 1, 2, 4] ∧
    getSpansFor2FieldsBySpans (getSpansForField neq [1, 1, 2, 2]) (getSpansForField neq [7, 8, 8, 8]) = .ok [0, 1, 2, 4] :=
  ⟨rfl, rfl, rfl⟩

/-- a valid indexed column as `Column` -/
example : (Column.indexed [0, 1, 3] [97, 97, 32]).Valid := by
  refine ⟨by decide, ?_⟩
  intro x hx; simp at hx; rcases hx with rfl | rfl | rfl <;> decide

end Exetera.Props.C08
