import Exetera.Lemmas.JoinFlatSession
import Exetera.Lemmas.JoinFlatDec
import Exetera.Lemmas.C19Session
import Exetera.Lemmas.C19Pandas
import Exetera.Lemmas.C19Join
/-!
# C19 — Session-level merge and join helpers agree with relational join semantics

The theorems are about the executable models `Exetera.JoinFlat.*` (flat kernels) and `Exetera.JoinOld.*` (legacy streamed
drivers and the `Session` dispatch) that `Driver/C19.lean` runs against the real code, and about `Spec.leftJoin` /
`Spec.innerJoin` / `Spec.mapSpec`. `Sorted` is `List.Pairwise (· ≤ ·)`; a side asserted unique is strictly sorted
(`List.Pairwise (· < ·)`). An `.ok` result means: no out-of-bounds access in any kernel, every loop ended within its fuel.
The models carry the repairs D17, NC19a, NC19b, NC19c (fixes/*.patch); NC19d (indexed-string payloads are rejected by
`ordered_merge_*`) is open and modelled as found (`Witness/C19.lean`).
-/
namespace Exetera.Props.C19
open Exetera Exetera.Spec Exetera.Join Exetera.JoinFlat Exetera.JoinOld

/-! ## the flat kernels are projections of the relational join -/

/-- `generate_ordered_map_to_left_right_unique`: sorted keys, duplicate-free right column ⇒ `result` is the right column
    of the relational left join (row `r`: the matching right row, else the marker). -/
theorem left_right_unique_flat_eq {L R : List Int} (result : List Int) (inv : Int) (hL : Sorted L)
    (hR : R.Pairwise (· < ·)) (hres : result.length = L.length) :
    ∃ u, generateLeft false L R result inv = .ok (u, encR inv (leftJoin L R)) :=
  generateLeft_eq false result inv hL hR (by simp) hres

/-- `generate_ordered_map_to_left_both_unique`: both columns duplicate-free. -/
theorem left_both_unique_flat_eq {L R : List Int} (result : List Int) (inv : Int) (hL : L.Pairwise (· < ·))
    (hR : R.Pairwise (· < ·)) (hres : result.length = L.length) :
    ∃ u, generateLeft true L R result inv = .ok (u, encR inv (leftJoin L R)) :=
  generateLeft_eq true result inv (Strict.sorted hL) hR (fun _ => hL) hres

/-- `ordered_inner_map`: the two arrays list exactly the matching pairs in (left, right) order (arrays at least as long
    as the join; the rest of the arrays is left untouched). -/
theorem inner_map_flat_eq {L R : List Int} (l2i r2i : List Int) (hL : Sorted L) (hR : Sorted R)
    (hl : (innerJoin L R).length ≤ l2i.length) (hr : (innerJoin L R).length ≤ r2i.length) :
    orderedInnerMap true true L R l2i r2i =
      .ok ((encodeInner (innerJoin L R)).1 ++ l2i.drop (innerJoin L R).length,
           (encodeInner (innerJoin L R)).2 ++ r2i.drop (innerJoin L R).length) :=
  orderedInnerMap_eq true true l2i r2i hL hR (by simp) (by simp) hl hr

/-- `ordered_inner_map_left_unique`: duplicate-free left column. -/
theorem inner_map_left_unique_flat_eq {L R : List Int} (l2i r2i : List Int) (hL : L.Pairwise (· < ·)) (hR : Sorted R)
    (hl : (innerJoin L R).length ≤ l2i.length) (hr : (innerJoin L R).length ≤ r2i.length) :
    orderedInnerMap false true L R l2i r2i =
      .ok ((encodeInner (innerJoin L R)).1 ++ l2i.drop (innerJoin L R).length,
           (encodeInner (innerJoin L R)).2 ++ r2i.drop (innerJoin L R).length) :=
  orderedInnerMap_eq false true l2i r2i (Strict.sorted hL) hR (fun _ => hL) (by simp) hl hr

/-- `ordered_inner_map_both_unique` -/
theorem inner_map_both_unique_flat_eq {L R : List Int} (l2i r2i : List Int) (hL : L.Pairwise (· < ·))
    (hR : R.Pairwise (· < ·)) (hl : (innerJoin L R).length ≤ l2i.length) (hr : (innerJoin L R).length ≤ r2i.length) :
    orderedInnerMap false false L R l2i r2i =
      .ok ((encodeInner (innerJoin L R)).1 ++ l2i.drop (innerJoin L R).length,
           (encodeInner (innerJoin L R)).2 ++ r2i.drop (innerJoin L R).length) :=
  orderedInnerMap_eq false false l2i r2i (Strict.sorted hL) (Strict.sorted hR) (fun _ => hL) (fun _ => hR) hl hr

/-- `ordered_inner_map_result_size` is the number of matching pairs. -/
theorem inner_result_size_eq {L R : List Int} (hL : Sorted L) (hR : Sorted R) :
    innerResultSize L R = .ok (innerJoin L R).length :=
  innerResultSize_eq hL hR

-- non-vacuity: duplicate runs on the left, unmatched keys on both sides
example : Sorted [1, 2, 2, 3, 5, 5, 6, 9] ∧ ([2, 3, 4, 5, 9] : List Int).Pairwise (· < ·) :=
  ⟨by unfold Sorted; decide +kernel, by decide +kernel⟩
example : generateLeft false [1, 2, 2, 3, 5, 5, 6, 9] [2, 3, 4, 5, 9] (List.replicate 8 0) (-1) =
    .ok (true, encR (-1) (leftJoin [1, 2, 2, 3, 5, 5, 6, 9] [2, 3, 4, 5, 9])) := by decide +kernel
example : orderedInnerMap true true [1, 1, 2, 4, 4, 5] [1, 2, 2, 4, 6] (List.replicate 6 0) (List.replicate 6 0) =
    .ok (encodeInner (innerJoin [1, 1, 2, 4, 4, 5] [1, 2, 2, 4, 6])) := by decide +kernel
example : innerResultSize [1, 1, 2, 4, 4, 5] [1, 2, 2, 4, 6] = .ok 6 := by decide +kernel

/-! ## `Session.ordered_merge_left` / `ordered_merge_right` -/

/-- **ordered_merge_left is the relational left join of the payloads, and the forms agree.** For sorted keys, a
    duplicate-free right column (`right_unique=True`; `left_unique` only if the left column is duplicate-free too) and
    numeric payload columns of the right table there is ONE list of columns `cols` — column `k` is payload `k` mapped
    through the relational left join: row `r` is the payload at the unique right row whose key equals left key `r`, the
    empty value `0` if there is none (`Spec.mapSpec` over the right column of `Spec.leftJoin`) — such that every form of
    the call that is not the streamed one (ndarray or Field arguments; no sinks or Field sinks; any chunk size) succeeds
    and returns / writes exactly `cols`.

    `_partial`: `ordered_merge_left_correct` / `forms_agree` below also cover (a) the streamed form
    (`streamable c = true`: all arguments Fields and a map field given) for every chunk size `cs ≥ 1` and (b) ndarray
    sinks. Excluded everywhere: (c) indexed-string payloads — false as found (open finding NC19d,
    `Witness.C19.nc19d_indexed_payload_rejected`). -/
theorem ordered_merge_left_correct_partial (lu : Bool) {L R : List Int} (xss : List (List Int))
    (hL : Sorted L) (hR : R.Pairwise (· < ·)) (hlu : lu = true → L.Pairwise (· < ·))
    (hne : xss ≠ []) (hlen : ∀ xs ∈ xss, xs.length = R.length) :
    ∃ cols, MappedCols (encR INVALID_INDEX (leftJoin L R)) INVALID_INDEX xss cols ∧
      ∀ (cs : Nat) (c : Cfg), streamable c = false →
        (c.sinks = .none → orderedMergeLeft cs c lu true L R (xss.map .numeric) = .ok ⟨some cols, [], none⟩) ∧
        (c.sinks = .fields → orderedMergeLeft cs c lu true L R (xss.map .numeric) = .ok ⟨none, cols, none⟩) := by
  obtain ⟨cols, h1, h2⟩ := orderedMergeLeft_all lu xss hL hR hlu hne hlen
  exact ⟨cols, h1, fun cs c hst => ⟨(h2 cs c).1, fun hs => (h2 cs c).2.1 hs hst⟩⟩

/-- `ordered_merge_right` is `ordered_merge_left` with the sides (and the flags) swapped: the result has one row per
    right row, the payloads come from the left table, whose key column must be the duplicate-free one.
    (`_partial` for the same reasons as `ordered_merge_left_correct_partial`.) -/
theorem ordered_merge_right_correct_partial (ru : Bool) {L R : List Int} (xss : List (List Int))
    (hL : L.Pairwise (· < ·)) (hR : Sorted R) (hru : ru = true → R.Pairwise (· < ·))
    (hne : xss ≠ []) (hlen : ∀ xs ∈ xss, xs.length = L.length) :
    ∃ cols, MappedCols (encR INVALID_INDEX (leftJoin R L)) INVALID_INDEX xss cols ∧
      ∀ (cs : Nat) (c : Cfg), streamable c = false →
        (c.sinks = .none → orderedMergeRight cs c true ru L R (xss.map .numeric) = .ok ⟨some cols, [], none⟩) ∧
        (c.sinks = .fields → orderedMergeRight cs c true ru L R (xss.map .numeric) = .ok ⟨none, cols, none⟩) :=
  ordered_merge_left_correct_partial ru xss hR hL hru hne hlen

/-- **forms agree** (array, field and field-sink forms, any chunk size): two calls that differ only in the form of
    their arguments return / write the same values. (`_partial`: see `ordered_merge_left_correct_partial`, items (a), (b).) -/
theorem forms_agree_partial (cs₁ cs₂ : Nat) (c₁ c₂ : Cfg) (lu : Bool) {L R : List Int} (xss : List (List Int))
    (h₁ : streamable c₁ = false) (h₂ : streamable c₂ = false)
    (hs₁ : c₁.sinks = .none ∨ c₁.sinks = .fields) (hs₂ : c₂.sinks = .none ∨ c₂.sinks = .fields)
    (hL : Sorted L) (hR : R.Pairwise (· < ·)) (hlu : lu = true → L.Pairwise (· < ·))
    (hne : xss ≠ []) (hlen : ∀ xs ∈ xss, xs.length = R.length) :
    ∃ o₁ o₂, orderedMergeLeft cs₁ c₁ lu true L R (xss.map .numeric) = .ok o₁ ∧
      orderedMergeLeft cs₂ c₂ lu true L R (xss.map .numeric) = .ok o₂ ∧
      o₁.returned.getD o₁.sinks = o₂.returned.getD o₂.sinks := by
  have form : ∀ {c : Cfg} (cs : Nat), streamable c = false → c.sinks = .none ∨ c.sinks = .fields →
      FormOK cs c L.length xss.length R.length :=
    fun _ h hs => ⟨hs.elim Or.inl (Or.inr ∘ Or.inl), fun h' => by rw [h] at h'; cases h'⟩
  obtain ⟨cols, _, h⟩ := orderedMergeLeft_any lu xss hL hR hlu hne hlen
  obtain ⟨o₁, a1, b1, _⟩ := h cs₁ c₁ (form cs₁ h₁ hs₁)
  obtain ⟨o₂, a2, b2, _⟩ := h cs₂ c₂ (form cs₂ h₂ hs₂)
  exact ⟨o₁, o₂, a1, a2, b1.trans b2.symm⟩

-- non-vacuity: array form and field-sink form on the D17 witness columns, two payloads
example : orderedMergeLeft (1 <<< 20) ⟨false, false, .none, false⟩ false true [1, 2, 2, 3, 5, 5, 6, 9] [2, 3, 4, 5, 9]
    [.numeric [11, 14, 17, 20, 23]] = .ok ⟨some [[0, 11, 11, 14, 20, 20, 0, 23]], [], none⟩ := by decide +kernel
example : orderedMergeLeft 2 ⟨true, true, .fields, false⟩ false true [1, 2, 2, 3, 5, 5, 6, 9] [2, 3, 4, 5, 9]
    [.numeric [11, 14, 17, 20, 23]] = .ok ⟨none, [[0, 11, 11, 14, 20, 20, 0, 23]], none⟩ := by decide +kernel
-- the streamed form (not covered by the `_partial` theorems) on the same input, chunk size 2: same values
example : orderedMergeLeft 2 ⟨true, true, .fields, true⟩ false true [1, 2, 2, 3, 5, 5, 6, 9] [2, 3, 4, 5, 9]
    [.numeric [11, 14, 17, 20, 23]] =
    .ok ⟨none, [[0, 11, 11, 14, 20, 20, 0, 23]], some (encR INVALID_INDEX (leftJoin [1, 2, 2, 3, 5, 5, 6, 9] [2, 3, 4, 5, 9]))⟩ := by
  decide +kernel

/-! ### every form: array, Field, Field sinks, ndarray sinks, streamed with every chunk size -/

/-- **ordered_merge_left is the relational left join of the payloads — every form of the call.** For sorted keys, a
    duplicate-free right column (`right_unique=True`; `left_unique` only if the left column is duplicate-free too) and
    numeric payload columns of the right table there is ONE list of columns `cols` — column `k` is payload `k` mapped
    through the relational left join: row `r` is the payload at the unique right row whose key equals left key `r`, the
    empty value `0` if there is none (`Spec.mapSpec` over the right column of `Spec.leftJoin`) — such that, whatever the
    chunk size `cs` and whether keys / sources are ndarrays or Fields,
    * without sinks the call returns `cols`;
    * with Field sinks and no map field (not streamed) it writes `cols`;
    * with zero-initialised ndarray sinks (`np.zeros(len(left_on))`, one per payload) it writes `cols`;
    * the STREAMED form (all arguments Fields, Field sinks, a map field), for every chunk size `cs ≥ 1` of the legacy
      drivers `generate_ordered_map_to_left_right_unique_streamed_old` / `ordered_map_valid_stream_old`, writes `cols` and
      leaves the relational join map in the map field. The streamed form needs `len(right) ≤ INVALID_INDEX = 2^62` (the
      marker must not be a row number of the source; `ordered_map_valid_stream_old` does not test the entry that makes it
      fetch the next source chunk against the marker).
    `.ok` means: no out-of-bounds access, no `'i' has got ahead` / `StopIteration`, every loop ends within its fuel.
    Not covered: indexed-string payloads (open finding NC19d). -/
theorem ordered_merge_left_correct (lu : Bool) {L R : List Int} (xss : List (List Int))
    (hL : Sorted L) (hR : R.Pairwise (· < ·)) (hlu : lu = true → L.Pairwise (· < ·))
    (hne : xss ≠ []) (hlen : ∀ xs ∈ xss, xs.length = R.length) :
    ∃ cols, MappedCols (encR INVALID_INDEX (leftJoin L R)) INVALID_INDEX xss cols ∧
      ∀ (cs : Nat) (c : Cfg),
        (c.sinks = .none → orderedMergeLeft cs c lu true L R (xss.map .numeric) = .ok ⟨some cols, [], none⟩) ∧
        (c.sinks = .fields → streamable c = false →
          orderedMergeLeft cs c lu true L R (xss.map .numeric) = .ok ⟨none, cols, none⟩) ∧
        (c.sinks = zeroArrays L.length xss.length →
          orderedMergeLeft cs c lu true L R (xss.map .numeric) = .ok ⟨none, cols, none⟩) ∧
        (streamable c = true → 1 ≤ cs → (R.length : Int) ≤ INVALID_INDEX →
          orderedMergeLeft cs c lu true L R (xss.map .numeric) =
            .ok ⟨none, cols, some (encR INVALID_INDEX (leftJoin L R))⟩) :=
  orderedMergeLeft_all lu xss hL hR hlu hne hlen

/-- `ordered_merge_right`, every form: `ordered_merge_left` with the sides (and the flags) swapped — one row per right
    row, payloads from the left table, whose key column must be the duplicate-free one. -/
theorem ordered_merge_right_correct (ru : Bool) {L R : List Int} (xss : List (List Int))
    (hL : L.Pairwise (· < ·)) (hR : Sorted R) (hru : ru = true → R.Pairwise (· < ·))
    (hne : xss ≠ []) (hlen : ∀ xs ∈ xss, xs.length = L.length) :
    ∃ cols, MappedCols (encR INVALID_INDEX (leftJoin R L)) INVALID_INDEX xss cols ∧
      ∀ (cs : Nat) (c : Cfg),
        (c.sinks = .none → orderedMergeRight cs c true ru L R (xss.map .numeric) = .ok ⟨some cols, [], none⟩) ∧
        (c.sinks = .fields → streamable c = false →
          orderedMergeRight cs c true ru L R (xss.map .numeric) = .ok ⟨none, cols, none⟩) ∧
        (c.sinks = zeroArrays R.length xss.length →
          orderedMergeRight cs c true ru L R (xss.map .numeric) = .ok ⟨none, cols, none⟩) ∧
        (streamable c = true → 1 ≤ cs → (L.length : Int) ≤ INVALID_INDEX →
          orderedMergeRight cs c true ru L R (xss.map .numeric) =
            .ok ⟨none, cols, some (encR INVALID_INDEX (leftJoin R L))⟩) :=
  orderedMergeLeft_all ru xss hR hL hru hne hlen

/-- **the array, Field and streamed forms of the same call return the same values.** Two `ordered_merge_left` calls on the
    same keys and payloads that differ in the form of their arguments (ndarray / Field keys and sources; no sinks, Field
    sinks or zero-initialised ndarray sinks; with or without the map field, i.e. streamed or not) and in the chunk size of
    the streamed helpers (any `cs ≥ 1`) both succeed and return / write the same columns (`FormOK`: the forms listed in
    `ordered_merge_left_correct`). -/
theorem forms_agree (cs₁ cs₂ : Nat) (c₁ c₂ : Cfg) (lu : Bool) {L R : List Int} (xss : List (List Int))
    (h₁ : FormOK cs₁ c₁ L.length xss.length R.length) (h₂ : FormOK cs₂ c₂ L.length xss.length R.length)
    (hL : Sorted L) (hR : R.Pairwise (· < ·)) (hlu : lu = true → L.Pairwise (· < ·))
    (hne : xss ≠ []) (hlen : ∀ xs ∈ xss, xs.length = R.length) :
    ∃ o₁ o₂, orderedMergeLeft cs₁ c₁ lu true L R (xss.map .numeric) = .ok o₁ ∧
      orderedMergeLeft cs₂ c₂ lu true L R (xss.map .numeric) = .ok o₂ ∧
      o₁.returned.getD o₁.sinks = o₂.returned.getD o₂.sinks := by
  obtain ⟨cols, _, h⟩ := orderedMergeLeft_any lu xss hL hR hlu hne hlen
  obtain ⟨o₁, a1, b1, _⟩ := h cs₁ c₁ h₁
  obtain ⟨o₂, a2, b2, _⟩ := h cs₂ c₂ h₂
  exact ⟨o₁, o₂, a1, a2, b1.trans b2.symm⟩

/-- the same for `ordered_merge_right` -/
theorem forms_agree_right (cs₁ cs₂ : Nat) (c₁ c₂ : Cfg) (ru : Bool) {L R : List Int} (xss : List (List Int))
    (h₁ : FormOK cs₁ c₁ R.length xss.length L.length) (h₂ : FormOK cs₂ c₂ R.length xss.length L.length)
    (hL : L.Pairwise (· < ·)) (hR : Sorted R) (hru : ru = true → R.Pairwise (· < ·))
    (hne : xss ≠ []) (hlen : ∀ xs ∈ xss, xs.length = L.length) :
    ∃ o₁ o₂, orderedMergeRight cs₁ c₁ true ru L R (xss.map .numeric) = .ok o₁ ∧
      orderedMergeRight cs₂ c₂ true ru L R (xss.map .numeric) = .ok o₂ ∧
      o₁.returned.getD o₁.sinks = o₂.returned.getD o₂.sinks :=
  forms_agree cs₁ cs₂ c₁ c₂ ru xss h₁ h₂ hR hL hru hne hlen

/-- the two refinements the streamed form rests on, as statements about the legacy drivers themselves: for every chunk
    size ≥ 1 the streamed left map is the flat kernel's map … -/
theorem streamed_old_left_map_eq_flat {L R : List Int} (inv : Int) {cs : Nat} (hcs : 1 ≤ cs) (hL : Sorted L)
    (hR : R.Pairwise (· < ·)) :
    ∃ u u', streamedOld L R inv cs = .ok (u, encR inv (leftJoin L R)) ∧
      generateLeft false L R (List.replicate L.length 0) inv = .ok (u', encR inv (leftJoin L R)) := by
  obtain ⟨u, h⟩ := streamedOld_eq inv hcs hL hR
  obtain ⟨u', h'⟩ := generateLeft_eq false (List.replicate L.length 0) inv hL hR (by simp) (by simp)
  exact ⟨u, u', h, h'⟩

/-- … and the streamed mapper is `map_valid` (= `Spec.mapSpec`) on every in-range map whose valid entries do not
    decrease, the marker not being a row number of the source. -/
theorem streamed_old_map_valid_eq_flat (xs : List Int) (m : List Int) (inv : Int) {cs : Nat} (hcs : 1 ≤ cs)
    (hr : InRange xs.length m inv) (hmono : ValidMonotone m inv) (hinv : inv < 0 ∨ (xs.length : Int) ≤ inv) :
    mapValidStreamOld xs m inv cs 0 = MapValid.mapValid xs m none inv 0 ∧
      ∃ out, mapValidStreamOld xs m inv cs 0 = .ok out ∧ mapSpec xs inv 0 m = some out :=
  ⟨mapValidStreamOld_eq_mapValid xs m inv 0 hcs hr hmono hinv, mapValidStreamOld_eq xs m inv 0 hcs hr hmono hinv⟩

-- non-vacuity of `FormOK`: the streamed form with chunk size 2 and zero-initialised ndarray sinks are covered forms
example : FormOK 2 ⟨true, true, .fields, true⟩ 8 1 5 ∧ streamable ⟨true, true, .fields, true⟩ = true := by
  refine ⟨⟨Or.inr (Or.inl rfl), fun _ => ⟨by decide, by decide⟩⟩, rfl⟩
example : FormOK (1 <<< 20) ⟨false, false, zeroArrays 8 1, false⟩ 8 1 5 :=
  ⟨Or.inr (Or.inr rfl), fun h => by cases h⟩
example : orderedMergeLeft (1 <<< 20) ⟨false, false, zeroArrays 8 1, false⟩ false true [1, 2, 2, 3, 5, 5, 6, 9] [2, 3, 4, 5, 9]
    [.numeric [11, 14, 17, 20, 23]] = .ok ⟨none, [[0, 11, 11, 14, 20, 20, 0, 23]], none⟩ := by decide +kernel
example : streamedOld [1, 2, 2, 3, 5, 5, 6, 9] [2, 3, 4, 5, 9] (-1) 1 =
    .ok (true, encR (-1) (leftJoin [1, 2, 2, 3, 5, 5, 6, 9] [2, 3, 4, 5, 9])) := by decide +kernel
example : encR (-1) (leftJoin [1, 2, 2, 3, 5, 5, 6, 9] [2, 3, 4, 5, 9]) = [-1, 0, 0, 1, 3, 3, -1, 4] := by decide +kernel
example : InRange 5 (encR (-1) (leftJoin [1, 2, 2, 3, 5, 5, 6, 9] [2, 3, 4, 5, 9])) (-1) ∧
    ValidMonotone (encR (-1) (leftJoin [1, 2, 2, 3, 5, 5, 6, 9] [2, 3, 4, 5, 9])) (-1) :=
  ⟨inRange_encR _ _ _, validMonotone_encR_leftJoin _ (by unfold Sorted; decide +kernel) (by decide +kernel)⟩
example : mapValidStreamOld [11, 14, 17, 20, 23] [-1, 0, 0, 1, 3, 3, -1, 4] (-1) 2 0 = .ok [0, 11, 11, 14, 20, 20, 0, 23] := by
  decide +kernel

/-! ## `Session.ordered_merge_inner` -/

/-- **inner results list exactly the matching pairs**: for sorted keys and every truthful combination of the
    uniqueness flags the two maps `ordered_merge_inner` computes are the left and the right column of `Spec.innerJoin` —
    also for `left_unique=False, right_unique=True`, where the code runs `ordered_inner_map_left_unique` with the two
    sides swapped and reads the result back swapped. -/
theorem inner_lists_exactly_pairs (lu ru : Bool) {L R : List Int} (hL : Sorted L) (hR : Sorted R)
    (hlu : lu = true → L.Pairwise (· < ·)) (hru : ru = true → R.Pairwise (· < ·)) :
    innerMaps lu ru L R = .ok (encodeInner (innerJoin L R)) :=
  innerMaps_eq lu ru hL hR hlu hru

/-- … so the payload columns `ordered_merge_inner` returns (no sinks) or writes (Field sinks) are, for every numeric
    payload, exactly the payload values of the matching pairs in (left, right) order. -/
theorem inner_payloads (lu ru : Bool) {L R : List Int} (lxs rxs : List (List Int)) (hL : Sorted L) (hR : Sorted R)
    (hlu : lu = true → L.Pairwise (· < ·)) (hru : ru = true → R.Pairwise (· < ·))
    (hl : ∀ xs ∈ lxs, xs.length = L.length) (hr : ∀ xs ∈ rxs, xs.length = R.length) (hln : lxs ≠ []) (hrn : rxs ≠ []) :
    ∃ lcols rcols,
      MappedCols (encodeInner (innerJoin L R)).1 INVALID_INDEX lxs lcols ∧
      MappedCols (encodeInner (innerJoin L R)).2 INVALID_INDEX rxs rcols ∧
      orderedMergeInner lu ru L R (lxs.map .numeric) .none (rxs.map .numeric) .none =
        .ok ⟨⟨some lcols, [], none⟩, ⟨some rcols, [], none⟩⟩ ∧
      orderedMergeInner lu ru L R (lxs.map .numeric) .fields (rxs.map .numeric) .fields =
        .ok ⟨⟨none, lcols, none⟩, ⟨none, rcols, none⟩⟩ := by
  obtain ⟨lcols, rcols, h1, h2, h3, h4, _⟩ := orderedMergeInner_all lu ru lxs rxs hL hR hlu hru hl hr hln hrn
  exact ⟨lcols, rcols, h1, h2, h3, h4⟩

/-- `ordered_merge_inner`, every form of the sinks: the same columns are returned (no sinks), written to Field sinks, or
    written to zero-initialised ndarray sinks of the join's length (`np.zeros(ordered_inner_map_result_size(...))`). -/
theorem inner_payloads_all_forms (lu ru : Bool) {L R : List Int} (lxs rxs : List (List Int)) (hL : Sorted L) (hR : Sorted R)
    (hlu : lu = true → L.Pairwise (· < ·)) (hru : ru = true → R.Pairwise (· < ·))
    (hl : ∀ xs ∈ lxs, xs.length = L.length) (hr : ∀ xs ∈ rxs, xs.length = R.length) (hln : lxs ≠ []) (hrn : rxs ≠ []) :
    ∃ lcols rcols,
      MappedCols (encodeInner (innerJoin L R)).1 INVALID_INDEX lxs lcols ∧
      MappedCols (encodeInner (innerJoin L R)).2 INVALID_INDEX rxs rcols ∧
      orderedMergeInner lu ru L R (lxs.map .numeric) .none (rxs.map .numeric) .none =
        .ok ⟨⟨some lcols, [], none⟩, ⟨some rcols, [], none⟩⟩ ∧
      orderedMergeInner lu ru L R (lxs.map .numeric) .fields (rxs.map .numeric) .fields =
        .ok ⟨⟨none, lcols, none⟩, ⟨none, rcols, none⟩⟩ ∧
      orderedMergeInner lu ru L R (lxs.map .numeric) (zeroArrays (innerJoin L R).length lxs.length)
          (rxs.map .numeric) (zeroArrays (innerJoin L R).length rxs.length) =
        .ok ⟨⟨none, lcols, none⟩, ⟨none, rcols, none⟩⟩ :=
  orderedMergeInner_all lu ru lxs rxs hL hR hlu hru hl hr hln hrn

example : orderedMergeInner false false [1, 1, 2, 4, 4, 5] [1, 2, 2, 4, 6] [.numeric [11, 14, 17, 20, 23, 26]] (zeroArrays 6 1)
    [.numeric [7, 10, 13, 16, 19]] (zeroArrays 6 1) =
    .ok ⟨⟨none, [[11, 14, 17, 17, 20, 23]], none⟩, ⟨none, [[7, 7, 10, 13, 16, 16]], none⟩⟩ := by decide +kernel

example : innerMaps false false [1, 1, 2, 4, 4, 5] [1, 2, 2, 4, 6] = .ok (encodeInner (innerJoin [1, 1, 2, 4, 4, 5] [1, 2, 2, 4, 6])) := by
  decide +kernel
-- the swapped combination on a concrete input (duplicates on the left, right duplicate-free)
example : innerMaps false true [1, 1, 2, 4, 4, 5] [1, 2, 4, 6] = .ok (encodeInner (innerJoin [1, 1, 2, 4, 4, 5] [1, 2, 4, 6])) := by
  decide +kernel

/-! ## `Session.merge_left` / `merge_right` / `merge_inner` (the join itself is `pandas.merge`, a parameter) -/

/-- **merge_left maps the payloads through the rows pandas returned.** Whatever row pairs `pandas.merge(how='left')`
    returns for the two key columns (any order of keys, duplicates allowed; right rows in range), every payload column of
    the right table — numeric or indexed string — comes back as `Spec.mapSpec` / `Spec.mapIndexedSpec` through the right
    column of exactly those rows: row `r` is the payload at the partner row, the empty value (0 / empty string) where the
    left row has no partner. The same values are returned or written to the writers. -/
theorem merge_left_maps_pandas_rows (pd : List Int → List Int → List (Nat × Option Nat)) (L R : List Int)
    (ps : List Payload) (hrows : ∀ p ∈ pd L R, ∀ j, p.2 = some j → j < R.length)
    (hps : ∀ p ∈ ps, PayloadOK R.length p) :
    ∃ outs, mergeLeft pd L R ps = .ok outs ∧ MappedPayloads (encR NAN_AS_INT (pd L R)) NAN_AS_INT ps outs :=
  mergeLeft_rows pd L R ps hrows hps

/-- … so under the recorded assumption that `pandas.merge(how='left')` returns the relational left join, `merge_left`
    returns the payload values of `Spec.leftJoin` (keys in ANY order, duplicates on either side). -/
theorem merge_left_relational (pd : List Int → List Int → List (Nat × Option Nat)) (L R : List Int)
    (ps : List Payload) (hpd : pd L R = leftJoin L R) (hps : ∀ p ∈ ps, PayloadOK R.length p) :
    ∃ outs, mergeLeft pd L R ps = .ok outs ∧ MappedPayloads (encR NAN_AS_INT (leftJoin L R)) NAN_AS_INT ps outs := by
  have := mergeLeft_rows pd L R ps (by
    intro p hp j hj
    rw [hpd] at hp
    exact (leftJoinFrom_bounds R L 0 p hp).2.2 j hj) hps
  rwa [hpd] at this

/-- `merge_right` is `merge_left` with the tables swapped (`pandas.merge(left=r_df, right=l_df, how='left')`). -/
theorem merge_right_relational (pd : List Int → List Int → List (Nat × Option Nat)) (L R : List Int)
    (ps : List Payload) (hpd : pd R L = leftJoin R L) (hps : ∀ p ∈ ps, PayloadOK L.length p) :
    ∃ outs, mergeRight pd L R ps = .ok outs ∧ MappedPayloads (encR NAN_AS_INT (leftJoin R L)) NAN_AS_INT ps outs :=
  merge_left_relational pd R L ps hpd hps

/-- **merge_inner maps both tables' payloads through the pairs pandas returned**; under the recorded assumption that
    `pandas.merge(how='inner')` returns the matching pairs of `Spec.innerJoin` in some order (pandas does not keep the
    order of duplicate right rows: a permutation) the two results list, row by row, the payloads of the left and of the
    right member of each pair (`-1` never occurs in the maps, so no row is a marker). -/
theorem merge_inner_maps_pandas_rows (pdi : List Int → List Int → List (Nat × Nat)) (L R : List Int)
    (lps rps : List Payload) (hpd : (pdi L R).Perm (innerJoin L R))
    (hl : ∀ p ∈ lps, PayloadOK L.length p) (hr : ∀ p ∈ rps, PayloadOK R.length p) :
    ∃ louts routs, mergeInner pdi L R lps rps = .ok (louts, routs) ∧
      MappedPayloads ((pdi L R).map (fun p => (p.1 : Int))) (-1) lps louts ∧
      MappedPayloads ((pdi L R).map (fun p => (p.2 : Int))) (-1) rps routs :=
  mergeInner_rows pdi L R lps rps (by
    intro p hp
    have := innerJoinFrom_bound R L 0 p (hpd.mem_iff.mp hp)
    omega) hl hr

-- non-vacuity: unsorted keys with duplicates, a numeric and an indexed-string payload ("a", "", "cc")
example : PayloadOK 3 (.numeric [11, 14, 17]) ∧ PayloadOK 3 (.indexed [0, 1, 1, 3] [97, 99, 99]) := by
  refine ⟨rfl, ⟨by decide, by decide, by decide⟩, by decide⟩
example : mergeLeft (fun l r => leftJoin l r) [5, 3, 5, 8] [3, 5, 3] [.numeric [11, 14, 17], .indexed [0, 1, 1, 3] [97, 99, 99]] =
    .ok [.numeric [14, 11, 17, 14, 0], .indexed [0, 0, 1, 3, 3, 3] [97, 99, 99]] := by decide +kernel

/-! ## `Session.get_index` -/

/-- **get_index**: for a duplicate-free target (primary key) column of at most `INVALID_INDEX` rows, entry `r` of the
    result is the target row whose key equals foreign key `r`; a foreign key without target row gets a marker
    `≥ INVALID_INDEX` (never a valid row number). -/
theorem get_index_correct (target fk : List Int) (hnd : target.Nodup) (hlen : (target.length : Int) ≤ INVALID_INDEX) :
    (getIndex target fk).length = fk.length ∧
    ∀ (r : Nat) (k : Int), fk[r]? = some k →
      (∀ t : Nat, target[t]? = some k → (getIndex target fk)[r]? = some (t : Int)) ∧
      (k ∉ target → ∃ v, (getIndex target fk)[r]? = some v ∧ INVALID_INDEX ≤ v) :=
  getIndex_rows target fk hnd hlen

example : ([5, 3, 9] : List Int).Nodup := by decide +kernel
example : getIndex [5, 3, 9] [3, 3, 7, 9, 7, 5, 8] =
    [1, 1, INVALID_INDEX, 2, INVALID_INDEX, 0, INVALID_INDEX + 2] := by decide +kernel

/-! ## `Session.join` -/

/-- **join**: `values_to_join` carries one value per run of `fkey_indices` (`runKeys`: the key of every run of equal
    adjacent entries). If every key is a row number of the destination (or a marker `≥ INVALID_INDEX`, which is dropped)
    and the rows of each key are contiguous (one run per key), the result — in the space of the destination primary
    key — holds at row `k` the value of the run with key `k` and the empty value `0` at every row no foreign key points
    to. No out-of-bounds access. -/
theorem join_correct (destLen : Nat) (fkey values : List Int) (hlen : (runKeys fkey).length = values.length)
    (hnd : (runKeys fkey).Nodup) (hr : ∀ k ∈ fkey, k < INVALID_INDEX → 0 ≤ k ∧ k < destLen) :
    ∃ out, join destLen fkey values = .ok out ∧ out.length = destLen ∧
      (∀ (r : Nat) (k v : Int), (runKeys fkey)[r]? = some k → values[r]? = some v → k < INVALID_INDEX →
        out[k.toNat]? = some v) ∧
      (∀ d : Nat, d < destLen → (d : Int) ∉ fkey → out[d]? = some 0) :=
  join_spec destLen fkey values hlen hnd hr

example : runKeys [2, 2, 0, 0, 0, INVALID_INDEX, 3] = [2, 0, INVALID_INDEX, 3] ∧
    (runKeys [2, 2, 0, 0, 0, INVALID_INDEX, 3]).Nodup := by decide +kernel
example : join 5 [2, 2, 0, 0, 0, INVALID_INDEX, 3] [7, 8, 9, 10] = .ok [8, 0, 7, 10, 0] := by decide +kernel

end Exetera.Props.C19
