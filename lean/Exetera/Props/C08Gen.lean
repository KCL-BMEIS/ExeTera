import Exetera.Props.C08
import Exetera.Lemmas.JoinFlatDec
import Exetera.Lemmas.GenKernelsSpans
import Exetera.Lemmas.GenKernelsSpansMinMax
import Exetera.Lemmas.GenKernelsSpansIndex
import Exetera.Lemmas.GenKernelsSpansMerge
import Exetera.Lemmas.GenKernelsSpansFilter
import Exetera.Lemmas.GenKernelsSpans2Fields
import Exetera.Lemmas.GenKernelsSpansIndexed
import Exetera.Lemmas.GenKernelsSpansMulti
import Exetera.Lemmas.GenKernelsSpansIdxMaxIndexed
/-!
  C08 over the TRANSLATED kernels.  `Gen/Kernels.lean` is regenerated from exetera/core/operations.py by
  tools/translate_njit.py on every run; the theorems below are therefore re-checked against what the source says NOW.

  * `gen_<kernel>_refines`: the translated kernel and the hand-written model of `Model/Spans.lean` return the same array
    or fail with the same error class, for every span array of naturals and every source column (`GenK.Sim`); a hypothesis
    appears only where the two part: `apply_spans_last` (span end 0: the model's subscript `-1` wraps around, the translation
    rejects it) and the `_indexed` pair (row lengths in `Nat` against signed arithmetic).
  * `gen_<kernel>_eq`: the property statement of Props/C08 for the translated kernel itself — on well-formed spans it
    returns `.ok` (no subscript out of range or negative, every loop finishes) and the per-span reduction of the Spec.
-/
namespace Exetera.Props.C08Gen

open Exetera Exetera.Spans Exetera.Spec Exetera.GenK Exetera.Gen.Kernels

theorem wellformed_tail_pos {sp : List Nat} {n : Nat} (h : Wellformed sp n) : ∀ x ∈ sp.tail, 0 < x := by
  obtain ⟨hp, hh, _⟩ := h
  cases sp with
  | nil => simp
  | cons a t =>
    intro x hx
    have := (List.pairwise_cons.mp hp).1 x (by simpa using hx)
    omega

theorem gen_apply_spans_count_refines (sp : List Nat) :
    Sim (apply_spans_count.run (ints sp) none) (applySpansCount sp) := apply_spans_count_refines sp

/-- count = number of rows of each span, computed by the translated kernel -/
theorem gen_apply_spans_count_eq (sp : List Nat) (src : List Int) (h : Wellformed sp src.length) :
    apply_spans_count.run (ints sp) none = .ok ((pairs sp).map (fun p => ((rowsOf src p).length : Int))) :=
  (apply_spans_count_refines sp).ok_right (C08.apply_spans_count_eq sp src h)

example : apply_spans_count.run [0, 2, 3] none = .ok [2, 1] := by decide +kernel
example : Wellformed [0, 2, 3] [7, 8, 9].length := ⟨by decide, rfl, rfl⟩

theorem gen_apply_spans_first_refines (sp : List Nat) (src : List Int) :
    Sim (apply_spans_first.run (ints sp) src none) (applySpansFirst sp src) := apply_spans_first_refines sp src

/-- first = first row of each span (no out-of-bounds read), computed by the translated kernel -/
theorem gen_apply_spans_first_eq (sp : List Nat) (src : List Int) (h : Wellformed sp src.length) :
    ∃ r, apply_spans_first.run (ints sp) src none = .ok r ∧ r.map some = (pairs sp).map (fun p => (rowsOf src p).head?) := by
  obtain ⟨r, hr, hs⟩ := C08.apply_spans_first_eq sp src h
  exact ⟨r, (apply_spans_first_refines sp src).ok_right hr, hs⟩

example : apply_spans_first.run [0, 2, 3] [7, 8, 9] none = .ok [7, 9] := by decide +kernel

theorem gen_apply_spans_last_refines (sp : List Nat) (src : List Int) (hpos : ∀ x ∈ sp.tail, 0 < x) :
    Sim (apply_spans_last.run (ints sp) src none) (applySpansLast sp src) := apply_spans_last_refines sp src hpos

/-- last = last row of each span, computed by the translated kernel -/
theorem gen_apply_spans_last_eq (sp : List Nat) (src : List Int) (h : Wellformed sp src.length) :
    ∃ r, apply_spans_last.run (ints sp) src none = .ok r ∧ r.map some = (pairs sp).map (fun p => (rowsOf src p).getLast?) := by
  obtain ⟨r, hr, hs⟩ := C08.apply_spans_last_eq sp src h
  exact ⟨r, (apply_spans_last_refines sp src (wellformed_tail_pos h)).ok_right hr, hs⟩

example : apply_spans_last.run [0, 2, 3] [7, 8, 9] none = .ok [8, 9] := by decide +kernel
example : ∀ x ∈ ([0, 2, 3] : List Nat).tail, 0 < x := by decide


theorem gen_apply_spans_min_refines (sp : List Nat) (src : List Int) :
    Sim (apply_spans_min.run (ints sp) src none) (applySpansMin sp src) := apply_spans_min_refines sp src

theorem gen_apply_spans_max_refines (sp : List Nat) (src : List Int) :
    Sim (apply_spans_max.run (ints sp) src none) (applySpansMax sp src) := apply_spans_max_refines sp src

/-- min / max = minimum / maximum over exactly the rows of each span, computed by the translated kernels (both loops
    finish, no subscript out of range) -/
theorem gen_apply_spans_min_eq (sp : List Nat) (src : List Int) (h : Wellformed sp src.length) :
    ∃ r, apply_spans_min.run (ints sp) src none = .ok r ∧ r.map some = (pairs sp).map (fun p => (rowsOf src p).min?) := by
  obtain ⟨r, hr, hs⟩ := C08.apply_spans_min_eq sp src h
  exact ⟨r, (apply_spans_min_refines sp src).ok_right hr, hs⟩

theorem gen_apply_spans_max_eq (sp : List Nat) (src : List Int) (h : Wellformed sp src.length) :
    ∃ r, apply_spans_max.run (ints sp) src none = .ok r ∧ r.map some = (pairs sp).map (fun p => (rowsOf src p).max?) := by
  obtain ⟨r, hr, hs⟩ := C08.apply_spans_max_eq sp src h
  exact ⟨r, (apply_spans_max_refines sp src).ok_right hr, hs⟩

example : apply_spans_min.run [0, 2, 5] [3, 1, 4, 1, 5] none = .ok [1, 1] ∧
    apply_spans_max.run [0, 2, 5] [3, 1, 4, 1, 5] none = .ok [3, 5] := ⟨rfl, rfl⟩
example : Wellformed [0, 2, 5] [3, 1, 4, 1, 5].length := ⟨by decide, rfl, rfl⟩

theorem gen_apply_spans_index_of_first_refines (sp : List Nat) :
    Sim (apply_spans_index_of_first.run (ints sp) none) (applySpansIndexOfFirst sp) := apply_spans_index_of_first_refines sp

theorem gen_apply_spans_index_of_last_refines (sp : List Nat) :
    Sim (apply_spans_index_of_last.run (ints sp) none) (applySpansIndexOfLast sp) := apply_spans_index_of_last_refines sp

theorem gen_apply_spans_index_of_min_refines (sp : List Nat) (src : List Int) :
    Sim (apply_spans_index_of_min.run (ints sp) src none) (applySpansIndexOfMin sp src) :=
  apply_spans_index_of_min_refines sp src

theorem gen_apply_spans_index_of_max_refines (sp : List Nat) (src : List Int) :
    Sim (apply_spans_index_of_max.run (ints sp) src none) (applySpansIndexOfMax sp src) :=
  apply_spans_index_of_max_refines sp src

/-- index_of_first / index_of_last = first / last row number of each span, computed by the translated kernels -/
theorem gen_apply_spans_index_of_first_eq (sp : List Nat) (hne : sp.isEmpty = false) :
    apply_spans_index_of_first.run (ints sp) none = .ok ((pairs sp).map (fun p => (p.1 : Int))) :=
  (apply_spans_index_of_first_refines sp).ok_right (C08.apply_spans_index_of_first_eq sp hne)

theorem gen_apply_spans_index_of_last_eq (sp : List Nat) (hne : sp.isEmpty = false) :
    apply_spans_index_of_last.run (ints sp) none = .ok ((pairs sp).map (fun p => (p.2 : Int) - 1)) :=
  (apply_spans_index_of_last_refines sp).ok_right (C08.apply_spans_index_of_last_eq sp hne)

example : apply_spans_index_of_first.run [0, 2, 3] none = .ok [0, 2] ∧
    apply_spans_index_of_last.run [0, 2, 3] none = .ok [1, 2] := ⟨rfl, rfl⟩

/-- index_of_min / index_of_max = row number of the FIRST minimal / maximal row of each span -/
theorem gen_apply_spans_index_of_min_eq (sp : List Nat) (src : List Int) (h : Wellformed sp src.length) :
    ∃ r, apply_spans_index_of_min.run (ints sp) src none = .ok r ∧
      r.map some = (pairs sp).map (fun p => (argminOf (rowsOf src p)).map (fun k => ((p.1 + k : Nat) : Int))) := by
  obtain ⟨r, hr, hs⟩ := C08.apply_spans_index_of_min_eq sp src h
  exact ⟨r, (apply_spans_index_of_min_refines sp src).ok_right hr, hs⟩

theorem gen_apply_spans_index_of_max_eq (sp : List Nat) (src : List Int) (h : Wellformed sp src.length) :
    ∃ r, apply_spans_index_of_max.run (ints sp) src none = .ok r ∧
      r.map some = (pairs sp).map (fun p => (argmaxOf (rowsOf src p)).map (fun k => ((p.1 + k : Nat) : Int))) := by
  obtain ⟨r, hr, hs⟩ := C08.apply_spans_index_of_max_eq sp src h
  exact ⟨r, (apply_spans_index_of_max_refines sp src).ok_right hr, hs⟩

example : apply_spans_index_of_min.run [0, 2, 5] [3, 1, 4, 1, 1] none = .ok [1, 3] ∧
    apply_spans_index_of_max.run [0, 2, 5] [3, 3, 4, 5, 5] none = .ok [0, 3] := ⟨rfl, rfl⟩


/-- for every fuel ≥ len(span1) the translated merge kernel and the model agree (same array / same error class) -/
theorem gen_get_spans_by_spans_refines (s0 s1 : List Nat) (fuel : Nat) (hf : s1.length ≤ fuel) :
    Sim (_get_spans_for_2_fields_by_spans.run (ints s0) (ints s1) fuel) ((getSpansFor2FieldsBySpans s0 s1).map ints) :=
  get_spans_for_2_fields_by_spans_refines s0 s1 fuel hf

/-- the translated kernel merges the span arrays of two equal-length columns, in bounds and within `len(span1)`
    iterations of its inner loop per call, into the span array of the zipped column -/
theorem gen_get_spans_by_spans_eq_spec {α β} [BEq α] [BEq β] (a : List α) (b : List β) (hl : a.length = b.length)
    (fuel : Nat) (hf : (getSpansForField neq b).length ≤ fuel) :
    _get_spans_for_2_fields_by_spans.run (ints (getSpansForField neq a)) (ints (getSpansForField neq b)) fuel
      = .ok (ints (spans neq (a.zip b))) := by
  have h := get_spans_for_2_fields_by_spans_refines (getSpansForField neq a) (getSpansForField neq b) fuel hf
  rw [C08.get_spans_by_spans_eq_spec a b hl] at h
  exact h.ok_right rfl

/-- any two well-formed span arrays over the same row count: the translated kernel returns their sorted union -/
theorem gen_merge_spans_eq_union (s0 s1 : List Nat) (n : Nat) (h0 : Wellformed s0 n) (h1 : Wellformed s1 n)
    (fuel : Nat) (hf : s1.length ≤ fuel) :
    ∃ m, _get_spans_for_2_fields_by_spans.run (ints s0) (ints s1) fuel = .ok (ints m) ∧ Wellformed m n ∧
      ∀ z, z ∈ m ↔ z ∈ s0 ∨ z ∈ s1 := by
  obtain ⟨m, hm, hw, hmem⟩ := C08.merge_spans_eq_union s0 s1 n h0 h1
  have h := get_spans_for_2_fields_by_spans_refines s0 s1 fuel hf
  rw [hm] at h
  exact ⟨m, h.ok_right rfl, hw, hmem⟩

example : _get_spans_for_2_fields_by_spans.run [0, 2, 5] [0, 1, 2, 4, 5] 5 = .ok [0, 1, 2, 4, 5] := by decide +kernel
example : Wellformed [0, 2, 5] 5 ∧ Wellformed [0, 1, 2, 4, 5] 5 := ⟨⟨by decide, rfl, rfl⟩, ⟨by decide, rfl, rfl⟩⟩

/-! ## the `_filter` forms (caller-supplied `dest_array` / `filter_array`, really subscripted) -/

theorem gen_apply_spans_index_of_first_filter_refines (sp : List Nat) (dest : List Int) (filt : List Bool) :
    Sim (apply_spans_index_of_first_filter.run (ints sp) dest filt) (applySpansIndexOfFirstFilter sp dest filt) :=
  apply_spans_index_of_first_filter_refines sp dest filt

theorem gen_apply_spans_index_of_last_filter_refines (sp : List Nat) (dest : List Int) (filt : List Bool) :
    Sim (apply_spans_index_of_last_filter.run (ints sp) dest filt) (applySpansIndexOfLastFilter sp dest filt) :=
  apply_spans_index_of_last_filter_refines sp dest filt

theorem gen_apply_spans_index_of_min_filter_refines (sp : List Nat) (src dest : List Int) (filt : List Bool) :
    Sim (apply_spans_index_of_min_filter.run (ints sp) src dest filt) (applySpansIndexOfMinFilter sp src dest filt) :=
  apply_spans_index_of_min_filter_refines sp src dest filt

theorem gen_apply_spans_index_of_max_filter_refines (sp : List Nat) (src dest : List Int) (filt : List Bool) :
    Sim (apply_spans_index_of_max_filter.run (ints sp) src dest filt) (applySpansIndexOfMaxFilter sp src dest filt) :=
  apply_spans_index_of_max_filter_refines sp src dest filt

/-- the statement of `C08.apply_spans_index_of_min_filter_eq` for the translated kernel: with room for one entry per span in both
    buffers it returns `.ok` (every subscript in range, none negative); `filter_array[k]` is True exactly for the non-empty spans;
    `dest_array[k]` is untouched for an empty span and otherwise the row number of the span's first minimum -/
theorem gen_apply_spans_index_of_min_filter_eq (sp : List Nat) (src dest : List Int) (filt : List Bool)
    (hw : C08.WeakSpans sp src.length) (hd : (pairs sp).length ≤ dest.length) (hf : (pairs sp).length ≤ filt.length) :
    ∃ (d : List Int) (f : List Bool), apply_spans_index_of_min_filter.run (ints sp) src dest filt = .ok (d, f) ∧
      d.length = dest.length ∧ f.length = filt.length ∧
      (∀ (k : Nat) (p : Nat × Nat), (pairs sp)[k]? = some p → f[k]? = some (p.1 != p.2) ∧
        ((p.1 = p.2 ∧ d[k]? = dest[k]?) ∨ (p.1 ≠ p.2 ∧ ∃ v, d[k]? = some v ∧
          (argminOf (rowsOf src p)).map (fun j => ((p.1 + j : Nat) : Int)) = some v))) ∧
      (∀ k : Nat, (pairs sp).length ≤ k → d[k]? = dest[k]? ∧ f[k]? = filt[k]?) := by
  obtain ⟨d, f, hr, rest⟩ := C08.apply_spans_index_of_min_filter_eq sp src dest filt hw hd hf
  exact ⟨d, f, (apply_spans_index_of_min_filter_refines sp src dest filt).ok_right hr, rest⟩

theorem gen_apply_spans_index_of_max_filter_eq (sp : List Nat) (src dest : List Int) (filt : List Bool)
    (hw : C08.WeakSpans sp src.length) (hd : (pairs sp).length ≤ dest.length) (hf : (pairs sp).length ≤ filt.length) :
    ∃ (d : List Int) (f : List Bool), apply_spans_index_of_max_filter.run (ints sp) src dest filt = .ok (d, f) ∧
      d.length = dest.length ∧ f.length = filt.length ∧
      (∀ (k : Nat) (p : Nat × Nat), (pairs sp)[k]? = some p → f[k]? = some (p.1 != p.2) ∧
        ((p.1 = p.2 ∧ d[k]? = dest[k]?) ∨ (p.1 ≠ p.2 ∧ ∃ v, d[k]? = some v ∧
          (argmaxOf (rowsOf src p)).map (fun j => ((p.1 + j : Nat) : Int)) = some v))) ∧
      (∀ k : Nat, (pairs sp).length ≤ k → d[k]? = dest[k]? ∧ f[k]? = filt[k]?) := by
  obtain ⟨d, f, hr, rest⟩ := C08.apply_spans_index_of_max_filter_eq sp src dest filt hw hd hf
  exact ⟨d, f, (apply_spans_index_of_max_filter_refines sp src dest filt).ok_right hr, rest⟩

/-- first / last row number of every non-empty span, for ANY span array, computed by the translated kernels -/
theorem gen_apply_spans_index_of_first_filter_eq (sp : List Nat) (dest : List Int) (filt : List Bool)
    (hd : (pairs sp).length ≤ dest.length) (hf : (pairs sp).length ≤ filt.length) :
    ∃ (d : List Int) (f : List Bool), apply_spans_index_of_first_filter.run (ints sp) dest filt = .ok (d, f) ∧
      d.length = dest.length ∧ f.length = filt.length ∧
      (∀ (k : Nat) (p : Nat × Nat), (pairs sp)[k]? = some p → f[k]? = some (p.1 != p.2) ∧
        ((p.1 = p.2 ∧ d[k]? = dest[k]?) ∨ (p.1 ≠ p.2 ∧ d[k]? = some (p.1 : Int)))) ∧
      (∀ k : Nat, (pairs sp).length ≤ k → d[k]? = dest[k]? ∧ f[k]? = filt[k]?) := by
  obtain ⟨d, f, hr, rest⟩ := C08.apply_spans_index_of_first_filter_eq sp dest filt hd hf
  exact ⟨d, f, (apply_spans_index_of_first_filter_refines sp dest filt).ok_right hr, rest⟩

theorem gen_apply_spans_index_of_last_filter_eq (sp : List Nat) (dest : List Int) (filt : List Bool)
    (hd : (pairs sp).length ≤ dest.length) (hf : (pairs sp).length ≤ filt.length) :
    ∃ (d : List Int) (f : List Bool), apply_spans_index_of_last_filter.run (ints sp) dest filt = .ok (d, f) ∧
      d.length = dest.length ∧ f.length = filt.length ∧
      (∀ (k : Nat) (p : Nat × Nat), (pairs sp)[k]? = some p → f[k]? = some (p.1 != p.2) ∧
        ((p.1 = p.2 ∧ d[k]? = dest[k]?) ∨ (p.1 ≠ p.2 ∧ d[k]? = some ((p.2 : Int) - 1)))) ∧
      (∀ k : Nat, (pairs sp).length ≤ k → d[k]? = dest[k]? ∧ f[k]? = filt[k]?) := by
  obtain ⟨d, f, hr, rest⟩ := C08.apply_spans_index_of_last_filter_eq sp dest filt hd hf
  exact ⟨d, f, (apply_spans_index_of_last_filter_refines sp dest filt).ok_right hr, rest⟩

example : apply_spans_index_of_min_filter.run [0, 0, 2, 3] [5, 4, 9] [7, 7, 7] [false, false, false] =
    .ok ([7, 1, 2], [false, true, true]) := by decide +kernel
example : apply_spans_index_of_last_filter.run [0, 0, 2, 3] [7, 7, 7] [false, false, false] =
    .ok ([7, 1, 2], [false, true, true]) := by decide +kernel

/-- on ANY caller-supplied `spans` buffer: the slice the translated kernel returns is the model's span array for `cap = len(spans)`,
    or both fail with the same error class (buffer too short, second column shorter than the first) -/
theorem gen_get_spans_2_fields_njit_refines (a b buf : List Int) :
    Sim ((_get_spans_for_2_fields_njit.run a b buf).map Prod.fst)
      ((getSpansFor2FieldsNjit .repaired a b buf.length).map ints) :=
  get_spans_for_2_fields_njit_refines a b buf

/-- as `_get_spans_for_2_fields` calls it (a buffer of `len + 1` entries): the translated kernel returns `.ok` — no subscript out
    of range or negative, for every length including 0 — and the span array of the zipped column -/
theorem gen_get_spans_2_fields_eq_spec (a b : List Int) (hl : a.length = b.length) (buf : List Int)
    (hb : buf.length = a.length + 1) :
    ∃ buf', _get_spans_for_2_fields_njit.run a b buf = .ok (ints (spans neq (a.zip b)), buf') := by
  have h := get_spans_for_2_fields_njit_refines a b buf
  have hm : getSpansFor2FieldsNjit .repaired a b buf.length = .ok (spans neq (a.zip b)) := by
    rw [hb]; exact C08.get_spans_2_fields_eq_spec a b hl
  rw [hm] at h
  cases hr : _get_spans_for_2_fields_njit.run a b buf with
  | error e => rw [hr] at h; simp [Sim, Except.map] at h
  | ok r =>
    rw [hr] at h
    simp only [Sim, Except.map] at h
    exact ⟨r.2, by rw [← h]⟩

example : _get_spans_for_2_fields_njit.run [1, 1, 1, 2] [5, 6, 6, 6] [0, 0, 0, 0, 0] = .ok ([0, 1, 3, 4], [0, 1, 3, 4, 0]) := by decide +kernel
example : _get_spans_for_2_fields_njit.run [] [] [9] = .ok ([0], [0]) := by decide +kernel

/-! ## _get_spans_for_multi_fields_njit (2-D argument = the list of its rows) -/

theorem gen_get_spans_multi_fields_njit_refines (fs : List (List Int)) (buf : List Int) :
    Sim ((_get_spans_for_multi_fields_njit.run fs buf).map Prod.fst)
      ((getSpansForMultiFieldsNjit .repaired fs buf.length).map ints) :=
  get_spans_for_multi_fields_njit_refines fs buf

/-- as `_get_spans_for_multi_fields` calls it, for any number ≥ 1 of equal-length columns: `.ok` and the span array of the joint rows -/
theorem gen_get_spans_multi_fields_eq_spec (f0 : List Int) (fs : List (List Int))
    (hf : ∀ f ∈ f0 :: fs, f.length = f0.length) (buf : List Int) (hb : buf.length = f0.length + 1) :
    ∃ buf', _get_spans_for_multi_fields_njit.run (f0 :: fs) buf
      = .ok (ints (spans neq (jointRows (f0 :: fs) f0.length)), buf') := by
  have h := get_spans_for_multi_fields_njit_refines (f0 :: fs) buf
  have hm : getSpansForMultiFieldsNjit .repaired (f0 :: fs) buf.length = .ok (spans neq (jointRows (f0 :: fs) f0.length)) := by
    rw [hb]; exact C08.get_spans_multi_fields_eq_spec f0 fs hf
  rw [hm] at h
  cases hr : _get_spans_for_multi_fields_njit.run (f0 :: fs) buf with
  | error e => rw [hr] at h; simp [Sim, Except.map] at h
  | ok r =>
    rw [hr] at h
    simp only [Sim, Except.map] at h
    exact ⟨r.2, by rw [← h]⟩

example : _get_spans_for_multi_fields_njit.run [[1, 1, 1, 2], [5, 6, 6, 6], [0, 0, 0, 0]] [0, 0, 0, 0, 0]
    = .ok ([0, 1, 3, 4], [0, 1, 3, 4, 0]) := by decide +kernel
example : ∀ f ∈ [[1, 1, 1, 2], [5, 6, 6, 6], [0, 0, 0, 0]], f.length = [1, 1, 1, 2].length := by decide

theorem gen_get_spans_indexed_refines (indices values : List Nat) :
    Sim (_get_spans_for_index_string_field.run (ints indices) (ints values))
      ((getSpansForIndexStringField .repaired indices values).map ints) :=
  get_spans_for_index_string_field_refines indices values

/-- for every well-formed index the translated kernel returns `.ok` and the spans of the decoded byte strings (compared
    byte-exactly) -/
theorem gen_get_spans_indexed_eq_spec (indices values : List Nat) (hv : ValidIndex indices values) :
    _get_spans_for_index_string_field.run (ints indices) (ints values)
      = .ok (ints (spans neq (decodeRows indices values))) := by
  have h := get_spans_for_index_string_field_refines indices values
  rw [C08.get_spans_indexed_eq_spec indices values hv] at h
  exact h.ok_right rfl

example : _get_spans_for_index_string_field.run [0, 1, 3, 5, 5, 5] [97, 97, 32, 97, 32] = .ok [0, 1, 3, 5] := by decide +kernel
example : _get_spans_for_index_string_field.run [] [] = .ok [0] := by decide +kernel

/-! ## apply_spans_index_of_min_indexed / _max_indexed (three nested loops, the byte loop with `break`)

  The hand model computes the row lengths `curend - curstart` in `Nat` (truncated at 0), the code in signed arithmetic: the two
  agree exactly when consecutive offsets never decrease (`GenK.NonDecreasing`), which every index of an IndexedStringField
  satisfies (`ValidIndex`).  The refinement is therefore stated under that hypothesis — for EVERY span array and value array
  (malformed ones included: same array or same error class). -/

theorem gen_apply_spans_index_of_min_indexed_refines (sp indices values : List Nat) (hmono : NonDecreasing indices) :
    Sim (apply_spans_index_of_min_indexed.run (ints sp) (ints indices) (ints values) none)
      (applySpansIndexOfMinIndexed .repaired sp indices values) :=
  apply_spans_index_of_min_indexed_refines sp indices values hmono

theorem gen_apply_spans_index_of_max_indexed_refines (sp indices values : List Nat) (hmono : NonDecreasing indices) :
    Sim (apply_spans_index_of_max_indexed.run (ints sp) (ints indices) (ints values) none)
      (applySpansIndexOfMaxIndexed sp indices values) :=
  apply_spans_index_of_max_indexed_refines sp indices values hmono

/-- the statement of `C08.apply_spans_index_of_min_indexed_eq` for the translated kernel: for a well-formed index and
    well-formed spans it returns `.ok` (no subscript of `spans` / `src_indices` / `src_values` out of range or negative, all three
    loops finish), one entry per span, the row number of the FIRST lexicographically minimal row of the span -/
theorem gen_apply_spans_index_of_min_indexed_eq (sp indices values : List Nat) (hv : ValidIndex indices values)
    (h : Wellformed sp (indices.length - 1)) :
    ∃ r, apply_spans_index_of_min_indexed.run (ints sp) (ints indices) (ints values) none = .ok r ∧
      r.length = (pairs sp).length ∧
      ∀ pv ∈ (pairs sp).zip r, ∃ k : Nat, pv.2 = (k : Int) ∧ IsFirstMinIn (decodeRows indices values) pv.1.1 pv.1.2 k := by
  obtain ⟨r, hr, rest⟩ := C08.apply_spans_index_of_min_indexed_eq sp indices values hv h
  exact ⟨r, (apply_spans_index_of_min_indexed_refines sp indices values (nonDecreasing_of_pairwise hv.1)).ok_right hr, rest⟩

theorem gen_apply_spans_index_of_max_indexed_eq (sp indices values : List Nat) (hv : ValidIndex indices values)
    (h : Wellformed sp (indices.length - 1)) :
    ∃ r, apply_spans_index_of_max_indexed.run (ints sp) (ints indices) (ints values) none = .ok r ∧
      r.length = (pairs sp).length ∧
      ∀ pv ∈ (pairs sp).zip r, ∃ k : Nat, pv.2 = (k : Int) ∧ IsFirstMaxIn (decodeRows indices values) pv.1.1 pv.1.2 k := by
  obtain ⟨r, hr, rest⟩ := C08.apply_spans_index_of_max_indexed_eq sp indices values hv h
  exact ⟨r, (apply_spans_index_of_max_indexed_refines sp indices values (nonDecreasing_of_pairwise hv.1)).ok_right hr, rest⟩

-- rows "b", "ab", "a", "a": min is row 2 (the first "a"), max is row 0
example : apply_spans_index_of_min_indexed.run [0, 4] [0, 1, 3, 4, 5] [98, 97, 98, 97, 97] none = .ok [2] ∧
    apply_spans_index_of_max_indexed.run [0, 4] [0, 1, 3, 4, 5] [98, 97, 98, 97, 97] none = .ok [0] := ⟨rfl, rfl⟩
example : NonDecreasing [0, 1, 3, 4, 5] := nonDecreasing_of_pairwise (by decide)
-- the hypothesis is needed: on decreasing offsets (row 0 empty, row 1 of "length" 0 - 1 = -1) the code prefers row 1, the model row 0
example : apply_spans_index_of_min_indexed.run [0, 2] [1, 1, 0] [97] none = .ok [1] ∧
    applySpansIndexOfMinIndexed .repaired [0, 2] [1, 1, 0] [97] = .ok [0] := ⟨rfl, rfl⟩

end Exetera.Props.C08Gen
