import Exetera.Props.C05
import Exetera.Props.C16
import Exetera.Props.C18
import Exetera.Lemmas.StreamFuelConcat
/-!
# C12 — span concatenation, CSV export, CSV reading

* `Session.apply_spans_concat`: the model of C16 runs the batch loop with the budget `len(spans)`; here the loop takes its fuel
  as a parameter (`Concat.applySpansConcatSF`, `applySpansConcatS_eq_F : … = …F len(spans)` by `rfl`) and any fuel `≥` the number
  of spans gives the specified result with at most one kernel call per span (= per output entry).
* `DataFrame.to_csv`: the chunk loop of C18 takes its fuel as a parameter already.
* `read_file_using_fast_csv_reader`: corollary of C05's driver theorem `window_chunking_unobservable` (any starting value
  budgets, any regrowth); the form under C05's two no-regrowth hypotheses is `csv_driver_terminates_partial`.
-/
namespace Exetera.Props.C12
open Exetera

/-! ## span concatenation -/
section Concat
open Exetera.Concat Exetera.Spec.CsvLine
variable {α : Type} [DecidableEq α]

/-- **concat_terminates_linear.** For every column, every list of span boundaries inside it, every `src_chunksize ≥ 1`, every
    `dest_chunksize`, `chunksize_mult` and EVERY fuel `≥ 1·(number of spans) + 0` (`= len(spans) - 1`, the number of output
    entries): the batch loop finishes, the destination holds exactly `concatSpec`, and at most one kernel call per span was
    made. -/
theorem concat_terminates_linear (sep delim : α) (entries : List (List α)) (spans : List Nat) (srcChunk destChunk mult : Nat)
    (hbound : ∀ p ∈ spans, p ≤ entries.length) (hsc : 1 ≤ srcChunk) (fuel : Nat)
    (hfuel : 1 * (spans.length - 1) + 0 ≤ fuel) :
    ∃ st, applySpansConcatSF fuel .repaired sep delim spans (offsets entries) entries.flatten srcChunk destChunk mult = .ok st ∧
      st.dest = ⟨storedIndices (concatSpec sep delim entries spans), (concatSpec sep delim entries spans).flatten⟩ ∧
      st.calls ≤ spans.length - 1 := by
  obtain ⟨st, hrun⟩ := C16.concat_terminates sep delim entries spans srcChunk destChunk mult hbound hsc
  have hdest := C16.concat_eq_spec sep delim entries spans srcChunk destChunk mult hbound hsc
  rw [applySpansConcat, hrun] at hdest
  obtain ⟨hF, hcalls⟩ := applySpansConcatS_fuel _ sep delim spans _ _ srcChunk destChunk mult st hrun fuel
    (by rw [Nat.one_mul] at hfuel; exact hfuel)
  exact ⟨st, hF, Except.ok.inj hdest, hcalls⟩

/-- **concat_never_spins.** Every successful iteration of the batch loop (either variant, any buffers) handles at least one
    span: the span position strictly advances and stays within the span list, exactly one kernel call is counted, and the
    destination is only appended to. -/
theorem concat_never_spins (v : Variant) (sep delim : α) (spans idx : List Nat) (vals : List α) (srcChunk valueCap : Nat)
    (st st' : S α) (h : batchBody v sep delim spans idx vals srcChunk valueCap st = .ok st') :
    (spans.length - 1) - st'.s < (spans.length - 1) - st.s ∧ st'.calls = st.calls + 1 ∧
      st.dest.indices <+: st'.dest.indices ∧ st.dest.values <+: st'.dest.values := by
  obtain ⟨h1, h2, h3, h4, h5⟩ := batchBody_advances v sep delim spans idx vals srcChunk valueCap st st' h
  exact ⟨Nat.sub_lt_sub_left (Nat.lt_of_lt_of_le h1 h2) h1, h3, h4, h5⟩

-- three spans, `src_chunksize = 1` (two batches); fuel = number of spans; one fewer than the batches needed does not suffice
example : (∀ p ∈ [0, 1, 4, 5], p ≤ C16.exEntries.length) ∧
    (applySpansConcatSF 3 .repaired (44 : Nat) 34 [0, 1, 4, 5] (offsets C16.exEntries) C16.exEntries.flatten 1 1 1).map
      (fun st => (st.dest, st.calls))
      = .ok (⟨[0, 1, 13, 15], [97, 34, 98, 44, 99, 34, 44, 34, 100, 34, 34, 101, 34, 195, 169]⟩, 2) ∧
    (applySpansConcatSF 1 .repaired (44 : Nat) 34 [0, 1, 4, 5] (offsets C16.exEntries) C16.exEntries.flatten 1 1 1).map
      (fun st => st.calls) = .error .outOfFuel := by decide +kernel

end Concat

/-! ## CSV export -/
section Export
open Exetera.Export Exetera.Spec.Export

/-- **export_terminates.** The chunk loop of `to_csv`, for every `chunk_row_size ≥ 1` and every fuel
    `≥ 1·len(first column) + 1` (exactly `⌊n / crs⌋ + 1` iterations are needed, `C18.terminates`): the rows written are the
    specified rows. -/
theorem export_terminates (c0 : List Export.Cell) (rest : List (List Export.Cell)) (flt : Option (List Bool)) (crs : Nat)
    (hcrs : 1 ≤ crs) (fuel : Nat) (hfuel : 1 * c0.length + 1 ≤ fuel) :
    exportLoop (c0 :: rest) flt crs fuel = .ok (exportRows (c0 :: rest) flt) := by
  rw [Nat.one_mul] at hfuel
  exact exportLoop_eq _ flt crs fuel (List.cons_ne_nil _ _) hcrs
    (Nat.le_trans (Nat.succ_le_succ (Nat.div_le_self _ _)) hfuel)

/-- **export_clear_error.** A chunk size that cannot be processed (`chunk_row_size ≤ 0`) is rejected with a `ValueError`
    before the loop is entered — it is not left to spin on empty chunks. -/
theorem export_clear_error (writerow : List Export.Cell → List Char) (f : Frame) (rf : RowFilter) (cf : ColFilter) (crs : Int)
    (hcrs : crs ≤ 0) :
    toCsv writerow f rf cf crs = .error (.valueError "'chunk_row_size' must be larger than 0.") := by
  simp [toCsv, hcrs]

/-- **export_never_spins.** Every iteration of `while True:` (chunk size ≥ 1) either takes the `break` or consumes exactly `chunk_row_size`
    rows that exist in the first column; rows already written are never taken back. -/
theorem export_never_spins (c0 : List Export.Cell) (rest : List (List Export.Cell)) (flt : Option (List Bool)) (crs : Nat)
    (hcrs : 1 ≤ crs) (s s' : LoopSt) (h : loopBody (c0 :: rest) flt crs s = .ok s') :
    (s'.done = true ∨ (s'.startRow = s.startRow + crs ∧ s.startRow + crs ≤ c0.length)) ∧ s.written <+: s'.written := by
  simp only [loopBody, List.map_cons, List.getElem?_cons_zero] at h
  split at h <;> cases h
  · exact ⟨Or.inl rfl, List.prefix_append _ _⟩
  · rename_i hlen
    have hle : crs ≤ c0.length - s.startRow :=
      Nat.le_trans (Nat.le_of_not_lt hlen) (slice_length .. ▸ Nat.min_le_right _ _)
    have hlt : s.startRow < c0.length := Nat.lt_of_sub_pos (Nat.lt_of_lt_of_le hcrs hle)
    exact ⟨Or.inr ⟨rfl, Nat.add_le_of_le_sub' (Nat.le_of_lt hlt) hle⟩, List.prefix_append _ _⟩

-- 4 rows, chunk size 2: three iterations (the last one reads the empty chunk and breaks)
example : exportLoop [[['a'], ['b'], ['c'], ['d']]] none 2 5 = .ok [[['a']], [['b']], [['c']], [['d']]] ∧
    loopBody [[['a'], ['b'], ['c'], ['d']]] none 2 ⟨2, [[['a']], [['b']]], false⟩
      = .ok ⟨4, [[['a']], [['b']], [['c']], [['d']]], false⟩ := by decide +kernel

end Export

/-! ## CSV reading -/
section Csv
open Exetera.Csv Exetera.Csv.Spec

/-- **csv_driver_terminates** (full statement; the driver invariant across a regrowth step is `C05.window_chunking_unobservable`).
    In the supported regime (every line fits the byte window `2·crs·ncols`), for every `chunk_row_size ≥ 1`, EVERY starting value
    budgets ≥ 1 — whatever regrowth they force, any number of times, in any window — and every fuel ≥ `records + 2 + regrowthBound`:
    `read_file_using_fast_csv_reader` finishes with the file's columns — never `outOfFuel`. (What stays outside: a record longer
    than the byte window; the regime hypothesis `Regime.reg` excludes it, see DESIGN 6.6.) -/
theorem csv_driver_terminates {file : List Nat} {crs ncols : Nat} {offs : List Nat} {hrow : List Cell}
    {rows : List (List Cell)} (h : C05.Regime file crs ncols hrow rows) (hb : C05.Budgets ncols offs) (im : List Nat)
    (him : ∀ c ∈ im, c < ncols) (fuel : Nat)
    (hfuel : rows.length + 2 + regrowthBound rows ncols offs (crs * Gen.Csv.CHUNK_ROW_FACTOR) ≤ fuel) :
    (∃ calls, readFile file crs ncols offs im (im.map (fun _ => ({ kind := .indexed } : Imp))) fuel =
      .ok ⟨rows.length, im.map (fun c => fieldOf (column (values rows) c)), calls⟩) ∧
    readFile file crs ncols offs im (im.map (fun _ => ({ kind := .indexed } : Imp))) fuel ≠ .error .outOfFuel := by
  obtain ⟨calls, hrun⟩ := C05.window_chunking_unobservable h hb im him fuel hfuel
  exact ⟨⟨calls, hrun⟩, by rw [hrun]; intro h; cases h⟩

-- non-vacuity of `csv_driver_terminates`: `C05`'s examples `Regime (render (exHeader :: exRows)) 3 2 exHeader exRows` and
-- `Budgets 2 [0, 1, 2]` (one byte per column: regrowth in every window) are exactly its hypotheses

/-- **csv_driver_terminates_partial.** In the supported regime (every line fits the byte window `2·crs·ncols`) and under the two
    no-regrowth hypotheses of C05 (`min`, `fit`), for every `chunk_row_size ≥ 1` and every fuel `≥ 1·(number of records) + 2`:
    `read_file_using_fast_csv_reader` finishes with the file's columns — never `outOfFuel`. -/
theorem csv_driver_terminates_partial {file : List Nat} {crs ncols : Nat} {offs : List Nat} {hrow : List Cell}
    {rows : List (List Cell)} (h : C05.Supported file crs ncols offs hrow rows) (im : List Nat) (him : ∀ c ∈ im, c < ncols)
    (fuel : Nat) (hfuel : 1 * rows.length + 2 ≤ fuel) :
    (∃ calls, readFile file crs ncols offs im (im.map (fun _ => ({ kind := .indexed } : Imp))) fuel =
      .ok ⟨rows.length, im.map (fun c => fieldOf (column (values rows) c)), calls⟩) ∧
    readFile file crs ncols offs im (im.map (fun _ => ({ kind := .indexed } : Imp))) fuel ≠ .error .outOfFuel := by
  obtain ⟨calls, hrun⟩ := C05.window_chunking_unobservable_partial h im him fuel
    (by rw [Nat.one_mul] at hfuel; exact hfuel)
  exact ⟨⟨calls, hrun⟩, by rw [hrun]; intro h; cases h⟩

/-- the example file of C05 read with `chunk_row_size = 3` (windows of 12 bytes: three kernel calls) is in the regime -/
example : C05.Supported (render (C05.exHeader :: C05.exRows)) 3 2 [0, 100, 200] C05.exHeader C05.exRows ∧
    1 * C05.exRows.length + 2 ≤ 5 := by
  refine ⟨⟨Or.inl rfl, by decide, ⟨rfl, ?_⟩, ⟨by decide, ?_⟩, by decide, ?_, ?_, ⟨rfl, rfl, ?_⟩, ?_⟩, by decide⟩
  · unfold Cell.WF; decide +kernel
  · unfold Cell.WF; decide +kernel
  · decide +kernel
  · decide +kernel
  · decide +kernel
  · unfold C05.Fits; decide +kernel

end Csv

end Exetera.Props.C12
