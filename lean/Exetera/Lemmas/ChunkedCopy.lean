import Exetera.Model.ChunkedCopy
import Exetera.Lemmas.WhileFuel
/-! `element_chunked_copy`: the loop invariant, the exact number of iterations, and the `chunksize = 0` fixpoint. -/
namespace Exetera.ChunkedCopy
open Exetera

theorem nextChunk_eq (cur len d : Nat) : Join.nextChunk cur len d = (cur, min (cur + d) len) := by
  unfold Join.nextChunk
  split
  · rw [Nat.min_eq_left (Nat.le_of_lt ‹_›)]
  · rw [Nat.min_eq_right (Nat.le_of_not_lt ‹_›)]

theorem min_eq_left_of_lt {a n : Nat} (h : min a n < n) : min a n = a :=
  Nat.min_eq_left (Nat.le_of_not_le fun hn => Nat.ne_of_lt h (Nat.min_eq_right hn))

/-- what holds at the head of every iteration -/
structure Inv {α} (src dest0 : List α) (cs : Nat) (s : St α) : Prop where
  le : s.i ≤ src.length
  chunk : s.chunk = (s.i, min (s.i + cs) src.length)
  dest : s.dest = dest0 ++ src.take s.i
  wlo : s.i ≤ s.writes * cs
  whi : s.writes * cs < s.i + cs
  weq : s.i < src.length → s.i = s.writes * cs

theorem inv_init {α} (src dest0 : List α) (cs : Nat) (hcs : 0 < cs) : Inv src dest0 cs (init src dest0 cs) :=
  ⟨Nat.zero_le _, nextChunk_eq 0 _ cs, (List.append_nil dest0).symm, Nat.le_of_eq (Nat.zero_mul cs).symm,
    by rw [init, Nat.zero_mul, Nat.zero_add]; exact hcs, fun _ => (Nat.zero_mul cs).symm⟩

/-- While the guard holds `i = writes · cs`, so the three bounds on `writes` follow from `i < i' ≤ i + cs`. -/
theorem body_inv {α} (src dest0 : List α) (cs : Nat) (hcs : 0 < cs) (s : St α) (hI : Inv src dest0 cs s)
    (hg : s.i < src.length) :
    ∃ s', body src cs s = .ok s' ∧ Inv src dest0 cs s' ∧ s'.i = min (s.i + cs) src.length ∧ s.i < s'.i ∧
      s'.dest = s.dest ++ slice src s.i s'.i := by
  have hlt : s.i < min (s.i + cs) src.length := Nat.lt_min.mpr ⟨Nat.lt_add_of_pos_right hcs, hg⟩
  have hw : (s.writes + 1) * cs = s.i + cs := by rw [Nat.succ_mul, ← hI.weq hg]
  simp only [body, hI.chunk, nextChunk_eq, Nat.add_sub_cancel' (Nat.le_of_lt hlt)]
  refine ⟨_, rfl, ⟨Nat.min_le_right _ _, rfl, ?_, Nat.le_trans (Nat.min_le_left _ _) (Nat.le_of_eq hw.symm),
    Nat.lt_of_le_of_lt (Nat.le_of_eq hw) (Nat.add_lt_add_right hlt cs), fun h => (min_eq_left_of_lt h).trans hw.symm⟩,
    rfl, hlt, rfl⟩
  rw [hI.dest, List.append_assoc, ← take_append_slice src _ _ (Nat.le_of_lt hlt)]

theorem loop_done {α} {src dest0 : List α} {cs : Nat} {s : St α} (hI : Inv src dest0 cs s) (h : src.length ≤ s.i)
    (fuel : Nat) :
    ∃ s', whileE (guard src) (body src cs) fuel s = .ok s' ∧ Inv src dest0 cs s' ∧ s'.i = src.length :=
  ⟨s, whileE_of_guard_false (show guard src s = false from decide_eq_false (Nat.not_lt.mpr h)) fuel, hI, Nat.le_antisymm hI.le h⟩

theorem loop_spec {α} (src dest0 : List α) (cs : Nat) (hcs : 0 < cs) (fuel : Nat) (s : St α) (hI : Inv src dest0 cs s)
    (hf : src.length ≤ s.i + fuel * cs) :
    ∃ s', whileE (guard src) (body src cs) fuel s = .ok s' ∧ Inv src dest0 cs s' ∧ s'.i = src.length := by
  induction fuel generalizing s with
  | zero => exact loop_done hI (by rw [Nat.zero_mul] at hf; exact hf) 0
  | succ f ih =>
    rcases Nat.lt_or_ge s.i src.length with hg | hg
    · obtain ⟨s1, hb, hI1, hi1, _⟩ := body_inv src dest0 cs hcs s hI hg
      -- `min (i + cs) n + f·cs = min (i + (f + 1)·cs) (n + f·cs)`
      obtain ⟨s', hw, hI', hfin⟩ := ih s1 hI1 <| by
        rw [hi1, ← Nat.add_min_add_right, Nat.add_right_comm, Nat.add_assoc, ← Nat.succ_mul]
        exact Nat.le_min.mpr ⟨hf, Nat.le_add_right _ _⟩
      exact ⟨s', by simp [whileE, guard, hg, hb, hw], hI', hfin⟩
    · exact loop_done hI hg _

/-- `chunksize = 0` on a non-empty source: the initial state is a fixpoint of the loop body with the guard true -/
theorem zero_chunk_fixpoint {α} (src : List α) (hne : src ≠ []) (s : St α) (hi : s.i = 0) (hc : s.chunk = (0, 0)) :
    ∀ fuel, whileE (guard src) (body src 0) fuel s = .error .outOfFuel := by
  have hpos : 0 < src.length := List.length_pos_iff.mpr hne
  intro fuel
  induction fuel generalizing s with
  | zero => simp [whileE, guard, hi, hpos]
  | succ f ih =>
    simp only [whileE, guard, hi, hpos, decide_true, if_true, body, hc]
    exact ih _ rfl ((nextChunk_eq ..).trans (congrArg (Prod.mk 0) (Nat.zero_min _)))

end Exetera.ChunkedCopy
