import Exetera.Lemmas.Spans
/-! The compiled scan kernels (two arrays, several arrays, indexed strings) compute `Spec.spans` of the joint column, with
    every subscript in bounds.  They are one loop (`scanLoop_eq`) with three tests for "row `i` differs from row `i - 1`". -/
namespace Exetera.Spans

open Exetera Exetera.Spec

theorem prod_beq {α β} [BEq α] [BEq β] (a c : α) (b d : β) : ((a, b) == (c, d)) = (a == c && b == d) := rfl

theorem neq_pair {α β} [BEq α] [BEq β] (a c : α) (b d : β) : neq (a, b) (c, d) = (neq a c || neq b d) := by
  simp [neq, bne, prod_beq, Bool.not_and]

/-- the shape all compiled scans share: the row number is emitted where `B` holds, and `n` closes the array.  `count < i`
    keeps the writes inside the buffer, which has room for one entry per row and the final `n`. -/
theorem scanLoop_eq (B : Nat → Bool) (n : Nat) (L : Nat → Nat → Nat → Except Err (List Nat))
    (h0 : ∀ i count, count < i → i = n → L 0 i count = .ok [n])
    (hs : ∀ k i count, i + (k + 1) = n → 1 ≤ i → count < i →
      L (k + 1) i count = if B i then consE i (L k (i + 1) (count + 1)) else L k (i + 1) count) :
    ∀ k i count, i + k = n → 1 ≤ i → count < i → L k i count = .ok ((List.range' i k).filter B ++ [n])
  | 0, i, count, hik, _, hc => h0 i count hc hik
  | k + 1, i, count, hik, hi, hc => by
    rw [hs k i count hik hi hc, List.range'_succ, List.filter_cons,
      scanLoop_eq B n L h0 hs k (i + 1) (count + 1) (by omega) (by omega) (by omega),
      scanLoop_eq B n L h0 hs k (i + 1) count (by omega) (by omega) (by omega)]
    cases B i <;> rfl

theorem isBoundary_zip {α β} [BEq α] [BEq β] (a : List α) (b : List β) (hl : a.length = b.length) (i : Nat) :
    isBoundary neq (a.zip b) i = (isBoundary neq a i || isBoundary neq b i) := by
  have hz : (a.zip b).length = a.length := by simp [List.length_zip, hl]
  cases i with
  | zero => simp [isBoundary_zero]
  | succ i =>
    by_cases hi : i + 1 < a.length
    · rw [isBoundary_succ_eq _ _ _ (hz ▸ hi), isBoundary_succ_eq _ _ _ hi, isBoundary_succ_eq _ _ _ (hl ▸ hi)]
      simp only [List.getElem_zip, neq_pair]
    · rw [isBoundary_false_of_ge _ _ _ (by omega), isBoundary_false_of_ge _ a _ (by omega),
        isBoundary_false_of_ge _ b _ (by omega)]
      rfl

theorem int_bne_comm (x y : Int) : (x != y) = (y != x) := by
  simp [bne, BEq.comm]

theorem ite_or_bool {α} (p q : Bool) (x y : α) :
    (if p = true then x else if q = true then x else y) = if (p || q) = true then x else y := by
  cases p <;> cases q <;> rfl

theorem scan2_eq (a b : List Int) (n : Nat) (ha : a.length = n) (hb : b.length = n) :
    ∀ k i count, i + k = n → 1 ≤ i → count < i →
      scan2 a b n (n + 1) k i count = .ok ((List.range' i k).filter (isBoundary neq (a.zip b)) ++ [n]) := by
  refine scanLoop_eq _ n (scan2 a b n (n + 1)) (fun i count hc hi => ?_) (fun k i count hik hi hc => ?_)
  · rw [scan2, if_pos (Nat.succ_lt_succ (hi ▸ hc))]
  · obtain ⟨j, rfl⟩ : ∃ j, i = j + 1 := ⟨i - 1, by omega⟩
    have hia : j + 1 < a.length := by omega
    have hib : j + 1 < b.length := by omega
    have hcap : count + 1 < n + 1 := by omega
    rw [isBoundary_zip a b (ha.trans hb.symm), isBoundary_succ_eq _ _ _ hia, isBoundary_succ_eq _ _ _ hib, scan2,
      Nat.add_sub_cancel, getE_of_lt _ hia, getE_of_lt _ (Nat.lt_of_succ_lt hia), getE_of_lt _ hib,
      getE_of_lt _ (Nat.lt_of_succ_lt hib)]
    simp only [neq, int_bne_comm a[j + 1], int_bne_comm b[j + 1], if_pos hcap]
    exact ite_or_bool _ _ _ _

theorem getSpansFor2Fields_eq_spec (a b : List Int) (hl : a.length = b.length) :
    getSpansFor2Fields .repaired a b = .ok (spans neq (a.zip b)) := by
  unfold getSpansFor2Fields getSpansFor2FieldsNjit
  have hz : (a.zip b).length = a.length := by simp [List.length_zip, hl]
  by_cases h0 : a.length = 0
  · have : spans neq (a.zip b) = [0] := by unfold spans; simp [hz, h0]
    simp [h0, this]
  · have hc : (a.length + 1 == 0) = false := by simp
    have h0' : (a.length == 0) = false := by simp [h0]
    simp only [hc, Bool.false_eq_true, if_false, h0', Bool.and_false]
    rw [scan2_eq a b a.length rfl hl.symm (a.length - 1) 1 0 (by omega) (by omega) (by omega)]
    rw [spans_eq_range' _ _ (by omega : (a.zip b).length ≠ 0), hz]
    rfl

theorem getElem?_jointRows (fs : List (List Int)) (n i : Nat) (h : i < n) :
    (jointRows fs n)[i]? = some (fs.map (·[i]?)) := by
  unfold jointRows
  rw [List.getElem?_map, List.getElem?_range h]; rfl

theorem jointRows_length (fs : List (List Int)) (n : Nat) : (jointRows fs n).length = n := by
  simp [jointRows]

theorem rowNe_eq (i : Nat) (hi : 0 < i) : ∀ (fs : List (List Int)), (∀ f ∈ fs, i < f.length) →
    rowNe i fs = .ok (neq (fs.map (·[i - 1]?)) (fs.map (·[i]?)))
  | [], _ => by simp [rowNe, neq]
  | f :: fs, h => by
    have hf : i < f.length := h f (by simp)
    have hf' : i - 1 < f.length := by omega
    rw [rowNe, getE_of_lt _ hf, getE_of_lt _ hf']
    simp only []
    have ih := rowNe_eq i hi fs (fun g hg => h g (by simp [hg]))
    by_cases hx : (f[i] != f[i - 1]) = true
    · simp only [hx, if_true]
      have : f[i] ≠ f[i - 1] := by simpa using hx
      simp [neq, List.getElem?_eq_getElem hf, List.getElem?_eq_getElem hf', Ne.symm this]
    · simp only [hx, Bool.false_eq_true, if_false, ih]
      have : f[i] = f[i - 1] := by simpa using hx
      simp only [neq, List.map_cons, List.getElem?_eq_getElem hf, List.getElem?_eq_getElem hf', this]
      simp [bne, List.cons_beq_cons]

theorem scanMulti_eq (fs : List (List Int)) (n : Nat) (hf : ∀ f ∈ fs, f.length = n) :
    ∀ k i count, i + k = n → 1 ≤ i → count < i →
      scanMulti fs n (n + 1) k i count = .ok ((List.range' i k).filter (isBoundary neq (jointRows fs n)) ++ [n]) := by
  refine scanLoop_eq _ n (scanMulti fs n (n + 1)) (fun i count hc hi => ?_) (fun k i count hik hi hc => ?_)
  · rw [scanMulti, if_pos (Nat.succ_lt_succ (hi ▸ hc))]
  · obtain ⟨j, rfl⟩ : ∃ j, i = j + 1 := ⟨i - 1, by omega⟩
    have hj : j + 1 < n := by omega
    have hcap : count + 1 < n + 1 := by omega
    have hbd : isBoundary neq (jointRows fs n) (j + 1) = neq (fs.map (·[j]?)) (fs.map (·[j + 1]?)) := by
      rw [isBoundary_succ, getElem?_jointRows fs n j (Nat.lt_of_succ_lt hj), getElem?_jointRows fs n (j + 1) hj]
    rw [scanMulti, rowNe_eq (j + 1) (Nat.succ_pos j) fs (fun f h => by rw [hf f h]; exact hj), hbd, Nat.add_sub_cancel]
    cases neq (fs.map (·[j]?)) (fs.map (·[j + 1]?))
    · rfl
    · simp only [if_pos hcap, if_true]

theorem getSpansForMultiFields_eq_spec (f0 : List Int) (fs : List (List Int)) (hf : ∀ f ∈ f0 :: fs, f.length = f0.length) :
    getSpansForMultiFields .repaired (f0 :: fs) = .ok (spans neq (jointRows (f0 :: fs) f0.length)) := by
  unfold getSpansForMultiFields getSpansForMultiFieldsNjit
  simp only []
  by_cases h0 : f0.length = 0
  · have : spans neq (jointRows (f0 :: fs) f0.length) = [0] := by
      unfold spans; simp [jointRows_length, h0]
    rw [this]; simp [h0]
  · have hc : (f0.length + 1 == 0) = false := by simp
    have h0' : (f0.length == 0) = false := by simp [h0]
    simp only [hc, Bool.false_eq_true, if_false, h0', Bool.and_false]
    rw [scanMulti_eq (f0 :: fs) f0.length hf (f0.length - 1) 1 0 (by omega) (by omega) (by omega)]
    rw [spans_eq_range' _ _ (by rw [jointRows_length]; exact h0), jointRows_length]
    rfl

/-- a well-formed index: non-decreasing offsets into `values` -/
def ValidIndex (indices values : List Nat) : Prop :=
  indices.Pairwise (· ≤ ·) ∧ ∀ x ∈ indices, x ≤ values.length

theorem decodeRows_length (indices values : List Nat) : (decodeRows indices values).length = indices.length - 1 := by
  simp [decodeRows, List.length_zipWith]

theorem getElem?_decodeRows (indices values : List Nat) (i : Nat) (h : i + 1 < indices.length) :
    (decodeRows indices values)[i]? = some (slice values indices[i] indices[i + 1]) := by
  unfold decodeRows
  rw [List.getElem?_zipWith, List.getElem?_dropLast, List.getElem?_tail]
  have : i < indices.length - 1 := by omega
  simp [this, List.getElem?_eq_getElem h, List.getElem?_eq_getElem (by omega : i < indices.length)]

/-- consecutive rows of different lengths differ (the kernel compares the lengths in `Int`) -/
theorem slice_bne_of_length_ne {α} [BEq α] [LawfulBEq α] (v : List α) (a b c : Nat) (hab : a ≤ b) (hbc : b ≤ c)
    (hc : c ≤ v.length) (h : ((c : Int) - b != (b : Int) - a) = true) : (slice v a b != slice v b c) = true := by
  rw [bne_iff_ne] at h ⊢
  intro heq
  have := congrArg List.length heq
  rw [slice_length_of_le v a b (Nat.le_trans hbc hc), slice_length_of_le v b c hc] at this
  omega

theorem scanIndexed_eq (indices values : List Nat) (hv : ValidIndex indices values) (n : Nat) (hn : indices.length = n + 1) :
    ∀ k i, i + k = n → 1 ≤ i →
      scanIndexed indices values k i =
        .ok ((List.range' i k).filter (isBoundary neq (decodeRows indices values)) ++ [n]) := by
  intro k i hik hi
  refine scanLoop_eq _ n (fun k i _ => scanIndexed indices values k i) (fun i count hc hi => ?_)
    (fun k i count hik hi hc => ?_) k i 0 hik hi hi
  · simp only [scanIndexed, hn, Nat.add_sub_cancel]
  · obtain ⟨j, rfl⟩ : ∃ j, i = j + 1 := ⟨i - 1, by omega⟩
    have h2 : j + 1 + 1 < indices.length := by omega
    have h1 : j + 1 < indices.length := Nat.lt_of_succ_lt h2
    have h0 : j < indices.length := Nat.lt_of_succ_lt h1
    have hb2 : indices[j + 1 + 1] ≤ values.length := hv.2 _ (List.getElem_mem h2)
    have hle1 : indices[j] ≤ indices[j + 1] := List.pairwise_iff_getElem.1 hv.1 j (j + 1) h0 h1 (Nat.lt_succ_self j)
    have hle2 : indices[j + 1] ≤ indices[j + 1 + 1] :=
      List.pairwise_iff_getElem.1 hv.1 (j + 1) (j + 1 + 1) h1 h2 (Nat.lt_succ_self _)
    have hbd : isBoundary neq (decodeRows indices values) (j + 1) =
        (slice values indices[j] indices[j + 1] != slice values indices[j + 1] indices[j + 1 + 1]) := by
      rw [isBoundary_succ, getElem?_decodeRows indices values j h1, getElem?_decodeRows indices values (j + 1) h2]
      rfl
    rw [scanIndexed, Nat.add_sub_cancel, getE_of_lt _ h0, getE_of_lt _ h1, getE_of_lt _ h2, hbd]
    simp only []
    -- rows of different lengths differ: the kernel's first test implies its second
    split
    · rename_i hlen
      have hne := slice_bne_of_length_ne values _ _ _ hle1 hle2 hb2 hlen
      rw [hne]; rfl
    · rfl

theorem getSpansForIndexStringField_eq_spec (indices values : List Nat) (hv : ValidIndex indices values) :
    getSpansForIndexStringField .repaired indices values = .ok (spans neq (decodeRows indices values)) := by
  unfold getSpansForIndexStringField
  by_cases h2 : indices.length < 2
  · have : spans neq (decodeRows indices values) = [0] := by
      unfold spans; simp [decodeRows_length]; omega
    simp [h2, this]
  · have hd : (decide (indices.length < 2)) = false := by simp [h2]
    simp only [hd, Bool.and_false, Bool.false_eq_true, if_false]
    rw [scanIndexed_eq indices values hv (indices.length - 1) (by omega) (indices.length - 2) 1 (by omega) (by omega)]
    have hl : (decodeRows indices values).length ≠ 0 := by rw [decodeRows_length]; omega
    rw [spans_eq_range' _ _ hl, decodeRows_length]
    have : indices.length - 1 - 1 = indices.length - 2 := by omega
    rw [this]; rfl

end Exetera.Spans
