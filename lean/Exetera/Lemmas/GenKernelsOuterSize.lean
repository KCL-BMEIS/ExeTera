import Exetera.Gen.Kernels
import Exetera.Lemmas.While
import Exetera.Lemmas.GenKernels
/-!
  The TRANSLATED kernel `ordered_outer_map_result_size_both_unique(left, right)` (three consecutive `while` loops).

  The kernel has NO caller in the library (only tests/ call it) and no hand model elsewhere: the theorems below are NOT
  obligations of any property (an edit to dead code must not raise a semantic alarm); they are re-checked by
  `lake build Exetera` only. The translation itself is validated differentially under C10 (checks/harness/genkernels.py).

  `outerSize` is the merge recursion the three loops implement: on EVERY pair of arrays (sorted or not) the translated kernel
  returns it within len(left) + len(right) iterations per loop, no subscript out of range or negative. On strictly increasing
  columns it is the number of rows of the full outer join: len(left) + len(right) − the number of left keys that occur on the
  right.
-/
namespace Exetera.GenK

open Exetera Exetera.PyRt Exetera.Gen.Kernels

/-- the merge the kernel performs: one result row per step of the first loop, then the rest of either side -/
def outerSize : List Int → List Int → Nat
  | [], r => r.length
  | a :: l, [] => (a :: l).length
  | a :: l, b :: r =>
    1 + (if a < b then outerSize l (b :: r) else if a > b then outerSize (a :: l) r else outerSize l r)
termination_by l r => l.length + r.length

namespace OuterSize

abbrev St := ordered_outer_map_result_size_both_unique.St

abbrev mk (l r : List Int) (i j sz : Int) : St := ⟨l, r, i, j, sz⟩

theorem outerSize_nil_right (l : List Int) : outerSize l [] = l.length := by
  cases l <;> simp [outerSize]

theorem body1 (L R : List Int) (i j sz : Nat) (hi : i < L.length) (hj : j < R.length) :
    ordered_outer_map_result_size_both_unique.body_L1 (mk L R i j sz)
      = .ok (if L[i] < R[j] then mk L R (i + 1 : Nat) j (sz + 1 : Nat)
             else if L[i] > R[j] then mk L R i (j + 1 : Nat) (sz + 1 : Nat) else mk L R (i + 1 : Nat) (j + 1 : Nat) (sz + 1 : Nat)) := by
  simp only [ordered_outer_map_result_size_both_unique.body_L1, idxE_nat, getE_of_lt _ hi, getE_of_lt _ hj, bindE_ok]
  by_cases hlt : L[i] < R[j]
  · simp only [hlt, decide_true, if_true, bindE_ok]; rfl
  · by_cases hgt : L[i] > R[j]
    · simp only [hlt, hgt, decide_true, decide_false, Bool.false_eq_true, if_true, if_false, bindE_ok]; rfl
    · simp only [hlt, hgt, decide_false, Bool.false_eq_true, if_false, bindE_ok]; rfl

theorem outerSize_drop (L R : List Int) (i j : Nat) (hi : i < L.length) (hj : j < R.length) :
    outerSize (L.drop i) (R.drop j) = 1 + (if L[i] < R[j] then outerSize (L.drop (i + 1)) (R.drop j)
      else if L[i] > R[j] then outerSize (L.drop i) (R.drop (j + 1)) else outerSize (L.drop (i + 1)) (R.drop (j + 1))) := by
  conv => lhs; rw [List.drop_eq_getElem_cons hi, List.drop_eq_getElem_cons hj, outerSize]
  rw [← List.drop_eq_getElem_cons hi, ← List.drop_eq_getElem_cons hj]

theorem loop1 (L R : List Int) :
    ∀ (n i j : Nat) (sz : Nat), L.length + R.length ≤ i + j + n → i ≤ L.length → j ≤ R.length →
      ∃ i' j' sz' : Nat,
        whileE ordered_outer_map_result_size_both_unique.guard_L1 ordered_outer_map_result_size_both_unique.body_L1 n
            (mk L R i j sz) = .ok (mk L R i' j' sz') ∧
          i' ≤ L.length ∧ j' ≤ R.length ∧
          sz' + L.length + R.length = sz + outerSize (L.drop i) (R.drop j) + i' + j' := by
  have hg : ∀ i j sz : Nat, ordered_outer_map_result_size_both_unique.guard_L1 (mk L R i j sz)
      = (decide (i < L.length) && decide (j < R.length)) := fun i j sz => by
    simp only [ordered_outer_map_result_size_both_unique.guard_L1, pyLen, Int.ofNat_lt]
  -- the loop has ended: a column is used up, `outerSize` is the length of the other's rest
  have stop : ∀ n i j sz : Nat, i ≤ L.length → j ≤ R.length → ¬ (i < L.length ∧ j < R.length) →
      ∃ i' j' sz' : Nat,
        whileE ordered_outer_map_result_size_both_unique.guard_L1 ordered_outer_map_result_size_both_unique.body_L1 n
            (mk L R i j sz) = .ok (mk L R i' j' sz') ∧
          i' ≤ L.length ∧ j' ≤ R.length ∧
          sz' + L.length + R.length = sz + outerSize (L.drop i) (R.drop j) + i' + j' := by
    intro n i j sz hi hj hd
    have hgf : ordered_outer_map_result_size_both_unique.guard_L1 (mk L R i j sz) = false := by
      rw [hg, ← Bool.not_eq_true, Bool.and_eq_true, decide_eq_true_eq, decide_eq_true_eq]; exact hd
    refine ⟨i, j, sz, whileE_of_guard_false hgf n, hi, hj, ?_⟩
    by_cases hil : i < L.length
    · obtain rfl : j = R.length := by omega
      rw [List.drop_length, outerSize_nil_right, List.length_drop]; omega
    · obtain rfl : i = L.length := by omega
      rw [List.drop_length, outerSize, List.length_drop]; omega
  intro n
  induction n with
  | zero => intro i j sz h hi hj; exact stop 0 i j sz hi hj (by omega)
  | succ n ih =>
    intro i j sz h hi hj
    by_cases hd : i < L.length ∧ j < R.length
    case neg => exact stop (n + 1) i j sz hi hj hd
    obtain ⟨hil, hjl⟩ := hd
    rw [whileE, hg, decide_eq_true hil, decide_eq_true hjl, Bool.and_self, if_pos rfl, body1 L R i j sz hil hjl,
      outerSize_drop L R i j hil hjl]
    -- one step uses up at least one of the `n + 1` iterations the two columns may still need
    have m1 : L.length + R.length ≤ i + 1 + j + n := by
      rw [Nat.add_right_comm i 1 j, Nat.add_assoc (i + j) 1 n, Nat.add_comm 1 n]; exact h
    have m2 : L.length + R.length ≤ i + (j + 1) + n := by
      rw [← Nat.add_assoc i j 1, Nat.add_assoc (i + j) 1 n, Nat.add_comm 1 n]; exact h
    by_cases hlt : L[i] < R[j]
    · rw [if_pos hlt, if_pos hlt]
      obtain ⟨i', j', sz', hw, h1, h2, h3⟩ := ih (i + 1) j (sz + 1) m1 hil hj
      exact ⟨i', j', sz', hw, h1, h2, by rw [h3, Nat.add_assoc sz 1]⟩
    · rw [if_neg hlt, if_neg hlt]
      by_cases hgt : L[i] > R[j]
      · rw [if_pos hgt, if_pos hgt]
        obtain ⟨i', j', sz', hw, h1, h2, h3⟩ := ih i (j + 1) (sz + 1) m2 hi hjl
        exact ⟨i', j', sz', hw, h1, h2, by rw [h3, Nat.add_assoc sz 1]⟩
      · rw [if_neg hgt, if_neg hgt]
        obtain ⟨i', j', sz', hw, h1, h2, h3⟩ := ih (i + 1) (j + 1) (sz + 1)
          (Nat.le_trans m1 (Nat.add_le_add_right (Nat.le_succ (i + 1 + j)) n)) hil hjl
        exact ⟨i', j', sz', hw, h1, h2, by rw [h3, Nat.add_assoc sz 1]⟩

/-- `while i < N: i += 1; c += 1` for any state type: `st i c` is the state with these two variables -/
theorem whileE_countUp {σ} (g : σ → Bool) (b : σ → Except Err σ) (N : Nat) (st : Nat → Nat → σ)
    (hg : ∀ i c, g (st i c) = decide ((i : Int) < (N : Int))) (hb : ∀ i c, b (st i c) = .ok (st (i + 1) (c + 1))) :
    ∀ (n i c : Nat), N - i ≤ n → i ≤ N → whileE g b n (st i c) = .ok (st N (c + (N - i))) := by
  intro n
  induction n with
  | zero =>
    intro i c h hi
    obtain rfl : i = N := by omega
    rw [whileE, hg, decide_eq_false (Int.lt_irrefl _), Nat.sub_self, Nat.add_zero]
    rfl
  | succ n ih =>
    intro i c h hi
    by_cases hil : i < N
    · rw [whileE, hg, decide_eq_true (Int.ofNat_lt.mpr hil), if_pos rfl, hb]
      show whileE g b n (st (i + 1) (c + 1)) = _
      rw [ih (i + 1) (c + 1) (by omega) hil, show c + 1 + (N - (i + 1)) = c + (N - i) by omega]
    · obtain rfl : i = N := by omega
      rw [whileE, hg, decide_eq_false (Int.lt_irrefl _), Nat.sub_self, Nat.add_zero]
      rfl

end OuterSize

theorem outer_size_eq (L R : List Int) (fuel : Nat) (hf : L.length + R.length ≤ fuel) :
    ordered_outer_map_result_size_both_unique.run L R fuel = .ok (outerSize L R : Nat) := by
  obtain ⟨i', j', sz', hw, h1, h2, h3⟩ := OuterSize.loop1 L R fuel 0 0 0 (by omega) (Nat.zero_le _) (Nat.zero_le _)
  have hw2 := OuterSize.whileE_countUp ordered_outer_map_result_size_both_unique.guard_L2
    ordered_outer_map_result_size_both_unique.body_L2 L.length (fun i c => OuterSize.mk L R i j' c) (fun _ _ => rfl) (fun _ _ => rfl)
    fuel i' sz' (by omega) h1
  have hw3 := OuterSize.whileE_countUp ordered_outer_map_result_size_both_unique.guard_L3
    ordered_outer_map_result_size_both_unique.body_L3 R.length (fun j c => OuterSize.mk L R L.length j c) (fun _ _ => rfl)
    (fun _ _ => rfl) fuel j' (sz' + (L.length - i')) (by omega) h2
  simp only [OuterSize.mk, Int.natCast_zero] at hw hw2 hw3
  simp only [ordered_outer_map_result_size_both_unique.run, hw, hw2, hw3, bindE_ok]
  simp only [List.drop_zero] at h3
  congr 2
  omega

/-- strictly increasing columns: `outerSize` counts the rows of the full outer join — every left key, every right key, a key on
    both sides once -/
theorem outerSize_spec (L R : List Int) (hL : L.Pairwise (· < ·)) (hR : R.Pairwise (· < ·)) :
    outerSize L R + (L.filter (fun a => R.contains a)).length = L.length + R.length := by
  induction L, R using outerSize.induct with
  | case1 r => simp [outerSize]
  | case2 a l => simp [outerSize]
  | case3 a l b r ih1 ih2 ih3 =>
    have hl := (List.pairwise_cons.mp hL)
    have hr := (List.pairwise_cons.mp hR)
    rw [outerSize]
    by_cases hlt : a < b
    · have := ih1 hl.2 hR
      have hna : (b :: r).contains a = false := by
        simp only [List.contains_cons, Bool.or_eq_false_iff, beq_eq_false_iff_ne, ne_eq]
        refine ⟨by omega, ?_⟩
        rw [← Bool.not_eq_true, List.contains_iff_mem]
        intro hm; have := hr.1 a hm; omega
      simp only [if_pos hlt, List.filter_cons, hna, Bool.false_eq_true, if_false, List.length_cons] at this ⊢
      omega
    · by_cases hgt : a > b
      · have := ih2 hL hr.2
        have hc : (a :: l).filter (fun x => (b :: r).contains x) = (a :: l).filter (fun x => r.contains x) := by
          apply List.filter_congr
          intro x hx
          have hxb : x ≠ b := by
            rcases List.mem_cons.mp hx with rfl | hm
            · omega
            · have := hl.1 x hm; omega
          simp [hxb]
        rw [hc, if_neg hlt, if_pos hgt]
        simp only [List.length_cons] at this ⊢
        omega
      · have hab : a = b := by omega
        subst hab
        have := ih3 hl.2 hr.2
        have hc : l.filter (fun x => x == a || r.contains x) = l.filter (fun x => r.contains x) := by
          apply List.filter_congr
          intro x hx
          have hxa : x ≠ a := by have := hl.1 x hx; omega
          simp [hxa]
        rw [if_neg hlt, if_neg hgt]
        simp only [List.filter_cons, List.contains_cons, beq_self_eq_true, Bool.true_or, if_true, List.length_cons, hc]
        omega

theorem outer_size_both_unique (L R : List Int) (hL : L.Pairwise (· < ·)) (hR : R.Pairwise (· < ·)) (fuel : Nat)
    (hf : L.length + R.length ≤ fuel) :
    ∃ n : Nat, ordered_outer_map_result_size_both_unique.run L R fuel = .ok (n : Int) ∧
      n + (L.filter (fun a => R.contains a)).length = L.length + R.length :=
  ⟨outerSize L R, outer_size_eq L R fuel hf, outerSize_spec L R hL hR⟩

example : [1, 2, 4, 7].Pairwise (fun a b : Int => a < b) := by decide

example : ordered_outer_map_result_size_both_unique.run [1, 2, 4, 7] [2, 3, 7, 9] 8 = .ok 6 := rfl
example : outerSize [1, 2, 4, 7] [2, 3, 7, 9] = 6 := by simp [outerSize]

end Exetera.GenK
