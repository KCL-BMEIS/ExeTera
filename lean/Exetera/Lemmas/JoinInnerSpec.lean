import Exetera.Lemmas.JoinKernel
/-! The inner join is the matched part of the left join. -/
namespace Exetera.Join
open Exetera Exetera.Spec

theorem sel_false_leftRow_nil (base : Nat) : sel false (leftRow base []) = [] := by simp [sel, leftRow]

theorem sel_false_leftRow_cons (base : Nat) (m : Nat) (ms : List Nat) :
    sel false (leftRow base (m :: ms)) = (m :: ms).map (fun j => (base, some j)) := by
  simp only [sel, leftRow, Bool.false_eq_true, if_false, List.filter_eq_self, List.mem_map]
  rintro ⟨a, b⟩ ⟨x, _, hx⟩
  cases hx; rfl

theorem inner_eq_sel_left (r : List Int) : ∀ (l : List Int) (base : Nat),
    encodeInner (innerJoinFrom r l base) =
      (encL (sel false (leftJoinFrom r l base)), encR 0 (sel false (leftJoinFrom r l base)))
  | [], _ => by simp [innerJoinFrom, leftJoinFrom, encodeInner, sel, encL, encR]
  | a :: as, base => by
    have ih := inner_eq_sel_left r as (base + 1)
    simp only [encodeInner, Prod.mk.injEq] at ih
    simp only [innerJoinFrom, leftJoinFrom, encodeInner, sel_append, List.map_append, Prod.mk.injEq, encL, encR] at ih ⊢
    cases hm : matchRows a r 0 with
    | nil =>
      simp only [sel_false_leftRow_nil, List.map_nil, List.nil_append]
      exact ih
    | cons m ms =>
      rw [sel_false_leftRow_cons]
      simp only [List.map_map, List.map_cons]
      constructor
      · rw [← ih.1]; simp [Function.comp_def]
      · rw [← ih.2]; simp [Function.comp_def, encCell]

/-- the marker is irrelevant once unmatched rows are dropped -/
theorem encR_sel_false (inv inv' : Int) (rows : List (Nat × Option Nat)) :
    encR inv (sel false rows) = encR inv' (sel false rows) := by
  simp only [encR, sel, Bool.false_eq_true, if_false, List.map_inj_left, List.mem_filter]
  rintro ⟨a, b⟩ ⟨_, hb⟩
  cases b with
  | none => simp at hb
  | some j => rfl

theorem encodeInner_fst (L R : List Int) : (encodeInner (innerJoin L R)).1 = encL (sel false (leftJoin L R)) :=
  congrArg Prod.fst (inner_eq_sel_left R L 0)

theorem encodeInner_snd (inv : Int) (L R : List Int) :
    (encodeInner (innerJoin L R)).2 = encR inv (sel false (leftJoin L R)) :=
  (congrArg Prod.snd (inner_eq_sel_left R L 0)).trans (encR_sel_false 0 inv _)

end Exetera.Join
