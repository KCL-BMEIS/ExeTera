import Exetera.Gen.Kernels
import Exetera.Model.Transforms
import Exetera.Lemmas.GenKernels
import Exetera.Lemmas.GenKernelsSpans
/-!
  The TRANSLATED `numeric_bool_transform` (Gen/Kernels.lean) against the hand model of `Model/Transforms.lean`:
  loop-level transfer lemmas for the two whitespace-trimming `while` loops, whose guards subscript `column_vals`
  (`whileG`), against `Transforms.skipLead` / `Transforms.skipTrail` — every `.ok` run of the model's recursion is a run of the
  translated loop (on the kernel's global fuel, any fuel ≥ the trip count) that leaves `byte_start_idx` / `byte_end_idx` at the
  model's result and changes nothing else.

  NOT done here (left `_partial` by omission, nothing is claimed): the row loop `body_L1` (the literal cascade against
  `boolLitIn Gen.boolLiterals`, the two stores, the validation modes) and the kernel-level transfer against
  `Transforms.boolTransform`.
-/
namespace Exetera.GenK.NumericBool

open Exetera Exetera.PyRt Exetera.Transforms Exetera.Gen.Kernels Exetera.GenK

abbrev St := numeric_bool_transform.St

/-- `val in (c1, …)` on a one-element array is the membership of its element -/
theorem arrInTupleE_one (x : Int) (cs : List Int) : arrInTupleE [x] cs = .ok (cs.any (fun c => c == x)) := rfl

/-- … and a ValueError on an array of any other length (what numpy and numba do) -/
theorem arrInTupleE_ne_one (a cs : List Int) (h : a.length ≠ 1) :
    ∃ e, arrInTupleE a cs = .error e ∧ e.tag = "value_error" := by
  match a, h with
  | [], _ => exact ⟨_, rfl, rfl⟩
  | [_], h => exact absurd rfl h
  | _ :: _ :: _, _ => exact ⟨_, rfl, rfl⟩

example : arrInTupleE [121] [49, 89, 121, 84, 116] = .ok true := rfl
example : arrInTupleE [50] [49, 89, 121, 84, 116] = .ok false := rfl
example : (arrInTupleE [] [49, 89]).toOption = none := rfl

/-- loop L2, `while byte_start_idx < length and column_vals[col_offset + row_start_idx + byte_start_idx] == 32: byte_start_idx += 1`,
    follows `skipLead vals base n b` (`n = length - byte_start_idx`, `base = col_offset + row_start_idx`) -/
theorem lead_transfer (vals : Bytes) (base : Nat) :
    ∀ (n b r fuel : Nat) (s : St), skipLead vals base n b = .ok r → n ≤ fuel →
      s.p3 = ints vals → s.v0 + s.v7 = (base : Int) → s.v10 = (b : Int) → s.v9 = ((b + n : Nat) : Int) →
      whileG numeric_bool_transform.guardE_L2 numeric_bool_transform.body_L2 fuel s = .ok { s with v10 := (r : Int) } := by
  intro n
  induction n with
  | zero =>
    intro b r fuel s h _ _ _ h10 h9
    simp only [skipLead, Except.ok.injEq] at h
    subst h
    have hlt : ¬ (s.v10 < s.v9) := by rw [h10, h9]; omega
    have hg : numeric_bool_transform.guardE_L2 s = .ok false := by
      simp [numeric_bool_transform.guardE_L2, hlt]
    have hs : ({ s with v10 := (b : Int) } : St) = s := by rw [← h10]
    rw [hs]
    cases fuel <;> simp [whileG, hg]
  | succ n ih =>
    intro b r fuel s h hf h3 h0 h10 h9
    obtain ⟨f, rfl⟩ : ∃ f, fuel = f + 1 := ⟨fuel - 1, by omega⟩
    simp only [skipLead] at h
    cases hget : getE vals (base + b) "column_vals[col_offset+row_start_idx+byte_start_idx]" with
    | error e => rw [hget] at h; simp at h
    | ok x =>
      rw [hget] at h
      simp only at h
      have hx : vals[base + b]? = some x := by simpa using hget
      have hidx : (s.v0 + s.v7) + s.v10 = ((base + b : Nat) : Int) := by rw [h0, h10]; omega
      have hlt : s.v10 < s.v9 := by rw [h10, h9]; omega
      have hread : idxE s.p3 ((s.v0 + s.v7) + s.v10) "p3[v0 + v7 + v10]" = .ok (x : Int) := by
        rw [hidx, idxE_nat, h3]; exact getE_ints vals _ _ hx
      by_cases hb : (x == Gen.boolBlank) = true
      · rw [if_pos hb] at h
        have hx32 : x = 32 := by simpa [Gen.boolBlank] using hb
        have hg : numeric_bool_transform.guardE_L2 s = .ok true := by
          simp [numeric_bool_transform.guardE_L2, hlt, hread, hx32]
        have hbody : numeric_bool_transform.body_L2 s = .ok { s with v10 := s.v10 + 1 } := rfl
        have ih' := ih (b + 1) r f { s with v10 := s.v10 + 1 } h (by omega) h3 h0
          (by show s.v10 + 1 = ((b + 1 : Nat) : Int); rw [h10]; omega)
          (by show s.v9 = ((b + 1 + n : Nat) : Int); rw [h9]; omega)
        simp only [whileG, hg, hbody, if_true]
        exact ih'
      · rw [if_neg hb] at h
        simp only [Except.ok.injEq] at h
        subst h
        have hx32 : ¬ ((x : Int) = 32) := by
          intro hc
          apply hb
          have : x = 32 := by omega
          simp [Gen.boolBlank, this]
        have hg : numeric_bool_transform.guardE_L2 s = .ok false := by
          simp [numeric_bool_transform.guardE_L2, hlt, hread, hx32]
        have hs : ({ s with v10 := (b : Int) } : St) = s := by rw [← h10]
        rw [hs]
        simp [whileG, hg]

/-- loop L3, `while byte_end_idx >= 0 and column_vals[col_offset + row_start_idx + byte_end_idx] == 32: byte_end_idx -= 1`,
    follows `skipTrail vals base e` (`e = byte_end_idx + 1`) -/
theorem trail_transfer (vals : Bytes) (base : Nat) :
    ∀ (e r fuel : Nat) (s : St), skipTrail vals base e = .ok r → e ≤ fuel →
      s.p3 = ints vals → s.v0 + s.v7 = (base : Int) → s.v11 = (e : Int) - 1 →
      whileG numeric_bool_transform.guardE_L3 numeric_bool_transform.body_L3 fuel s = .ok { s with v11 := (r : Int) - 1 } := by
  intro e
  induction e with
  | zero =>
    intro r fuel s h _ _ _ h11
    simp only [skipTrail, Except.ok.injEq] at h
    subst h
    have hge : ¬ (s.v11 ≥ 0) := by rw [h11]; omega
    have hg : numeric_bool_transform.guardE_L3 s = .ok false := by
      simp [numeric_bool_transform.guardE_L3, hge]
    have hs : ({ s with v11 := ((0 : Nat) : Int) - 1 } : St) = s := by rw [← h11]
    rw [hs]
    cases fuel <;> simp [whileG, hg]
  | succ e ih =>
    intro r fuel s h hf h3 h0 h11
    obtain ⟨f, rfl⟩ : ∃ f, fuel = f + 1 := ⟨fuel - 1, by omega⟩
    simp only [skipTrail] at h
    cases hget : getE vals (base + e) "column_vals[col_offset+row_start_idx+byte_end_idx]" with
    | error err => rw [hget] at h; simp at h
    | ok x =>
      rw [hget] at h
      simp only at h
      have hx : vals[base + e]? = some x := by simpa using hget
      have hidx : (s.v0 + s.v7) + s.v11 = ((base + e : Nat) : Int) := by rw [h0, h11]; omega
      have hge : s.v11 ≥ 0 := by rw [h11]; omega
      have hread : idxE s.p3 ((s.v0 + s.v7) + s.v11) "p3[v0 + v7 + v11]" = .ok (x : Int) := by
        rw [hidx, idxE_nat, h3]; exact getE_ints vals _ _ hx
      by_cases hb : (x == Gen.boolBlank) = true
      · rw [if_pos hb] at h
        have hx32 : x = 32 := by simpa [Gen.boolBlank] using hb
        have hg : numeric_bool_transform.guardE_L3 s = .ok true := by
          simp [numeric_bool_transform.guardE_L3, hge, hread, hx32]
        have hbody : numeric_bool_transform.body_L3 s = .ok { s with v11 := s.v11 - 1 } := rfl
        have ih' := ih r f { s with v11 := s.v11 - 1 } h (by omega) h3 h0
          (by show s.v11 - 1 = (e : Int) - 1; rw [h11]; omega)
        simp only [whileG, hg, hbody, if_true]
        exact ih'
      · rw [if_neg hb] at h
        simp only [Except.ok.injEq] at h
        subst h
        have hx32 : ¬ ((x : Int) = 32) := by
          intro hc
          apply hb
          have : x = 32 := by omega
          simp [Gen.boolBlank, this]
        have hg : numeric_bool_transform.guardE_L3 s = .ok false := by
          simp [numeric_bool_transform.guardE_L3, hge, hread, hx32]
        have hs : ({ s with v11 := ((e + 1 : Nat) : Int) - 1 } : St) = s := by rw [← h11]
        rw [hs]
        simp [whileG, hg]

/-! ### the hypotheses are satisfiable: the cell `"  1 "` of a one-column chunk -/

def exSt : St :=
  { p0 := [false], p1 := [true], p2 := [[0, 4]], p3 := ints [32, 32, 49, 32], p4 := [0, 4], p5 := 0, p6 := 1, p7 := 0,
    p8 := "relaxed", p9 := [102], v0 := 0, v1 := 0, v2 := [[102]], v3 := 0, v4 := false, v5 := true, v6 := -1, v7 := 0, v8 := 4,
    v9 := 4, v10 := 0, v11 := 3, v12 := 0, v13 := [], v14 := [], brk1 := false }

example : skipLead [32, 32, 49, 32] 0 4 0 = .ok 2 := rfl
example : skipTrail [32, 32, 49, 32] 0 4 = .ok 3 := rfl

example : whileG numeric_bool_transform.guardE_L2 numeric_bool_transform.body_L2 4 exSt = .ok { exSt with v10 := 2 } :=
  lead_transfer [32, 32, 49, 32] 0 4 0 2 4 exSt rfl (by omega) rfl rfl rfl rfl

example : whileG numeric_bool_transform.guardE_L3 numeric_bool_transform.body_L3 4 exSt = .ok { exSt with v11 := 2 } :=
  trail_transfer [32, 32, 49, 32] 0 4 3 4 exSt rfl (by omega) rfl rfl rfl

end Exetera.GenK.NumericBool
