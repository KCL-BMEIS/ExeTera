import Exetera.Lemmas.TransformsBasic
/-! C06: the key scan of `categorical_transform` over `get_byte_map`'s packed table. The scan has no `break`, so what it
leaves for a cell is the value of the *last* entry whose key is the cell (`lastMatch`); for pairwise different keys that is
the whole-cell `lookup`, in whatever order the table was sorted. -/
namespace Exetera.Transforms
open Exetera Exetera.Spec.Transforms

theorem keyEq_spec (vals keys : Bytes) (n p q : Nat) (hp : p + n ≤ vals.length) (hq : q + n ≤ keys.length) :
    keyEq vals keys n p q = .ok (decide (slice vals p (p + n) = slice keys q (q + n))) := by
  induction n generalizing p q with
  | zero => simp [keyEq, slice_self]
  | succ n ih =>
    have hp' : p < vals.length := by omega
    have hq' : q < keys.length := by omega
    rw [keyEq, getE_of_lt _ hp', getE_of_lt _ hq', slice_succ vals p n hp', slice_succ keys q n hq']
    by_cases hab : vals[p] = keys[q]
    · simp [hab, ih (p + 1) (q + 1) (by omega) (by omega)]
    · simp [hab]

def lastMatch (cell : Bytes) : List (Bytes × Int) → Option Int → Option Int
  | [], acc => acc
  | kv :: rest, acc => lastMatch cell rest (if kv.1 = cell then some kv.2 else acc)

theorem flatten_length_eq_sum (l : List Bytes) : l.flatten.length = (l.map List.length).sum := List.length_flatten

theorem packTable_index_length (tbl : List (Bytes × Int)) : (packTable tbl).index.length = tbl.length + 1 := by
  simp [packTable, offsets_length]

theorem packTable_entry (pre : List (Bytes × Int)) (kv : Bytes × Int) (post : List (Bytes × Int)) :
    ∃ lo, (packTable (pre ++ kv :: post)).index[pre.length]? = some lo ∧
      (packTable (pre ++ kv :: post)).index[pre.length + 1]? = some (lo + kv.1.length) ∧
      lo + kv.1.length ≤ (packTable (pre ++ kv :: post)).keys.length ∧
      slice (packTable (pre ++ kv :: post)).keys lo (lo + kv.1.length) = kv.1 ∧
      (packTable (pre ++ kv :: post)).values[pre.length]? = some kv.2 := by
  refine ⟨(pre.map (·.1)).flatten.length, ?_, ?_, ?_, ?_, ?_⟩
  · rw [packTable, offsets_getElem? _ _ _ (by simp)]
    simp [List.length_flatten, Function.comp_def]
  · rw [packTable, offsets_getElem? _ _ _ (by simp)]
    simp [List.length_flatten, Function.comp_def, List.take_append, List.take_of_length_le]
  · simp [packTable]
  · have : (packTable (pre ++ kv :: post)).keys = (pre.map (·.1)).flatten ++ kv.1 ++ (post.map (·.1)).flatten := by
      simp [packTable]
    rw [this]; exact slice_append_mid _ _ _
  · simp [packTable]

theorem scanKeys_step (bm : ByteMap) (vals : Bytes) (p : Nat) (cell key : Bytes) (v : Int) (n i lo : Nat) (acc : Option Int)
    (hcell : p + cell.length ≤ vals.length) (hsl : slice vals p (p + cell.length) = cell)
    (hlo : bm.index[i]? = some lo) (hhi : bm.index[i + 1]? = some (lo + key.length))
    (hk : lo + key.length ≤ bm.keys.length) (hks : slice bm.keys lo (lo + key.length) = key)
    (hv : bm.values[i]? = some v) :
    scanKeys bm vals p (cell.length : Int) (n + 1) i acc
      = scanKeys bm vals p (cell.length : Int) n (i + 1) (if key = cell then some v else acc) := by
  rw [scanKeys]
  simp only [getE, hlo, hhi]
  by_cases hl : cell.length = key.length
  · have hne : ((cell.length : Int) != ((lo + key.length : Nat) : Int) - (lo : Nat)) = false := by simp; omega
    simp only [hne, Bool.false_eq_true, if_false, Int.toNat_natCast]
    rw [keyEq_spec vals _ cell.length p lo hcell (hl ▸ hk), hsl, hl, hks]
    by_cases hc : key = cell
    · simp [hc, hv]
    · have hc' : ¬ cell = key := fun h => hc h.symm
      simp [hc, hc']
  · have hne : ((cell.length : Int) != ((lo + key.length : Nat) : Int) - (lo : Nat)) = true := by simp; omega
    have hc : ¬ key = cell := fun h => hl (by rw [h])
    simp only [hne, if_true, hc, if_false]

theorem scanKeys_spec (pre post : List (Bytes × Int)) (vals : Bytes) (p : Nat) (cell : Bytes)
    (hcell : p + cell.length ≤ vals.length) (hsl : slice vals p (p + cell.length) = cell) (acc : Option Int) :
    scanKeys (packTable (pre ++ post)) vals p (cell.length : Int) post.length pre.length acc
      = .ok (lastMatch cell post acc) := by
  induction post generalizing pre acc with
  | nil => simp [scanKeys, lastMatch]
  | cons kv post ih =>
    obtain ⟨lo, hlo, hhi, hk, hks, hv⟩ := packTable_entry pre kv post
    rw [List.length_cons, scanKeys_step _ vals p cell kv.1 kv.2 _ _ lo acc hcell hsl hlo hhi hk hks hv, lastMatch]
    have := ih (pre ++ [kv]) (if kv.1 = cell then some kv.2 else acc)
    simpa using this

theorem matchRow_spec (tbl : List (Bytes × Int)) (c : Chunk) (i s : Nat) (cell : Bytes) (rest : List Bytes)
    (h : EncFrom c i s (cell :: rest)) :
    matchRow (packTable tbl) c i = .ok (s, s + cell.length, lastMatch cell tbl none) := by
  have h0 := h.start
  have h1 := h.next
  obtain ⟨_, hlen, hsl, _⟩ := h
  simp only [matchRow, getE, h0, h1]
  have e : ((s + cell.length : Nat) : Int) - (s : Int) = (cell.length : Int) := by omega
  rw [e, packTable_index_length]
  have := scanKeys_spec [] tbl c.vals (c.off + s) cell hlen hsl none
  simp only [List.nil_append, List.length_nil] at this
  simp only [Nat.add_sub_cancel, this]

theorem lastMatch_of_not_mem (cell : Bytes) (l : List (Bytes × Int)) (acc : Option Int)
    (h : ∀ kv ∈ l, kv.1 ≠ cell) : lastMatch cell l acc = acc := by
  induction l generalizing acc with
  | nil => rfl
  | cons kv l ih =>
    rw [lastMatch, if_neg (h kv (by simp))]
    exact ih acc (fun kv' hk => h kv' (by simp [hk]))

theorem lastMatch_eq_lookup (cell : Bytes) (l : List (Bytes × Int)) (hnd : (l.map (·.1)).Nodup) :
    lastMatch cell l none = lookup l cell := by
  induction l with
  | nil => rfl
  | cons kv l ih =>
    simp only [List.map_cons, List.nodup_cons] at hnd
    rw [lastMatch, lookup, List.find?_cons]
    by_cases hk : kv.1 = cell
    · simp only [hk, if_true, beq_self_eq_true, Option.map_some]
      exact lastMatch_of_not_mem _ _ _ fun kv' hm hc => hnd.1 (hk ▸ hc ▸ List.mem_map_of_mem hm)
    · simp only [hk, if_false, beq_eq_false_iff_ne.mpr hk]
      exact ih hnd.2

theorem lastMatch_getByteMap (cats : List (Bytes × Int)) (hnd : (cats.map (·.1)).Nodup) (cell : Bytes) :
    lastMatch cell (cats.mergeSort (fun a b => bytesLe a.1 b.1)) none = lookup cats cell := by
  have hp : (cats.mergeSort (fun a b => bytesLe a.1 b.1)).Perm cats := List.mergeSort_perm _ _
  have hnd' : ((cats.mergeSort (fun a b => bytesLe a.1 b.1)).map (·.1)).Nodup := (hp.map _).nodup_iff.mpr hnd
  rw [lastMatch_eq_lookup _ _ hnd', lookup_perm hp hnd']

end Exetera.Transforms
