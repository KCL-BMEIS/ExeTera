import Exetera.Lemmas.CatalogueOps
/-! Around the client calls (`step`), what does not go through the abstract catalogue: closing and reopening a file, which
    rebuilds the in-memory catalogue from the link tables and keeps the invariant; the object heap only grows, under
    every call, in every state, for both variants of the code; what becomes of the field objects of a column moved to another
    frame. -/
namespace Exetera.Catalogue

/-- the field object `Session.get` builds for a loaded link (repaired code: it remembers its dataframe) -/
def mkLoaded (e : Key × Nat) : Handle := ⟨e.2, true, some e.1.1, e.1.1, false⟩

theorem loadCols_spec (L : List (Key × Nat)) (hs : List Handle) :
    (loadCols .repaired L hs).2 = hs ++ L.map mkLoaded ∧
    (loadCols .repaired L hs).1 = (L.zipIdx hs.length).map (fun p => (p.1.1, p.2)) := by
  induction L generalizing hs with
  | nil => simp [loadCols]
  | cons e L ih =>
    obtain ⟨⟨g, n⟩, oid⟩ := e
    simp only [loadCols]
    obtain ⟨i1, i2⟩ := ih (hs ++ [⟨oid, true, some g, g, false⟩])
    constructor
    · rw [i1]; simp [mkLoaded]
    · rw [i2]
      simp only [List.length_append, List.length_cons, List.length_nil, List.zipIdx_cons, List.map_cons]

theorem loadNames_id (L : List (Key × Nat)) (fn : List Name) (h : ∀ k g, (k, g) ∈ L → fn[g]? = some k.2) :
    loadNames L fn = fn := by
  induction L generalizing fn with
  | nil => rfl
  | cons e L ih =>
    obtain ⟨⟨d, n⟩, g⟩ := e
    simp only [loadNames]
    rw [set_self (h (d, n) g List.mem_cons_self)]
    exact ih fn (fun k g' hk => h k g' (List.mem_cons_of_mem _ hk))

theorem loadCols_mem {L : List (Key × Nat)} {hs : List Handle} {k : Key} {h : Nat} :
    (k, h) ∈ (loadCols .repaired L hs).1 ↔ hs.length ≤ h ∧ ∃ e, L[h - hs.length]? = some e ∧ e.1 = k := by
  rw [(loadCols_spec L hs).2]
  simp only [List.mem_map]
  constructor
  · rintro ⟨⟨e, i⟩, hm, heq⟩
    obtain ⟨rfl, rfl⟩ := Prod.mk.inj heq
    have := List.mem_zipIdx_iff_le_and_getElem?_sub.1 hm
    exact ⟨this.1, e, this.2, rfl⟩
  · rintro ⟨hle, e, he, rfl⟩
    exact ⟨(e, h), List.mem_zipIdx_iff_le_and_getElem?_sub.2 ⟨hle, he⟩, rfl⟩

theorem loadCols_keys (L : List (Key × Nat)) (hs : List Handle) : keys (loadCols .repaired L hs).1 = keys L := by
  rw [(loadCols_spec L hs).2]
  simp only [keys, List.map_map]
  have : ((fun x : Key × Nat => x.1) ∘ fun p : (Key × Nat) × Nat => (p.1.1, p.2)) = (fun e : Key × Nat => e.1) ∘ Prod.fst := rfl
  rw [this, ← List.map_map, List.zipIdx_map_fst]

theorem loadCols_vals (L : List (Key × Nat)) (hs : List Handle) :
    (loadCols .repaired L hs).1.map (·.2) = List.range' hs.length L.length := by
  rw [(loadCols_spec L hs).2]
  simp only [List.map_map]
  have : ((fun x : Key × Nat => x.2) ∘ fun p : (Key × Nat) × Nat => (p.1.1, p.2)) = Prod.snd := rfl
  rw [this, List.zipIdx_map_snd]

theorem reopen_inv {s : State} (hI : Inv s) (d : Nat) : Inv (reopen .repaired s d) := by
  let fileD := s.file.filter (fun e => e.1.1 = d)
  let mine := sortBy entryLe fileD
  let closedH := s.handles.map (fun hd => if inDs s d hd.home then { hd with closed := true } else hd)
  let toLoad := sortBy (loadLe s.file) (s.links.filter (fun l => l.1.1 ∈ mine.map (·.2)))
  have hmine : ∀ e, e ∈ mine ↔ e ∈ s.file ∧ e.1.1 = d := by
    intro e; rw [mem_sortBy, List.mem_filter, decide_eq_true_eq]
  have hP1 : ∀ g, g ∈ mine.map (·.2) → inDs s d g = true := by
    intro g hg
    obtain ⟨e, he, rfl⟩ := List.mem_map.1 hg
    have := hI.frameDs e.1 e.2 ((hmine e).1 he).1
    simp [inDs, this, ((hmine e).1 he).2]
  have hP2 : ∀ k o, (k, o) ∈ s.links → inDs s d k.1 = true → k.1 ∈ mine.map (·.2) := by
    intro k o hk hin
    obtain ⟨e, he, hee⟩ := List.mem_map.1 (hI.linkFrame k o hk)
    have := hI.frameDs e.1 e.2 he
    rw [hee] at this
    simp only [inDs, this, beq_iff_eq, Option.some.injEq] at hin
    exact List.mem_map.2 ⟨e, (hmine e).2 ⟨he, hin⟩, hee⟩
  have hload : ∀ e, e ∈ toLoad ↔ e ∈ s.links ∧ e.1.1 ∈ mine.map (·.2) := by
    intro e; rw [mem_sortBy, List.mem_filter, decide_eq_true_eq]
  have hloadPerm : toLoad.Perm (s.links.filter (fun l => l.1.1 ∈ mine.map (·.2))) := sortBy_perm _ _
  have hlen : closedH.length = s.handles.length := by simp [closedH]
  have hclosed : ∀ (h : Nat) (hd' : Handle), closedH[h]? = some hd' → ∃ hd : Handle, s.handles[h]? = some hd ∧
      hd' = if inDs s d hd.home then { hd with closed := true } else hd := by
    intro h hd' hh
    simp only [closedH, List.getElem?_map, Option.map_eq_some_iff] at hh
    obtain ⟨hd, h1, h2⟩ := hh
    exact ⟨hd, h1, h2.symm⟩
  have hfname : loadNames mine s.fname = s.fname :=
    loadNames_id mine s.fname (fun k g hk => hI.frameName k g ((hmine _).1 hk).1)
  have hH : (reopen .repaired s d).handles = closedH ++ toLoad.map mkLoaded := (loadCols_spec toLoad closedH).1
  have hC : (reopen .repaired s d).cols = s.cols.filter (fun e => !inDs s d e.1.1) ++ (loadCols .repaired toLoad closedH).1 := rfl
  have hnew : ∀ (h : Nat), closedH.length ≤ h → ∀ hd' : Handle, (closedH ++ toLoad.map mkLoaded)[h]? = some hd' →
      ∃ e, toLoad[h - closedH.length]? = some e ∧ hd' = mkLoaded e := by
    intro h hle hd' hh
    rw [List.getElem?_append_right hle, List.getElem?_map, Option.map_eq_some_iff] at hh
    obtain ⟨e, he, rfl⟩ := hh
    exact ⟨e, he, rfl⟩
  have hkeptlt : ∀ k h, (k, h) ∈ s.cols → h < closedH.length := by
    intro k h hk
    obtain ⟨hd, h1, _⟩ := hI.sameObj k h hk
    rw [hlen]; exact (List.getElem?_eq_some_iff.1 h1).1
  refine { hI with colsNodup := ?_, sameKeys := ?_, sameObj := ?_, handleInj := ?_, 
                   frameName := ?_, fdsLen := ?_, 
                   handleLink := ?_, handleOidLt := ?_, dfsNodup := ?_, sameFrames := ?_ }
  · -- colsNodup
    rw [hC, keys_append, List.nodup_append]
    refine ⟨nodup_map_filter _ _ hI.colsNodup, ?_, ?_⟩
    · rw [loadCols_keys]
      exact (hloadPerm.map _).nodup_iff.2 (nodup_map_filter _ _ hI.linksNodup)
    · intro a ha b hb heq
      subst heq
      rw [loadCols_keys] at hb
      have ha' := (mem_keys_filter (q := fun k => !inDs s d k.1)).1 ha
      obtain ⟨o, ho⟩ := mem_keys.1 hb
      have := hP1 _ ((hload _).1 ho).2
      simp [this] at ha'
  · -- sameKeys
    intro k
    rw [hC, keys_append, List.mem_append, loadCols_keys, mem_keys_filter (q := fun k => !inDs s d k.1)]
    constructor
    · rintro (⟨h1, _⟩ | h1)
      · exact (hI.sameKeys k).1 h1
      · obtain ⟨o, ho⟩ := mem_keys.1 h1
        exact mem_keys_of_mem ((hload _).1 ho).1
    · intro hk
      obtain ⟨o, ho⟩ := mem_keys.1 hk
      cases hin : inDs s d k.1 with
      | false => exact Or.inl ⟨(hI.sameKeys k).2 hk, by simp⟩
      | true => exact Or.inr (mem_keys_of_mem ((hload _).2 ⟨ho, hP2 k o ho hin⟩))
  · -- sameObj
    intro k h hk
    rw [hC, List.mem_append] at hk
    rw [hH]
    rcases hk with hk | hk
    · have hk' := List.mem_filter.1 hk
      obtain ⟨hd, h1, h2, h3, h4, h5, h6⟩ := hI.sameObj k h hk'.1
      have hlt : h < closedH.length := hkeptlt k h hk'.1
      refine ⟨hd, ?_, h2, h3, h4, h5, h6⟩
      rw [List.getElem?_append_left hlt]
      simp only [closedH, List.getElem?_map, h1, Option.map_some]
      have : inDs s d hd.home = false := by
        rw [h5]; simpa using hk'.2
      simp [this]
    · obtain ⟨hle, e, he, rfl⟩ := loadCols_mem.1 hk
      refine ⟨mkLoaded e, ?_, rfl, rfl, rfl, rfl, ?_⟩
      · rw [List.getElem?_append_right hle, List.getElem?_map, he]; rfl
      · exact ((hload e).1 (List.mem_of_getElem? he)).1
  · -- handleInj
    rw [hC, List.map_append, List.nodup_append]
    refine ⟨nodup_map_filter _ _ hI.handleInj, ?_, ?_⟩
    · rw [loadCols_vals]; exact List.nodup_range' 1
    · intro a ha b hb heq
      subst heq
      rw [loadCols_vals, List.mem_range'] at hb
      obtain ⟨i, _, hi⟩ := hb
      obtain ⟨e, he, rfl⟩ := List.mem_map.1 ha
      have := hkeptlt e.1 e.2 (List.mem_filter.1 he).1
      omega
  · -- frameName
    intro k g hk
    show (loadNames mine s.fname)[g]? = some k.2
    rw [hfname]; exact hI.frameName k g hk
  · show s.fds.length = (loadNames mine s.fname).length
    rw [hfname]; exact hI.fdsLen
  · -- handleLink
    intro h hd' hh hc k hk
    rw [hH] at hh
    rcases Nat.lt_or_ge h closedH.length with hlt | hge
    · rw [List.getElem?_append_left hlt] at hh
      obtain ⟨hd, h1, h2⟩ := hclosed h hd' hh
      cases hin : inDs s d hd.home with
      | true => rw [hin] at h2; subst h2; simp at hc
      | false =>
        rw [hin] at h2
        simp only [Bool.false_eq_true, if_false] at h2
        subst h2
        exact hI.handleLink h hd' h1 hc k hk
    · obtain ⟨e, he, rfl⟩ := hnew h hge hd' hh
      have hel := ((hload e).1 (List.mem_of_getElem? he)).1
      have : k = e.1 := injective hI.oidInj hk hel
      subst this
      exact ⟨rfl, rfl, rfl⟩
  · -- handleOidLt
    intro h hd' hh
    rw [hH] at hh
    show hd'.oid < s.objs.length
    rcases Nat.lt_or_ge h closedH.length with hlt | hge
    · rw [List.getElem?_append_left hlt] at hh
      obtain ⟨hd, h1, h2⟩ := hclosed h hd' hh
      have := hI.handleOidLt h hd h1
      subst h2
      split <;> exact this
    · obtain ⟨e, he, rfl⟩ := hnew h hge hd' hh
      exact hI.oidLt e.1 e.2 ((hload e).1 (List.mem_of_getElem? he)).1
  · -- dfsNodup
    show (keys (s.dfs.filter (fun e => e.1.1 ≠ d) ++ mine)).Nodup
    rw [keys_append, List.nodup_append]
    refine ⟨nodup_map_filter _ _ hI.dfsNodup, ?_, ?_⟩
    · exact ((sortBy_perm entryLe fileD).map _).nodup_iff.2 (nodup_map_filter _ _ hI.fileNodup)
    · intro a ha b hb heq
      subst heq
      obtain ⟨v, hv⟩ := mem_keys.1 ha
      obtain ⟨w, hw⟩ := mem_keys.1 hb
      have h1 := (List.mem_filter.1 hv).2
      have h2 := ((hmine _).1 hw).2
      simp only [ne_eq, decide_eq_true_eq] at h1 h2
      exact h1 h2
  · -- sameFrames
    intro e
    show e ∈ s.dfs.filter (fun e => e.1.1 ≠ d) ++ mine ↔ e ∈ s.file
    rw [List.mem_append, hmine, List.mem_filter, hI.sameFrames e]
    simp only [ne_eq, decide_eq_true_eq]
    constructor
    · rintro (⟨h1, _⟩ | ⟨h1, _⟩) <;> exact h1
    · intro h1
      by_cases hd : e.1.1 = d
      · exact Or.inr ⟨h1, hd⟩
      · exact Or.inl ⟨h1, hd⟩

theorem ObjsExt.refl (s : State) : ObjsExt s s := ⟨[], by simp⟩
theorem ObjsExt.trans {a b c : State} (h1 : ObjsExt a b) (h2 : ObjsExt b c) : ObjsExt a c := by
  obtain ⟨x, hx⟩ := h1; obtain ⟨y, hy⟩ := h2
  exact ⟨x ++ y, by rw [hy, hx, List.append_assoc]⟩
theorem ObjsExt.of_eq {s s' : State} (h : s'.objs = s.objs) : ObjsExt s s' := ⟨[], by simp [h]⟩

theorem ObjsExt.get {s s' : State} (h : ObjsExt s s') {oid : Nat} {c : Content} (hc : s.objs[oid]? = some c) :
    s'.objs[oid]? = some c := by
  obtain ⟨x, hx⟩ := h
  rw [hx, List.getElem?_append_left (List.getElem?_eq_some_iff.1 hc).1]; exact hc

theorem andThen_objs {α β} {s : State} {r : Res α} {k : α → State → Res β} (h1 : ObjsExt s r.state)
    (h2 : ∀ a s1, ObjsExt s1 (k a s1).state) : ObjsExt s (r.andThen k).state := by
  cases r with
  | err e s1 => exact h1
  | ok a s1 => exact h1.trans (h2 a s1)

theorem void_objs {α} {s : State} {r : Res α} (h : ObjsExt s r.state) : ObjsExt s r.void.state := by
  cases r <;> exact h

theorem withFrame_objs {α} {s : State} {d : Nat} {fn : Name} {k : Nat → Res α} (h : ∀ g, ObjsExt s (k g).state) :
    ObjsExt s (withFrame s d fn k).state := by
  unfold withFrame; split
  · exact .refl s
  · exact h _

theorem withField_objs {α} {s : State} {r : FRef} {k : Nat → Res α} (h : ∀ g, ObjsExt s (k g).state) :
    ObjsExt s (withField s r k).state := by
  unfold withField; split
  · exact .refl s
  · exact h _

/-! Only `addField` writes to the heap, and it appends. -/

theorem addField_objs (v : Variant) (s : State) (g : Nat) (n : Name) (c : Content) : ObjsExt s (addField v s g n c).state := by
  rw [addField_eq]; split
  · exact .refl s
  split
  · exact .refl s
  · exact ⟨[c], rfl⟩

theorem copyField_objs (v : Variant) (s : State) (h g : Nat) (n : Name) : ObjsExt s (copyField v s h g n).state := by
  unfold copyField; split
  · exact .refl s
  · exact addField_objs ..

theorem delItem_objs (s : State) (g : Nat) (n : Name) : (delItem s g n).state.objs = s.objs := by
  unfold delItem; split
  · rfl
  split <;> rfl

theorem dropField_objs (s : State) (g : Nat) (n : Name) : (dropField s g n).state.objs = s.objs := by
  unfold dropField; split
  · rfl
  dsimp only
  split <;> rfl

theorem renameFields_objs (v : Variant) (s : State) (g : Nat) (dict : List (Name × Name)) :
    (renameFields v s g dict).state.objs = s.objs := by
  unfold renameFields
  dsimp only
  split
  · rfl
  split
  · rfl
  split
  · rfl
  split
  · rfl
  split <;> rfl

theorem moveField_objs (v : Variant) (s : State) (h g : Nat) (n : Name) : ObjsExt s (moveField v s h g n).state := by
  unfold moveField
  split
  · exact .refl s
  · split
    · split
      · exact .refl s
      · exact .of_eq (renameFields_objs ..)
    · refine andThen_objs (copyField_objs ..) fun a s1 => ?_
      split
      · exact .refl s1
      · split
        · exact .refl s1
        · exact andThen_objs (.of_eq (dropField_objs ..)) fun _ s2 => .of_eq rfl

theorem copyAll_objs (v : Variant) (g : Nat) (cs : List (Name × Nat)) (s : State) : ObjsExt s (copyAll v g cs s).state := by
  induction cs generalizing s with
  | nil => exact .refl s
  | cons e cs ih =>
    simp only [copyAll]
    have h1 := copyField_objs v s e.2 g e.1
    split
    · next heq => rw [heq] at h1; exact h1
    · next heq => rw [heq] at h1; exact h1.trans (ih _)

theorem createFrame_objs (v : Variant) (s : State) (d : Nat) (fn : Name) (src : Option Nat) :
    ObjsExt s (createFrame v s d fn src).state := by
  unfold createFrame
  refine andThen_objs (by rw [newGroup_eq]; split <;> exact .of_eq rfl) fun g s1 => andThen_objs ?_ fun _ s2 => .of_eq rfl
  unfold fillFrame
  cases src with
  | none => exact .refl s1
  | some sg => exact copyAll_objs ..

theorem copyFrame_objs (v : Variant) (s : State) (sg d : Nat) (fn : Name) : ObjsExt s (copyFrame v s sg d fn).state := by
  unfold copyFrame
  split
  · exact .refl s
  · exact andThen_objs (createFrame_objs ..) fun g s1 => andThen_objs (copyAll_objs ..) fun _ s2 => .of_eq rfl

theorem unlinkGroup_objs (s : State) (d : Nat) (fn : Name) : (unlinkGroup s d fn).state.objs = s.objs := by
  unfold unlinkGroup; split <;> rfl

theorem dropFrame_objs (s : State) (d : Nat) (fn : Name) : (dropFrame s d fn).state.objs = s.objs := by
  unfold dropFrame; split
  · rfl
  · exact unlinkGroup_objs ..

theorem delFrame_objs (s : State) (d : Nat) (fn : Name) : (delFrame s d fn).state.objs = s.objs := by
  unfold delFrame; split
  · rfl
  · exact unlinkGroup_objs ..

theorem moveGroup_objs (s : State) (d g : Nat) (fn : Name) : (moveGroup s d g fn).state.objs = s.objs := by
  unfold moveGroup; split
  · rfl
  · split <;> rfl

theorem renameEntry_objs (s : State) (d g : Nat) (fn : Name) : (renameEntry s d g fn).state.objs = s.objs := by
  unfold renameEntry; split
  · rfl
  · split <;> rfl

theorem setFrame_objs (v : Variant) (s : State) (d : Nat) (fn : Name) (sd sg : Nat) : ObjsExt s (setFrame v s d fn sd sg).state := by
  unfold setFrame
  split
  · cases v with
    | asFound => exact andThen_objs (.of_eq (renameEntry_objs ..)) fun _ s1 => .of_eq (moveGroup_objs ..)
    | repaired => exact andThen_objs (.of_eq (moveGroup_objs ..)) fun _ s1 => .of_eq (renameEntry_objs ..)
  · exact copyFrame_objs ..

theorem moveFrame_objs (v : Variant) (s : State) (sd sg d : Nat) (fn : Name) : ObjsExt s (moveFrame v s sd sg d fn).state := by
  unfold moveFrame
  refine andThen_objs (copyFrame_objs ..) fun _ s1 => ?_
  split
  · exact .refl s1
  · exact .of_eq (dropFrame_objs ..)

theorem step_objs (v : Variant) (s : State) (op : Op) : ObjsExt s (step v s op).state := by
  cases op with
  | create d fn n c => exact withFrame_objs fun g => void_objs (addField_objs ..)
  | setItem d fn n r | copyField r d fn n => exact withField_objs fun h => withFrame_objs fun g => void_objs (copyField_objs ..)
  | add d fn r =>
    refine withField_objs fun h => withFrame_objs fun g => void_objs ?_
    unfold addCopy; split
    · exact .refl s
    · exact copyField_objs ..
  | delItem d fn n => exact withFrame_objs fun g => .of_eq (delItem_objs ..)
  | drop d fn n => exact withFrame_objs fun g => .of_eq (dropField_objs ..)
  | deleteField d fn r =>
    refine withField_objs fun h => withFrame_objs fun g => ?_
    unfold deleteField
    split
    · exact .refl s
    split
    · exact .refl s
    split
    · exact .refl s
    · exact .of_eq (delItem_objs ..)
  | rename d fn dict =>
    simp only [step]; split
    · exact .refl s
    · exact withFrame_objs fun g => .of_eq (renameFields_objs ..)
  | moveField r d fn n => exact withField_objs fun h => withFrame_objs fun g => moveField_objs ..
  | createFrame d fn src =>
    cases src with
    | none => exact void_objs (createFrame_objs ..)
    | some sr => exact withFrame_objs fun sg => void_objs (createFrame_objs ..)
  | requireFrame d fn =>
    simp only [step]; split
    · exact .refl s
    · exact void_objs (createFrame_objs ..)
  | copyFrame sd sfn d fn => exact withFrame_objs fun sg => copyFrame_objs ..
  | setFrame d fn sd sfn => exact withFrame_objs fun sg => setFrame_objs ..
  | delFrame d fn => exact .of_eq (delFrame_objs ..)
  | dropFrame d fn => exact .of_eq (dropFrame_objs ..)
  | deleteFrame d sd sfn =>
    refine withFrame_objs fun sg => ?_
    split
    · exact .refl s
    · exact .of_eq (delFrame_objs ..)
  | moveFrame sd sfn d fn => exact withFrame_objs fun sg => moveFrame_objs ..
  | reopen d => exact .of_eq rfl
  | view r =>
    refine withField_objs fun h => void_objs ?_
    unfold viewField; split <;> exact .of_eq rfl

theorem dropField_handles (s : State) (g : Nat) (n : Name) : (dropField s g n).state.handles = s.handles := by
  unfold dropField; split
  · rfl
  dsimp only
  split <;> rfl

theorem addField_handles {v : Variant} {s s1 : State} {g : Nat} {n : Name} {c : Content} {a : Nat}
    (h : addField v s g n c = .ok a s1) : ∃ nh : Handle, s1.handles = s.handles ++ [nh] ∧ nh.oid = s.objs.length := by
  rw [addField_eq] at h
  split at h
  · cases h
  split at h <;> cases h
  exact ⟨_, rfl, rfl⟩

/-- the field objects after a cross-frame `dataframe.move`: one new object (the destination column, a new group), and the
    object that was handed in has `_valid_reference = False`; no other object is told anything -/
theorem moveField_cross_handles {s s' : State} {h g : Nat} {n : Name} {hd : Handle}
    (hv : ensureValid s h = .ok hd) (hne : hd.owner ≠ some g) (hok : moveField .repaired s h g n = .ok () s') :
    ∃ nh : Handle, nh.oid = s.objs.length ∧
      s'.handles = (s.handles ++ [nh]).modify h (fun x => { x with valid := false }) := by
  unfold moveField at hok
  simp only [hv, hne, if_false] at hok
  cases hcp : copyField .repaired s h g n with
  | err e s1 => rw [hcp] at hok; simp [Res.andThen] at hok
  | ok a s1 =>
    rw [hcp] at hok
    simp only [Res.andThen] at hok
    obtain ⟨nh, hnh, hoid⟩ : ∃ nh : Handle, s1.handles = s.handles ++ [nh] ∧ nh.oid = s.objs.length := by
      unfold copyField at hcp
      split at hcp
      · cases hcp
      · exact addField_handles hcp
    split at hok
    · cases hok
    · next og _ =>
      split at hok
      · cases hok
      · next k _ =>
        have hdh := dropField_handles s1 og k
        cases hdr : dropField s1 og k with
        | err e s2 => rw [hdr] at hok; cases hok
        | ok u s2 =>
          rw [hdr] at hok hdh
          simp only [Res.ok.injEq, true_and] at hok
          subst hok
          simp only [Res.state] at hdh
          exact ⟨nh, hoid, by simp only [invalidate, hdh, hnh]⟩

end Exetera.Catalogue
