import Exetera.Lemmas.CsvTyped
import Exetera.Lemmas.CsvRaise
/-! C05 ∘ C06, the raising side: what each schema-typed importer raises on the first cell of a block that its validation
    mode rejects (`rejErr`), the class of that error per importer kind, and `read_csv_with_schema_dict` on a file that holds
    such a cell. -/
namespace Exetera.Csv
open Exetera Spec Exetera.Transforms Exetera.Spec.Transforms

/-- what `astype(data_type)` / the `relaxed` loop raise on a text they do not convert: `OverflowError` when the text is an
    integer outside the dtype, `ValueError` otherwise -/
def numErr {V} : Parsed V → Err
  | .overflow => .other "OverflowError"
  | _ => .valueError "cannot be converted"

/-- **what the importer of kind `k` raises on a cell it rejects** (`none`: the cell is acceptable, `cellOK`):
    * categorical (no free text): the `ValueError` of `CategoricalImporter.import_part` for a cell that equals no key (fix NC06d);
    * bool: the `Exception` of `raiseNumericException` (empty in strict mode, unparseable in strict / allow_empty mode);
    * int / float: what the conversion of the cell text raises — `ValueError` for an empty or unparseable text (strict; unparseable:
      allow_empty), `OverflowError` for an integer outside the dtype (every mode);
    * datetime / date: what the per-cell conversion raises (`ValueError`: unexpected format, field out of range). -/
def rejErr : FieldKind → Bytes → Option Err
  | .categorical cats, cell => if (lookup cats cell).isSome then none else some notACategory
  | .bool mode invalid, cell => if (numericCell mode invalid (boolClass cell)).isSome then none else some (.other "Exception")
  | .numeric p mode _ invalidVal, cell =>
    if (numericCell mode invalidVal (classOf p.parse (rstripNul cell))).isSome then none
    else some (numErr (p.parse (rstripNul cell)))
  | .datetime, cell => match datetimeCell cell with
    | .error e => some e
    | .ok _ => none
  | .date, cell => match dateCell cell with
    | .error e => some e
    | .ok _ => none
  | _, _ => none

theorem rejErr_none_iff (k : FieldKind) (cell : Bytes) : rejErr k cell = none ↔ cellOK k cell := by
  cases k with
  | datetime => simp only [rejErr, cellOK]; cases datetimeCell cell <;> simp [Except.toOption]
  | date => simp only [rejErr, cellOK]; cases dateCell cell <;> simp [Except.toOption]
  | _ => simp [rejErr, cellOK, Option.isSome_iff_ne_none]

theorem astypeAll_first_bad {V} (parse : Bytes → Parsed V) (g : Bytes → Bytes) (pre : List Bytes) (x : Bytes)
    (post : List Bytes) (hpre : ∀ u ∈ pre, ∃ v, parse (g u) = .val v) (hx : ∀ v, parse (g x) ≠ .val v) :
    astypeAll parse ((pre ++ x :: post).map g) = .error (numErr (parse (g x))) := by
  induction pre with
  | nil =>
    rw [List.nil_append, List.map_cons, astypeAll]
    cases hp : parse (g x) with
    | val v => exact absurd hp (hx v)
    | bad => rfl
    | overflow => rfl
  | cons u pre ih =>
    obtain ⟨v, hv⟩ := hpre u (by simp)
    rw [List.cons_append, List.map_cons, astypeAll, hv, ih (fun y hy => hpre y (by simp [hy]))]

theorem relaxedAll_first_bad {V} (parse : Bytes → Parsed V) (inv : V) (g : Bytes → Bytes) (pre : List Bytes) (x : Bytes)
    (post : List Bytes) (hpre : ∀ u ∈ pre, parse (g u) ≠ .overflow) (hx : parse (g x) = .overflow) :
    relaxedAll parse inv ((pre ++ x :: post).map g) = .error (.other "OverflowError") := by
  induction pre with
  | nil => rw [List.nil_append, List.map_cons, relaxedAll, hx]
  | cons u pre ih =>
    have hu := hpre u (by simp)
    rw [List.cons_append, List.map_cons, relaxedAll, ih (fun y hy => hpre y (by simp [hy]))]
    cases hp : parse (g u) with
    | overflow => exact absurd hp hu
    | val v => rfl
    | bad => rfl

theorem cellsMapE_first_bad {α} (f : Bytes → Except Err α) (pre : List Bytes) (x : Bytes) (post : List Bytes)
    (hpre : ∀ cell ∈ pre, (f cell).toOption.isSome) (hx : ¬ (f x).toOption.isSome) :
    ∃ e, f x = .error e ∧ cellsMapE f (pre ++ x :: post) = .error e := by
  cases hf : f x with
  | ok v => exact absurd (by rw [hf]; rfl) hx
  | error e =>
    refine ⟨e, rfl, ?_⟩
    induction pre with
    | nil => simp [cellsMapE, hf]
    | cons c cs ih =>
      have hc := hpre c (by simp)
      cases hfc : f c with
      | error e' => rw [hfc] at hc; cases hc
      | ok a => simp [cellsMapE, hfc, ih (fun y hy => hpre y (by simp [hy]))]

/-- which texts a validation mode accepts, in terms of what `transformNum` hands to the parser: the text itself (strict), the
    text or `str(invalid_value)` for a blank one (allow_empty); the `relaxed` loop only fails on an integer outside the dtype -/
theorem numericCell_classOf_isSome {V} (parse : Bytes → Parsed V) (invalidText : Bytes) (invalid : V)
    (hblank : ∀ t, npNonEmpty t = false → parse t = .bad) (hinv : parse invalidText = .val invalid) (mode : Mode) (t : Bytes) :
    (numericCell mode invalid (classOf parse t)).isSome ↔
      match mode with
      | .strict => ∃ v, parse t = .val v
      | .allowEmpty => ∃ v, parse (if npNonEmpty t then t else invalidText) = .val v
      | .relaxed => parse t ≠ .overflow := by
  unfold classOf
  by_cases hn : npNonEmpty t = true
  · cases mode <;> cases hp : parse t <;> simp [hn, hp, numericCell]
  · have hb := hblank t (by simpa using hn)
    cases mode <;> simp [hn, hb, hinv, numericCell]

/-- `transform_int` / `transform_float` on a block whose first rejected cell is `x`: the conversion raises on `x` -/
theorem transformNum_first_bad {V} (parse : Bytes → Parsed V) (mode : Mode) (invalidText : Bytes) (invalid : V)
    (hblank : ∀ t, npNonEmpty t = false → parse t = .bad) (hinv : parse invalidText = .val invalid)
    (pre : List Bytes) (x : Bytes) (post : List Bytes)
    (hpre : ∀ cell ∈ pre, (numericCell mode invalid (classOf parse (rstripNul cell))).isSome)
    (hx : ¬ (numericCell mode invalid (classOf parse (rstripNul x))).isSome) :
    transformNum parse mode invalidText invalid (pre ++ x :: post) = .error (numErr (parse (rstripNul x))) := by
  simp only [numericCell_classOf_isSome parse invalidText invalid hblank hinv] at hpre hx
  cases mode with
  | strict =>
    simp only [transformNum, astypeAll_first_bad parse rstripNul pre x post hpre (fun v hv => hx ⟨v, hv⟩)]
  | allowEmpty =>
    have hn : npNonEmpty (rstripNul x) = true := by
      apply Classical.byContradiction
      intro hn
      exact hx ⟨invalid, by simp only [hn]; exact hinv⟩
    have := astypeAll_first_bad parse (fun c => if npNonEmpty (rstripNul c) then rstripNul c else invalidText) pre x post
      hpre (fun v hv => hx ⟨v, hv⟩)
    simp only [hn, if_true] at this
    simp only [transformNum, List.map_map, Function.comp_def, this]
  | relaxed =>
    have hov : parse (rstripNul x) = .overflow := Classical.byContradiction hx
    simp only [transformNum, relaxedAll_first_bad parse invalid rstripNul pre x post hpre hov, hov, numErr]

theorem numericColumn_eq_none_of_mem {V α} (mode : Mode) (inv : V) (g : α → CellClass V) {E : List α} {x : α} (hxE : x ∈ E)
    (hx : ¬ (numericCell mode inv (g x)).isSome) : numericColumn mode inv (E.map g) = none :=
  Option.not_isSome_iff_eq_none.mp
    fun h => hx ((numericColumn_isSome_iff mode inv _).mp h _ (List.mem_map_of_mem hxE))

theorem typedPart_rej {k : FieldKind} (hKind : KindOK k) {imp : Imp} (hkind : imp.kind = k) {ch : Chunk}
    {pre post : List Bytes} {x : Bytes} (henc : Encodes ch (pre ++ x :: post)) (hpre : ∀ cell ∈ pre, cellOK k cell)
    (hx : ¬ cellOK k x) : ∃ err, rejErr k x = some err ∧ imp.typedPart ch = .error err := by
  have hxE : x ∈ pre ++ x :: post := by simp
  cases k with
  | indexed => exact absurd trivial hx
  | fixed n => exact absurd trivial hx
  | leaky cats => exact absurd trivial hx
  | categorical cats =>
    have hE : ¬ ∀ cell ∈ pre ++ x :: post, (lookup cats cell).isSome := fun h => hx (h x hxE)
    exact ⟨notACategory, if_neg hx, by
      simp only [Imp.typedPart, hkind, categoricalImportPart_spec cats hKind _ _ henc, catColumn_eq_none cats _ hE]⟩
  | bool mode invalid =>
    have hbt := Exetera.Props.C06.bool_transform_spec ch mode invalid ch.rows ch.rows _ henc (Nat.le_refl _) (Nat.le_refl _)
    rw [numericColumn_eq_none_of_mem mode invalid boolClass hxE hx] at hbt
    exact ⟨.other "Exception", if_neg hx, by simp only [Imp.typedPart, hkind, hbt]⟩
  | numeric p mode it iv =>
    exact ⟨numErr (p.parse (rstripNul x)), if_neg hx, by
      simp only [Imp.typedPart, hkind, cellsE_spec _ _ henc,
        transformNum_first_bad p.parse mode it iv hKind.1 hKind.2 pre x post hpre hx]⟩
  | datetime =>
    obtain ⟨e, hf, hm⟩ := cellsMapE_first_bad datetimeCell pre x post hpre hx
    exact ⟨e, by simp only [rejErr, hf], by simp only [Imp.typedPart, hkind, cellsE_spec _ _ henc, hm]⟩
  | date =>
    obtain ⟨e, hf, hm⟩ := cellsMapE_first_bad dateCell pre x post hpre hx
    exact ⟨e, by simp only [rejErr, hf], by simp only [Imp.typedPart, hkind, cellsE_spec _ _ henc, hm]⟩

theorem impRej_typed (ncols : Nat) (kinds : Nat → FieldKind) (hkinds : ∀ c, c < ncols → KindOK (kinds c)) :
    ImpRej ncols (typedF kinds) (fun c => cellOK (kinds c)) (fun c x err => rejErr (kinds c) x = some err) := by
  intro offs inds vals maxrow c D pre x post hc hsh hcol hcaps _ hpre hx
  have hk : (typedF kinds c D).kind ≠ .indexed := by
    rw [typedF_kind]
    intro hk
    exact hx (show cellOK (kinds c) x by rw [hk]; trivial)
  obtain ⟨ch, henc, hpart⟩ := importPart_eq_typedPart hsh hc hcol hcaps (typedF kinds c D) hk
  rw [hpart]
  exact typedPart_rej (hkinds c hc) (typedF_kind kinds c D) henc hpre hx

def OnlyValueError {α} (x : Except Err α) : Prop := ∀ e, x = .error e → ∃ m, e = .valueError m

namespace OnlyValueError
variable {α β : Type}

theorem ok (a : α) : OnlyValueError (.ok a : Except Err α) := fun _ h => by cases h

theorem error (m : String) : OnlyValueError (.error (.valueError m) : Except Err α) := fun _ h => by cases h; exact ⟨m, rfl⟩

theorem ite {c : Prop} [Decidable c] {x y : Except Err α} (hx : OnlyValueError x) (hy : OnlyValueError y) :
    OnlyValueError (if c then x else y) := by split <;> assumption

/-- an error handed on unchanged (`| .error e => .error e`) -/
theorem of_eq {x : Except Err α} (hx : OnlyValueError x) {e : Err} (h : x = .error e) :
    OnlyValueError (.error e : Except Err β) := fun _ h' => by cases h'; exact hx e h

end OnlyValueError

/-! The time conversions raise nothing but `ValueError`: walk down each definition, `.ite` at an `if`, `split` at a `match` that
    hands the error of a sub-computation on. -/

theorem mkTimestamp_onlyVE (Y M D h mi s us off : Int) : OnlyValueError (mkTimestamp Y M D h mi s us off) :=
  .ite (.error _) <| .ite (.error _) <| .ite (.error _) <| .ite (.error _) <| .ite (.error _) <| .ite (.error _) <|
    .ite (.error _) (.ok _)

theorem intAt_onlyVE (v : Bytes) (a b : Nat) : OnlyValueError (intAt v a b) := by
  unfold intAt
  split
  · exact .ok _
  · exact .error _

theorem ymdhms_onlyVE (v : Bytes) : OnlyValueError (ymdhms v) := by
  unfold ymdhms
  repeat' split
  all_goals first | exact .ok _ | exact (intAt_onlyVE _ _ _).of_eq ‹_›

theorem utcOffsetMin_onlyVE (v : Bytes) : OnlyValueError (utcOffsetMin v) := by
  unfold utcOffsetMin
  refine .ite (.error _) ?_
  split
  next h => exact (intAt_onlyVE _ _ _).of_eq h
  split
  next h => exact (intAt_onlyVE _ _ _).of_eq h
  exact .ite (.ok _) (.error _)

theorem stampWith_onlyVE (v : Bytes) (a b : Nat) (sc : Int) {off : Except Err Int} (hoff : OnlyValueError off) :
    OnlyValueError (stampWith v a b sc off) := by
  unfold stampWith
  split
  next h => exact (ymdhms_onlyVE v).of_eq h
  split
  next h => exact (OnlyValueError.ite (.ok _) (intAt_onlyVE _ _ _)).of_eq h
  split
  next => exact hoff.of_eq rfl
  exact mkTimestamp_onlyVE _ _ _ _ _ _ _ _

theorem parseTimestamp_onlyVE (v : Bytes) : OnlyValueError (parseTimestamp v) :=
  .ite
    (.ite (stampWith_onlyVE _ _ _ _ (.ok _)) <| .ite (stampWith_onlyVE _ _ _ _ (.ok _)) <|
      .ite (stampWith_onlyVE _ _ _ _ (.ok _)) <| .ite (stampWith_onlyVE _ _ _ _ (.ok _)) (.error _))
    (.ite (stampWith_onlyVE _ _ _ _ (utcOffsetMin_onlyVE v)) <| .ite (stampWith_onlyVE _ _ _ _ (utcOffsetMin_onlyVE v)) <|
      .ite (stampWith_onlyVE _ _ _ _ (.ok _)) (.error _))

theorem datetimeCell_onlyVE (cell : Bytes) : OnlyValueError (datetimeCell cell) := by
  unfold datetimeCell
  refine .ite (.ok _) ?_
  split
  next h => exact (parseTimestamp_onlyVE _).of_eq h
  exact .ok _

theorem dateCell_onlyVE (cell : Bytes) : OnlyValueError (dateCell cell) := by
  unfold dateCell
  refine .ite (.ok _) ?_
  split
  · exact .error _
  split
  next h => exact (mkTimestamp_onlyVE _ _ _ _ _ _ _ _).of_eq h
  exact .ok _

/-- **the error class per importer kind and cell class**: bool → `Exception`; int / float → `OverflowError` for an integer
    outside the dtype, `ValueError` for an empty or unparseable text; datetime / date → `ValueError`; categorical without free
    text → `ValueError` (fix NC06d) -/
theorem rejErr_class (k : FieldKind) (x : Bytes) (e : Err) (h : rejErr k x = some e) :
    (∀ mode invalid, k = .bool mode invalid → e = .other "Exception") ∧
    (∀ p mode it iv, k = .numeric p mode it iv →
      (classOf p.parse (rstripNul x) = .outOfRange → e = .other "OverflowError") ∧
      (KindOK k → classOf p.parse (rstripNul x) = .empty ∨ classOf p.parse (rstripNul x) = .garbage →
        e = .valueError "cannot be converted")) ∧
    (k = .datetime ∨ k = .date → ∃ m, e = .valueError m) ∧
    (∀ cats, k = .categorical cats → e = .valueError "is not one of the categories") := by
  refine ⟨?_, ?_, ?_, ?_⟩
  · rintro mode invalid rfl
    simp only [rejErr, Option.ite_none_left_eq_some, Option.some.injEq] at h
    exact h.2.symm
  · rintro p mode it iv rfl
    simp only [rejErr, Option.ite_none_left_eq_some, Option.some.injEq] at h
    rw [← h.2]
    unfold classOf
    refine ⟨fun hc => ?_, fun hk hc => ?_⟩
    · split at hc
      · cases hp : p.parse (rstripNul x) <;> simp [hp] at hc
        rfl
      · cases hc
    · split at hc
      · cases hp : p.parse (rstripNul x) <;> simp [hp] at hc
        rfl
      · rename_i hn
        rw [hk.1 _ (by simpa using hn)]
        rfl
  · rintro (rfl | rfl)
    · simp only [rejErr] at h
      split at h
      · cases h; exact datetimeCell_onlyVE _ _ (by assumption)
      · cases h
    · simp only [rejErr] at h
      split at h
      · cases h; exact dateCell_onlyVE _ _ (by assumption)
      · cases h
  · rintro cats rfl
    simp only [rejErr, Option.ite_none_left_eq_some, Option.some.injEq] at h
    exact h.2.symm

/-- `read_csv_with_schema_dict` on a file in which some selected cell is rejected by its importer: the call raises what the
    importer raises on the reported cell -/
theorem readCsv_typed_raise {file : Bytes} {names : List String} {schema : List (String × FieldKind)}
    {incl excl : Option (List String)} {crs : Nat} {hrow : List Cell} {rows : List (List Cell)} {fuel : Nat}
    (run : SchemaRun file names schema incl excl crs hrow rows fuel)
    (hbad : ¬ ∀ k ∈ fieldsToUse names incl excl, ∀ cell ∈ column (values rows) (names.idxOf k),
      cellOK (kindOf schema k) cell) :
    ∃ d a c x err,
      Reported rows ((fieldsToUse names incl excl).map (fun k => names.idxOf k)) (fun c => cellOK (kindAt names schema c))
        d a c x ∧
      rejErr (kindAt names schema c) x = some err ∧ readCsv file names schema incl excl crs fuel = .error err := by
  have hbad' := mt (forall_indexMap (schema := schema) fun c kd => ∀ cell ∈ column (values rows) c, cellOK kd cell).mp hbad
  obtain ⟨hlen, h0, hbud⟩ := schemaOffsets_budgets names schema run.setting.crsPos
  obtain ⟨d, a, c, x, err, hrep, herrOf, hrf⟩ := readFile_raise run.setting run.nonempty
    (impHom_typed names.length (kindAt names schema) (kindOK_kindAt run.kinds))
    (impRej_typed names.length (kindAt names schema) (kindOK_kindAt run.kinds)) hbad' hlen h0 hbud fuel run.fuel
  exact ⟨d, a, c, x, err, hrep, herrOf, by
    rw [readCsv_eq_readFile file names schema incl excl crs fuel run.inclOk run.exclOk, hrf]; rfl⟩

end Exetera.Csv
