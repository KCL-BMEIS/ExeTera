import Exetera.Model.JoinOld
import Exetera.Lemmas.WhileFuel
/-! C12, the legacy re-slicing driver `generate_ordered_map_to_left_right_unique_streamed_old` (with D17 / NC19a repaired):
    it finishes normally on EVERY input for every chunk size ≥ 1 — no `ValueError` "got ahead of current chunk", no
    `StopIteration`, no out-of-bounds access, never out of fuel.

    Both legacy drivers keep a view of the current chunk of a column and, after every partial call, re-slice it past the
    consumed rows or fetch the next chunk. `View` is the invariant of one such view, `reslice` that step, `View.reslice_ok` the
    one fact about it; C19's correctness proofs of the two drivers rest on the same three. -/
namespace Exetera.JoinOld
open Exetera

/-- both drivers write the scratch buffer out only when the partial call filled any of it -/
theorem write_nonempty {α} (out buf : List α) {n : Nat} (h : buf.length = n) :
    (if n > 0 then out ++ buf else out) = out ++ buf := by
  subst h
  cases buf <;> simp

/-- `next(it, (0, 0))` on a fresh generator -/
theorem nextRange_zero (n cs : Nat) : (nextRange 0 n cs).getD (0, 0) = (0, min n cs) := by
  by_cases h : 0 < n
  · simp [nextRange, h]
  · have : n = 0 := by omega
    subst this
    simp [nextRange]

theorem walk_lt {n m i j : Nat} (hi : i < n) (hj : j < m) {a b : Nat} (h : 0 < a + b) :
    (n - (i + a)) + (m - (j + b)) < (n - i) + (m - j) := by
  rcases Nat.eq_zero_or_pos a with rfl | ha
  · exact Nat.add_lt_add_left (Nat.sub_lt_sub_left hj (Nat.lt_add_of_pos_right (by simpa using h))) _
  · exact Nat.add_lt_add_of_lt_of_le (Nat.sub_lt_sub_left hi (Nat.lt_add_of_pos_right ha))
      (Nat.sub_le_sub_left (Nat.le_add_right _ _) m)

theorem partialOldBody_cases (dj : Nat) {left right : List Int} {cap : Nat} (inv : Int) {s : PO} {P : PO → Prop}
    (hi : s.i < left.length) (hj : s.j < right.length) (hc : s.i < cap)
    (lt : left[s.i] < right[s.j] → P { s with buf := s.buf ++ [inv], i := s.i + 1, unmapped := s.unmapped + 1 })
    (gt : left[s.i] > right[s.j] → P { s with j := s.j + 1 })
    (eq : left[s.i] = right[s.j] → P { s with buf := s.buf ++ [((s.j + dj : Nat) : Int)], i := s.i + 1 }) :
    ∃ s', partialOldBody dj left right cap inv s = .ok s' ∧ P s' := by
  simp only [partialOldBody, getE_of_lt _ hi, getE_of_lt _ hj, hc, if_true]
  by_cases h1 : left[s.i] < right[s.j]
  · exact ⟨_, by simp only [h1, if_true], lt h1⟩
  · by_cases h2 : left[s.i] > right[s.j]
    · exact ⟨_, by simp only [h1, h2, if_true, if_false], gt h2⟩
    · exact ⟨_, by simp only [h1, h2, if_false], eq (Int.le_antisymm (Int.not_lt.mp h2) (Int.not_lt.mp h1))⟩

namespace Term

theorem runPartialOld_ok (dj : Nat) (left right : List Int) (cap : Nat) (inv : Int) (hcap : left.length ≤ cap) :
    ∃ p, runPartialOld dj left right cap inv = .ok p ∧ p.i ≤ left.length ∧ p.j ≤ right.length ∧
      (p.i = left.length ∨ p.j = right.length) := by
  obtain ⟨p, hrun, ⟨h1, h2⟩, hg⟩ := whileE_rule (fun s : PO => s.i < left.length && s.j < right.length)
    (partialOldBody dj left right cap inv) (fun s => s.i ≤ left.length ∧ s.j ≤ right.length)
    (fun s => (left.length - s.i) + (right.length - s.j))
    (fun s ⟨hi, hj⟩ hg => by
      simp only [Bool.and_eq_true, decide_eq_true_eq] at hg
      obtain ⟨gi, gj⟩ := hg
      exact partialOldBody_cases dj inv gi gj (by omega)
        (fun _ => ⟨⟨gi, hj⟩, walk_lt gi gj (a := 1) (b := 0) Nat.one_pos⟩)
        (fun _ => ⟨⟨hi, gj⟩, walk_lt gi gj (a := 0) (b := 1) Nat.one_pos⟩)
        (fun _ => ⟨⟨gi, hj⟩, walk_lt gi gj (a := 1) (b := 0) Nat.one_pos⟩))
    (left.length + right.length) {} ⟨Nat.zero_le _, Nat.zero_le _⟩ (by simp)
  refine ⟨p, hrun, h1, h2, ?_⟩
  simp only [Bool.and_eq_false_iff, decide_eq_false_iff_not] at hg
  omega

/-- the chunk-view invariant of one side of the driver: `c = xs[i:hi]`, at most `cs` long, non-empty while rows remain,
    and the chunk generator stands at `hi` -/
structure View (xs : List Int) (cs i cur hi : Nat) (c : List Int) : Prop where
  le : i ≤ hi
  hi_le : hi ≤ xs.length
  view : c = slice xs i hi
  short : hi - i ≤ cs
  nonempty : i < xs.length → i < hi
  cur : cur = hi

theorem View.length_add {xs : List Int} {cs i cur hi : Nat} {c : List Int} (v : View xs cs i cur hi c) :
    i + c.length = hi := by
  rw [v.view]
  exact slice_length_add xs v.le v.hi_le

theorem View.length {xs : List Int} {cs i cur hi : Nat} {c : List Int} (v : View xs cs i cur hi c) : c.length = hi - i :=
  Nat.eq_sub_of_add_eq' v.length_add

theorem View.init (xs : List Int) {cs : Nat} (hcs : 1 ≤ cs) :
    View xs cs 0 (min xs.length cs) (min xs.length cs) (slice xs 0 (min xs.length cs)) :=
  ⟨Nat.zero_le _, Nat.min_le_left _ _, rfl, by omega, fun _ => by omega, rfl⟩

/-- the driver's refill: the consumed rows reach the end of the chunk and rows remain — the generator yields the next chunk -/
theorem View.refill {xs : List Int} {cs i cur hi : Nat} {c : List Int} (hcs : 1 ≤ cs) (v : View xs cs i cur hi c)
    (k : Nat) (he : i + k = hi) (hlt : i + k < xs.length) :
    nextRange cur xs.length cs = some (hi, min xs.length (hi + cs)) ∧
      View xs cs (i + k) (min xs.length (hi + cs)) (min xs.length (hi + cs)) (slice xs hi (min xs.length (hi + cs))) := by
  have hh : hi < xs.length := he ▸ hlt
  exact ⟨by simp only [nextRange, v.cur, hh, if_true],
    ⟨Nat.le_min.mpr ⟨Nat.le_of_lt hlt, he ▸ Nat.le_add_right _ _⟩, Nat.min_le_left _ _, by rw [he],
     by rw [he]; exact Nat.sub_le_of_le_add (Nat.le_trans (Nat.min_le_right _ _) (Nat.le_of_eq (Nat.add_comm _ _))),
     fun _ => Nat.lt_min.mpr ⟨hlt, he ▸ Nat.lt_add_of_pos_right hcs⟩, rfl⟩⟩

/-- otherwise the view is re-sliced past the consumed rows -/
theorem View.keep {xs : List Int} {cs i cur hi : Nat} {c : List Int} (v : View xs cs i cur hi c)
    (k : Nat) (hk : i + k ≤ hi) (hc : ¬ (i + k = hi ∧ i + k < xs.length)) : View xs cs (i + k) cur hi (c.drop k) :=
  ⟨hk, v.hi_le, by rw [v.view, slice_drop], by have := v.short; omega, fun _ => by omega, v.cur⟩

/-- what both drivers do with a view once the rows before `pos` are consumed (`c` is the view already re-sliced) -/
def reslice (xs : List Int) (cs pos cur hi : Nat) (c : List Int) : Except Err (Nat × Nat × List Int) :=
  if pos == hi && pos < xs.length then
    match nextRange cur xs.length cs with
    | some rg => .ok (rg.2, rg.2, slice xs rg.1 rg.2)
    | none => .error (.other "StopIteration")
  else .ok (cur, hi, c)

theorem View.reslice_ok {xs : List Int} {cs i cur hi : Nat} {c : List Int} (hcs : 1 ≤ cs) (v : View xs cs i cur hi c)
    (k : Nat) (hk : i + k ≤ hi) :
    ∃ cur' hi' c', reslice xs cs (i + k) cur hi (c.drop k) = .ok (cur', hi', c') ∧ View xs cs (i + k) cur' hi' c' := by
  by_cases hc : i + k = hi ∧ i + k < xs.length
  · obtain ⟨hn, v'⟩ := v.refill hcs k hc.1 hc.2
    exact ⟨_, _, _, by simp only [reslice, hc.1, hc.1 ▸ hc.2, beq_self_eq_true, decide_true, Bool.and_self, if_true, hn], v'⟩
  · refine ⟨_, _, _, ?_, v.keep k hk hc⟩
    have : (i + k == hi && decide (i + k < xs.length)) = false := by
      cases h : (i + k == hi && decide (i + k < xs.length)) with
      | false => rfl
      | true => simp only [Bool.and_eq_true, beq_iff_eq, decide_eq_true_eq] at h; exact absurd h hc
    simp only [reslice, this, Bool.false_eq_true, if_false]

structure DInv (left right : List Int) (cs : Nat) (s : SO) : Prop where
  l : View left cs s.i s.lcur s.lhi s.lc
  r : View right cs s.j s.rcur s.rhi s.rc

/-- while rows remain on both sides neither view is empty, so a partial call that consumes one of them makes progress -/
theorem DInv.progress {left right : List Int} {cs : Nat} {s : SO} (hI : DInv left right cs s) (hi : s.i < left.length)
    (hj : s.j < right.length) {a b : Nat} (h : a = s.lc.length ∨ b = s.rc.length) : 0 < a + b := by
  have := hI.l.length_add
  have := hI.r.length_add
  have := hI.l.nonempty hi
  have := hI.r.nonempty hj
  omega

theorem oldBody_ok {left right : List Int} {cs : Nat} (inv : Int) (hcs : 1 ≤ cs) {s : SO} (hI : DInv left right cs s)
    {p : PO} (hp : runPartialOld s.j s.lc s.rc cs inv = .ok p) (hpi : p.i ≤ s.lc.length) (hpj : p.j ≤ s.rc.length) :
    ∃ s', oldBody left right cs inv s = .ok s' ∧ DInv left right cs s' ∧ s'.i = s.i + p.i ∧ s'.j = s.j + p.j ∧
      s'.out = if p.i > 0 then s.out ++ p.buf else s.out := by
  have hle1 : s.i + p.i ≤ s.lhi := hI.l.length_add ▸ Nat.add_le_add_left hpi _
  have hle2 : s.j + p.j ≤ s.rhi := hI.r.length_add ▸ Nat.add_le_add_left hpj _
  obtain ⟨lcur, lhi, lc, hl, vl⟩ := hI.l.reslice_ok hcs p.i hle1
  obtain ⟨rcur, rhi, rc, hr, vr⟩ := hI.r.reslice_ok hcs p.j hle2
  have h1 : ¬ s.i + p.i > s.lhi := Nat.not_lt.mpr hle1
  have h2 : ¬ s.j + p.j > s.rhi := Nat.not_lt.mpr hle2
  refine ⟨{ i := s.i + p.i, j := s.j + p.j, lcur, rcur, lhi, rhi, lc, rc, unmapped := s.unmapped + p.unmapped,
             out := if p.i > 0 then s.out ++ p.buf else s.out }, ?_, ⟨vl, vr⟩, rfl, rfl, rfl⟩
  simp only [oldBody, hp, h1, h2, if_false]
  -- the model spells `reslice` out for either side (with match expressions of its own): identify them by their values
  split
  · next e1 e2 => cases hl.symm.trans e1; cases hr.symm.trans e2; rfl
  · next e1 => cases hl.symm.trans e1
  · next e2 _ => cases hr.symm.trans e2

theorem oldBody_step (left right : List Int) (cs : Nat) (inv : Int) (hcs : 1 ≤ cs) (s : SO) (hI : DInv left right cs s)
    (hi : s.i < left.length) (hj : s.j < right.length) :
    ∃ s', oldBody left right cs inv s = .ok s' ∧ DInv left right cs s' ∧
      (left.length - s'.i) + (right.length - s'.j) < (left.length - s.i) + (right.length - s.j) ∧
      s.out <+: s'.out := by
  obtain ⟨p, hp, hpi, hpj, hdone⟩ := runPartialOld_ok s.j s.lc s.rc cs inv (by rw [hI.l.length]; exact hI.l.short)
  obtain ⟨s', hb, hI', ei, ej, eo⟩ := oldBody_ok inv hcs hI hp hpi hpj
  refine ⟨s', hb, hI', by rw [ei, ej]; exact walk_lt hi hj (hI.progress hi hj hdone), ?_⟩
  rw [eo]
  split
  · exact List.prefix_append _ _
  · exact List.prefix_refl _

/-- **the legacy driver terminates normally on every input**, for every chunk size ≥ 1: within `|L| + |R|` iterations of
    the main loop and `|L|` of the tail loop (the model's budgets) -/
theorem streamedOld_ok (left right : List Int) (inv : Int) (cs : Nat) (hcs : 1 ≤ cs) :
    ∃ r, streamedOld left right inv cs = .ok r := by
  obtain ⟨s1, hrun1, _, _⟩ := whileE_rule (fun s : SO => s.i < left.length && s.j < right.length)
    (oldBody left right cs inv) (DInv left right cs) (fun s => (left.length - s.i) + (right.length - s.j))
    (fun s hI hg => by
      simp only [Bool.and_eq_true, decide_eq_true_eq] at hg
      obtain ⟨s', hb, hI', hlt, _⟩ := oldBody_step left right cs inv hcs s hI hg.1 hg.2
      exact ⟨s', hb, hI', hlt⟩)
    (left.length + right.length)
    { lcur := min left.length cs, rcur := min right.length cs, lhi := min left.length cs, rhi := min right.length cs,
      lc := slice left 0 (min left.length cs), rc := slice right 0 (min right.length cs) }
    ⟨View.init left hcs, View.init right hcs⟩ (Nat.le_refl _)
  obtain ⟨s2, hrun2, _, _⟩ := whileE_rule (fun s : SO => decide (s.i < left.length)) (oldTailBody left cs inv)
    (fun _ => True) (fun s => left.length - s.i)
    (fun s _ hg => by
      simp only [decide_eq_true_eq] at hg
      exact ⟨_, rfl, trivial, by dsimp only; omega⟩)
    left.length s1 trivial (Nat.sub_le _ _)
  simp only [streamedOld, nextRange_zero, hrun1, hrun2]
  exact ⟨_, rfl⟩

end Term
end Exetera.JoinOld
