import Exetera.Gen.Kernels
import Exetera.Model.Unique
import Exetera.Lemmas.GenKernels
import Exetera.Lemmas.GenKernelsSpans
/-!
  The TRANSLATED `compare_arrays` (`return` inside the `for` loop: the early-exit flag `ret` and the result slot `rv0`) against
  `Unique.compareArrays`, for byte arrays — every successful run of the model is a run of the translated kernel with the same
  result; since the model never fails (`C14.compare_arrays_is_lex`), this is the three-way lexicographic comparison on EVERY input.
-/
namespace Exetera.GenK

open Exetera Exetera.PyRt Exetera.Unique Exetera.Gen.Kernels

/-- a byte array as the kernel receives it -/
def ints8 (a : List UInt8) : List Int := a.map (fun x => ((x.toNat : Nat) : Int))

@[simp] theorem ints8_length (a : List UInt8) : (ints8 a).length = a.length := by simp [ints8]

theorem getE_ints8 (a : List UInt8) (i : Nat) (site : String) {x : UInt8} (h : a[i]? = some x) :
    getE (ints8 a) i site = .ok ((x.toNat : Nat) : Int) := by
  simp [getE, ints8, List.getElem?_map, h]

theorem getE_ints8_none (a : List UInt8) (i : Nat) (site : String) (h : a[i]? = none) :
    getE (ints8 a) i site = .error (.oob site) := by
  simp [getE, ints8, List.getElem?_map, h]

namespace CA

abbrev St := compare_arrays.St

abbrev loop1 (n : Nat) (k : Int) (s : St) : Except Err St :=
  forRangeAux (fun s => s.ret) (fun k s => compare_arrays.body_L1 { s with v0 := k }) n k s

theorem loop_sim (a b : List UInt8) (s : St) (h0 : s.p0 = ints8 a) (h1 : s.p1 = ints8 b) (hr : s.ret = false) (n i : Nat)
    (o : Option Int) (h : compareLoop a b n i = .ok o) :
    ∃ s', loop1 n (i : Int) s = .ok s' ∧ ∃ k', s' = match o with
      | none => { s with v0 := k' }
      | some r => { s with v0 := k', ret := true, rv0 := r } := by
  refine forRangeAux_rule (fun n i t => (∃ k', t = { s with v0 := k' }) ∧ compareLoop a b n i = .ok o) _ ?_ ?_ n i s
    ⟨⟨s.v0, rfl⟩, h⟩
  · rintro i t ⟨⟨k', rfl⟩, h⟩
    cases h
    exact ⟨k', rfl⟩
  · rintro n i t ⟨⟨k', rfl⟩, h⟩
    simp only [compareLoop] at h
    split at h
    · cases h
    · rename_i x hx
      split at h
      · cases h
      · rename_i y hy
        rw [getE_eq_ok] at hx hy
        have ra : ∀ site, getE s.p0 i site = .ok ((x.toNat : Nat) : Int) := fun site => h0 ▸ getE_ints8 a i site hx
        have rb : ∀ site, getE s.p1 i site = .ok ((y.toNat : Nat) : Int) := fun site => h1 ▸ getE_ints8 b i site hy
        simp only [compare_arrays.body_L1, idxE_nat, ra, rb, bindE_ok, Int.ofNat_lt, gt_iff_lt, ← UInt8.lt_iff_toNat_lt]
        split at h
        · rename_i hlt
          cases h
          simp only [hlt, decide_true, if_true, bindE_ok]
          exact ⟨_, rfl, _, rfl⟩
        · rename_i hlt
          simp only [hlt, decide_false, Bool.false_eq_true, if_false, bindE_ok, hr, idxE_nat, ra, rb, Int.ofNat_lt,
            ← UInt8.lt_iff_toNat_lt]
          split at h
          · rename_i hgt
            cases h
            simp only [gt_iff_lt] at hgt
            simp only [hgt, decide_true, if_true]
            exact ⟨_, rfl, _, rfl⟩
          · rename_i hgt
            simp only [gt_iff_lt] at hgt
            simp only [hgt, decide_false, Bool.false_eq_true, if_false]
            exact ⟨_, rfl, ⟨_, rfl⟩, h⟩

end CA

theorem compare_arrays_ok (a b : List UInt8) (r : Int) (h : compareArrays a b = .ok r) :
    compare_arrays.run (ints8 a) (ints8 b) = .ok r := by
  unfold compareArrays at h
  have hcnt : (min (pyLen (ints8 a)) (pyLen (ints8 b))).toNat = min a.length b.length := by
    simp only [pyLen, ints8_length]; omega
  unfold compare_arrays.run
  simp only [forRangeB_zero, hcnt]
  split at h
  · cases h
  · rename_i r' hc
    cases h
    obtain ⟨s', hrun, k', rfl⟩ := CA.loop_sim a b ⟨ints8 a, ints8 b, 0, false, 0⟩ rfl rfl rfl _ 0 _ hc
    simp only [CA.loop1] at hrun
    simp only [hrun, bindE_ok, if_true]
  · rename_i hc
    obtain ⟨s', hrun, k', rfl⟩ := CA.loop_sim a b ⟨ints8 a, ints8 b, 0, false, 0⟩ rfl rfl rfl _ 0 _ hc
    simp only [CA.loop1] at hrun
    simp only [hrun, bindE_ok, Bool.false_eq_true, if_false, pyLen, ints8_length, Int.ofNat_lt]
    by_cases h1 : a.length < b.length
    · simp only [h1, if_true, Except.ok.injEq] at h
      simp only [h1, decide_true, if_true, h]
    · simp only [h1, if_false] at h
      simp only [h1, decide_false, Bool.false_eq_true, if_false]
      by_cases h2 : b.length < a.length
      · simp only [h2, if_true, Except.ok.injEq] at h
        simp only [h2, decide_true, if_true, h]
      · simp only [h2, if_false, Except.ok.injEq] at h
        simp only [h2, decide_false, Bool.false_eq_true, if_false, h]

end Exetera.GenK
