import Exetera.Lemmas.TransformsCat
/-! C06: `leaky_categorical_transform` (row loop with the free-text offsets and bytes written in place) and the importer's
accumulation across chunks. -/
namespace Exetera.Transforms
open Exetera Exetera.Spec.Transforms

def scanLeaky (tbl : List (Bytes × Int)) (cell : Bytes) : Int := (lastMatch cell tbl none).getD (-1)
def scanFree (tbl : List (Bytes × Int)) (cell : Bytes) : Bytes := if (lastMatch cell tbl none).isSome then [] else cell

theorem scanFree_length_le (tbl : List (Bytes × Int)) (cell : Bytes) : (scanFree tbl cell).length ≤ cell.length := by
  unfold scanFree; split <;> simp

theorem sliceAssign_prefix (dt src : Bytes) (m : Nat) (h : src.length ≤ m) :
    sliceAssign (dt ++ List.replicate m 0) dt.length src = .ok (dt ++ src ++ List.replicate (m - src.length) 0) := by
  have hle : dt.length + src.length ≤ (dt ++ List.replicate m 0).length := by simp; omega
  simp only [sliceAssign, hle, if_true]
  congr 1
  rw [List.take_left' rfl]
  congr 1
  rw [List.drop_append]
  simp [List.drop_of_length_le, List.drop_replicate]

theorem sum_map_scanFree_le (tbl : List (Bytes × Int)) (cells : List Bytes) :
    ((cells.map (scanFree tbl)).map List.length).sum ≤ (cells.map List.length).sum := by
  induction cells with
  | nil => simp
  | cons c cs ih => simp only [List.map_cons, List.sum_cons]; have := scanFree_length_le tbl c; omega

theorem leakyRows_spec (tbl : List (Bytes × Int)) (c : Chunk) (rest : List Bytes) (i s n f m : Nat)
    (dc : List Int) (pre : List Nat) (dt : Bytes)
    (h : EncFrom c i s rest) (hn : rest.length ≤ n) (hdc : dc.length = i) (hpre : pre.length = i)
    (hdt : dt.length = f) (hm : (rest.map List.length).sum ≤ m) :
    leakyRows (packTable tbl) c n i
        { chunk := dc ++ List.replicate rest.length 0, ftIdx := pre ++ f :: List.replicate rest.length 0,
          ftVals := dt ++ List.replicate m 0 }
      = .ok { chunk := dc ++ rest.map (scanLeaky tbl)
              ftIdx := pre ++ offsets f (rest.map (fun x => (scanFree tbl x).length))
              ftVals := dt ++ (rest.map (scanFree tbl)).flatten
                          ++ List.replicate (m - ((rest.map (scanFree tbl)).map List.length).sum) 0 } := by
  induction rest generalizing i s n f m dc pre dt with
  | nil =>
    cases n with
    | zero => simp [leakyRows, offsets]
    | succ n => simp [leakyRows, hdc, offsets]
  | cons cell rest ih =>
    cases n with
    | zero => simp at hn
    | succ n =>
      have hlt : ¬ (i ≥ (dc ++ List.replicate (cell :: rest).length 0).length) := by simp; omega
      rw [leakyRows]
      simp only [hlt, if_false]
      rw [matchRow_spec tbl c i s cell rest h]
      have hrest := h.2.2.2
      have hget : getE (pre ++ f :: List.replicate (cell :: rest).length 0) i "freetext_indices[row_idx]" = .ok f := by
        rw [← hpre]; exact getE_append_mid _ _ _ _
      simp only [hget]
      simp only [List.map_cons, List.sum_cons] at hm
      cases hmt : lastMatch cell tbl none with
      | some v =>
        simp only
        have h1 := setE_prefix dc rest.length 0 v "chunk[row_idx]"
        rw [hdc] at h1
        have h2 := setE_prefix_next pre f rest.length 0 f "freetext_indices[row_idx+1]"
        rw [hpre] at h2
        simp only [List.length_cons, h1, h2]
        have := ih (i + 1) (s + cell.length) n f m (dc ++ [v]) (pre ++ [f]) dt hrest (by simpa using hn)
          (by simp [hdc]) (by simp [hpre]) hdt (by omega)
        rw [this]
        simp [scanLeaky, scanFree, hmt, offsets]
      | none =>
        simp only
        have h1 := setE_prefix dc rest.length 0 (-1) "chunk[row_idx]"
        rw [hdc] at h1
        have h2 := setE_prefix_next pre f rest.length 0 (f + (s + cell.length - s)) "freetext_indices[row_idx+1]"
        rw [hpre] at h2
        have hs := h.sliceE_cell "column_vals[col_offset+key_start:col_offset+key_end]"
        have h3 := sliceAssign_prefix dt cell m (by omega)
        rw [hdt] at h3
        simp only [List.length_cons, h1, h2, hs, h3]
        have e : f + (s + cell.length - s) = f + cell.length := by omega
        rw [e]
        have := ih (i + 1) (s + cell.length) n (f + cell.length) (m - cell.length) (dc ++ [-1]) (pre ++ [f]) (dt ++ cell)
          hrest (by simpa using hn) (by simp [hdc]) (by simp [hpre]) (by simp [hdt]) (by omega)
        rw [this]
        simp [scanLeaky, scanFree, hmt, offsets, Nat.sub_sub]

theorem leakyTransform_packTable (tbl : List (Bytes × Int)) (c : Chunk) (cells : List Bytes) (h : Encodes c cells) :
    leakyTransform (packTable tbl) c
      = .ok { chunk := cells.map (scanLeaky tbl)
              ftIdx := offsets 0 (cells.map (fun x => (scanFree tbl x).length))
              ftVals := (cells.map (scanFree tbl)).flatten
                          ++ List.replicate (c.cap - ((cells.map (scanFree tbl)).map List.length).sum) 0 } := by
  obtain ⟨hr, ⟨s0, he, hcap⟩, hcol⟩ := h
  have hlt := he.lt_inds
  have := leakyRows_spec tbl c cells 0 s0 (c.inds.length - 1) 0 c.cap [] [] [] he (by omega) rfl rfl rfl (by omega)
  rw [leakyTransform, withCol_ok c _ _ _ hcol]
  simpa [hr, List.replicate_succ] using this

def scanColumn (tbl : List (Bytes × Int)) (cells : List Bytes) : LeakyState :=
  { data := cells.map (scanLeaky tbl)
    ftIndices := offsets 0 (cells.map (fun c => (scanFree tbl c).length))
    ftValues := (cells.map (scanFree tbl)).flatten
    acc := (cells.map (fun c => (scanFree tbl c).length)).sum }

theorem leakyImportPart_spec (tbl : List (Bytes × Int)) (done : List Bytes) (c : Chunk) (cells : List Bytes)
    (h : Encodes c cells) :
    leakyImportPart (packTable tbl) (scanColumn tbl done) c = .ok (scanColumn tbl (done ++ cells)) := by
  have hlast := offsets_getLast 0 (cells.map (fun x => (scanFree tbl x).length))
  rw [List.length_map, ← h.rows, Nat.zero_add] at hlast
  have e : (cells.map (fun x => (scanFree tbl x).length)).sum = ((cells.map (scanFree tbl)).flatten).length := by
    rw [List.length_flatten, List.map_map]; rfl
  rw [leakyImportPart, leakyTransform_packTable tbl c cells h]
  simp only [getE, hlast, scanColumn, List.map_append, List.sum_append, List.flatten_append, offsets_append,
    offsets_map_add, Nat.zero_add, e, List.take_left' rfl]

theorem scanLeaky_getByteMap (cats : List (Bytes × Int)) (hnd : (cats.map (·.1)).Nodup) :
    scanLeaky (cats.mergeSort (fun a b => bytesLe a.1 b.1)) = leakyCode cats :=
  funext fun cell => by simp only [scanLeaky, leakyCode, lastMatch_getByteMap cats hnd cell]

theorem scanFree_getByteMap (cats : List (Bytes × Int)) (hnd : (cats.map (·.1)).Nodup) :
    scanFree (cats.mergeSort (fun a b => bytesLe a.1 b.1)) = freeText cats :=
  funext fun cell => by simp only [scanFree, freeText, lastMatch_getByteMap cats hnd cell]

theorem scanColumn_getByteMap (cats : List (Bytes × Int)) (hnd : (cats.map (·.1)).Nodup) (cells : List Bytes) :
    scanColumn (cats.mergeSort (fun a b => bytesLe a.1 b.1)) cells = leakyColumn cats cells := by
  simp only [scanColumn, leakyColumn, scanLeaky_getByteMap cats hnd, scanFree_getByteMap cats hnd]

theorem leakyImportPart_getByteMap (cats : List (Bytes × Int)) (hnd : (cats.map (·.1)).Nodup) (done : List Bytes)
    (c : Chunk) (cells : List Bytes) (h : Encodes c cells) :
    leakyImportPart (getByteMap cats) (leakyColumn cats done) c = .ok (leakyColumn cats (done ++ cells)) := by
  rw [getByteMap, ← scanColumn_getByteMap cats hnd, leakyImportPart_spec _ done c cells h, scanColumn_getByteMap cats hnd]

end Exetera.Transforms
