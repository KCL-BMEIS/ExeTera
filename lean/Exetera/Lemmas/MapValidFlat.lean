import Exetera.Lemmas.MapValidStream
/-! The non-streaming helpers `safe_map_values` and `map_valid`: each is a loop writing row `i` at step `i`
    (`forE_write_each`), characterised row by row and then tied to `Spec.mapSpec`. -/
namespace Exetera.MapValid

open Exetera Exetera.Spec

theorem getI_row {α} (data : List α) (k : Int) (site : String) (h0 : 0 ≤ k) (hk : k < data.length) :
    ∃ v, data[k.toNat]? = some v ∧ getI data k site = .ok v := by
  have : k.toNat < data.length := by omega
  exact ⟨data[k.toNat], List.getElem?_eq_getElem this, getI_nonneg _ _ _ _ h0 (List.getElem?_eq_getElem this)⟩

/-- `safe_map_values`: rows whose filter is set get `data[map[i]]`, the others the empty value (the caller's, or the
    dtype's zero) -/
theorem safeMapValues_spec {α} (data : List α) (m : List Int) (filt : List Bool) (e : Option α) (zero : α)
    (hlen : filt.length = m.length)
    (hr : ∀ (i : Nat) (k : Int), m[i]? = some k → filt[i]? = some true → 0 ≤ k ∧ k < data.length) :
    ∃ out, safeMapValues data m filt e zero = .ok out ∧ out.length = m.length ∧
      ∀ (i : Nat) (k : Int) (b : Bool), m[i]? = some k → filt[i]? = some b →
        out[i]? = if b then data[k.toNat]? else some (e.getD zero) := by
  obtain ⟨out, h1, h2, _, h4⟩ := forE_write_each (safeMapValuesStep data m filt e)
    (fun i o => ∀ (k : Int) (b : Bool), m[i]? = some k → filt[i]? = some b →
      o = if b then data[k.toNat]? else some (e.getD zero)) 0 m.length (List.replicate m.length zero)
    (by
      intro i res _ hi hl hzero
      rw [List.length_replicate] at hl
      rw [List.getElem?_replicate, if_pos hi] at hzero
      obtain ⟨k, hk⟩ := exists_getElem? m hi
      obtain ⟨b, hb⟩ := exists_getElem? filt (hlen ▸ hi)
      -- the three ways the step can go: write `data[k]`, write the caller's empty value, leave the zero alone
      have key : ∃ res', safeMapValuesStep data m filt e i res = .ok res' ∧ res'.length = res.length ∧
          (∀ q, q ≠ i → res'[q]? = res[q]?) ∧ res'[i]? = if b then data[k.toNat]? else some (e.getD zero) := by
        cases b with
        | true =>
          obtain ⟨h0, h1⟩ := hr i k hk hb
          obtain ⟨v, hv1, hv2⟩ := getI_row data k "data_field[map_field[i]]" h0 h1
          obtain ⟨res', g1, g2, g3, g4⟩ := setE_at res i v "result[i]" (hl ▸ hi)
          exact ⟨res', by simp only [safeMapValuesStep, hb, hk, hv2]; exact g1, g2, g3, by rw [g4, if_pos rfl, hv1]⟩
        | false =>
          cases e with
          | none => exact ⟨res, by simp only [safeMapValuesStep, hb], rfl, fun _ _ => rfl, by simp [hzero]⟩
          | some ev =>
            obtain ⟨res', g1, g2, g3, g4⟩ := setE_at res i ev "result[i]" (hl ▸ hi)
            exact ⟨res', by simp only [safeMapValuesStep, hb]; exact g1, g2, g3, by simp [g4]⟩
      obtain ⟨res', g1, g2, g3, g4⟩ := key
      refine ⟨res', g1, g2, g3, fun k' b' hk' hb' => ?_⟩
      rw [hk] at hk'; rw [hb] at hb'; cases hk'; cases hb'
      exact g4)
  rw [Nat.sub_zero] at h1
  exact ⟨out, h1, by rw [h2, List.length_replicate],
    fun i k b hk hb => h4 i (Nat.zero_le _) (List.getElem?_eq_some_iff.mp hk).1 k b hk hb⟩

theorem mapSpec_of_rows {α} (data : List α) (m : List Int) (inv : Int) (empty : α) (out : List α)
    (hr : InRange data.length m inv) (hlen : out.length = m.length)
    (hrows : ∀ (i : Nat) (k : Int), m[i]? = some k → out[i]? = if k = inv then some empty else data[k.toNat]?) :
    mapSpec data inv empty m = some out := by
  apply mapSpec_of_pointwise _ _ _ _ _ hlen
  intro p k hk
  rw [hrows p k hk]
  by_cases hki : k = inv
  · exact ⟨empty, by simp [lookup, hki], by rw [if_pos hki]⟩
  · obtain ⟨h0, h1⟩ := hr p k hk hki
    obtain ⟨v, hv⟩ := exists_getElem? data (show k.toNat < data.length by omega)
    exact ⟨v, by simp [lookup, hki, h0, hv], by rw [if_neg hki, hv]⟩

/-- with the filter "entry is not the marker", `safe_map_values` is `mapSpec` -/
theorem safeMapValues_mapSpec {α} (data : List α) (m : List Int) (inv : Int) (e : Option α) (zero : α)
    (hr : InRange data.length m inv) :
    ∃ out, safeMapValues data m (m.map (fun k => k != inv)) e zero = .ok out ∧
      mapSpec data inv (e.getD zero) m = some out := by
  obtain ⟨out, hrun, hl, hrows⟩ := safeMapValues_spec data m (m.map (fun k => k != inv)) e zero (by simp)
    (fun i k hk hf => hr i k hk (by simpa [hk] using hf))
  refine ⟨out, hrun, mapSpec_of_rows data m inv (e.getD zero) out hr hl fun i k hk => ?_⟩
  have := hrows i k (k != inv) hk (by simp [hk])
  by_cases hki : k = inv <;> simpa [hki] using this

/-- `map_valid`: valid rows get `data[map[i]]`, marker rows keep what the result array held (zero when the function
    allocates it) -/
theorem mapValid_spec {α} (data : List α) (m : List Int) (result : Option (List α)) (inv : Int) (zero : α)
    (hres : ∀ r, result = some r → r.length = m.length)
    (hr : InRange data.length m inv) :
    ∃ out, mapValid data m result inv zero = .ok out ∧ out.length = m.length ∧
      ∀ (i : Nat) (k : Int), m[i]? = some k →
        out[i]? = if k = inv then (result.getD (List.replicate m.length zero))[i]? else data[k.toNat]? := by
  have hbl : (result.getD (List.replicate m.length zero)).length = m.length := by
    cases result with
    | none => simp
    | some r => simpa using hres r rfl
  unfold mapValid
  generalize result.getD (List.replicate m.length zero) = base at hbl ⊢
  obtain ⟨out, h1, h2, _, h4⟩ := forE_write_each (mapValidStep data m inv)
    (fun i o => ∀ k : Int, m[i]? = some k → o = if k = inv then base[i]? else data[k.toNat]?) 0 m.length base
    (by
      intro i res _ hi hl hsame
      obtain ⟨k, hk⟩ := exists_getElem? m hi
      have key : ∃ res', mapValidStep data m inv i res = .ok res' ∧ res'.length = res.length ∧
          (∀ q, q ≠ i → res'[q]? = res[q]?) ∧ res'[i]? = if k = inv then base[i]? else data[k.toNat]? := by
        by_cases hki : k = inv
        · exact ⟨res, by simp [mapValidStep, hk, hki], rfl, fun _ _ => rfl, by rw [if_pos hki, hsame]⟩
        · obtain ⟨h0, h1⟩ := hr i k hk hki
          obtain ⟨v, hv1, hv2⟩ := getI_row data k "data_field[map_field[i]]" h0 h1
          obtain ⟨res', g1, g2, g3, g4⟩ := setE_at res i v "result[i]" (by omega)
          refine ⟨res', ?_, g2, g3, by rw [g4, if_neg hki, hv1]⟩
          simp only [mapValidStep, hk, show (k != inv) = true by simpa using hki, if_true, hv2]; exact g1
      obtain ⟨res', g1, g2, g3, g4⟩ := key
      refine ⟨res', g1, g2, g3, fun k' hk' => ?_⟩
      rw [hk] at hk'; cases hk'
      exact g4)
  rw [Nat.sub_zero] at h1
  exact ⟨out, h1, h2.trans hbl, fun i k hk => h4 i (Nat.zero_le _) (List.getElem?_eq_some_iff.mp hk).1 k hk⟩

/-- `map_valid` allocating its own result is `mapSpec` with the dtype's zero as empty value -/
theorem mapValid_mapSpec {α} (data : List α) (m : List Int) (inv : Int) (zero : α)
    (hr : InRange data.length m inv) :
    ∃ out, mapValid data m none inv zero = .ok out ∧ mapSpec data inv zero m = some out := by
  obtain ⟨out, hrun, hl, hrows⟩ := mapValid_spec data m none inv zero (by intro r h; cases h) hr
  refine ⟨out, hrun, mapSpec_of_rows data m inv zero out hr hl fun i k hk => ?_⟩
  rw [hrows i k hk]
  by_cases hki : k = inv
  · simp [hki, (List.getElem?_eq_some_iff.mp hk).1]
  · simp [hki]

end Exetera.MapValid
