import Exetera.Lemmas.C19MapStream
/-!
  C19, legacy streamed mapper: the driver loop of `ordered_map_valid_stream_old`. One iteration is a partial call, a
  write, a re-slice or refill of the map view, and at most one step forward of the data view.
-/
namespace Exetera.JoinOld
open Exetera Exetera.Spec Exetera.Join Exetera.MapValid

/-- invariant of the driver loop: the map view is a `Term.View`; the data view is a whole chunk `data[dlo:dhi]` that no
    valid map entry still to come lies below; what is written is the specified column of the entries consumed -/
structure MInv {α} (data : List α) (map_ : List Int) (inv : Int) (cs : Nat) (zero : α) (s : MO α) : Prop where
  mview : Term.View map_ cs s.m s.mcur s.mhi s.mfc
  dlh : s.dlo ≤ s.dhi
  dhl : s.dhi ≤ data.length
  dcur : s.dcur = s.dhi
  dfc : s.dfc = slice data s.dlo s.dhi
  out : mapSpec data inv zero (map_.take s.m) = some s.out
  lower : ∀ (p : Nat) (k : Int), s.m ≤ p → map_[p]? = some k → k ≠ inv → (s.dlo : Int) ≤ k

/-- what the driver does with the data view after a partial call that last looked at the entry `dd`: the next chunk when
    `dd` lies beyond the view and inside the column -/
def dreslice {α} (data : List α) (cs : Nat) (dd : Int) (dcur dlo dhi : Nat) (dfc : List α) :
    Except Err (Nat × Nat × Nat × List α) :=
  if dd ≥ (dhi : Int) && dd < (data.length : Int) then
    match nextRange dcur data.length cs with
    | some rg => .ok (rg.2, rg.1, rg.2, slice data rg.1 rg.2)
    | none => .error (.other "StopIteration")
  else .ok (dcur, dlo, dhi, dfc)

theorem dreslice_ok {α} {data : List α} {cs : Nat} (hcs : 1 ≤ cs) {dcur dlo dhi : Nat} {dfc : List α} (hdl : dlo ≤ dhi)
    (hdh : dhi ≤ data.length) (hcur : dcur = dhi) (hdfc : dfc = slice data dlo dhi) (dd : Int) :
    ∃ dlo' dhi', dreslice data cs dd dcur dlo dhi dfc = .ok (dhi', dlo', dhi', slice data dlo' dhi') ∧
      dlo' ≤ dhi' ∧ dhi' ≤ data.length ∧
      (((dhi : Int) ≤ dd ∧ dd < data.length) ∧ dlo' = dhi ∧ dhi < dhi' ∨
        ¬ ((dhi : Int) ≤ dd ∧ dd < data.length) ∧ dlo' = dlo ∧ dhi' = dhi) := by
  subst hcur hdfc
  by_cases hc : (dcur : Int) ≤ dd ∧ dd < (data.length : Int)
  · have hlt : dcur < data.length := by omega
    have hc' : (decide (dd ≥ (dcur : Int)) && decide (dd < (data.length : Int))) = true := by
      simp only [Bool.and_eq_true, decide_eq_true_eq]; exact hc
    have hlt' : dcur < min data.length (dcur + cs) := Nat.lt_min.mpr ⟨hlt, Nat.lt_add_of_pos_right hcs⟩
    exact ⟨dcur, min data.length (dcur + cs), by simp only [dreslice, hc', if_true, nextRange, hlt], Nat.le_of_lt hlt',
      Nat.min_le_left _ _, Or.inl ⟨hc, rfl, hlt'⟩⟩
  · have hc' : ¬ (decide (dd ≥ (dcur : Int)) && decide (dd < (data.length : Int))) = true := by
      simp only [Bool.and_eq_true, decide_eq_true_eq]; exact hc
    exact ⟨dlo, dcur, by simp only [dreslice, hc', Bool.false_eq_true, if_false], hdl, hdh, Or.inr ⟨hc, rfl, rfl⟩⟩

/-- every iteration consumes a map entry or moves the data view on -/
def mmu {α} (data : List α) (map_ : List Int) (s : MO α) : Nat := (map_.length + data.length) - (s.m + s.dhi)

/-- **the partial call of one iteration**: it returns the specified values of the entries it consumed, and either it
    consumed at least one entry and asks for no data chunk, or it stopped at a valid entry that lies in a later chunk of
    the column — the driver makes progress either way -/
theorem MInv.partial {α} {data : List α} {map_ : List Int} {inv : Int} {cs : Nat} {zero : α} {s : MO α}
    (hr : InRange data.length map_ inv) (hinv : inv < 0 ∨ (data.length : Int) ≤ inv) (hS : MInv data map_ inv cs zero s)
    (hm : s.m < map_.length) :
    ∃ ys dd, partialOldMap s.dlo s.dfc s.mfc inv zero cs = .ok (ys, dd) ∧ s.m + ys.length ≤ s.mhi ∧
      mapSpec data inv zero (map_.take (s.m + ys.length)) = some (s.out ++ ys) ∧
      ((0 < ys.length ∧ ¬ ((s.dhi : Int) ≤ dd ∧ dd < (data.length : Int))) ∨
        (∃ v, map_[s.m + ys.length]? = some v ∧ v ≠ inv ∧ dd = v ∧ ((s.dhi : Int) ≤ dd ∧ dd < (data.length : Int)))) := by
  have hml := hS.mview.length_add
  have hmne := hS.mview.nonempty hm
  have hdh := hS.dhl
  have hdl : s.dlo + s.dfc.length = s.dhi := by rw [hS.dfc]; exact slice_length_add data hS.dlh hS.dhl
  have hmg : ∀ k, k < s.mfc.length → s.mfc[k]? = map_[s.m + k]? := fun k hk => by
    rw [hS.mview.view]; exact slice_getElem?_of_lt map_ s.m s.mhi k (hS.mview.length ▸ hk)
  have hrange : ∀ v ∈ s.mfc, v ≠ inv → (s.dlo : Int) ≤ v ∧ v < data.length := by
    intro v hv hvi
    obtain ⟨k, hk, hkv⟩ := List.getElem_of_mem hv
    have hkv' : map_[s.m + k]? = some v := by rw [← hmg k hk, List.getElem?_eq_getElem hk, hkv]
    exact ⟨hS.lower _ v (Nat.le_add_right _ _) hkv' hvi, (hr _ v hkv' hvi).2⟩
  have hw : DWin data s.dlo s.dfc :=
    ⟨hdl ▸ hdh, fun k hk => by
      rw [hS.dfc]; exact slice_getElem?_of_lt data s.dlo s.dhi k (Nat.eq_sub_of_add_eq' hdl ▸ hk)⟩
  have hcap : s.mfc.length ≤ cs := by have := hS.mview.short; omega
  obtain ⟨ys, dd, hrun, hle, hspec, hcase⟩ := partialOldMap_spec data s.dlo s.dfc inv zero cs hw s.mfc
    (fun h => by rw [h] at hml; simp at hml; omega) hrange hcap
  clear hrange hw hcap
  refine ⟨ys, dd, hrun, Nat.le_trans (Nat.add_le_add_left hle _) (Nat.le_of_eq hml), ?_, ?_⟩
  · rw [List.take_add]
    refine mapSpec_append _ _ _ _ _ _ _ hS.out ?_
    rw [show (map_.drop s.m).take ys.length = s.mfc.take ys.length by
      rw [hS.mview.view, slice, List.take_take, Nat.min_eq_left (by clear hcase; omega)]]
    exact hspec
  · rw [hdl] at hcase
    rcases hcase with ⟨c1, c2⟩ | ⟨v, c1, c2, c3, c4⟩
    · exact Or.inl ⟨by omega, by omega⟩
    · rw [hmg _ (List.getElem?_eq_some_iff.mp c1).1] at c1
      exact Or.inr ⟨v, c1, c2, c4, by rw [c4]; exact ⟨c3, (hr _ v c1 c2).2⟩⟩

theorem mapOldBody_step {α} {data : List α} {map_ : List Int} {inv : Int} {cs : Nat} {zero : α} {s : MO α}
    (hcs : 1 ≤ cs) (hr : InRange data.length map_ inv) (hmono : ValidMonotone map_ inv)
    (hinv : inv < 0 ∨ (data.length : Int) ≤ inv) (hS : MInv data map_ inv cs zero s)
    (hg : decide (s.m < map_.length) = true) :
    ∃ s', mapOldBody data map_ inv cs zero s = .ok s' ∧ MInv data map_ inv cs zero s' ∧
      mmu data map_ s' < mmu data map_ s := by
  have hm : s.m < map_.length := by simpa using hg
  obtain ⟨ys, dd, hrun, hle, hspec, hfin⟩ := hS.partial hr hinv hm
  obtain ⟨mcur', mhi', mfc', hmr, vm⟩ := hS.mview.reslice_ok hcs ys.length hle
  obtain ⟨dlo', dhi', hdr, d1, d2, hd⟩ := dreslice_ok hcs hS.dlh hS.dhl hS.dcur hS.dfc dd
  refine ⟨{ m := s.m + ys.length, mcur := mcur', mhi := mhi', mfc := mfc', dcur := dhi', dlo := dlo', dhi := dhi',
            dfc := slice data dlo' dhi', out := s.out ++ ys }, ?_, ⟨vm, d1, d2, rfl, rfl, hspec, ?_⟩, ?_⟩
  · simp only [mapOldBody, hrun, write_nonempty s.out ys rfl]
    -- the model spells `reslice` / `dreslice` out (with match expressions of its own): identify them by their values
    split
    · next e1 e2 => cases hmr.symm.trans e1; cases hdr.symm.trans e2; rfl
    · next e1 => cases hmr.symm.trans e1
    · next e2 _ => cases hdr.symm.trans e2
  · intro p k hp hk hki
    rcases hfin with ⟨_, f2⟩ | ⟨v, f1, f2, f3, f4⟩
    · rw [(hd.resolve_left (fun h => f2 h.1)).2.1]
      exact hS.lower p k (Nat.le_trans (Nat.le_add_right _ _) hp) hk hki
    · subst f3
      rw [(hd.resolve_right (fun h => h.1 f4)).2.1]
      exact Int.le_trans f4.1 (hmono _ p dd k hp f1 hk f2 hki)
  · refine Nat.sub_lt_sub_left (Nat.add_lt_add_of_lt_of_le hm hS.dhl) ?_
    rcases hfin with ⟨f1, f2⟩ | ⟨v, _, _, _, f4⟩
    · rw [(hd.resolve_left (fun h => f2 h.1)).2.2]
      exact Nat.add_lt_add_right (Nat.lt_add_of_pos_right f1) _
    · exact Nat.add_lt_add_of_le_of_lt (Nat.le_add_right _ _) (hd.resolve_right (fun h => h.1 f4)).2.2

theorem MInv.init {α} (data : List α) {map_ : List Int} {inv : Int} {cs : Nat} (zero : α) (hcs : 1 ≤ cs)
    (hr : InRange data.length map_ inv) :
    MInv data map_ inv cs zero
      { dcur := min data.length cs, dlo := 0, dhi := min data.length cs, mcur := min map_.length cs,
        mhi := min map_.length cs, dfc := slice data 0 (min data.length cs), mfc := slice map_ 0 (min map_.length cs) } :=
  ⟨Term.View.init map_ hcs, Nat.zero_le _, Nat.min_le_left _ _, rfl, rfl, by simp [mapSpec],
    fun p k _ hk hki => by simpa using (hr p k hk hki).1⟩

/-- **the legacy streamed mapper equals `Spec.mapSpec` for every chunk size ≥ 1** (in-range map with non-decreasing
    valid entries, marker outside the source's row numbers): no out-of-bounds access, no `StopIteration`, the loop ends
    within its fuel. -/
theorem mapValidStreamOld_eq {α} (data : List α) (map_ : List Int) (inv : Int) {cs : Nat} (zero : α) (hcs : 1 ≤ cs)
    (hr : InRange data.length map_ inv) (hmono : ValidMonotone map_ inv)
    (hinv : inv < 0 ∨ (data.length : Int) ≤ inv) :
    ∃ out, mapValidStreamOld data map_ inv cs zero = .ok out ∧ mapSpec data inv zero map_ = some out := by
  obtain ⟨s1, hw1, hS1, hg1⟩ := whileE_rule (fun s : MO α => decide (s.m < map_.length))
    (mapOldBody data map_ inv cs zero) (MInv data map_ inv cs zero) (mmu data map_)
    (fun s hS hg => mapOldBody_step hcs hr hmono hinv hS hg)
    (map_.length + data.length + 1) _ (MInv.init data zero hcs hr) (Nat.le_trans (Nat.sub_le _ _) (Nat.le_succ _))
  have hm : s1.m = map_.length := by
    have h1 := hS1.mview.le
    have h2 := hS1.mview.hi_le
    have : ¬ s1.m < map_.length := by simpa using hg1
    omega
  refine ⟨s1.out, by simp only [mapValidStreamOld, nextRange_zero, hw1], ?_⟩
  have := hS1.out
  rwa [hm, List.take_length] at this

/-- the refinement named in `Props/C19.lean`: streamed mapper = `map_valid` allocating its own result -/
theorem mapValidStreamOld_eq_mapValid {α} (data : List α) (map_ : List Int) (inv : Int) {cs : Nat} (zero : α) (hcs : 1 ≤ cs)
    (hr : InRange data.length map_ inv) (hmono : ValidMonotone map_ inv)
    (hinv : inv < 0 ∨ (data.length : Int) ≤ inv) :
    mapValidStreamOld data map_ inv cs zero = mapValid data map_ none inv zero := by
  obtain ⟨o1, h1, h2⟩ := mapValidStreamOld_eq data map_ inv zero hcs hr hmono hinv
  obtain ⟨o2, h3, h4⟩ := mapValid_mapSpec data map_ inv zero hr
  rw [h2] at h4
  cases h4
  rw [h1, h3]

end Exetera.JoinOld
