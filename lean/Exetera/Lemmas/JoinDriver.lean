import Exetera.Lemmas.JoinKernel
/-!
  The part of the streamed join drivers that does not depend on the kernel.

  `streamed v` runs the same loop for all eight generators: call the `_partial` kernel of `v` on the two current windows,
  replace a window that is used up, flush the result buffers. `Core` is what every kernel's invariant says about windows,
  positions, buffers and output, with the spec rows still pending as a parameter. `Kernel` is the contract between a
  kernel's invariant and the driver; `Kernel.streamed` is the one driver theorem, and the results about the eight
  generators are its instances.
-/
namespace Exetera.Join
open Exetera Exetera.Spec

variable {lt rt emit : Bool} {L R : List Int} {cs : Nat} {inv : Int}

structure Core (lt rt emit : Bool) (L R : List Int) (cs : Nat) (inv : Int)
    (pend : List (Nat × Option Nat)) (d : D) : Prop where
  lch : ChunkFor lt L d.lch
  rch : ChunkFor rt R d.rch
  ile : d.k.i ≤ d.lch.hi - d.lch.lo
  jle : d.k.j ≤ d.rch.hi - d.rch.lo
  blen : d.k.lb.length = d.k.rb.length
  bcap : d.k.rb.length ≤ cs
  outL : d.lout ++ d.k.lb ++ encL (sel emit pend) = encL (sel emit (leftJoin L R))
  outR : d.rout ++ d.k.rb ++ encR inv (sel emit pend) = encR inv (sel emit (leftJoin L R))

/-- kernel-local variant: decreases at every iteration of a `_partial` call of any kernel -/
def kmu (cs : Nat) (d : D) : Nat :=
  (d.lch.hi - d.lch.lo - d.k.i) + (d.rch.hi - d.rch.lo - d.k.j) + 2 * (cs - d.k.rb.length) + (if d.k.inner then 0 else 1)

/-- rows not yet consumed: decreases at every iteration of a uniqueness-specialised kernel -/
def bgmu (L R : List Int) (d : D) : Nat := (L.length - d.I) + (R.length - d.J)

theorem kmu_le_fuel (d : D) : kmu cs d ≤ partialFuel (mkP L R cs inv d) := by
  have h1 := Nat.sub_le (d.lch.hi - d.lch.lo) d.k.i
  have h2 := Nat.sub_le (d.rch.hi - d.rch.lo) d.k.j
  have h3 := Nat.sub_le cs d.k.rb.length
  have h4 : (if d.k.inner then 0 else 1) ≤ 1 := by split <;> omega
  simp only [kmu, partialFuel, mkP, D.iMax, D.jMax]
  omega

section core
variable {pend pend' rows : List (Nat × Option Nat)} {d : D}

theorem Core.emitted_le (c : Core lt rt emit L R cs inv pend d) :
    (d.lout ++ d.k.lb).length ≤ (sel emit (leftJoin L R)).length := by
  have := congrArg List.length c.outL
  simp only [List.length_append, encL_length] at this ⊢
  omega

theorem sub_add_sub_lt {w v i j i' j' : Nat} (hi : i ≤ i') (hj : j ≤ j') (hi' : i' ≤ w) (hj' : j' ≤ v)
    (hlt : i + j < i' + j') : (w - i') + (v - j') < (w - i) + (v - j) := by omega

theorem Core.advance (c : Core lt rt emit L R cs inv pend d) {s' : K} (e_inner : s'.inner = d.k.inner)
    (hr : d.k.rb.length ≤ s'.rb.length) (hi : d.k.i ≤ s'.i) (hj : d.k.j ≤ s'.j)
    (hi' : s'.i ≤ d.lch.hi - d.lch.lo) (hj' : s'.j ≤ d.rch.hi - d.rch.lo) (hlt : d.k.i + d.k.j < s'.i + s'.j) :
    kmu cs { d with k := s' } < kmu cs d ∧ bgmu L R { d with k := s' } < bgmu L R d := by
  constructor
  · have h1 := sub_add_sub_lt hi hj hi' hj' hlt
    have h2 := Nat.sub_le_sub_left hr cs
    simp only [kmu, e_inner]
    omega
  · have hI : d.lch.lo + s'.i ≤ L.length := by have := c.lch.ok.hi_le; have := c.lch.ok.lo_le; omega
    have hJ : d.rch.lo + s'.j ≤ R.length := by have := c.rch.ok.hi_le; have := c.rch.ok.lo_le; omega
    simp only [bgmu, D.I, D.J]
    exact sub_add_sub_lt (Nat.add_le_add_left hi _) (Nat.add_le_add_left hj _) hI hJ (by omega)

theorem Core.step (c : Core lt rt emit L R cs inv pend d) (hp : pend = rows ++ pend') {s' : K}
    (hi : s'.i ≤ d.lch.hi - d.lch.lo) (hj : s'.j ≤ d.rch.hi - d.rch.lo)
    (hlb : s'.lb = d.k.lb ++ encL (sel emit rows)) (hrb : s'.rb = d.k.rb ++ encR inv (sel emit rows))
    (hcap : s'.rb.length ≤ cs) : Core lt rt emit L R cs inv pend' { d with k := s' } := by
  refine ⟨c.lch, c.rch, hi, hj, ?_, hcap, ?_, ?_⟩
  · show s'.lb.length = s'.rb.length
    rw [hlb, hrb, List.length_append, List.length_append, c.blen, encL_length, encR_length]
  · show d.lout ++ s'.lb ++ _ = _
    rw [hlb, ← c.outL, hp, sel_append]; simp [encL]
  · show d.rout ++ s'.rb ++ _ = _
    rw [hrb, ← c.outR, hp, sel_append]; simp [encR]

theorem Core.init {lch rch : Chunk} (hl : ChunkFor lt L lch) (hr : ChunkFor rt R rch) :
    Core lt rt emit L R cs inv (leftJoin L R) { lch := lch, rch := rch, k := {} } :=
  ⟨hl, hr, Nat.zero_le _, Nat.zero_le _, rfl, Nat.zero_le _, by simp, by simp⟩

theorem Core.emit_pair (c : Core lt rt emit L R cs inv pend d) {x y : Nat} (hp : pend = (x, some y) :: pend')
    (hr : d.k.rb.length < cs) {s' : K} (hi : s'.i ≤ d.lch.hi - d.lch.lo) (hj : s'.j ≤ d.rch.hi - d.rch.lo)
    (e_lb : s'.lb = d.k.lb ++ [(x : Int)]) (e_rb : s'.rb = d.k.rb ++ [(y : Int)]) :
    Core lt rt emit L R cs inv pend' { d with k := s' } :=
  c.step (rows := [(x, some y)]) hp hi hj (by rw [e_lb, sel_cons_some, sel_nil]; rfl)
    (by rw [e_rb, sel_cons_some, sel_nil]; rfl) (by rw [e_rb, List.length_append]; exact hr)

/-- `left[i] < right[j]` with no match of left row `I` before `J`: the row is unmatched; every kernel steps over it,
    those of a left join emitting it -/
theorem Core.skip_left (hL : Sorted L) (hR : Sorted R) (c : Core lt rt emit L R cs inv (rest L R d.I) d)
    (hb : BelowAt L R d.I d.J) {a b : Int} (ha : L[d.I]? = some a) (hbj : R[d.J]? = some b) (hab : a < b)
    (hi : d.k.i < d.lch.hi - d.lch.lo) (hr : d.k.rb.length < cs) {s' : K}
    (hs : s' = { d.k with i := d.k.i + 1, lb := if emit then d.k.lb ++ [(d.I : Int)] else d.k.lb,
                          rb := if emit then d.k.rb ++ [inv] else d.k.rb }) :
    Core lt rt emit L R cs inv (rest L R ({ d with k := s' } : D).I) { d with k := s' } ∧
      BelowAt L R ({ d with k := s' } : D).I ({ d with k := s' } : D).J ∧
      kmu cs { d with k := s' } < kmu cs d ∧ bgmu L R { d with k := s' } < bgmu L R d := by
  subst hs
  have hlen : (if emit then d.k.rb ++ [inv] else d.k.rb).length ≤ cs ∧
      d.k.rb.length ≤ (if emit then d.k.rb ++ [inv] else d.k.rb).length := by cases emit <;> simp <;> omega
  refine ⟨c.step (rows := [(d.I, none)]) ?_ (Nat.succ_le_of_lt hi) c.jle ?_ ?_ hlen.1, hb.left_succ hL,
    c.advance rfl hlen.2 (Nat.le_succ _) (Nat.le_refl _) (Nat.succ_le_of_lt hi) c.jle (by simp only; omega)⟩
  · exact hb.rest_none hR ha (fun b' hb' => by rw [hbj] at hb'; cases hb'; exact hab)
  · cases emit <;> simp [sel, encL]
  · cases emit <;> simp [sel, encR, encCell]

/-- `left[i] > right[j]`: every kernel steps over the right row -/
theorem Core.skip_right (c : Core lt rt emit L R cs inv pend d) (hb : BelowAt L R d.I d.J)
    {a b : Int} (ha : L[d.I]? = some a) (hbj : R[d.J]? = some b) (hab : b < a) (hj : d.k.j < d.rch.hi - d.rch.lo) :
    Core lt rt emit L R cs inv pend { d with k := { d.k with j := d.k.j + 1 } } ∧ BelowAt L R d.I (d.J + 1) ∧
      kmu cs { d with k := { d.k with j := d.k.j + 1 } } < kmu cs d ∧
      bgmu L R { d with k := { d.k with j := d.k.j + 1 } } < bgmu L R d :=
  ⟨c.step (rows := []) rfl c.ile (Nat.succ_le_of_lt hj) (by simp [sel_nil, encL]) (by simp [sel_nil, encR]) c.bcap,
    hb.right_succ ha hbj hab,
    c.advance rfl (Nat.le_refl _) (Nat.le_refl _) (Nat.le_succ _) c.ile (Nat.succ_le_of_lt hj) (by simp only; omega)⟩

/-- `left[i] = right[j]`, the pair `(I, J)` is the last pending row of left row `I` and the next left key is larger: a
    uniqueness-specialised kernel emits the pair and advances on both sides -/
theorem Core.match_both (hR : Sorted R) (c : Core lt rt emit L R cs inv pend d) {a : Int}
    (hp : pend = (d.I, some d.J) :: rest L R (d.I + 1)) (hbj : R[d.J]? = some a)
    (hnext : ∀ a', L[d.I + 1]? = some a' → a < a')
    (hi : d.k.i < d.lch.hi - d.lch.lo) (hj : d.k.j < d.rch.hi - d.rch.lo) (hr : d.k.rb.length < cs) {s' : K}
    (hs : s' = { d.k with lb := d.k.lb ++ [↑(d.k.i + d.lch.lo)], rb := d.k.rb ++ [↑(d.k.j + d.rch.lo)],
                          i := d.k.i + 1, j := d.k.j + 1 }) :
    Core lt rt emit L R cs inv (rest L R ({ d with k := s' } : D).I) { d with k := s' } ∧
      BelowAt L R ({ d with k := s' } : D).I ({ d with k := s' } : D).J ∧
      kmu cs { d with k := s' } < kmu cs d ∧ bgmu L R { d with k := s' } < bgmu L R d := by
  subst hs
  exact ⟨c.emit_pair hp hr (Nat.succ_le_of_lt hi) (Nat.succ_le_of_lt hj) (by simp only [D.I, Nat.add_comm])
      (by simp only [D.J, Nat.add_comm]), BelowAt.of_le hR hbj hnext,
    c.advance rfl (by simp) (Nat.le_succ _) (Nat.le_succ _) (Nat.succ_le_of_lt hi) (Nat.succ_le_of_lt hj)
      (by simp only; omega)⟩

/-- `left[i] ≠ right[j]`: the two branches that all uniqueness-specialised kernels share -/
theorem unique_ne {v : Variant} (hv : v.isLeft = emit) (hL : Sorted L) (hR : Sorted R)
    (c : Core lt rt emit L R cs inv (rest L R d.I) d) (hb : BelowAt L R d.I d.J)
    (hi : d.k.i < d.lch.hi - d.lch.lo) (hj : d.k.j < d.rch.hi - d.rch.lo) (hr : d.k.rb.length < cs) {a b : Int}
    (ha : L[d.I]? = some a) (hga : getE d.lch.data d.k.i "left[i]" = .ok a)
    (hbj : R[d.J]? = some b) (hgb : getE d.rch.data d.k.j "right[j]" = .ok b) (hne : a ≠ b) :
    ∃ s', uniqueBody v (mkP L R cs inv d) d.k = .ok s' ∧
      Core lt rt emit L R cs inv (rest L R ({ d with k := s' } : D).I) { d with k := s' } ∧
      BelowAt L R ({ d with k := s' } : D).I ({ d with k := s' } : D).J ∧
      kmu cs { d with k := s' } < kmu cs d ∧ bgmu L R { d with k := s' } < bgmu L R d := by
  subst hv
  rcases Int.lt_or_gt_of_ne hne with hab | hab
  · refine ⟨_, ?_, c.skip_left hL hR hb ha hbj hab hi hr rfl⟩
    cases hv : v.isLeft <;>
      simp [uniqueBody, hv, mkP, hga, hgb, hab, push, hr, bind, Except.bind, pure, Except.pure, D.I, Nat.add_comm]
  · refine ⟨{ d.k with j := d.k.j + 1 }, ?_, c.skip_right hb ha hbj hab hj⟩
    have h1 : ¬ a < b := by omega
    simp [uniqueBody, mkP, hga, hgb, h1, hab, bind, Except.bind, pure, Except.pure]

end core

theorem partial_of_step {v : Variant} {Inv : D → Prop} {mu : D → Nat}
    (step : ∀ d, Inv d → partialGuard v (mkP L R cs inv d) d.k = true →
      ∃ s', partialBody v (mkP L R cs inv d) d.k = .ok s' ∧ Inv { d with k := s' } ∧
        kmu cs { d with k := s' } < kmu cs d ∧ mu { d with k := s' } < mu d)
    (d : D) (hinv : Inv d) :
    ∃ k', runPartial v (mkP L R cs inv d) d.k = .ok k' ∧ Inv { d with k := k' } ∧
      partialGuard v (mkP L R cs inv d) k' = false ∧ mu { d with k := k' } ≤ mu d ∧
      (partialGuard v (mkP L R cs inv d) d.k = true → mu { d with k := k' } < mu d) := by
  obtain ⟨k', h1, ⟨h2, h3, h4⟩, h5⟩ := whileE_rule (partialGuard v (mkP L R cs inv d)) (partialBody v (mkP L R cs inv d))
    (fun s => Inv { d with k := s } ∧ mu { d with k := s } ≤ mu d ∧ (s ≠ d.k → mu { d with k := s } < mu d))
    (fun s => kmu cs { d with k := s })
    (fun s ⟨hI, hle, _⟩ hg => by
      obtain ⟨s', h1, h2, h3, h4⟩ := step { d with k := s } hI hg
      exact ⟨s', h1, ⟨h2, Nat.le_of_lt (Nat.lt_of_lt_of_le h4 hle), fun _ => Nat.lt_of_lt_of_le h4 hle⟩, h3⟩)
    (partialFuel (mkP L R cs inv d)) d.k ⟨hinv, Nat.le_refl _, fun h => absurd rfl h⟩ (kmu_le_fuel d)
  refine ⟨k', h1, h2, h5, h3, fun hg => h4 fun heq => ?_⟩
  rw [heq, hg] at h5
  cases h5

theorem flush_eq {d : D} (h : d.k.lb.length = d.k.rb.length) :
    flush d = { d with lout := d.lout ++ d.k.lb, rout := d.rout ++ d.k.rb, k := { d.k with lb := [], rb := [] } } := by
  unfold flush
  split
  · rfl
  · rename_i hr
    have hrb : d.k.rb = [] := List.eq_nil_of_length_eq_zero (by simpa [K.r] using hr)
    have hlb : d.k.lb = [] := List.eq_nil_of_length_eq_zero (by rw [h, hrb]; rfl)
    obtain ⟨lch, rch, ⟨i, j, ii, jj, iiMax, jjMax, inner, lb, rb⟩, lout, rout, calls⟩ := d
    simp only at hrb hlb
    subst hrb hlb
    simp

/-- `d'` is `d` after some of the driver's housekeeping between two kernel calls: same merge position, same FSM
    registers, same output (perhaps moved from the buffers to the flushed part); a window is kept, or replaced if used up -/
structure Frame (lt rt : Bool) (L R : List Int) (cs : Nat) (d d' : D) : Prop where
  I : d'.I = d.I
  J : d'.J = d.J
  left : d'.lch = d.lch ∧ d'.k.i = d.k.i ∨ d.lch.hi - d.lch.lo ≤ d.k.i
  right : d'.rch = d.rch ∧ d'.k.j = d.k.j ∨ d.rch.hi - d.rch.lo ≤ d.k.j
  regs : (d'.k.inner, d'.k.ii, d'.k.jj, d'.k.iiMax, d'.k.jjMax) = (d.k.inner, d.k.ii, d.k.jj, d.k.iiMax, d.k.jjMax)
  lch : ChunkFor lt L d'.lch
  rch : ChunkFor rt R d'.rch
  ile : d'.k.i ≤ d'.lch.hi - d'.lch.lo
  jle : d'.k.j ≤ d'.rch.hi - d'.rch.lo
  blen : d'.k.lb.length = d'.k.rb.length
  bcap : d'.k.rb.length ≤ cs
  lo : d'.lout ++ d'.k.lb = d.lout ++ d.k.lb
  ro : d'.rout ++ d'.k.rb = d.rout ++ d.k.rb

section frame
variable {pend : List (Nat × Option Nat)} {d d' : D}

theorem Core.frame (c : Core lt rt emit L R cs inv pend d) (f : Frame lt rt L R cs d d') :
    Core lt rt emit L R cs inv pend d' :=
  ⟨f.lch, f.rch, f.ile, f.jle, f.blen, f.bcap, by rw [f.lo]; exact c.outL, by rw [f.ro]; exact c.outR⟩

theorem Frame.calls (c : Core lt rt emit L R cs inv pend d) (n : Nat) : Frame lt rt L R cs d { d with calls := n } :=
  ⟨rfl, rfl, .inl ⟨rfl, rfl⟩, .inl ⟨rfl, rfl⟩, rfl, c.lch, c.rch, c.ile, c.jle, c.blen, c.bcap, rfl, rfl⟩

theorem Frame.flush (c : Core lt rt emit L R cs inv pend d) : Frame lt rt L R cs d (flush d) := by
  rw [flush_eq c.blen]
  exact ⟨rfl, rfl, .inl ⟨rfl, rfl⟩, .inl ⟨rfl, rfl⟩, rfl, c.lch, c.rch, c.ile, c.jle, rfl, Nat.zero_le _,
    List.append_nil _, List.append_nil _⟩

/-- `if i_off + i < len(left) and i >= i_max: fetch the next left chunk`: afterwards a used-up left window means a
    used-up left column -/
theorem refillLeft_frame {v : Variant} (hv : v.ltrim = lt) (hcs : 0 < cs) (c : Core lt rt emit L R cs inv pend d) :
    ∃ d', refillLeft v L cs d = .ok d' ∧ Frame lt rt L R cs d d' ∧
      (d'.lch.lo + d'.k.i < L.length → d'.k.i < d'.lch.hi - d'.lch.lo) := by
  subst hv
  unfold refillLeft
  split
  · rename_i hc
    simp only [Bool.and_eq_true, decide_eq_true_eq] at hc
    obtain ⟨c', hf, hlo, hc'⟩ := fetchChunk_ok v.ltrim L d.lch.hi cs hcs c.lch.ok.hi_le
    rw [hf]
    refine ⟨_, rfl, ⟨?_, rfl, .inr hc.2, .inl ⟨rfl, rfl⟩, rfl, hc', c.rch, Nat.zero_le _, c.jle, c.blen, c.bcap, rfl, rfl⟩,
      fun h => ?_⟩
    · have := c.ile; have := c.lch.ok.lo_le
      simp only [D.I, hlo]; omega
    · have := hc'.ok.nonempty (by simp only at h; omega)
      simp only; omega
  · rename_i hc
    simp only [Bool.and_eq_true, decide_eq_true_eq, not_and, Nat.not_le, ge_iff_le] at hc
    exact ⟨d, rfl, Frame.calls c d.calls, hc⟩

/-- the same for the right window, which leaves the left one alone -/
theorem refillRight_frame {v : Variant} (hv : v.rtrim = rt) (hcs : 0 < cs) (c : Core lt rt emit L R cs inv pend d) :
    ∃ d', refillRight v R cs d = .ok d' ∧ Frame lt rt L R cs d d' ∧
      (d'.rch.lo + d'.k.j < R.length → d'.k.j < d'.rch.hi - d'.rch.lo) ∧ d'.lch = d.lch ∧ d'.k.i = d.k.i := by
  subst hv
  unfold refillRight
  split
  · rename_i hc
    simp only [Bool.and_eq_true, decide_eq_true_eq] at hc
    obtain ⟨c', hf, hlo, hc'⟩ := fetchChunk_ok v.rtrim R d.rch.hi cs hcs c.rch.ok.hi_le
    rw [hf]
    refine ⟨_, rfl, ⟨rfl, ?_, .inl ⟨rfl, rfl⟩, .inr hc.2, rfl, c.lch, hc', c.ile, Nat.zero_le _, c.blen, c.bcap, rfl, rfl⟩,
      fun h => ?_, rfl, rfl⟩
    · have := c.jle; have := c.rch.ok.lo_le
      simp only [D.J, hlo]; omega
    · have := hc'.ok.nonempty (by simp only at h; omega)
      simp only; omega
  · rename_i hc
    simp only [Bool.and_eq_true, decide_eq_true_eq, not_and, Nat.not_le, ge_iff_le] at hc
    exact ⟨d, rfl, Frame.calls c d.calls, hc, rfl, rfl⟩

end frame

/-- invariant of the tail loop of the left joins (and of the `_remaining` kernel inside it): the right column is
    exhausted, every remaining left row is unmatched -/
structure TInv (L R : List Int) (cs : Nat) (inv : Int) (d : D) : Prop where
  lo_le : d.lch.lo ≤ d.lch.hi
  hi_le : d.lch.hi ≤ L.length
  ile : d.k.i ≤ d.lch.hi - d.lch.lo
  blen : d.k.lb.length = d.k.rb.length
  bcap : d.k.rb.length ≤ cs
  outL : d.lout ++ d.k.lb ++ encL (rest L R d.I) = encL (leftJoin L R)
  outR : d.rout ++ d.k.rb ++ encR inv (rest L R d.I) = encR inv (leftJoin L R)
  below : d.I < L.length → AllBelow L R d.I

theorem remaining_step (hL : Sorted L) (hR : Sorted R) (d : D) (h : TInv L R cs inv d)
    (hg : (decide (d.k.i < (mkP L R cs inv d).iMax) && decide (d.k.r < (mkP L R cs inv d).cap)) = true) :
    ∃ s', remainingBody (mkP L R cs inv d) d.k = .ok s' ∧ TInv L R cs inv { d with k := s' } ∧
      (mkP L R cs inv d).iMax - s'.i < (mkP L R cs inv d).iMax - d.k.i ∧ ({ d with k := s' } : D).I = d.I + 1 := by
  simp only [mkP, D.iMax, K.r, Bool.and_eq_true] at hg
  have hi := of_decide_eq_true hg.1
  have hr := of_decide_eq_true hg.2
  have hlo := h.lo_le
  have hhi := h.hi_le
  have hIlt : d.I < L.length := by simp only [D.I]; omega
  have hrest := rest_allBelow hR hIlt (h.below hIlt)
  have hoL := h.outL
  have hoR := h.outR
  rw [hrest] at hoL hoR
  refine ⟨{ d.k with lb := d.k.lb ++ [↑(d.lch.lo + d.k.i)], rb := d.k.rb ++ [inv], i := d.k.i + 1 }, ?_,
    ⟨hlo, hhi, by simp only; omega, by simp [h.blen], by simp only [List.length_append, List.length_singleton]; omega,
      ?_, ?_, fun _ => (h.below hIlt).succ hL⟩, by simp only [mkP, D.iMax]; omega, rfl⟩
  · simp [remainingBody, mkP, push, hr, bind, Except.bind, pure, Except.pure]
  · rw [← hoL]; simp [D.I, Nat.add_assoc]
  · rw [← hoR]; simp [D.I, Nat.add_assoc, encCell]

theorem remaining_run (hL : Sorted L) (hR : Sorted R) (d : D) (h : TInv L R cs inv d) :
    ∃ k', runRemaining (mkP L R cs inv d) d.k = .ok k' ∧ TInv L R cs inv { d with k := k' } ∧
      (decide (k'.i < (mkP L R cs inv d).iMax) && decide (k'.r < (mkP L R cs inv d).cap)) = false ∧
      d.I ≤ ({ d with k := k' } : D).I ∧
      ((decide (d.k.i < (mkP L R cs inv d).iMax) && decide (d.k.r < (mkP L R cs inv d).cap)) = true →
        d.I < ({ d with k := k' } : D).I) := by
  obtain ⟨k', h1, ⟨h2, h3, h4⟩, h5⟩ := whileE_rule
    (fun s => decide (s.i < (mkP L R cs inv d).iMax) && decide (s.r < (mkP L R cs inv d).cap))
    (remainingBody (mkP L R cs inv d))
    (fun s => TInv L R cs inv { d with k := s } ∧ d.I ≤ ({ d with k := s } : D).I ∧ (s ≠ d.k → d.I < ({ d with k := s } : D).I))
    (fun s => (mkP L R cs inv d).iMax - s.i)
    (fun s ⟨hI, hle, _⟩ hg => by
      obtain ⟨s', h1, h2, h3, h4⟩ := remaining_step hL hR { d with k := s } hI hg
      have h4 : ({ d with k := s' } : D).I = ({ d with k := s } : D).I + 1 := h4
      exact ⟨s', h1, ⟨h2, by omega, fun _ => by omega⟩, h3⟩)
    ((mkP L R cs inv d).iMax + 1) d.k ⟨h, Nat.le_refl _, fun hh => absurd rfl hh⟩ (by omega)
  refine ⟨k', h1, h2, h5, h3, fun hg => h4 fun heq => ?_⟩
  rw [heq, hg] at h5
  cases h5

structure TTop (L R : List Int) (cs : Nat) (inv : Int) (d : D) : Prop where
  t : TInv L R cs inv d
  li : d.lch.lo + d.k.i < L.length → d.k.i < d.lch.hi - d.lch.lo
  flushed : d.k.rb = []

/-- `if i >= i_max: move to the next left chunk` (only its range is used from here on) -/
theorem TInv.advance (hcs : 0 < cs) {d : D} (h : TInv L R cs inv d) :
    TInv L R cs inv (tailAdvance L cs d) ∧ (tailAdvance L cs d).I = d.I ∧
      ((tailAdvance L cs d).lch.lo + (tailAdvance L cs d).k.i < L.length →
        (tailAdvance L cs d).k.i < (tailAdvance L cs d).lch.hi - (tailAdvance L cs d).lch.lo) := by
  have hlo := h.lo_le
  have hhi := h.hi_le
  have hile := h.ile
  unfold tailAdvance
  simp only [nextChunk_eq, D.iMax]
  split
  · rename_i hge
    have hI' : ({ d with lch := ⟨d.lch.hi, min (d.lch.hi + cs) L.length, []⟩, k := { d.k with i := 0 } } : D).I = d.I := by
      simp only [D.I]; omega
    refine ⟨⟨Nat.le_min.mpr ⟨Nat.le_add_right _ _, hhi⟩, Nat.min_le_right _ _, Nat.zero_le _, h.blen, h.bcap, ?_, ?_, ?_⟩,
      hI', fun hlt => ?_⟩
    · rw [hI']; exact h.outL
    · rw [hI']; exact h.outR
    · rw [hI']; exact h.below
    · simp only at hlt ⊢; omega
  · exact ⟨h, rfl, fun _ => by omega⟩

theorem tail_step (hcs : 0 < cs) (hL : Sorted L) (hR : Sorted R) (d : D) (ht : TTop L R cs inv d)
    (hg : tailGuard L d = true) :
    ∃ d', tailBody L R cs inv d = .ok d' ∧ TTop L R cs inv d' ∧ L.length - d'.I < L.length - d.I := by
  simp only [tailGuard, decide_eq_true_eq] at hg
  have hi0 := ht.li (by omega)
  obtain ⟨k', hk1, hk2, -, -, hk5⟩ := remaining_run hL hR d ht.t
  have hlt := hk5 (by simp [mkP, D.iMax, K.r, ht.flushed, hi0, hcs])
  have hd1 : TInv L R cs inv { d with k := k', calls := d.calls + 1 } :=
    ⟨hk2.lo_le, hk2.hi_le, hk2.ile, hk2.blen, hk2.bcap, hk2.outL, hk2.outR, hk2.below⟩
  obtain ⟨ha1, ha2, ha3⟩ := hd1.advance hcs
  have hbody : tailBody L R cs inv d = .ok (flush (tailAdvance L cs { d with k := k', calls := d.calls + 1 })) := by
    simp only [tailBody, hk1, bind, Except.bind, pure, Except.pure]
  generalize tailAdvance L cs { d with k := k', calls := d.calls + 1 } = d2 at ha1 ha2 ha3 hbody
  rw [flush_eq ha1.blen] at hbody
  refine ⟨_, hbody, ⟨⟨ha1.lo_le, ha1.hi_le, ha1.ile, rfl, Nat.zero_le _, by simpa [D.I] using ha1.outL,
    by simpa [D.I] using ha1.outR, ha1.below⟩, ha3, rfl⟩, ?_⟩
  show L.length - d2.I < L.length - d.I
  have hI : d.I < L.length := by simp only [D.I]; omega
  have : d2.I = ({ d with k := k' } : D).I := ha2
  omega

theorem rest_all_unmatched (hL : Sorted L) (hR : Sorted R) :
    ∀ (n I : Nat), L.length - I = n → (I < L.length → AllBelow L R I) → ∀ p ∈ rest L R I, p.2 = none
  | 0, I, hn, _, p, hp => by
    rw [rest_of_ge L R (by omega)] at hp
    cases hp
  | n + 1, I, hn, hb, p, hp => by
    have hI : I < L.length := by omega
    rw [rest_allBelow hR hI (hb hI)] at hp
    rcases List.mem_cons.mp hp with h | h
    · rw [h]
    · exact rest_all_unmatched hL hR n (I + 1) (by omega) (fun _ => (hb hI).succ hL) p h

theorem sel_false_eq_nil {rows : List (Nat × Option Nat)} (h : ∀ p ∈ rows, p.2 = none) : sel false rows = [] := by
  simp only [sel, Bool.false_eq_true, if_false, List.filter_eq_nil_iff]
  intro p hp
  rw [h p hp]; simp

theorem BelowAt.allBelow_of_exit {d : D} (hg : mainGuard L R d = false) (h : BelowAt L R d.I d.J) (hI : d.I < L.length) :
    AllBelow L R d.I := by
  intro j b a hj
  refine h j b a ?_
  simp only [mainGuard, Bool.and_eq_false_iff, decide_eq_false_iff_not, D.I, D.J] at hg hI ⊢
  omega

/-- at the top of the driver's main loop: the buffers are flushed, and a used-up window means a used-up column -/
structure Top (Inv : D → Prop) (L R : List Int) (d : D) : Prop where
  g : Inv d
  li : d.lch.lo + d.k.i < L.length → d.k.i < d.lch.hi - d.lch.lo
  rj : d.rch.lo + d.k.j < R.length → d.k.j < d.rch.hi - d.rch.lo
  flushed : d.k.rb = []

/-- What the driver of `streamed v` needs of the invariant `Inv` (global variant `mu`, pending spec rows `pend`) of the
    `_partial` kernel of `v`. -/
structure Kernel (v : Variant) (lt rt emit : Bool) (L R : List Int) (cs : Nat) (inv : Int)
    (Inv : D → Prop) (pend : D → List (Nat × Option Nat)) (mu : D → Nat) : Prop where
  ltrim : v.ltrim = lt
  rtrim : v.rtrim = rt
  isLeft : v.isLeft = emit
  core : ∀ {d}, Inv d → Core lt rt emit L R cs inv (pend d) d
  init : ∀ {lch rch}, ChunkFor lt L lch → ChunkFor rt R rch → lch.lo = 0 → rch.lo = 0 →
    Inv { lch := lch, rch := rch, k := {} }
  run : ∀ d, Inv d → ∃ k', runPartial v (mkP L R cs inv d) d.k = .ok k' ∧ Inv { d with k := k' } ∧
    partialGuard v (mkP L R cs inv d) k' = false ∧ mu { d with k := k' } ≤ mu d ∧
    (partialGuard v (mkP L R cs inv d) d.k = true → mu { d with k := k' } < mu d)
  /-- at the top of the driver loop the kernel has something to do -/
  enter : ∀ {d}, Inv d → d.k.rb = [] → d.k.i < d.lch.hi - d.lch.lo → d.k.j < d.rch.hi - d.rch.lo →
    partialGuard v (mkP L R cs inv d) d.k = true
  frame : ∀ {d d'}, Inv d → Frame lt rt L R cs d d' → Inv d' ∧ mu d' = mu d
  /-- when the driver loop stops nothing of the current left row has been emitted, and if left rows remain the right
      column is exhausted -/
  exit : ∀ {d}, Inv d → mainGuard L R d = false → pend d = rest L R d.I ∧ (d.I < L.length → AllBelow L R d.I)

section driver
variable {v : Variant} {Inv : D → Prop} {pend : D → List (Nat × Option Nat)} {mu : D → Nat}

theorem Kernel.main_step (K : Kernel v lt rt emit L R cs inv Inv pend mu) (hcs : 0 < cs) {d : D} (hm : Top Inv L R d)
    (hg : mainGuard L R d = true) :
    ∃ d', mainBody v L R cs inv d = .ok d' ∧ Top Inv L R d' ∧ mu d' < mu d := by
  simp only [mainGuard, Bool.and_eq_true, decide_eq_true_eq] at hg
  obtain ⟨k', hrun, hinv1, -, -, hlt⟩ := K.run d hm.g
  have hlt := hlt (K.enter hm.g hm.flushed (hm.li (by omega)) (hm.rj (by omega)))
  obtain ⟨hinv2, hmu2⟩ := K.frame hinv1 (Frame.calls (K.core hinv1) (d.calls + 1))
  obtain ⟨d3, he3, f3, hli3⟩ := refillLeft_frame K.ltrim hcs (K.core hinv2)
  obtain ⟨hinv3, hmu3⟩ := K.frame hinv2 f3
  obtain ⟨d4, he4, f4, hrj4, hl4, hi4⟩ := refillRight_frame K.rtrim hcs (K.core hinv3)
  obtain ⟨hinv4, hmu4⟩ := K.frame hinv3 f4
  have c4 := K.core hinv4
  obtain ⟨hinv5, hmu5⟩ := K.frame hinv4 (Frame.flush c4)
  refine ⟨flush d4, ?_, ⟨hinv5, ?_, ?_, ?_⟩, by rw [hmu5, hmu4, hmu3, hmu2]; exact hlt⟩
  · simp only [mainBody, hrun, bind, Except.bind, he3, he4]; rfl
  · rw [flush_eq c4.blen]; show d4.lch.lo + d4.k.i < _ → d4.k.i < d4.lch.hi - d4.lch.lo
    rw [hl4, hi4]; exact hli3
  · rw [flush_eq c4.blen]; exact hrj4
  · rw [flush_eq c4.blen]

/-- The driver theorem: `streamed v` returns the join selected by `emit`, in every chunk size, within any fuel that covers
    the kernel's global variant and the length of the left column (for the tail loop). -/
theorem Kernel.streamed (K : Kernel v lt rt emit L R cs inv Inv pend mu) (hcs : 0 < cs)
    (hL : Sorted L) (hR : Sorted R) (fuel : Nat)
    (hmu : ∀ lch rch : Chunk, mu { lch := lch, rch := rch, k := {} } ≤ fuel) (hlen : L.length ≤ fuel) :
    ∃ calls, streamed v fuel cs inv L R =
      .ok ⟨if v.hasL then encL (sel emit (leftJoin L R)) else [], encR inv (sel emit (leftJoin L R)), calls⟩ := by
  obtain ⟨lch, hf1, hl0, hlc⟩ := fetchChunk_ok v.ltrim L 0 cs hcs (Nat.zero_le _)
  obtain ⟨rch, hf2, hr0, hrc⟩ := fetchChunk_ok v.rtrim R 0 cs hcs (Nat.zero_le _)
  have hv := K.isLeft
  rw [K.ltrim] at hlc
  rw [K.rtrim] at hrc
  have h0 : Top Inv L R { lch := lch, rch := rch, k := {} } :=
    ⟨K.init hlc hrc hl0 hr0, fun h => by have := hlc.ok.nonempty; simp only at h ⊢; omega,
      fun h => by have := hrc.ok.nonempty; simp only at h ⊢; omega, rfl⟩
  obtain ⟨d1, hw1, hm1, hg1⟩ := whileE_rule (mainGuard L R) (mainBody v L R cs inv) (Top Inv L R) mu
    (fun d hm hg => K.main_step hcs hm hg) fuel _ h0 (hmu lch rch)
  obtain ⟨hpend, hbelow⟩ := K.exit hm1.g hg1
  have c1 := K.core hm1.g
  rw [hpend] at c1
  have hlb1 : d1.k.lb = [] := List.eq_nil_of_length_eq_zero (by rw [c1.blen, hm1.flushed]; rfl)
  have hoL := c1.outL
  have hoR := c1.outR
  rw [hlb1] at hoL
  rw [hm1.flushed] at hoR
  simp only [Join.streamed, hf1, hf2, hw1, hv, bind, Except.bind, pure, Except.pure]
  cases emit with
  | false =>
    rw [sel_false_eq_nil (rest_all_unmatched hL hR _ _ rfl hbelow)] at hoL hoR
    simp only [List.append_nil, encL, encR, List.map_nil] at hoL hoR
    exact ⟨d1.calls, by simp [hoL, hoR, encL, encR]⟩
  | true =>
    have ht1 : TTop L R cs inv d1 :=
      ⟨⟨c1.lch.ok.lo_le, c1.lch.ok.hi_le, c1.ile, c1.blen, c1.bcap, c1.outL, c1.outR, hbelow⟩, hm1.li, hm1.flushed⟩
    obtain ⟨d2, hw2, ht2, hg2⟩ := whileE_rule (tailGuard L) (tailBody L R cs inv) (TTop L R cs inv)
      (fun d => L.length - d.I) (fun d ht hg => tail_step hcs hL hR d ht hg) fuel _ ht1 (by omega)
    have hI2 : L.length ≤ d2.I := by
      simp only [tailGuard, decide_eq_false_iff_not, D.I] at hg2 ⊢; omega
    have hlb2 : d2.k.lb = [] := List.eq_nil_of_length_eq_zero (by rw [ht2.t.blen, ht2.flushed]; rfl)
    have hoL := ht2.t.outL
    have hoR := ht2.t.outR
    rw [rest_of_ge L R hI2, hlb2] at hoL
    rw [rest_of_ge L R hI2, ht2.flushed] at hoR
    simp only [List.append_nil, encL, encR, List.map_nil] at hoL hoR
    exact ⟨d2.calls, by simp [hw2, hoL, hoR, sel, encL, encR]⟩

end driver
end Exetera.Join
