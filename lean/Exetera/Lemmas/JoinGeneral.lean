import Exetera.Lemmas.JoinDriver
/-! The general generators (`generate_ordered_map_to_{left,inner}_streamed`): both key columns may repeat keys, both
    chunks are trimmed. On equal keys the FSM kernel measures both runs and walks through their cartesian block, one cell
    per iteration; the block state is carried between `_partial` calls. -/
namespace Exetera.Join
open Exetera Exetera.Spec

def pendRows (L R : List Int) (d : D) : List (Nat × Option Nat) :=
  if d.k.inner then
    pendInner d.I d.J d.k.ii d.k.jj d.k.iiMax.toNat d.k.jjMax.toNat ++ rest L R (d.I + d.k.iiMax.toNat)
  else rest L R d.I

structure BlockInv (L R : List Int) (d : D) : Prop where
  n_pos : 0 < d.k.iiMax
  m_pos : 0 < d.k.jjMax
  ii_lt : (d.k.ii : Int) < d.k.iiMax
  jj_lt : (d.k.jj : Int) < d.k.jjMax
  i_in : d.k.i + d.k.iiMax.toNat ≤ d.lch.hi - d.lch.lo
  j_in : d.k.j + d.k.jjMax.toNat ≤ d.rch.hi - d.rch.lo
  key : ∃ a : Int,
    (∀ t, t < d.k.iiMax.toNat → L[d.I + t]? = some a) ∧
    (∀ u, u < d.k.jjMax.toNat → R[d.J + u]? = some a) ∧
    (∀ j b, j < d.J → R[j]? = some b → b < a) ∧
    (∀ b, R[d.J + d.k.jjMax.toNat]? = some b → a < b) ∧
    (∀ b, L[d.I + d.k.iiMax.toNat]? = some b → a < b)

structure GInv (emit : Bool) (L R : List Int) (cs : Nat) (inv : Int) (d : D) : Prop where
  lok : ChunkOK L d.lch
  rok : ChunkOK R d.rch
  lbd : Boundary L d.lch
  rbd : Boundary R d.rch
  ile : d.k.i ≤ d.lch.hi - d.lch.lo
  jle : d.k.j ≤ d.rch.hi - d.rch.lo
  blen : d.k.lb.length = d.k.rb.length
  bcap : d.k.rb.length ≤ cs
  outL : d.lout ++ d.k.lb ++ encL (sel emit (pendRows L R d)) = encL (sel emit (leftJoin L R))
  outR : d.rout ++ d.k.rb ++ encR inv (sel emit (pendRows L R d)) = encR inv (sel emit (leftJoin L R))
  h1 : d.k.inner = false → ∀ j b a, j < d.J → R[j]? = some b → L[d.I]? = some a → b < a
  blk : d.k.inner = true → BlockInv L R d

/-- global variant: decreases at every kernel iteration, never increases at refill/flush -/
def gmu (emit : Bool) (L R : List Int) (d : D) : Nat :=
  (L.length - d.I) + (R.length - d.J) + 2 * ((sel emit (leftJoin L R)).length - (d.lout ++ d.k.lb).length)
    + (if d.k.inner then 0 else 1)

def gvariant (emit : Bool) : Variant := if emit then .left else .inner

variable {emit : Bool} {L R : List Int} {cs : Nat} {inv : Int} {d : D}

theorem GInv.core (h : GInv emit L R cs inv d) : Core true true emit L R cs inv (pendRows L R d) d :=
  ⟨⟨h.lok, fun _ => h.lbd, nofun⟩, ⟨h.rok, fun _ => h.rbd, nofun⟩, h.ile, h.jle, h.blen, h.bcap, h.outL, h.outR⟩

theorem GInv.of_core (c : Core true true emit L R cs inv (pendRows L R d) d)
    (h1 : d.k.inner = false → BelowAt L R d.I d.J) (blk : d.k.inner = true → BlockInv L R d) : GInv emit L R cs inv d :=
  ⟨c.lch.ok, c.rch.ok, c.lch.bd rfl, c.rch.bd rfl, c.ile, c.jle, c.blen, c.bcap, c.outL, c.outR, h1, blk⟩

theorem GInv.of_below (hin : d.k.inner = false) (c : Core true true emit L R cs inv (rest L R d.I) d)
    (h : BelowAt L R d.I d.J) : GInv emit L R cs inv d :=
  GInv.of_core (by rw [pendRows, hin]; exact c) (fun _ => h) (fun h' => by rw [hin] at h'; cases h')

theorem partialBody_general (emit : Bool) : partialBody (gvariant emit) = generalBody emit := by
  cases emit <;> rfl

theorem partialGuard_general (emit : Bool) (p : P) (s : K) :
    partialGuard (gvariant emit) p s = (decide (s.i < p.iMax) && decide (s.j < p.jMax) && decide (s.r < p.cap)) := by
  cases emit <;> rfl

/-- the global variant follows the rows not yet consumed as long as nothing is taken back from the output -/
theorem gmu_lt_of_bgmu {d' : D} (h : bgmu L R d' < bgmu L R d) (hin : d'.k.inner = d.k.inner)
    (he : (d.lout ++ d.k.lb).length ≤ (d'.lout ++ d'.k.lb).length) : gmu emit L R d' < gmu emit L R d := by
  have := Nat.sub_le_sub_left he (sel emit (leftJoin L R)).length
  simp only [gmu, bgmu, hin] at h ⊢
  omega

/-- emitting a row pays for whatever else an iteration does to the FSM state -/
theorem Core.emit_lt {pend' : List (Nat × Option Nat)} {s' : K}
    (c' : Core true true emit L R cs inv pend' { d with k := s' }) (hr : d.k.rb.length < cs)
    (hi : d.k.i ≤ s'.i) (hj : d.k.j ≤ s'.j) (hin : d.k.inner = true)
    (e_lb : s'.lb.length = d.k.lb.length + 1) (e_rb : s'.rb.length = d.k.rb.length + 1) :
    kmu cs { d with k := s' } < kmu cs d ∧ gmu emit L R { d with k := s' } < gmu emit L R d := by
  have h1 := Nat.sub_le_sub_left hi (d.lch.hi - d.lch.lo)
  have h2 := Nat.sub_le_sub_left hj (d.rch.hi - d.rch.lo)
  have h3 := Nat.sub_le_sub_left (Nat.add_le_add_left hi d.lch.lo) L.length
  have h4 := Nat.sub_le_sub_left (Nat.add_le_add_left hj d.rch.lo) R.length
  have h5 := c'.emitted_le
  have h6 : (if s'.inner = true then 0 else 1) ≤ 1 := by split <;> omega
  simp only [List.length_append] at h5
  constructor
  · simp only [kmu, hin, if_true, e_rb]; omega
  · simp only [gmu, D.I, D.J, hin, if_true, List.length_append, e_lb]; omega

/-- an iteration outside a block: step over an unmatched row, or measure both runs of equal keys and enter their block -/
theorem step_outside (hL : Sorted L) (hR : Sorted R) (hinv : GInv emit L R cs inv d) (hin : d.k.inner = false)
    (hi : d.k.i < d.lch.hi - d.lch.lo) (hj : d.k.j < d.rch.hi - d.rch.lo) (hr : d.k.rb.length < cs) :
    ∃ s', generalBody emit (mkP L R cs inv d) d.k = .ok s' ∧ GInv emit L R cs inv { d with k := s' } ∧
      kmu cs { d with k := s' } < kmu cs d ∧ gmu emit L R { d with k := s' } < gmu emit L R d := by
  have hbelow : BelowAt L R d.I d.J := hinv.h1 hin
  have c : Core true true emit L R cs inv (rest L R d.I) d := by have := hinv.core; rwa [pendRows, hin] at this
  obtain ⟨a, ha, hga⟩ := chunk_access hinv.lok hi "left[i]"
  obtain ⟨b, hb, hgb⟩ := chunk_access hinv.rok hj "right[j]"
  rcases Int.lt_trichotomy a b with hab | hab | hab
  · obtain ⟨h1, h2, h3, h4⟩ := c.skip_left hL hR hbelow ha hb hab hi hr rfl
    refine ⟨_, ?_, ?_, h3, gmu_lt_of_bgmu h4 rfl ?_⟩
    · cases emit <;> simp [generalBody, hin, mkP, hga, hgb, hab, push, hr, bind, Except.bind, pure, Except.pure, D.I,
        Nat.add_comm]
    · exact GInv.of_below hin h1 h2
    · cases emit <;> simp
  · subst hab
    obtain ⟨n, hn1, hn2, hn3, hn4, hn5⟩ := run_global hL hinv.lok hinv.lbd hi ha
    obtain ⟨m, hm1, hm2, hm3, hm4, hm5⟩ := run_global hR hinv.rok hinv.rbd hj hb
    refine ⟨{ d.k with ii := 0, jj := 0, iiMax := n, jjMax := m, inner := true }, ?_, GInv.of_core ?_ nofun fun _ => ?_,
      ?_, ?_⟩
    · simp [generalBody, hin, mkP, hga, hgb, D.iMax, D.jMax, hn1, hm1, bind, Except.bind, pure, Except.pure]
    · simp only [pendRows, if_true, Int.toNat_natCast]
      exact c.step (rows := []) (hbelow.rest_runs hR hn2 hm2 hn4 hm4 hm5) hinv.ile hinv.jle (by simp [sel_nil, encL])
        (by simp [sel_nil, encR]) hinv.bcap
    · exact ⟨Int.natCast_pos.mpr hn2, Int.natCast_pos.mpr hm2, Int.natCast_pos.mpr hn2, Int.natCast_pos.mpr hm2,
        hn3, hm3, a, hn4, hm4, fun j b hjl hb' => hbelow j b a hjl hb' ha, hm5, hn5⟩
    · simp only [kmu, hin, if_true, Bool.false_eq_true, if_false]; exact Nat.lt_succ_self _
    · simp only [gmu, hin, if_true, Bool.false_eq_true, if_false]; exact Nat.lt_succ_self _
  · obtain ⟨h1, h2, h3, h4⟩ := c.skip_right hbelow ha hb hab hj
    refine ⟨_, ?_, ?_, h3, gmu_lt_of_bgmu h4 rfl (Nat.le_refl _)⟩
    · have h1 : ¬ a < b := by omega
      simp [generalBody, hin, mkP, hga, hgb, h1, hab, bind, Except.bind, pure, Except.pure]
    · exact GInv.of_below hin h1 h2

/-- an iteration inside a block: the cell `(I + ii, J + jj)` is the next pending row; then on to the next cell, the next
    row of the block, or past both runs and out of the block -/
theorem step_inside (hR : Sorted R) (hinv : GInv emit L R cs inv d) (hin : d.k.inner = true) (hr : d.k.rb.length < cs) :
    ∃ s', generalBody emit (mkP L R cs inv d) d.k = .ok s' ∧ GInv emit L R cs inv { d with k := s' } ∧
      kmu cs { d with k := s' } < kmu cs d ∧ gmu emit L R { d with k := s' } < gmu emit L R d := by
  have hb := hinv.blk hin
  have c := hinv.core
  have hjj := hb.jj_lt
  have hii := hb.ii_lt
  have hrow : pendRows L R d = (d.I + d.k.ii, some (d.J + d.k.jj)) ::
      (pendInner d.I d.J d.k.ii (d.k.jj + 1) d.k.iiMax.toNat d.k.jjMax.toNat ++ rest L R (d.I + d.k.iiMax.toNat)) := by
    rw [pendRows, hin, if_pos rfl, pendInner_step _ _ _ _ _ _ (by omega : d.k.jj < d.k.jjMax.toNat)]; rfl
  by_cases hjj' : (d.k.jj : Int) + 1 = d.k.jjMax
  · by_cases hii' : (d.k.ii : Int) + 1 = d.k.iiMax
    · have c' := c.emit_pair (s' :=
        { d.k with lb := d.k.lb ++ [↑(d.lch.lo + d.k.i + d.k.ii)], rb := d.k.rb ++ [↑(d.rch.lo + d.k.j + d.k.jj)],
                   i := d.k.i + d.k.iiMax.toNat, j := d.k.j + d.k.jjMax.toNat, inner := false, ii := 0, jj := 0,
                   iiMax := -1, jjMax := -1 }) hrow hr hb.i_in hb.j_in rfl rfl
      rw [show d.k.jj + 1 = d.k.jjMax.toNat by omega, pendInner_end _ _ _ _ _ (by omega), List.nil_append] at c'
      refine ⟨_, ?_, ?_, c'.emit_lt hr (Nat.le_add_right _ _) (Nat.le_add_right _ _) hin (by simp) (by simp)⟩
      · simp [generalBody, hin, mkP, push, hr, hjj', hii', bind, Except.bind, pure, Except.pure]
      refine GInv.of_below rfl (by simp only [D.I, Nat.add_assoc] at c' ⊢; exact c') ?_
      obtain ⟨a, -, k2, -, -, k5⟩ := hb.key
      have := BelowAt.of_le (I' := d.I + d.k.iiMax.toNat) hR (k2 (d.k.jjMax.toNat - 1) (by omega)) k5
      simp only [D.I, D.J, Nat.add_assoc] at this ⊢
      rwa [show d.k.jjMax.toNat - 1 + 1 = d.k.jjMax.toNat by omega] at this
    · have c' := c.emit_pair (s' :=
        { d.k with lb := d.k.lb ++ [↑(d.lch.lo + d.k.i + d.k.ii)], rb := d.k.rb ++ [↑(d.rch.lo + d.k.j + d.k.jj)],
                   jj := 0, ii := d.k.ii + 1 }) hrow hr hinv.ile hinv.jle rfl rfl
      rw [show d.k.jj + 1 = d.k.jjMax.toNat by omega, pendInner_rowend _ _ _ _ _ (by omega)] at c'
      refine ⟨_, ?_, ?_, c'.emit_lt hr (Nat.le_refl _) (Nat.le_refl _) hin (by simp) (by simp)⟩
      · simp [generalBody, hin, mkP, push, hr, hjj', hii', bind, Except.bind, pure, Except.pure]
      · exact GInv.of_core (by rw [pendRows, if_pos hin]; exact c') (fun h => by rw [hin] at h; cases h)
          (fun _ => ⟨hb.n_pos, hb.m_pos, by simp only; omega, by simp only; omega, hb.i_in, hb.j_in, hb.key⟩)
  · have c' := c.emit_pair (s' :=
      { d.k with lb := d.k.lb ++ [↑(d.lch.lo + d.k.i + d.k.ii)], rb := d.k.rb ++ [↑(d.rch.lo + d.k.j + d.k.jj)],
                 jj := d.k.jj + 1 }) hrow hr hinv.ile hinv.jle rfl rfl
    refine ⟨_, ?_, ?_, c'.emit_lt hr (Nat.le_refl _) (Nat.le_refl _) hin (by simp) (by simp)⟩
    · simp [generalBody, hin, mkP, push, hr, hjj', bind, Except.bind, pure, Except.pure]
    · exact GInv.of_core (by rw [pendRows, if_pos hin]; exact c') (fun h => by rw [hin] at h; cases h)
        (fun _ => ⟨hb.n_pos, hb.m_pos, hb.ii_lt, by simp only; omega, hb.i_in, hb.j_in, hb.key⟩)

theorem general_step (hL : Sorted L) (hR : Sorted R) (d : D) (hinv : GInv emit L R cs inv d)
    (hg : partialGuard (gvariant emit) (mkP L R cs inv d) d.k = true) :
    ∃ s', partialBody (gvariant emit) (mkP L R cs inv d) d.k = .ok s' ∧ GInv emit L R cs inv { d with k := s' } ∧
      kmu cs { d with k := s' } < kmu cs d ∧ gmu emit L R { d with k := s' } < gmu emit L R d := by
  rw [partialGuard_general] at hg
  simp only [mkP, D.iMax, D.jMax, K.r, Bool.and_eq_true] at hg
  rw [partialBody_general]
  cases hin : d.k.inner with
  | false => exact step_outside hL hR hinv hin (of_decide_eq_true hg.1.1) (of_decide_eq_true hg.1.2) (of_decide_eq_true hg.2)
  | true => exact step_inside hR hinv hin (of_decide_eq_true hg.2)

theorem general_partial (hL : Sorted L) (hR : Sorted R) (d : D) (hinv : GInv emit L R cs inv d) :
    ∃ k', runPartial (gvariant emit) (mkP L R cs inv d) d.k = .ok k' ∧ GInv emit L R cs inv { d with k := k' } ∧
      partialGuard (gvariant emit) (mkP L R cs inv d) k' = false ∧
      gmu emit L R { d with k := k' } ≤ gmu emit L R d ∧
      (partialGuard (gvariant emit) (mkP L R cs inv d) d.k = true → gmu emit L R { d with k := k' } < gmu emit L R d) :=
  partial_of_step (general_step hL hR) d hinv

/-- a block lies inside both windows, so neither is used up while the FSM is inside one -/
theorem BlockInv.frame {d' : D} (hb : BlockInv L R d) (f : Frame true true L R cs d d')
    (e : d'.k.ii = d.k.ii ∧ d'.k.jj = d.k.jj ∧ d'.k.iiMax = d.k.iiMax ∧ d'.k.jjMax = d.k.jjMax) : BlockInv L R d' := by
  obtain ⟨e2, e3, e4, e5⟩ := e
  have hn := hb.n_pos
  have hm := hb.m_pos
  have hi := hb.i_in
  have hj := hb.j_in
  refine ⟨e4 ▸ hn, e5 ▸ hm, by rw [e2, e4]; exact hb.ii_lt, by rw [e3, e5]; exact hb.jj_lt, ?_, ?_,
    by rw [f.I, f.J, e4, e5]; exact hb.key⟩
  · rcases f.left with ⟨el, ei⟩ | hex
    · rw [el, ei, e4]; exact hi
    · omega
  · rcases f.right with ⟨er, ej⟩ | hex
    · rw [er, ej, e5]; exact hj
    · omega

theorem general_kernel (hcs : 0 < cs) (hL : Sorted L) (hR : Sorted R) :
    Kernel (gvariant emit) true true emit L R cs inv (GInv emit L R cs inv) (pendRows L R) (gmu emit L R) where
  ltrim := by cases emit <;> rfl
  rtrim := by cases emit <;> rfl
  isLeft := by cases emit <;> rfl
  core h := h.core
  init hl hr hl0 hr0 := GInv.of_below rfl (by simp only [D.I, hl0]; exact rest_zero L R ▸ Core.init hl hr)
    (by simp only [D.J, hr0]; exact BelowAt.zero)
  run := general_partial hL hR
  enter h hf hi hj := by rw [partialGuard_general]; simp [mkP, D.iMax, D.jMax, K.r, hf, hi, hj, hcs]
  frame {d d'} h f := by
    obtain ⟨e1, e2, e3, e4, e5⟩ : d'.k.inner = d.k.inner ∧ d'.k.ii = d.k.ii ∧ d'.k.jj = d.k.jj ∧
        d'.k.iiMax = d.k.iiMax ∧ d'.k.jjMax = d.k.jjMax := by simpa only [Prod.mk.injEq] using f.regs
    have hp : pendRows L R d' = pendRows L R d := by simp only [pendRows, e1, e2, e3, e4, e5, f.I, f.J]
    exact ⟨GInv.of_core (hp ▸ h.core.frame f) (fun hin => by rw [f.I, f.J]; exact h.h1 (e1 ▸ hin))
      (fun hin => (h.blk (e1 ▸ hin)).frame f ⟨e2, e3, e4, e5⟩), by simp only [gmu, f.I, f.J, f.lo, e1]⟩
  exit {d} h hg := by
    have hni : d.k.inner = false := by
      cases hin : d.k.inner with
      | false => rfl
      | true =>
        have hb := h.blk hin
        have := hb.i_in; have := hb.j_in; have := hb.n_pos; have := hb.m_pos
        have := h.lok.lo_le; have := h.lok.hi_le; have := h.rok.lo_le; have := h.rok.hi_le
        simp only [mainGuard, Bool.and_eq_false_iff, decide_eq_false_iff_not] at hg
        omega
    exact ⟨by rw [pendRows, hni]; rfl, BelowAt.allBelow_of_exit hg (h.h1 hni)⟩

structure MInv (emit : Bool) (L R : List Int) (cs : Nat) (inv : Int) (d : D) : Prop where
  g : GInv emit L R cs inv d
  li : d.lch.lo + d.k.i < L.length → d.k.i < d.lch.hi - d.lch.lo
  rj : d.rch.lo + d.k.j < R.length → d.k.j < d.rch.hi - d.rch.lo
  flushed : d.k.rb = []

theorem main_step (hcs : 0 < cs) (hL : Sorted L) (hR : Sorted R) (d : D) (hm : MInv emit L R cs inv d)
    (hg : mainGuard L R d = true) :
    ∃ d', mainBody (gvariant emit) L R cs inv d = .ok d' ∧ MInv emit L R cs inv d' ∧ gmu emit L R d' < gmu emit L R d := by
  obtain ⟨d', h1, h2, h3⟩ := (general_kernel hcs hL hR).main_step hcs ⟨hm.g, hm.li, hm.rj, hm.flushed⟩ hg
  exact ⟨d', h1, ⟨h2.g, h2.li, h2.rj, h2.flushed⟩, h3⟩

/-- `generate_ordered_map_to_{left,inner}_streamed` return the relational join for every chunk size -/
theorem general_streamed (hcs : 0 < cs) (hL : Sorted L) (hR : Sorted R) (fuel : Nat)
    (hfuel : L.length + R.length + 2 * (sel emit (leftJoin L R)).length + 1 ≤ fuel) :
    ∃ calls, streamed (gvariant emit) fuel cs inv L R =
      .ok ⟨encL (sel emit (leftJoin L R)), encR inv (sel emit (leftJoin L R)), calls⟩ := by
  have := (general_kernel (emit := emit) (inv := inv) hcs hL hR).streamed hcs hL hR fuel
    (fun _ _ => by simp only [gmu, List.append_nil, List.length_nil, Nat.sub_zero, Bool.false_eq_true, if_false]; omega)
    (by omega)
  rwa [show (gvariant emit).hasL = true by cases emit <;> rfl, if_pos rfl] at this

end Exetera.Join
