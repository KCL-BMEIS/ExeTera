import Exetera.Gen.Kernels
import Exetera.Model.FilterIndex
import Exetera.Lemmas.GenKernels
import Exetera.Lemmas.GenKernelsSpans
/-!
  The TRANSLATED two-pass kernels `apply_filter_to_index_values` / `apply_indices_to_index_values` against the hand-written
  models of `Model/FilterIndex.lean`.

  The two sides differ on purpose in their error branches (the model insists that every slice lies inside its array and
  reports `IndexError`; the translation follows numpy: slices clamp, a length mismatch is a `ValueError`; the model lets
  negative subscripts wrap, the translation makes them an error), so the tie is stated on the success domain, for ALL
  inputs:   model = .ok r  →  translated kernel = .ok r   (for `apply_indices…`: for non-negative subscripts).
  Every `.ok` theorem of Props/C09 about the model thereby holds of the translated code.

  All four passes are loops over a list (the filter bits by position, the subscripts by value) whose model is a recursion on
  that list; what is left per pass is one iteration, against `entryLen` (pass 1) or `copyEntry` (pass 2).
-/
namespace Exetera.GenK

open Exetera Exetera.PyRt Exetera.Gen.Kernels
open Exetera.FilterIndex (entryLen copyEntry P2 filterPass1 filterPass2 initP2 applyFilterToIndexValues indexPass1 indexPass2
  applyIndicesToIndexValues indexGuard)

/-- a translated `for i in range(i, i + n)` over the positions of `xs` against a model `M` that recurses on the remaining
    suffix of `xs` (`M []` returns `fin` of its state, `M (b :: bs)` runs `step` and goes on) -/
theorem forRange_list_ok {σ τ ρ β} (xs : List β) (R : σ → τ → Prop) (body : Int → σ → Except Err σ)
    (M : List β → Nat → τ → Except Err ρ) (step : Nat → β → τ → Except Err τ) (fin : τ → ρ)
    (hM0 : ∀ i t, M [] i t = .ok (fin t)) (hMS : ∀ b bs i t, M (b :: bs) i t = bindE (step i b t) (M bs (i + 1)))
    (hbody : ∀ (i : Nat) (b : β) s t, xs[i]? = some b → R s t → OkFollows R (body (i : Int) s) (step i b t)) :
    ∀ (n i : Nat) s t, i + n = xs.length → R s t →
      OkFollows (fun s' r => ∃ t', R s' t' ∧ r = fin t') (forRangeAux (fun _ => false) body n (i : Int) s) (M (xs.drop i) i t) := by
  intro n
  induction n with
  | zero =>
    intro i s t hi hR
    rw [List.drop_eq_nil_of_le (by omega), hM0]
    exact .ok ⟨t, hR, rfl⟩
  | succ n ih =>
    intro i s t hi hR
    have hil : i < xs.length := by omega
    rw [List.drop_eq_getElem_cons hil, hMS, forRangeAux_succ]
    exact (hbody i _ s t (List.getElem?_eq_getElem hil) hR).bind fun s' t' hR' => ih (i + 1) s' t' (by omega) hR'

/-- a translated `for x in xs` over the image `xs.map g` of a list against a model that recurses on `xs` -/
theorem forEach_list_ok {σ τ ρ α β} (g : β → α) (R : σ → τ → Prop) (body : α → σ → Except Err σ)
    (M : List β → τ → Except Err ρ) (step : β → τ → Except Err τ) (fin : τ → ρ)
    (hM0 : ∀ t, M [] t = .ok (fin t)) (hMS : ∀ b bs t, M (b :: bs) t = bindE (step b t) (M bs))
    (hbody : ∀ (b : β) s t, R s t → OkFollows R (body (g b) s) (step b t)) :
    ∀ (xs : List β) s t, R s t →
      OkFollows (fun s' r => ∃ t', R s' t' ∧ r = fin t') (forEachAux (fun _ => false) body (xs.map g) s) (M xs t) := by
  intro xs
  induction xs with
  | nil => intro s t hR; rw [hM0]; exact .ok ⟨t, hR, rfl⟩
  | cons b bs ih =>
    intro s t hR
    rw [hMS, List.map_cons, forEachAux_cons]
    exact (hbody b s t hR).bind fun s' t' hR' => ih s' t' hR'

theorem fi_getWrapE_nat {α} (xs : List α) (i : Nat) (site : String) :
    FilterIndex.getWrapE xs (i : Int) site = getE xs i site := by
  unfold FilterIndex.getWrapE FilterIndex.normIdx
  rw [if_pos (Int.natCast_nonneg i), Int.toNat_natCast]
  by_cases h : i < xs.length
  · rw [if_pos h]
  · rw [if_neg h, getE, List.getElem?_eq_none (Nat.le_of_not_lt h)]

theorem entryLen_nat (cur nxt : List Nat) (i : Nat) :
    entryLen cur nxt (i : Int) = bindE (getE nxt i "next_[i]") fun n => bindE (getE cur i "cur_[i]") fun c =>
      if c ≤ n then .ok (n - c) else .error (.valueError "negative dimensions are not allowed") := by
  simp only [entryLen, fi_getWrapE_nat, Except.bind_eq_bindE]
  rfl

theorem copyEntry_nat (cur nxt values : List Nat) (i : Nat) (s : P2) :
    copyEntry cur nxt values (i : Int) s = bindE (getE nxt i "next_[i]") fun n => bindE (getE cur i "cur_[i]") fun c =>
      if c ≤ n ∧ n ≤ values.length then
        if s.total ≤ s.total + (n - c) ∧ s.total + (n - c) ≤ s.dv.length ∧ (slice values c n).length = s.total + (n - c) - s.total then
          bindE (setE s.di s.count (s.total + (n - c)) "dest_indices[count]") fun di =>
            .ok { count := s.count + 1, total := s.total + (n - c), di := di,
                  dv := s.dv.take s.total ++ slice values c n ++ s.dv.drop (s.total + (n - c)) }
        else .error (.oob "dest_values[total:total+delta]")
      else .error (.oob "values[c:n]") := by
  simp only [copyEntry, fi_getWrapE_nat, Except.bind_eq_bindE, FilterIndex.sliceE, FilterIndex.setSliceE]
  cases getE nxt i "next_[i]" with
  | error e => rfl
  | ok n =>
    cases getE cur i "cur_[i]" with
    | error e => rfl
    | ok c =>
      dsimp only [bindE_ok]
      split
      · dsimp only [bindE_ok]; split <;> rfl
      · rfl

/-- `dest[a:b] = rhs` with natural bounds inside `dest` and a right-hand side of exactly that length -/
theorem setSliceE_nat {α} (dest rhs : List α) (a b : Nat) (hab : a ≤ b) (hb : b ≤ dest.length) (hr : rhs.length = b - a) :
    setSliceE dest (some (a : Int)) (some (b : Int)) rhs = .ok (dest.take a ++ rhs ++ dest.drop b) := by
  unfold setSliceE
  simp only [normBound_nat, Nat.min_eq_left hb, Nat.min_eq_left (Nat.le_trans hab hb), Nat.max_eq_right hab, broadcastTo, hr,
    if_true]

theorem filterPass1_cons (cur nxt : List Nat) (b : Bool) (bs : List Bool) (i : Nat) (ct : Nat × Nat) :
    filterPass1 cur nxt (b :: bs) i ct.1 ct.2
      = bindE (if b then bindE (entryLen cur nxt (i : Int)) fun d => .ok ((ct.1 + 1, ct.2 + d) : Nat × Nat) else .ok ct)
          fun ct => filterPass1 cur nxt bs (i + 1) ct.1 ct.2 := by
  rw [filterPass1]
  cases b
  · rfl
  · cases entryLen cur nxt (i : Int) <;> rfl

theorem filterPass2_cons (cur nxt values : List Nat) (b : Bool) (bs : List Bool) (i : Nat) (st : P2) :
    filterPass2 cur nxt values (b :: bs) i st
      = bindE (if b then copyEntry cur nxt values (i : Int) st else .ok st) (filterPass2 cur nxt values bs (i + 1)) := by
  rw [filterPass2]
  cases b
  · rfl
  · cases copyEntry cur nxt values (i : Int) st <;> rfl

theorem entry_cast (t n c : Nat) (h : c ≤ n) : (t : Int) + ((n : Int) - (c : Int)) = ((t + (n - c) : Nat) : Int) := by
  omega

/-- the stores of pass 2 for one entry (`dest_values[total:total+delta] = values[c:n]; dest_indices[count] = total + delta`),
    where the model's two slice checks hold -/
theorem copy_follows {β γ} {Q : β → γ → Prop} (values dv di : List Nat) (t cnt n c : Nat) (site : String)
    (h1 : c ≤ n ∧ n ≤ values.length)
    (h2 : t ≤ t + (n - c) ∧ t + (n - c) ≤ dv.length ∧ (slice values c n).length = t + (n - c) - t)
    {K1 : List Int → List Int → Except Err β} {K2 : List Nat → Except Err γ}
    (h : ∀ di', OkFollows Q (K1 (ints (dv.take t ++ slice values c n ++ dv.drop (t + (n - c)))) (ints di')) (K2 di')) :
    OkFollows Q
      (bindE (setSliceE (ints dv) (some (t : Int)) (some ((t : Int) + ((n : Int) - (c : Int))))
          (pySlice (ints values) (some (c : Int)) (some (n : Int)))) fun t10 =>
        bindE (setIdxE (ints di) (cnt : Int) ((t : Int) + ((n : Int) - (c : Int))) site) fun t11 => K1 t10 t11)
      (bindE (setE di cnt (t + (n - c)) "dest_indices[count]") K2) := by
  rw [entry_cast t n c h1.1, pySlice_nat, slice_ints,
    setSliceE_nat _ _ t (t + (n - c)) h2.1 (by rw [ints_length]; exact h2.2.1) (by rw [ints_length]; exact h2.2.2), bindE_ok,
    setIdxE_nat]
  unfold setE
  rw [ints_length]
  split
  · rw [ints_set]
    simp only [ints, ← List.map_take, ← List.map_drop, ← List.map_append]
    exact h _
  · exact .error

namespace Filt

abbrev St := apply_filter_to_index_values.St

/-- what the loops leave alone -/
def Frame (flt : List Bool) (ind : List Int) (cur nxt values : List Nat) (s : St) : Prop :=
  s.p0 = flt ∧ s.p1 = ind ∧ s.p2 = ints values ∧ s.v0 = ints cur ∧ s.v1 = ints nxt

/-- pass 1 holds `count` and `total` -/
def R1 (flt : List Bool) (ind : List Int) (cur nxt values : List Nat) (s : St) (ct : Nat × Nat) : Prop :=
  Frame flt ind cur nxt values s ∧ s.v2 = (ct.1 : Int) ∧ s.v3 = (ct.2 : Int)

/-- pass 2 holds the model's `P2`: counters and the two output buffers -/
def R2 (flt : List Bool) (ind : List Int) (cur nxt values : List Nat) (s : St) (st : P2) : Prop :=
  Frame flt ind cur nxt values s ∧ s.v2 = (st.count : Int) ∧ s.v3 = (st.total : Int) ∧ s.v5 = ints st.di ∧ s.v6 = ints st.dv

theorem body1 (flt : List Bool) (ind : List Int) (cur nxt values : List Nat) :
    ∀ (i : Nat) (b : Bool) (s : St) (ct : Nat × Nat), flt[i]? = some b → R1 flt ind cur nxt values s ct →
      OkFollows (R1 flt ind cur nxt values)
        (apply_filter_to_index_values.body_L1 { s with v4 := (i : Int) })
        (if b then bindE (entryLen cur nxt (i : Int)) fun d => .ok ((ct.1 + 1, ct.2 + d) : Nat × Nat) else .ok ct) := by
  rintro i b ⟨flt, _, _, _, _, _, _, _, _, _, _, _, _⟩ ⟨cnt, t⟩ hb ⟨⟨rfl, rfl, rfl, rfl, rfl⟩, rfl, rfl⟩
  simp only [apply_filter_to_index_values.body_L1, idxE_nat, getE_eq_ok.mpr hb, bindE_ok, beq_true, entryLen_nat, bindE_assoc]
  cases b with
  | false => exact .ok ⟨⟨rfl, rfl, rfl, rfl, rfl⟩, rfl, rfl⟩
  | true =>
    refine OkFollows.getE_ints _ _ _ _ fun n _ => ?_
    refine OkFollows.getE_ints _ _ _ _ fun c _ => ?_
    split
    · exact .ok ⟨⟨rfl, rfl, rfl, rfl, rfl⟩, rfl, entry_cast _ _ _ ‹_›⟩
    · exact .error

theorem body2 (flt : List Bool) (ind : List Int) (cur nxt values : List Nat) :
    ∀ (i : Nat) (b : Bool) (s : St) (st : P2), flt[i]? = some b → R2 flt ind cur nxt values s st →
      OkFollows (R2 flt ind cur nxt values)
        (apply_filter_to_index_values.body_L2 { s with v4 := (i : Int) })
        (if b then copyEntry cur nxt values (i : Int) st else .ok st) := by
  rintro i b ⟨flt, _, _, _, _, _, _, _, _, _, _, _, _⟩ ⟨cnt, t, di, dv⟩ hb ⟨⟨rfl, rfl, rfl, rfl, rfl⟩, rfl, rfl, rfl, rfl⟩
  simp only [apply_filter_to_index_values.body_L2, idxE_nat, getE_eq_ok.mpr hb, bindE_ok, beq_true, copyEntry_nat]
  cases b with
  | false => exact .ok ⟨⟨rfl, rfl, rfl, rfl, rfl⟩, rfl, rfl, rfl, rfl⟩
  | true =>
    refine OkFollows.getE_ints _ _ _ _ fun n _ => ?_
    refine OkFollows.getE_ints _ _ _ _ fun c _ => ?_
    refine OkFollows.guard fun h1 => OkFollows.guard fun h2 => ?_
    exact copy_follows values dv di t cnt n c _ h1 h2 fun di' =>
      .ok ⟨⟨rfl, rfl, rfl, rfl, rfl⟩, rfl, entry_cast _ _ _ h1.1, rfl, rfl⟩

theorem pass1 (flt : List Bool) (ind : List Int) (cur nxt values : List Nat) (s : St) (count total : Nat)
    (hs : R1 flt ind cur nxt values s (0, 0)) (h : filterPass1 cur nxt flt 0 0 0 = .ok (count, total)) :
    ∃ s', forRangeAux (fun _ => false) (fun k s => apply_filter_to_index_values.body_L1 { s with v4 := k }) flt.length
        ((0 : Nat) : Int) s = .ok s' ∧ Frame flt ind cur nxt values s' ∧ s'.v2 = (count : Int) ∧ s'.v3 = (total : Int) := by
  obtain ⟨s', hrun, ct', hR, rfl⟩ := forRange_list_ok flt (R1 flt ind cur nxt values)
    (fun k s => apply_filter_to_index_values.body_L1 { s with v4 := k })
    (fun bs i ct => filterPass1 cur nxt bs i ct.1 ct.2) _ id
    (fun _ _ => rfl) (filterPass1_cons cur nxt)
    (body1 flt ind cur nxt values) flt.length 0 s (0, 0) (Nat.zero_add _) hs (count, total) h
  exact ⟨s', hrun, hR⟩

theorem pass2 (flt : List Bool) (ind : List Int) (cur nxt values : List Nat) (s : St) (st st' : P2)
    (hs : R2 flt ind cur nxt values s st) (h : filterPass2 cur nxt values flt 0 st = .ok st') :
    ∃ s', forRangeAux (fun _ => false) (fun k s => apply_filter_to_index_values.body_L2 { s with v4 := k }) flt.length
        ((0 : Nat) : Int) s = .ok s' ∧ s'.v5 = ints st'.di ∧ s'.v6 = ints st'.dv := by
  obtain ⟨s', hrun, st1, hR, rfl⟩ := forRange_list_ok flt (R2 flt ind cur nxt values)
    (fun k s => apply_filter_to_index_values.body_L2 { s with v4 := k })
    (fun bs i st => filterPass2 cur nxt values bs i st) _ id
    (fun _ _ => rfl) (filterPass2_cons cur nxt values)
    (body2 flt ind cur nxt values) flt.length 0 s st (Nat.zero_add _) hs st' h
  exact ⟨s', hrun, hR.2.2.2⟩

end Filt

theorem initP2_eq (count total : Nat) :
    initP2 count total = .ok ⟨1, 0, (List.replicate (count + 1) 0).set 0 0, List.replicate total 0⟩ := by
  simp only [initP2, setE, List.length_replicate, Nat.zero_lt_succ, if_true, Except.bind_eq_bindE, bindE_ok]
  rfl

/-- on every input on which the (repaired) model succeeds, the translated kernel returns the same two arrays -/
theorem apply_filter_to_index_values_ok (flt : List Bool) (indices values di dv : List Nat)
    (h : applyFilterToIndexValues .repaired flt indices values = .ok (di, dv)) :
    apply_filter_to_index_values.run flt (ints indices) (ints values) = .ok (ints di, ints dv) := by
  unfold applyFilterToIndexValues at h
  split at h
  · cases h
  next hlen =>
    dsimp only at h
    cases h1 : filterPass1 indices.dropLast (indices.drop 1) flt 0 0 0 with
    | error e => rw [h1] at h; cases h
    | ok ct =>
      obtain ⟨count, total⟩ := ct
      rw [h1] at h
      dsimp only at h
      rw [initP2_eq] at h
      dsimp only at h
      cases h2 : filterPass2 indices.dropLast (indices.drop 1) values flt 0
          ⟨1, 0, (List.replicate (count + 1) 0).set 0 0, List.replicate total 0⟩ with
      | error e => rw [h2] at h; cases h
      | ok st' =>
        rw [h2] at h
        cases h
        have hg : ((flt.length : Int) != max (((ints indices).length : Int) - 1) 0) = false := by
          have : flt.length = indices.length - 1 := Decidable.byContradiction fun hne => hlen ⟨rfl, hne⟩
          rw [bne_eq_false_iff_eq, ints_length, this]
          omega
        obtain ⟨⟨flt, _, _, _, _, _, _, w4, _, _, w7, w8, w9⟩, hrun1, ⟨rfl, rfl, rfl, rfl, rfl⟩, rfl, rfl⟩ :=
          Filt.pass1 flt (ints indices) indices.dropLast (indices.drop 1) values
            ⟨flt, ints indices, ints values, ints indices.dropLast, ints (indices.drop 1), 0, 0, 0, [], [], 0, 0, 0⟩ count total
            ⟨⟨rfl, rfl, rfl, rfl, rfl⟩, rfl, rfl⟩ h1
        obtain ⟨s2, hrun2, h5, h6⟩ := Filt.pass2 flt (ints indices) indices.dropLast (indices.drop 1) values
          ⟨flt, ints indices, ints values, ints indices.dropLast, ints (indices.drop 1), 1, 0, w4,
            (List.replicate (count + 1) (0 : Int)).set 0 0, List.replicate total (0 : Int), w7, w8, w9⟩
          ⟨1, 0, (List.replicate (count + 1) 0).set 0 0, List.replicate total 0⟩ st'
          ⟨⟨rfl, rfl, rfl, rfl, rfl⟩, rfl, rfl, by rw [← ints_set, ints_replicate_zero]; rfl, (ints_replicate_zero _).symm⟩ h2
        have hz : npZeros ((count : Int) + 1) = .ok (List.replicate (count + 1) 0) := npZeros_nat (count + 1)
        unfold apply_filter_to_index_values.run
        simp only [pyLen, hg, Bool.false_eq_true, if_false, bindE_ok, pySlice_dropLast, pySlice_tail, ints_dropLast,
          ints_drop_one, forRangeE_zero, Int.toNat_natCast]
        erw [hrun1]
        have hset : setIdxE (List.replicate (count + 1) (0 : Int)) 0 0 "v5[0]" = .ok ((List.replicate (count + 1) 0).set 0 0) :=
          setIdxE_of_lt (i := 0) 0 _ (by rw [List.length_replicate]; omega)
        simp only [bindE_ok, hz, npZeros_nat, hset]
        erw [hrun2]
        simp only [bindE_ok, h5, h6]

/-- a filter of any other length is rejected with IndexError before anything is read (fix D8, as translated) -/
theorem apply_filter_to_index_values_length_mismatch (flt : List Bool) (indices values : List Int)
    (h : (flt.length : Int) ≠ max ((indices.length : Int) - 1) 0) :
    apply_filter_to_index_values.run flt indices values = .error (.oob "raise IndexError") := by
  unfold apply_filter_to_index_values.run
  have hg : ((flt.length : Int) != max ((indices.length : Int) - 1) 0) = true := by
    rw [bne_iff_ne]; exact h
  simp only [pyLen, hg, if_true, bindE_error]

theorem indexPass1_cons (cur nxt : List Nat) (i : Nat) (is : List Nat) (ct : Nat × Nat) :
    indexPass1 .repaired cur nxt (ints (i :: is)) ct.1 ct.2
      = bindE (bindE (indexGuard .repaired cur.length (i : Int)) fun _ =>
            bindE (entryLen cur nxt (i : Int)) fun d => .ok ((ct.1 + 1, ct.2 + d) : Nat × Nat))
          fun ct => indexPass1 .repaired cur nxt (ints is) ct.1 ct.2 := by
  show indexPass1 .repaired cur nxt ((i : Int) :: ints is) ct.1 ct.2 = _
  rw [indexPass1]
  cases indexGuard .repaired cur.length (i : Int) with
  | error e => rfl
  | ok u => cases entryLen cur nxt (i : Int) <;> rfl

theorem indexPass2_cons (cur nxt values : List Nat) (i : Nat) (is : List Nat) (st : P2) :
    indexPass2 cur nxt values (ints (i :: is)) st
      = bindE (copyEntry cur nxt values (i : Int) st) (indexPass2 cur nxt values (ints is)) := by
  show indexPass2 cur nxt values ((i : Int) :: ints is) st = _
  rw [indexPass2]
  cases copyEntry cur nxt values (i : Int) st <;> rfl

namespace Idx

abbrev St := apply_indices_to_index_values.St

def Frame (idx ind : List Int) (cur nxt values : List Nat) (s : St) : Prop :=
  s.p0 = idx ∧ s.p1 = ind ∧ s.p2 = ints values ∧ s.v0 = ints cur ∧ s.v1 = ints nxt

def R1 (idx ind : List Int) (cur nxt values : List Nat) (s : St) (ct : Nat × Nat) : Prop :=
  Frame idx ind cur nxt values s ∧ s.v2 = (ct.1 : Int) ∧ s.v3 = (ct.2 : Int)

def R2 (idx ind : List Int) (cur nxt values : List Nat) (s : St) (st : P2) : Prop :=
  Frame idx ind cur nxt values s ∧ s.v2 = (st.count : Int) ∧ s.v3 = (st.total : Int) ∧ s.v5 = ints st.di ∧ s.v6 = ints st.dv

theorem body1 (idx ind : List Int) (cur nxt values : List Nat) :
    ∀ (i : Nat) (s : St) (ct : Nat × Nat), R1 idx ind cur nxt values s ct →
      OkFollows (R1 idx ind cur nxt values) (apply_indices_to_index_values.body_L1 { s with v4 := (i : Int) })
        (bindE (indexGuard .repaired cur.length (i : Int)) fun _ =>
          bindE (entryLen cur nxt (i : Int)) fun d => .ok ((ct.1 + 1, ct.2 + d) : Nat × Nat)) := by
  rintro i ⟨⟩ ⟨cnt, t⟩ ⟨⟨rfl, rfl, rfl, rfl, rfl⟩, rfl, rfl⟩
  unfold indexGuard
  split
  · exact .error
  next hin =>
    have hin' : ¬ ((decide ((i : Int) < -(pyLen (ints cur))) || decide ((i : Int) ≥ pyLen (ints cur))) = true) := by
      rw [Bool.or_eq_true, decide_eq_true_eq, decide_eq_true_eq, pyLen, ints_length]
      exact fun h => hin ⟨rfl, h⟩
    simp only [apply_indices_to_index_values.body_L1, if_neg hin', bindE_ok, idxE_nat, entryLen_nat, bindE_assoc]
    refine OkFollows.getE_ints _ _ _ _ fun n _ => ?_
    refine OkFollows.getE_ints _ _ _ _ fun c _ => ?_
    split
    · exact .ok ⟨⟨rfl, rfl, rfl, rfl, rfl⟩, rfl, entry_cast _ _ _ ‹_›⟩
    · exact .error

theorem body2 (idx ind : List Int) (cur nxt values : List Nat) :
    ∀ (i : Nat) (s : St) (st : P2), R2 idx ind cur nxt values s st →
      OkFollows (R2 idx ind cur nxt values) (apply_indices_to_index_values.body_L2 { s with v4 := (i : Int) })
        (copyEntry cur nxt values (i : Int) st) := by
  rintro i ⟨⟩ ⟨cnt, t, di, dv⟩ ⟨⟨rfl, rfl, rfl, rfl, rfl⟩, rfl, rfl, rfl, rfl⟩
  simp only [apply_indices_to_index_values.body_L2, idxE_nat, copyEntry_nat]
  refine OkFollows.getE_ints _ _ _ _ fun n _ => ?_
  refine OkFollows.getE_ints _ _ _ _ fun c _ => ?_
  refine OkFollows.guard fun h1 => OkFollows.guard fun h2 => ?_
  exact copy_follows values dv di t cnt n c _ h1 h2 fun di' =>
    .ok ⟨⟨rfl, rfl, rfl, rfl, rfl⟩, rfl, entry_cast _ _ _ h1.1, rfl, rfl⟩

theorem pass1 (idx : List Nat) (ind : List Int) (cur nxt values : List Nat) (s : St) (count total : Nat)
    (hs : R1 (ints idx) ind cur nxt values s (0, 0)) (h : indexPass1 .repaired cur nxt (ints idx) 0 0 = .ok (count, total)) :
    ∃ s', forEachAux (fun _ => false) (fun k s => apply_indices_to_index_values.body_L1 { s with v4 := k }) (ints idx) s
        = .ok s' ∧ R1 (ints idx) ind cur nxt values s' (count, total) := by
  obtain ⟨s', hrun, ct', hR, rfl⟩ := forEach_list_ok Int.ofNat (R1 (ints idx) ind cur nxt values)
    (fun k s => apply_indices_to_index_values.body_L1 { s with v4 := k })
    (fun is ct => indexPass1 .repaired cur nxt (ints is) ct.1 ct.2) _ id (fun _ => rfl) (indexPass1_cons cur nxt)
    (body1 (ints idx) ind cur nxt values) idx s (0, 0) hs (count, total) h
  exact ⟨s', hrun, hR⟩

theorem pass2 (idx : List Nat) (ind : List Int) (cur nxt values : List Nat) (s : St) (st st' : P2)
    (hs : R2 (ints idx) ind cur nxt values s st) (h : indexPass2 cur nxt values (ints idx) st = .ok st') :
    ∃ s', forEachAux (fun _ => false) (fun k s => apply_indices_to_index_values.body_L2 { s with v4 := k }) (ints idx) s
        = .ok s' ∧ s'.v5 = ints st'.di ∧ s'.v6 = ints st'.dv := by
  obtain ⟨s', hrun, st1, hR, rfl⟩ := forEach_list_ok Int.ofNat (R2 (ints idx) ind cur nxt values)
    (fun k s => apply_indices_to_index_values.body_L2 { s with v4 := k })
    (fun is st => indexPass2 cur nxt values (ints is) st) _ id (fun _ => rfl) (indexPass2_cons cur nxt values)
    (body2 (ints idx) ind cur nxt values) idx s st hs st' h
  exact ⟨s', hrun, hR.2.2.2⟩

end Idx

theorem apply_indices_to_index_values_ok (idx indices values di dv : List Nat)
    (h : applyIndicesToIndexValues .repaired (ints idx) indices values = .ok (di, dv)) :
    apply_indices_to_index_values.run (ints idx) (ints indices) (ints values) = .ok (ints di, ints dv) := by
  unfold applyIndicesToIndexValues at h
  dsimp only at h
  cases h1 : indexPass1 .repaired indices.dropLast (indices.drop 1) (ints idx) 0 0 with
  | error e => rw [h1] at h; cases h
  | ok ct =>
    obtain ⟨count, total⟩ := ct
    rw [h1] at h
    dsimp only at h
    rw [initP2_eq] at h
    dsimp only at h
    cases h2 : indexPass2 indices.dropLast (indices.drop 1) values (ints idx)
        ⟨1, 0, (List.replicate (count + 1) 0).set 0 0, List.replicate total 0⟩ with
    | error e => rw [h2] at h; cases h
    | ok st' =>
      rw [h2] at h
      cases h
      obtain ⟨⟨_, _, _, _, _, _, _, w4, _, _, w7, w8, w9⟩, hrun1, ⟨rfl, rfl, rfl, rfl, rfl⟩, rfl, rfl⟩ :=
        Idx.pass1 idx (ints indices) indices.dropLast (indices.drop 1) values
          ⟨ints idx, ints indices, ints values, ints indices.dropLast, ints (indices.drop 1), 0, 0, 0, [], [], 0, 0, 0⟩ count total
          ⟨⟨rfl, rfl, rfl, rfl, rfl⟩, rfl, rfl⟩ h1
      obtain ⟨s2, hrun2, h5, h6⟩ := Idx.pass2 idx (ints indices) indices.dropLast (indices.drop 1) values
        ⟨ints idx, ints indices, ints values, ints indices.dropLast, ints (indices.drop 1), 1, 0, w4,
          (List.replicate (count + 1) (0 : Int)).set 0 0, List.replicate total (0 : Int), w7, w8, w9⟩
        ⟨1, 0, (List.replicate (count + 1) 0).set 0 0, List.replicate total 0⟩ st'
        ⟨⟨rfl, rfl, rfl, rfl, rfl⟩, rfl, rfl, by rw [← ints_set, ints_replicate_zero]; rfl, (ints_replicate_zero _).symm⟩ h2
      have hz : npZeros ((count : Int) + 1) = .ok (List.replicate (count + 1) 0) := npZeros_nat (count + 1)
      have hset : setIdxE (List.replicate (count + 1) (0 : Int)) 0 0 "v5[0]" = .ok ((List.replicate (count + 1) 0).set 0 0) :=
        setIdxE_of_lt (i := 0) 0 _ (by rw [List.length_replicate]; omega)
      unfold apply_indices_to_index_values.run
      simp only [pySlice_dropLast, pySlice_tail, ints_dropLast, ints_drop_one, forEachE]
      erw [hrun1]
      simp only [bindE_ok, hz, npZeros_nat, hset]
      erw [hrun2]
      simp only [bindE_ok, h5, h6]

end Exetera.GenK
