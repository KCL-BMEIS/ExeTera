import Exetera.Lemmas.JoinFlatSpec
/-!
  The flat inner-map kernels `ordered_inner_map`, `ordered_inner_map_left_unique`, `ordered_inner_map_both_unique`,
  `ordered_inner_map_result_size`, and the left-unique kernel as `ordered_merge_inner` calls it for
  `left_unique=False, right_unique=True`: with the two sides swapped (C19).

  All of them make the same walk over the two columns; they differ in what they keep of the matching pairs passed
  so far (both columns, their number, the columns swapped). `Walk L R I J rows` says that the walk stands at `(I, J)`
  and `rows` are the pairs passed; each kernel's invariant is a `Walk` plus how its state encodes `rows`.
-/
namespace Exetera.JoinFlat
open Exetera Exetera.Spec Exetera.Join

theorem encL_append (a b : List (Nat × Option Nat)) : encL (a ++ b) = encL a ++ encL b := by simp [encL]
theorem encR_append (inv : Int) (a b : List (Nat × Option Nat)) : encR inv (a ++ b) = encR inv a ++ encR inv b := by
  simp [encR]

def irest (L R : List Int) (I : Nat) : List (Nat × Option Nat) := sel false (rest L R I)

theorem irest_zero (L R : List Int) :
    (encL (irest L R 0), encR 0 (irest L R 0)) = encodeInner (innerJoin L R) := by
  simp only [irest, rest, List.drop_zero]
  exact (inner_eq_sel_left R L 0).symm

theorem irest_zero_length (L R : List Int) : (irest L R 0).length = (innerJoin L R).length := by
  have := congrArg (fun p => p.1.length) (irest_zero L R)
  simpa [encodeInner] using this

structure Walk (L R : List Int) (I J : Nat) (rows : List (Nat × Option Nat)) : Prop where
  ile : I ≤ L.length
  jle : J ≤ R.length
  acc : rows ++ irest L R I = irest L R 0
  below : Below L R I J

theorem Walk.zero (L R : List Int) : Walk L R 0 0 [] := ⟨Nat.zero_le _, Nat.zero_le _, rfl, Below.zero L R 0⟩

theorem Walk.lt {L R : List Int} {I J : Nat} {rows : List (Nat × Option Nat)} (hL : Sorted L) (hR : Sorted R)
    (w : Walk L R I J rows) (hI : I < L.length) (hJ : J < R.length) (hlt : L[I] < R[J]) : Walk L R (I + 1) J rows := by
  obtain ⟨hr, hb⟩ := w.below.lt hL hR hI hJ hlt
  refine ⟨hI, w.jle, ?_, hb⟩
  have := w.acc
  rwa [irest, hr, sel_cons_none] at this

theorem Walk.gt {L R : List Int} {I J : Nat} {rows : List (Nat × Option Nat)} (w : Walk L R I J rows)
    (hI : I < L.length) (hJ : J < R.length) (hgt : R[J] < L[I]) : Walk L R I (J + 1) rows :=
  ⟨w.ile, hJ, w.acc, w.below.gt hI hJ hgt⟩

/-- equal keys: the cartesian block of the two runs is passed -/
theorem Walk.run {L R : List Int} {I J n m : Nat} {a : Int} {rows : List (Nat × Option Nat)} (hR : Sorted R)
    (w : Walk L R I J rows) (hl : IsRun L I n a) (hr : IsRun R J m a) :
    Walk L R (I + n) (J + m) (rows ++ blockRows I J m n) := by
  obtain ⟨h1, h2⟩ := rest_run hR w.below hl hr
  refine ⟨hl.le, hr.le, ?_, h2⟩
  have := w.acc
  rwa [irest, h1, sel_append, sel_blockRows, ← List.append_assoc] at this

theorem Walk.room {L R : List Int} {I J : Nat} {rows : List (Nat × Option Nat)} (w : Walk L R I J rows) :
    rows.length ≤ (irest L R 0).length := by
  rw [← w.acc, List.length_append]
  exact Nat.le_add_right _ _

theorem Walk.done {L R : List Int} {I J : Nat} {rows : List (Nat × Option Nat)} (hL : Sorted L) (hR : Sorted R)
    (w : Walk L R I J rows) (h : (decide (I < L.length) && decide (J < R.length)) = false) : rows = irest L R 0 := by
  have h := walk_exhausted w.ile w.jle h
  have hrest : irest L R I = [] :=
    sel_false_eq_nil (rest_all_unmatched hL hR _ I rfl fun hI => by
      have hb := w.below
      rw [h.resolve_left (Nat.ne_of_lt hI)] at hb
      exact hb)
  have := w.acc
  rwa [hrest, List.append_nil] at this

theorem Walk.result {L R : List Int} {I J : Nat} {rows : List (Nat × Option Nat)} (hL : Sorted L) (hR : Sorted R)
    (w : Walk L R I J rows) (h : (decide (I < L.length) && decide (J < R.length)) = false) :
    encL rows = (encodeInner (innerJoin L R)).1 ∧ encR 0 rows = (encodeInner (innerJoin L R)).2 := by
  rw [w.done hL hR h]
  exact ⟨congrArg Prod.fst (irest_zero L R), congrArg Prod.snd (irest_zero L R)⟩

def IInv (L R : List Int) (s : IS) : Prop :=
  ∃ rows, Walk L R s.i s.j rows ∧ s.lo = encL rows ∧ s.ro = encR 0 rows

theorem innerBody_step {scanL scanR : Bool} {L R : List Int} {cap : Nat} {s : IS} (hL : Sorted L) (hR : Sorted R)
    (huL : scanL = false → L.Pairwise (· < ·)) (huR : scanR = false → R.Pairwise (· < ·))
    (hcap : (irest L R 0).length ≤ cap) (hinv : IInv L R s) (hg : innerGuard L R s = true) :
    ∃ s', innerBody scanL scanR L R cap s = .ok s' ∧ IInv L R s' ∧ walkMu L R s'.i s'.j < walkMu L R s.i s.j := by
  obtain ⟨rows, w, elo, ero⟩ := hinv
  simp only [innerGuard, Bool.and_eq_true, decide_eq_true_eq] at hg
  obtain ⟨hi, hj⟩ := hg
  simp only [innerBody, getE_of_lt _ hi, getE_of_lt _ hj]
  by_cases hlt : L[s.i] < R[s.j]
  · simp only [hlt, if_true]
    exact ⟨_, rfl, ⟨rows, w.lt hL hR hi hj hlt, elo, ero⟩, walkMu_lt_left hi hj⟩
  by_cases hgt : L[s.i] > R[s.j]
  · simp only [hlt, hgt, if_true, if_false]
    exact ⟨_, rfl, ⟨rows, w.gt hi hj hgt, elo, ero⟩, walkMu_lt_right hi hj⟩
  have heq : R[s.j] = L[s.i] := Int.le_antisymm (Int.not_lt.mp hlt) (Int.not_lt.mp hgt)
  obtain ⟨n, hn, hln⟩ := runLen_isRun scanL hL huL (get?_some_of_lt hi)
  obtain ⟨m, hm, hrm⟩ := runLen_isRun scanR hR huR (by rw [get?_some_of_lt hj, heq])
  have w' := w.run hR hln hrm
  have hfit : s.lo.length + n * m ≤ cap := by
    have := w'.room
    rw [List.length_append, blockRows_length] at this
    rw [elo, encL_length]
    omega
  simp only [hlt, hgt, if_false, hn, hm, hfit, if_true]
  refine ⟨_, rfl, ⟨_, w', ?_, ?_⟩,
    walkMu_lt hi hj (Nat.add_pos_left hln.pos _)⟩
  · rw [encL_append, encL_blockRows, elo]
  · rw [encR_append, encR_blockRows, ero]

/-- **the flat inner-map kernels list exactly the matching pairs, in (left, right) order** -/
theorem orderedInnerMap_eq (scanL scanR : Bool) {L R : List Int} (l2i r2i : List Int) (hL : Sorted L) (hR : Sorted R)
    (huL : scanL = false → L.Pairwise (· < ·)) (huR : scanR = false → R.Pairwise (· < ·))
    (hl : (innerJoin L R).length ≤ l2i.length) (hr : (innerJoin L R).length ≤ r2i.length) :
    orderedInnerMap scanL scanR L R l2i r2i =
      .ok ((encodeInner (innerJoin L R)).1 ++ l2i.drop (innerJoin L R).length,
           (encodeInner (innerJoin L R)).2 ++ r2i.drop (innerJoin L R).length) := by
  obtain ⟨s1, hw1, ⟨rows, w, elo, ero⟩, hg1⟩ := whileE_rule (innerGuard L R)
    (innerBody scanL scanR L R (min l2i.length r2i.length)) (IInv L R) (fun s => walkMu L R s.i s.j)
    (fun s hI hg => innerBody_step hL hR huL huR (by rw [irest_zero_length]; omega) hI hg) (L.length + R.length) {}
    ⟨[], Walk.zero L R, rfl, rfl⟩ (by simp [walkMu])
  obtain ⟨h1, h2⟩ := w.result hL hR hg1
  simp only [orderedInnerMap, hw1, elo, ero, h1, h2]
  simp [encodeInner]

def ZInv (L R : List Int) (s : ZS) : Prop := ∃ rows, Walk L R s.i s.j rows ∧ s.size = rows.length

theorem sizeBody_step {L R : List Int} {s : ZS} (hL : Sorted L) (hR : Sorted R) (hinv : ZInv L R s)
    (hg : (decide (s.i < L.length) && decide (s.j < R.length)) = true) :
    ∃ s', sizeBody L R s = .ok s' ∧ ZInv L R s' ∧ walkMu L R s'.i s'.j < walkMu L R s.i s.j := by
  obtain ⟨rows, w, esz⟩ := hinv
  simp only [Bool.and_eq_true, decide_eq_true_eq] at hg
  obtain ⟨hi, hj⟩ := hg
  simp only [sizeBody, getE_of_lt _ hi, getE_of_lt _ hj]
  by_cases hlt : L[s.i] < R[s.j]
  · simp only [hlt, if_true]
    exact ⟨_, rfl, ⟨rows, w.lt hL hR hi hj hlt, esz⟩, walkMu_lt_left hi hj⟩
  by_cases hgt : L[s.i] > R[s.j]
  · simp only [hlt, hgt, if_true, if_false]
    exact ⟨_, rfl, ⟨rows, w.gt hi hj hgt, esz⟩, walkMu_lt_right hi hj⟩
  have heq : R[s.j] = L[s.i] := Int.le_antisymm (Int.not_lt.mp hlt) (Int.not_lt.mp hgt)
  obtain ⟨n, hn, hln⟩ := runLen_isRun true hL (by simp) (get?_some_of_lt hi)
  obtain ⟨m, hm, hrm⟩ := runLen_isRun true hR (by simp) (by rw [get?_some_of_lt hj, heq])
  simp only [hlt, hgt, if_false, hn, hm]
  exact ⟨_, rfl, ⟨_, w.run hR hln hrm, by
    rw [List.length_append, blockRows_length, esz]⟩, walkMu_lt hi hj (Nat.add_pos_left hln.pos _)⟩

/-- **`ordered_inner_map_result_size` is the number of matching pairs** -/
theorem innerResultSize_eq {L R : List Int} (hL : Sorted L) (hR : Sorted R) :
    innerResultSize L R = .ok (innerJoin L R).length := by
  obtain ⟨s1, hw1, ⟨rows, w, esz⟩, hg1⟩ := whileE_rule (fun s : ZS => decide (s.i < L.length) && decide (s.j < R.length))
    (sizeBody L R) (ZInv L R) (fun s => walkMu L R s.i s.j)
    (fun s hI hg => sizeBody_step hL hR hI hg) (L.length + R.length) {} ⟨[], Walk.zero L R, rfl⟩ (by simp [walkMu])
  simp only [innerResultSize, hw1, esz, w.done hL hR hg1, irest_zero_length]

/-! ### the left-unique kernel with the sides swapped

  `ordered_merge_inner(left_unique=False, right_unique=True)` calls
  `ordered_inner_map_left_unique(right_data, left_data, right_to_inner, left_to_inner)`. Its output, read back with the
  sides swapped again, is the relational inner join of (left, right) in (left, right) order: the duplicate-free side is
  the outer loop, so the pairs come out ordered by key and then by left row, which is the order of `Spec.innerJoin`. -/

theorem encL_blockRows_one (i : Nat) : ∀ m j, encL (blockRows j i 1 m) = (List.range' j m).map (fun (x : Nat) => (x : Int))
  | 0, _ => by simp [blockRows, encL]
  | m + 1, j => by
    have ih := encL_blockRows_one i m (j + 1)
    simp only [encL] at ih
    simp only [blockRows, encL, List.map_append, ih, blockRow, List.range'_succ]
    simp

theorem encR_blockRows_one (inv : Int) (i : Nat) : ∀ m j, encR inv (blockRows j i 1 m) = List.replicate m (i : Int)
  | 0, _ => by simp [blockRows, encR]
  | m + 1, j => by
    have ih := encR_blockRows_one inv i m (j + 1)
    simp only [encR] at ih
    simp only [blockRows, encR, List.map_append, ih, blockRow, List.replicate_succ]
    simp [encCell]

/-- the swapped run: `s.i` walks the (duplicate-free) right column, `s.j` the left column, and the two outputs change
    places -/
def SwapInv (L R : List Int) (s : IS) : Prop :=
  ∃ rows, Walk L R s.j s.i rows ∧ s.ro = encL rows ∧ s.lo = encR 0 rows

theorem swapBody_step {L R : List Int} {cap : Nat} {s : IS} (hL : Sorted L) (hR : R.Pairwise (· < ·))
    (hcap : (irest L R 0).length ≤ cap) (hinv : SwapInv L R s) (hg : innerGuard R L s = true) :
    ∃ s', innerBody false true R L cap s = .ok s' ∧ SwapInv L R s' ∧ walkMu R L s'.i s'.j < walkMu R L s.i s.j := by
  have hRs := Strict.sorted hR
  obtain ⟨rows, w, ero, elo⟩ := hinv
  simp only [innerGuard, Bool.and_eq_true, decide_eq_true_eq] at hg
  obtain ⟨hi, hj⟩ := hg
  simp only [innerBody, getE_of_lt _ hi, getE_of_lt _ hj]
  by_cases hlt : R[s.i] < L[s.j]
  · simp only [hlt, if_true]
    exact ⟨_, rfl, ⟨rows, w.gt hj hi hlt, ero, elo⟩, walkMu_lt_left hi hj⟩
  by_cases hgt : R[s.i] > L[s.j]
  · simp only [hlt, hgt, if_true, if_false]
    exact ⟨_, rfl, ⟨rows, w.lt hL hRs hj hi hgt, ero, elo⟩, walkMu_lt_right hi hj⟩
  have heq : R[s.i] = L[s.j] := Int.le_antisymm (Int.not_lt.mp hgt) (Int.not_lt.mp hlt)
  obtain ⟨m, hm, hlm⟩ := runLen_isRun true hL (by simp) (get?_some_of_lt hj)
  have w' := w.run hRs hlm (IsRun.one hR (by rw [get?_some_of_lt hi, heq]))
  have hfit : s.lo.length + 1 * m ≤ cap := by
    have := w'.room
    rw [List.length_append, blockRows_length] at this
    rw [elo, encR_length]
    omega
  have h1 : runLen false R s.i = .ok 1 := rfl
  simp only [hlt, hgt, if_false, h1, hm, hfit, if_true]
  refine ⟨_, rfl, ⟨_, w', ?_, ?_⟩,
    walkMu_lt hi hj (Nat.add_pos_right _ hlm.pos)⟩
  · rw [encL_append, encL_blockRows_one, ero]; simp [blockR]
  · rw [encR_append, encR_blockRows_one, elo]; simp [blockL]

/-- **the swapped left-unique kernel, read back swapped, lists the matching pairs in (left, right) order** -/
theorem orderedInnerMap_swapped {L R : List Int} (hL : Sorted L) (hR : R.Pairwise (· < ·)) :
    orderedInnerMap false true R L (List.replicate (innerJoin L R).length 0) (List.replicate (innerJoin L R).length 0)
      = .ok ((encodeInner (innerJoin L R)).2, (encodeInner (innerJoin L R)).1) := by
  obtain ⟨s1, hw1, ⟨rows, w, ero, elo⟩, hg1⟩ := whileE_rule (innerGuard R L)
    (innerBody false true R L (min (List.replicate (innerJoin L R).length (0 : Int)).length
      (List.replicate (innerJoin L R).length (0 : Int)).length))
    (SwapInv L R) (fun s => walkMu R L s.i s.j)
    (fun s hI hg => swapBody_step hL hR (by rw [irest_zero_length]; simp) hI hg) (R.length + L.length) {}
    ⟨[], Walk.zero L R, rfl, rfl⟩ (by simp [walkMu])
  obtain ⟨h1, h2⟩ := w.result hL (Strict.sorted hR) (Bool.and_comm _ _ ▸ hg1)
  simp only [orderedInnerMap, hw1, elo, ero, h1, h2]
  simp [encodeInner]

end Exetera.JoinFlat
