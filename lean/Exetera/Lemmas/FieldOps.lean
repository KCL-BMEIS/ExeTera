import Exetera.Model.FieldOps
/-!
  C13 helper lemmas: the association-list heap, and what each REGENERATED helper body (`Gen.helperProgs`) computes when
  interpreted by `FieldOps.runProg`. The three `lookup_*` facts are the only place where the regenerated bodies are read
  (by `decide`); everything else is for all inputs.
-/
namespace Exetera.FieldOps
open Exetera
variable {α : Type}

@[simp] theorem World.get?_put (w : World α) (i : Nat) (r : FieldRec α) (id : Nat) :
    (w.put i r).get? id = if i = id then some r else w.get? id := by
  by_cases h : i = id <;> simp [World.get?, World.put, List.find?_cons, h]

@[simp] theorem World.get?_alloc (w : World α) (r : FieldRec α) (id : Nat) :
    (w.alloc r).get? id = if w.next = id then some r else w.get? id :=
  w.get?_put w.next r id

@[simp] theorem World.next_alloc (w : World α) (r : FieldRec α) : (w.alloc r).next = w.next + 1 := rfl
@[simp] theorem World.next_put (w : World α) (i : Nat) (r : FieldRec α) : (w.put i r).next = w.next := rfl
@[simp] theorem World.frames_alloc (w : World α) (r : FieldRec α) : (w.alloc r).frames = w.frames := rfl
@[simp] theorem World.frames_put (w : World α) (i : Nat) (r : FieldRec α) : (w.put i r).frames = w.frames := rfl

theorem World.wf_alloc {w : World α} (h : w.wf) (r : FieldRec α) : (w.alloc r).wf := by
  intro c hc
  simp only [World.alloc, List.mem_cons] at hc ⊢
  rcases hc with rfl | hc
  · simp
  · have := h c hc; omega

theorem World.wf_put {w : World α} (h : w.wf) {i : Nat} (hi : i < w.next) (r : FieldRec α) : (w.put i r).wf := by
  intro c hc
  simp only [World.put, List.mem_cons] at hc ⊢
  rcases hc with rfl | hc
  · exact hi
  · exact h c hc

theorem World.get?_none_of_wf {w : World α} (h : w.wf) {id : Nat} (hid : w.next ≤ id) : w.get? id = none := by
  simp only [World.get?, Option.map_eq_none_iff, List.find?_eq_none]
  intro c hc
  have := h c hc
  simp; omega

theorem World.lt_next_of_get? {w : World α} (h : w.wf) {id : Nat} {r : FieldRec α} (hr : w.get? id = some r) : id < w.next := by
  rcases Nat.lt_or_ge id w.next with h1 | h1
  · exact h1
  · rw [World.get?_none_of_wf h h1] at hr; cases hr

/-- `_binary_op` (`fields.py`) -/
def binaryProg : List Gen.FInstr :=
  [.unwrap 0, .unwrap 1, .apply none [2, 3] 1, .newField "NumericMemField" 4, .write 5 4, .ret [5]]
/-- `_unary_op` -/
def unaryProg : List Gen.FInstr := [.unwrap 0, .apply none [1] 1, .newField "NumericMemField" 2, .write 3 2, .ret [3]]
/-- `numeric_divmod` -/
def divmodProg : List Gen.FInstr :=
  [.unwrap 0, .unwrap 1, .apply (some "np.divmod") [2, 3] 2, .newField "NumericMemField" 4, .write 6 4,
   .newField "NumericMemField" 5, .write 7 5, .ret [6, 7]]

theorem lookup_binary : lookupProg "_binary_op" = some (2, binaryProg) := by decide +kernel
theorem lookup_unary : lookupProg "_unary_op" = some (1, unaryProg) := by decide +kernel
theorem lookup_divmod : lookupProg "numeric_divmod" = some (2, divmodProg) := by decide +kernel

/-! Each body is run once, symbolically (`run_*_eq`); what the operator theorems need — the result, the `raise`, that nothing
    else is touched — is then read off `newResult`. -/

/-- the heap after `F = NumericMemField(session, n); F.data.write(v)` -/
def World.withNew (w : World α) (n : String) (v : α) : World α :=
  (w.alloc ⟨"NumericMemField", n, none⟩).put w.next ⟨"NumericMemField", n, some v⟩

theorem World.get?_withNew (w : World α) (n : String) (v : α) (id : Nat) :
    (w.withNew n v).get? id = if w.next = id then some ⟨"NumericMemField", n, some v⟩ else w.get? id := by
  by_cases h : w.next = id <;> simp [World.withNew, h]

@[simp] theorem World.next_withNew (w : World α) (n : String) (v : α) : (w.withNew n v).next = w.next + 1 := rfl

theorem World.wf_withNew {w : World α} (h : w.wf) (n : String) (v : α) : (w.withNew n v).wf :=
  World.wf_put (World.wf_alloc h _) (by simp) _

/-- what a numeric result `v` becomes: a new field under the name of its dtype, or the final `raise` of `dtype_to_str` -/
def newResult (np : Numpy α) (w : World α) (v : α) : Except Err (World α) :=
  match dtypeToStr (np.dtypeOf v) with
  | none => .error (.valueError "Unsupported dtype")
  | some n => .ok (w.withNew n v)

theorem newResult_frame {np : Numpy α} {w w' : World α} {v : α} (h : newResult np w v = .ok w') :
    (∀ id, id ≠ w.next → w'.get? id = w.get? id) ∧ w'.frames = w.frames ∧ w'.next = w.next + 1 := by
  unfold newResult at h
  split at h
  · cases h
  · cases h; exact ⟨fun id hid => by simp [World.get?_withNew, Ne.symm hid], rfl, rfl⟩

theorem bind_ok {ε β γ} {x : Except ε β} {f : β → Except ε γ} {c : γ} (h : x.bind f = .ok c) :
    ∃ b, x = .ok b ∧ f b = .ok c := by
  cases x <;> simp_all [Except.bind]

theorem map_ok {ε β γ} {x : Except ε β} {f : β → γ} {c : γ} (h : x.map f = .ok c) : ∃ b, x = .ok b ∧ f b = c := by
  cases x <;> simp_all [Except.map]

section bodies
attribute [local simp] runProg step getArrs getFlds Except.bind Except.map newResult World.withNew

theorem run_binary_eq (np : Numpy α) (sym : String) (w : World α) (a b : Val α) :
    runProg np sym binaryProg w [a, b] =
      (unwrapVal np w a).bind fun x => (unwrapVal np w b).bind fun y =>
        (newResult np w (np.call sym [x, y])).map (·, [w.next]) := by
  cases ha : unwrapVal np w a with
  | error e => simp [binaryProg, ha]
  | ok x =>
    cases hb : unwrapVal np w b with
    | error e => simp [binaryProg, ha, hb]
    | ok y => cases hn : dtypeToStr (np.dtypeOf (np.call sym [x, y])) <;> simp [binaryProg, ha, hb, hn]

theorem run_unary_eq (np : Numpy α) (sym : String) (w : World α) (a : Val α) :
    runProg np sym unaryProg w [a] =
      (unwrapVal np w a).bind fun x => (newResult np w (np.call sym [x])).map (·, [w.next]) := by
  cases ha : unwrapVal np w a with
  | error e => simp [unaryProg, ha]
  | ok x => cases hn : dtypeToStr (np.dtypeOf (np.call sym [x])) <;> simp [unaryProg, ha, hn]

theorem run_divmod_eq (np : Numpy α) (fn : String) (w : World α) (a b : Val α) :
    runProg np fn divmodProg w [a, b] =
      (unwrapVal np w a).bind fun x => (unwrapVal np w b).bind fun y =>
        (newResult np w (np.call2 "np.divmod" [x, y]).1).bind fun w1 =>
          (newResult np w1 (np.call2 "np.divmod" [x, y]).2).map (·, [w.next, w.next + 1]) := by
  cases ha : unwrapVal np w a with
  | error e => simp [divmodProg, ha]
  | ok x =>
    cases hb : unwrapVal np w b with
    | error e => simp [divmodProg, ha, hb]
    | ok y =>
      cases hn1 : dtypeToStr (np.dtypeOf (np.call2 "np.divmod" [x, y]).1) <;>
        cases hn2 : dtypeToStr (np.dtypeOf (np.call2 "np.divmod" [x, y]).2) <;> simp [divmodProg, ha, hb, hn1, hn2]

/-- `_binary_op(session, a, b, sym)`: ONE new NumericMemField holding `sym(a', b')` under the name of numpy's result dtype -/
theorem run_binary (np : Numpy α) (sym : String) (w : World α) {a b : Val α} {x y : α} {n : String}
    (ha : unwrapVal np w a = .ok x) (hb : unwrapVal np w b = .ok y)
    (hn : dtypeToStr (np.dtypeOf (np.call sym [x, y])) = some n) :
    runProg np sym binaryProg w [a, b] = .ok (w.withNew n (np.call sym [x, y]), [w.next]) := by
  simp [run_binary_eq, ha, hb, hn, -runProg]

/-- when numpy's result dtype is one `dtype_to_str` refuses, `_binary_op` raises ValueError (and returns nothing) -/
theorem run_binary_unsupported (np : Numpy α) (sym : String) (w : World α) {a b : Val α} {x y : α}
    (ha : unwrapVal np w a = .ok x) (hb : unwrapVal np w b = .ok y)
    (hn : dtypeToStr (np.dtypeOf (np.call sym [x, y])) = none) :
    runProg np sym binaryProg w [a, b] = .error (.valueError "Unsupported dtype") := by
  simp [run_binary_eq, ha, hb, hn, -runProg]

theorem run_unary (np : Numpy α) (sym : String) (w : World α) {a : Val α} {x : α} {n : String}
    (ha : unwrapVal np w a = .ok x) (hn : dtypeToStr (np.dtypeOf (np.call sym [x])) = some n) :
    runProg np sym unaryProg w [a] = .ok (w.withNew n (np.call sym [x]), [w.next]) := by
  simp [run_unary_eq, ha, hn, -runProg]

/-- `numeric_divmod(session, a, b)`: TWO new NumericMemFields, quotient then remainder of ONE `np.divmod(a', b')` call -/
theorem run_divmod (np : Numpy α) (fn : String) (w : World α) {a b : Val α} {x y : α} {n1 n2 : String}
    (ha : unwrapVal np w a = .ok x) (hb : unwrapVal np w b = .ok y)
    (hn1 : dtypeToStr (np.dtypeOf (np.call2 "np.divmod" [x, y]).1) = some n1)
    (hn2 : dtypeToStr (np.dtypeOf (np.call2 "np.divmod" [x, y]).2) = some n2) :
    runProg np fn divmodProg w [a, b] =
      .ok ((w.withNew n1 (np.call2 "np.divmod" [x, y]).1).withNew n2 (np.call2 "np.divmod" [x, y]).2, [w.next, w.next + 1]) := by
  simp [run_divmod_eq, ha, hb, hn1, hn2, -runProg]

end bodies

theorem run_binary_frame (np : Numpy α) (sym : String) (w w' : World α) (a b : Val α) (ids : List Nat)
    (h : runProg np sym binaryProg w [a, b] = .ok (w', ids)) :
    (∀ id, id < w.next → w'.get? id = w.get? id) ∧ w'.frames = w.frames := by
  rw [run_binary_eq] at h
  obtain ⟨x, -, h1⟩ := bind_ok h
  obtain ⟨y, -, h2⟩ := bind_ok h1
  obtain ⟨w1, h3, he⟩ := map_ok h2
  cases he
  exact ⟨fun id hid => (newResult_frame h3).1 id (by omega), (newResult_frame h3).2.1⟩

theorem run_unary_frame (np : Numpy α) (sym : String) (w w' : World α) (a : Val α) (ids : List Nat)
    (h : runProg np sym unaryProg w [a] = .ok (w', ids)) :
    (∀ id, id < w.next → w'.get? id = w.get? id) ∧ w'.frames = w.frames := by
  rw [run_unary_eq] at h
  obtain ⟨x, -, h1⟩ := bind_ok h
  obtain ⟨w1, h3, he⟩ := map_ok h1
  cases he
  exact ⟨fun id hid => (newResult_frame h3).1 id (by omega), (newResult_frame h3).2.1⟩

theorem run_divmod_frame (np : Numpy α) (fn : String) (w w' : World α) (a b : Val α) (ids : List Nat)
    (h : runProg np fn divmodProg w [a, b] = .ok (w', ids)) :
    (∀ id, id < w.next → w'.get? id = w.get? id) ∧ w'.frames = w.frames := by
  rw [run_divmod_eq] at h
  obtain ⟨x, -, h1⟩ := bind_ok h
  obtain ⟨y, -, h2⟩ := bind_ok h1
  obtain ⟨w1, h3, h4⟩ := bind_ok h2
  obtain ⟨w2, h5, he⟩ := map_ok h4
  cases he
  obtain ⟨g1, f1, n1⟩ := newResult_frame h3
  obtain ⟨g2, f2, -⟩ := newResult_frame h5
  exact ⟨fun id hid => (g2 id (by omega)).trans (g1 id (by omega)), f2.trans f1⟩

theorem lookup_helperOf (op : String) :
    lookupProg (helperOf op) = some (2, if op = "divmod" then divmodProg else binaryProg) := by
  unfold helperOf
  by_cases h : op = "divmod"
  · simp [h, lookup_divmod]
  · simp [h, lookup_binary]

end Exetera.FieldOps
