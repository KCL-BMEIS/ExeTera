import Exetera.Gen.Kernels
import Exetera.Model.Journal
import Exetera.Lemmas.GenKernels
import Exetera.Lemmas.GenKernelsJournal
import Exetera.Lemmas.GenKernelsSpans
/-!
  The TRANSLATED `merge_journalled_entries` / `merge_indexed_journalled_entries_count` (a `for` loop around a `while` loop whose
  condition subscripts `old_map[i]`) against `Journal.mergeEntries` / `Journal.mergeIndexedCount` — transfer form: every `.ok` run
  of the model is a run of the translated kernel with the same result, for every fuel that covers the destination (resp. the old
  offsets).  The two sides differ on purpose in one error branch: the model wraps a negative `new_map[i]` around once (`getI`),
  the translation makes a negative subscript an error; hence the hypothesis that kept slots have a non-negative `new_map` entry.
-/
namespace Exetera.GenK

open Exetera Exetera.PyRt Exetera.Journal Exetera.Gen.Kernels

namespace MJ

abbrev St := merge_journalled_entries.St

/-- the kernel's destination buffer when the model has written `buf` (the model keeps the written prefix only): the rest still zero -/
def destOf (cap : Nat) (buf : List Int) : List Int := buf ++ List.replicate (cap - buf.length) 0

def R (om nm : List Int) (tk : List Bool) (oldSrc newSrc : List Int) (cap : Nat) (s : St) (t : MS) : Prop :=
  s.p0 = om ∧ s.p1 = nm ∧ s.p2 = tk ∧ s.p3 = oldSrc ∧ s.p4 = newSrc ∧ s.p5 = destOf cap t.buf ∧
    s.v0 = (t.cur : Int) ∧ s.v1 = (t.buf.length : Int) ∧ t.buf.length ≤ cap

theorem destOf_set (cap : Nat) (buf : List Int) (v : Int) (h : buf.length < cap) :
    (destOf cap buf).set buf.length v = destOf cap (buf ++ [v]) := set_append_replicate buf cap v 0 h

/-- `dest[cur_dest] = v` against `pushD`; `K` is what the kernel goes on with (it bumps `cur_dest` itself) -/
theorem pushD_follows {β γ} {Q : β → γ → Prop} (cap : Nat) (t : MS) (v : Int) (site : String)
    {K : List Int → Except Err β} {G : MS → Except Err γ}
    (h : t.buf.length < cap → OkFollows Q (K (destOf cap (t.buf ++ [v]))) (G { t with buf := t.buf ++ [v] })) :
    OkFollows Q (bindE (setIdxE (destOf cap t.buf) (t.buf.length : Int) v site) K) (bindE (pushD cap t v) G) := by
  unfold pushD
  split
  next hlt =>
    rw [setIdxE_of_lt _ _ (by unfold destOf; rw [List.length_append, List.length_replicate]; omega), bindE_ok,
      destOf_set _ _ _ hlt]
    exact h hlt
  · exact .error

theorem copyOldBody_eq (cap : Nat) (oldSrc : List Int) (t : MS) :
    copyOldBody cap oldSrc t = bindE (getE oldSrc t.cur "old_src[cur_old]") fun v =>
      bindE (pushD cap t v) fun t' => .ok { t' with cur := t.cur + 1 } := by
  rw [copyOldBody]
  cases getE oldSrc t.cur "old_src[cur_old]" with
  | error e => rfl
  | ok v => dsimp only [bindE_ok]; cases pushD cap t v <;> rfl

theorem mergeBody_eq (om nm : List Int) (tk : List Bool) (oldSrc newSrc : List Int) (cap i : Nat) (t : MS) :
    mergeBody om nm tk oldSrc newSrc cap i t = bindE (getE om i "old_map[i]") fun o =>
      bindE (whileE (fun s => decide ((s.cur : Int) ≤ o)) (copyOldBody cap oldSrc) (o + 1 - (t.cur : Int)).toNat t) fun t1 =>
      bindE (getE tk i "to_keep[i]") fun k =>
      if k then bindE (getE nm i "new_map[i]") fun n => bindE (getI newSrc n "new_src[new_map[i]]") fun v =>
        bindE (pushD cap t1 v) .ok
      else .ok t1 := by
  simp only [mergeBody, Except.bind_eq_bindE, bindE_pure]
  rfl

theorem step (om nm : List Int) (tk : List Bool) (oldSrc newSrc : List Int) (cap fuel : Nat) (hfuel : cap ≤ fuel)
    (hnn : ∀ (i : Nat) (n : Int), tk[i]? = some true → nm[i]? = some n → 0 ≤ n) (i : Nat) :
    ∀ (s : St) (t : MS), R om nm tk oldSrc newSrc cap s t →
      OkFollows (R om nm tk oldSrc newSrc cap) (merge_journalled_entries.body_L1 fuel { s with v2 := (i : Int) })
        (mergeBody om nm tk oldSrc newSrc cap i t) := by
  intro s t hR
  rw [mergeBody_eq, merge_journalled_entries.body_L1]
  refine OkFollows.getE_right _ _ _ fun o ho => ?_
  -- the inner loop `while cur_old <= old_map[i]`; the variant is the room left in the destination
  refine (OkFollows.while (fun s t => R om nm tk oldSrc newSrc cap s t ∧ s.v2 = (i : Int)) _ _ _ _ (fun t => cap - t.buf.length)
    ?_ ?_ _ _ t (by exact ⟨hR, rfl⟩) fuel (by omega)).bind ?_
  · rintro ⟨⟩ t ⟨⟨rfl, rfl, rfl, rfl, rfl, rfl, rfl, rfl, _⟩, rfl⟩
    simp only [merge_journalled_entries.guardE_L2, idxE_nat, getE_eq_ok.mpr ho, bindE_ok]
  · rintro ⟨⟩ t ⟨⟨rfl, rfl, rfl, rfl, rfl, rfl, rfl, rfl, hle⟩, rfl⟩ _
    rw [copyOldBody_eq]
    simp only [merge_journalled_entries.body_L2, idxE_nat]
    refine OkFollows.getE _ _ _ _ fun v _ => pushD_follows cap t v _ fun hlt => ?_
    refine .ok ⟨⟨⟨rfl, rfl, rfl, rfl, rfl, rfl, rfl, ?_, ?_⟩, rfl⟩, ?_⟩
    · show (t.buf.length : Int) + 1 = ((t.buf ++ [v]).length : Int)
      rw [List.length_append]; rfl
    · show (t.buf ++ [v]).length ≤ cap
      rw [List.length_append]; exact hlt
    · show cap - (t.buf ++ [v]).length < cap - t.buf.length
      rw [List.length_append, List.length_singleton]; omega
  · rintro ⟨⟩ t1 ⟨⟨rfl, rfl, rfl, rfl, rfl, rfl, rfl, rfl, hle⟩, rfl⟩
    simp only [idxE_nat, beq_true]
    refine OkFollows.getE _ _ _ _ fun k hk => OkFollows.ite (fun hkt => ?_) (fun _ => .ok ⟨rfl, rfl, rfl, rfl, rfl, rfl, rfl, rfl, hle⟩)
    refine OkFollows.getE _ _ _ _ fun n hn => ?_
    refine OkFollows.idxE_getI _ (hnn i n (hkt ▸ hk) hn) _ _ fun v => pushD_follows cap t1 v _ fun hlt => ?_
    refine .ok ⟨rfl, rfl, rfl, rfl, rfl, rfl, rfl, ?_, ?_⟩
    · show (t1.buf.length : Int) + 1 = ((t1.buf ++ [v]).length : Int)
      rw [List.length_append]; rfl
    · show (t1.buf ++ [v]).length ≤ cap
      rw [List.length_append]; exact hlt

end MJ

theorem merge_journalled_entries_ok (om nm : List Int) (tk : List Bool) (oldSrc newSrc : List Int) (cap fuel : Nat)
    (r : List Int) (hfuel : cap ≤ fuel) (hnn : ∀ (i : Nat) (n : Int), tk[i]? = some true → nm[i]? = some n → 0 ≤ n)
    (h : mergeEntries om nm tk oldSrc newSrc cap = .ok r) :
    merge_journalled_entries.run om nm tk oldSrc newSrc (List.replicate cap 0) fuel = .ok r := by
  unfold mergeEntries at h
  cases hf : forE (mergeBody om nm tk oldSrc newSrc cap) om.length 0 {} with
  | error e => rw [hf] at h; cases h
  | ok t' =>
    rw [hf] at h
    cases h
    obtain ⟨s', hs, _, _, _, _, _, h5, _⟩ := forRange_forE_ok (MJ.R om nm tk oldSrc newSrc cap) _
      (fun k s => merge_journalled_entries.body_L1 fuel { s with v2 := k })
      (MJ.step om nm tk oldSrc newSrc cap fuel hfuel hnn) om.length 0
      { p0 := om, p1 := nm, p2 := tk, p3 := oldSrc, p4 := newSrc, p5 := List.replicate cap 0, v0 := 0, v1 := 0, v2 := 0 } {}
      ⟨rfl, rfl, rfl, rfl, rfl, rfl, rfl, rfl, Nat.zero_le _⟩ t' hf
    unfold merge_journalled_entries.run forRangeE
    have hn : (pyLen om - 0).toNat = om.length := Int.toNat_natCast _
    simp only [hn]
    erw [hs]
    exact congrArg _ h5

namespace MC

abbrev St := merge_indexed_journalled_entries_count.St

def R (om nm : List Int) (tk : List Bool) (oi ni : List Nat) (s : St) (t : CS) : Prop :=
  s.p0 = om ∧ s.p1 = nm ∧ s.p2 = tk ∧ s.p3 = ints oi ∧ s.p4 = ints ni ∧ s.v0 = (t.cur : Int) ∧ s.v1 = (t.acc : Int)

theorem deltaE_ok {a b d : Nat} (h : deltaE a b = .ok d) : (b : Int) - (a : Int) = (d : Int) := by
  unfold deltaE at h
  split at h
  · cases h; omega
  · cases h

theorem countOldBody_eq (oi : List Nat) (t : CS) :
    countOldBody oi t = bindE (getE oi (t.cur + 1) "old_src_inds[cur_old+1]") fun b =>
      bindE (getE oi t.cur "old_src_inds[cur_old]") fun a => bindE (deltaE a b) fun d => .ok { cur := t.cur + 1, acc := t.acc + d } := by
  rw [countOldBody]
  cases getE oi (t.cur + 1) "old_src_inds[cur_old+1]" with
  | error e => cases getE oi t.cur "old_src_inds[cur_old]" <;> rfl
  | ok b =>
    cases getE oi t.cur "old_src_inds[cur_old]" with
    | error e => rfl
    | ok a => dsimp only [bindE_ok]; cases deltaE a b <;> rfl

theorem countBody_eq (om nm : List Int) (tk : List Bool) (oi ni : List Nat) (i : Nat) (t : CS) :
    countBody om nm tk oi ni i t = bindE (getE om i "old_map[i]") fun o =>
      bindE (whileE (fun s => decide ((s.cur : Int) ≤ o)) (countOldBody oi) (o + 1 - (t.cur : Int)).toNat t) fun t1 =>
      bindE (getE tk i "to_keep[i]") fun k =>
      if k then bindE (getE nm i "new_map[i]") fun n => bindE (getI ni (n + 1) "new_src_inds[new_map[i]+1]") fun b =>
        bindE (getI ni n "new_src_inds[new_map[i]]") fun a => bindE (deltaE a b) fun d => .ok { t1 with acc := t1.acc + d }
      else .ok t1 := by
  simp only [countBody, Except.bind_eq_bindE]
  rfl

theorem step (om nm : List Int) (tk : List Bool) (oi ni : List Nat) (fuel : Nat) (hfuel : oi.length ≤ fuel)
    (hnn : ∀ (i : Nat) (n : Int), tk[i]? = some true → nm[i]? = some n → 0 ≤ n) (i : Nat) :
    ∀ (s : St) (t : CS), R om nm tk oi ni s t →
      OkFollows (R om nm tk oi ni) (merge_indexed_journalled_entries_count.body_L1 fuel { s with v2 := (i : Int) })
        (countBody om nm tk oi ni i t) := by
  intro s t hR
  rw [countBody_eq, merge_indexed_journalled_entries_count.body_L1]
  refine OkFollows.getE_right _ _ _ fun o ho => ?_
  -- the inner loop `while cur_old <= old_map[i]`; the variant is what is left of the old offsets
  refine (OkFollows.while (fun s t => R om nm tk oi ni s t ∧ s.v2 = (i : Int)) _ _ _ _ (fun t => oi.length - t.cur)
    ?_ ?_ _ _ t (by exact ⟨hR, rfl⟩) fuel (by omega)).bind ?_
  · rintro ⟨⟩ t ⟨⟨rfl, rfl, rfl, rfl, rfl, rfl, rfl⟩, rfl⟩
    simp only [merge_indexed_journalled_entries_count.guardE_L2, idxE_nat, getE_eq_ok.mpr ho, bindE_ok]
  · rintro ⟨⟩ t ⟨⟨rfl, rfl, rfl, rfl, rfl, rfl, rfl⟩, rfl⟩ _
    rw [countOldBody_eq]
    simp only [merge_indexed_journalled_entries_count.body_L2, idxE_nat, idxE_nat_succ]
    refine OkFollows.getE_ints _ _ _ _ fun b hb => ?_
    refine OkFollows.getE_ints _ _ _ _ fun a _ => ?_
    have hlt : t.cur + 1 < oi.length := (List.getElem?_eq_some_iff.mp hb).1
    -- the kernel adds `b - a` in signed arithmetic; where the model's checked difference succeeds the two agree
    cases hd : deltaE a b with
    | error e => exact .error
    | ok d =>
      rw [deltaE_ok hd]
      exact .ok ⟨⟨⟨rfl, rfl, rfl, rfl, rfl, rfl, rfl⟩, rfl⟩, by show oi.length - (t.cur + 1) < oi.length - t.cur; omega⟩
  · rintro ⟨⟩ t1 ⟨⟨rfl, rfl, rfl, rfl, rfl, rfl, rfl⟩, rfl⟩
    simp only [idxE_nat, beq_true]
    refine OkFollows.getE _ _ _ _ fun k hk => OkFollows.ite (fun hkt => ?_) (fun _ => .ok ⟨rfl, rfl, rfl, rfl, rfl, rfl, rfl⟩)
    refine OkFollows.getE _ _ _ _ fun n hn => ?_
    have hn0 : 0 ≤ n := hnn i n (hkt ▸ hk) hn
    simp only [getE_eq_ok.mpr hn, bindE_ok]
    refine OkFollows.idxE_getI_ints _ (Int.add_nonneg hn0 Int.one_nonneg) _ _ fun b _ => ?_
    refine OkFollows.idxE_getI_ints _ hn0 _ _ fun a _ => ?_
    cases hd : deltaE a b with
    | error e => exact .error
    | ok d => rw [deltaE_ok hd]; exact .ok ⟨rfl, rfl, rfl, rfl, rfl, rfl, rfl⟩

end MC

theorem merge_indexed_journalled_entries_count_ok (om nm : List Int) (tk : List Bool) (oi ni : List Nat) (fuel r : Nat)
    (hfuel : oi.length ≤ fuel) (hnn : ∀ (i : Nat) (n : Int), tk[i]? = some true → nm[i]? = some n → 0 ≤ n)
    (h : mergeIndexedCount om nm tk oi ni = .ok r) :
    merge_indexed_journalled_entries_count.run om nm tk (ints oi) (ints ni) fuel = .ok (r : Int) := by
  unfold mergeIndexedCount at h
  cases hf : forE (countBody om nm tk oi ni) om.length 0 {} with
  | error e => rw [hf] at h; cases h
  | ok t' =>
    rw [hf] at h
    cases h
    obtain ⟨s', hs, _, _, _, _, _, _, h1⟩ := forRange_forE_ok (MC.R om nm tk oi ni) _
      (fun k s => merge_indexed_journalled_entries_count.body_L1 fuel { s with v2 := k })
      (MC.step om nm tk oi ni fuel hfuel hnn) om.length 0
      { p0 := om, p1 := nm, p2 := tk, p3 := ints oi, p4 := ints ni, v0 := 0, v1 := 0, v2 := 0, v3 := 0 } {}
      ⟨rfl, rfl, rfl, rfl, rfl, rfl, rfl⟩ t' hf
    unfold merge_indexed_journalled_entries_count.run forRangeE
    have hn : (pyLen om - 0).toNat = om.length := Int.toNat_natCast _
    simp only [hn]
    erw [hs]
    exact congrArg _ h1

end Exetera.GenK
