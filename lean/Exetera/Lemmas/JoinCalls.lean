import Exetera.Lemmas.While
import Exetera.Model.Join
import Exetera.Lemmas.JoinSpec
/-! Step counting for the join drivers (C12). -/
namespace Exetera

theorem bind_eq_ok {α β} {x : Except Err α} {f : α → Except Err β} {b : β} (h : x >>= f = .ok b) :
    ∃ a, x = .ok a ∧ f a = .ok b := by
  cases x with
  | error e => cases h
  | ok a => exact ⟨a, rfl, h⟩

theorem whileE_counter {σ} (guard : σ → Bool) (body : σ → Except Err σ) (c : σ → Nat)
    (hb : ∀ s s', body s = .ok s' → c s' = c s + 1) :
    ∀ (n : Nat) (s s' : σ), whileE guard body n s = .ok s' → c s' ≤ c s + n
  | 0, s, s', h => by
    rw [whileE] at h
    split at h
    · cases h
    · cases h; exact Nat.le_refl _
  | n + 1, s, s', h => by
    rw [whileE] at h
    split at h
    · cases hs : body s with
      | error e => rw [hs] at h; cases h
      | ok s1 =>
        rw [hs] at h
        have := whileE_counter guard body c hb n s1 s' h
        have := hb s s1 hs
        omega
    · cases h; omega

namespace Join
open Spec

theorem flush_calls (d : D) : (flush d).calls = d.calls := by
  unfold flush; split <;> rfl

theorem refillLeft_calls {v : Variant} {l : List Int} {cs : Nat} {d d' : D} (h : refillLeft v l cs d = .ok d') :
    d'.calls = d.calls := by
  unfold refillLeft at h
  split at h
  · obtain ⟨c, _, h⟩ := bind_eq_ok h
    cases h; rfl
  · cases h; rfl

theorem refillRight_calls {v : Variant} {r : List Int} {cs : Nat} {d d' : D} (h : refillRight v r cs d = .ok d') :
    d'.calls = d.calls := by
  unfold refillRight at h
  split at h
  · obtain ⟨c, _, h⟩ := bind_eq_ok h
    cases h; rfl
  · cases h; rfl

theorem mainBody_calls {v : Variant} {l r : List Int} {cs : Nat} {inv : Int} {d d' : D}
    (h : mainBody v l r cs inv d = .ok d') : d'.calls = d.calls + 1 := by
  obtain ⟨k, _, h⟩ := bind_eq_ok h
  obtain ⟨d1, h1, h⟩ := bind_eq_ok h
  obtain ⟨d2, h2, h⟩ := bind_eq_ok h
  cases h
  rw [flush_calls, refillRight_calls h2, refillLeft_calls h1]

theorem tailBody_calls {l r : List Int} {cs : Nat} {inv : Int} {d d' : D}
    (h : tailBody l r cs inv d = .ok d') : d'.calls = d.calls + 1 := by
  obtain ⟨k, _, h⟩ := bind_eq_ok h
  cases h
  rw [flush_calls]
  unfold tailAdvance; split <;> rfl

/-- `2 * fuel`: the main loop and the tail loop each run on `fuel`, and each iteration is one `_partial` / `_remaining` call -/
theorem streamed_calls_le {v : Variant} {fuel cs : Nat} {inv : Int} {l r : List Int} {o : Out}
    (h : streamed v fuel cs inv l r = .ok o) : o.calls ≤ 2 * fuel := by
  obtain ⟨lch, _, h⟩ := bind_eq_ok h
  obtain ⟨rch, _, h⟩ := bind_eq_ok h
  obtain ⟨d1, h1, h⟩ := bind_eq_ok h
  have c1 : d1.calls ≤ 0 + fuel := whileE_counter _ _ D.calls (fun _ _ hs => mainBody_calls hs) fuel _ _ h1
  dsimp only at h
  split at h
  · obtain ⟨d2, h2, h⟩ := bind_eq_ok h
    have c2 := whileE_counter _ _ D.calls (fun _ _ hs => tailBody_calls hs) fuel _ _ h2
    cases h
    show d2.calls ≤ 2 * fuel
    omega
  · cases h
    show d1.calls ≤ 2 * fuel
    omega

end Join
end Exetera
