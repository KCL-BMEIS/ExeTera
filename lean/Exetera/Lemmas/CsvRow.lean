import Exetera.Lemmas.CsvCell
/-! Records (C05): the kernel over the complete records of a window, with no assumption on the staging buffers (the call
    may stop inside a record); what is staged after a table is, column by column, `Spec.column (Spec.values rows)`. -/
namespace Exetera.Csv
open Exetera Spec

/-- entries staged after the cells `cs` of one record, the first of them in column `j` -/
def stageRow (hdr : Bool) (E : Nat → List Bytes) : Nat → List Cell → Nat → List Bytes
  | _, [] => E
  | j, c :: cs => stageRow hdr (stage hdr E j c.value) (j + 1) cs

/-- every cell of the record fits (strictly) into what is left of its column's budget -/
def RowCap (offs : List Nat) (hdr : Bool) (E : Nat → List Bytes) : Nat → List Cell → Prop
  | _, [] => True
  | j, c :: cs =>
    (hdr = false → offAt offs j + (E j).flatten.length + c.value.length < offAt offs (j + 1)) ∧
    RowCap offs hdr (stage hdr E j c.value) (j + 1) cs

theorem row_cells {src : Bytes} {offs : List Nat} {maxrow ncols : Nat} (cs : List Cell) :
    ∀ (A0 X : Bytes) (s : KS) (j : Nat) (hdr : Bool) (k np : Nat) (E : Nat → List Bytes),
      cs ≠ [] → (∀ c ∈ cs, c.WF) → j + cs.length = ncols →
      src = A0 ++ (renderCells cs ++ X) →
      CellStart src offs maxrow ncols s (A0 ++ (renderCells cs ++ X).takeWhile isWs) j hdr k np E →
      RowCap offs hdr E j cs →
      ∃ n s', KSteps src offs maxrow n s s' ∧
        LineEnd src offs maxrow ncols s' ((A0 ++ renderCells cs) ++ X.takeWhile isWs) (if hdr then 0 else k + 1)
          (A0 ++ renderCells cs).length (stageRow hdr E j cs) := by
  induction cs with
  | nil => intro _ _ _ _ _ _ _ _ h; exact absurd rfl h
  | cons c cs ih =>
    intro A0 X s j hdr k np E _ hwf hlen hsrc hcs hcap
    have hwfc := hwf c (by simp)
    cases cs with
    | nil =>
      have hrc : renderCells [c] = renderCell c ++ [NL] := by simp [renderCells]
      rw [hrc, List.append_assoc] at hsrc hcs
      rw [hrc]
      exact cell_nl (offs := offs) (maxrow := maxrow) c hwfc A0 X s j hdr k np E hsrc hcs (by simpa using hlen) hcap.1
    | cons d ds =>
      have hrc : renderCells (c :: d :: ds) = (renderCell c ++ [SEP]) ++ renderCells (d :: ds) := by simp [renderCells]
      rw [hrc, List.append_assoc, List.append_assoc] at hsrc hcs
      obtain ⟨n1, s1, hsteps1, hcs1⟩ :=
        cell_sep (offs := offs) (maxrow := maxrow) c hwfc A0 (renderCells (d :: ds) ++ X) s j hdr k np E hsrc hcs
          (by simp at hlen; omega) hcap.1
      obtain ⟨n2, s2, hsteps2, hend⟩ :=
        ih (A0 ++ (renderCell c ++ [SEP])) X s1 (j + 1) hdr k np (stage hdr E j c.value) (by simp)
          (fun x hx => hwf x (by simp [hx])) (by simp at hlen ⊢; omega) (by rw [hsrc]; simp) hcs1 hcap.2
      rw [List.append_assoc A0, ← hrc] at hend
      exact ⟨n1 + n2, s2, StepsN.trans hsteps1 hsteps2, hend⟩

def stageRows (E : Nat → List Bytes) : List (List Cell) → Nat → List Bytes
  | [] => E
  | r :: rs => stageRows (stageRow false E 0 r) rs

theorem stageRow_true (E : Nat → List Bytes) (cs : List Cell) : ∀ j, stageRow true E j cs = E := by
  induction cs with
  | nil => intro j; rfl
  | cons c cs ih => intro j; simp [stageRow, stage, ih]

theorem rowCap_true (offs : List Nat) (E : Nat → List Bytes) (cs : List Cell) : ∀ j, RowCap offs true E j cs := by
  induction cs with
  | nil => intro j; trivial
  | cons c cs ih => intro j; exact ⟨fun h => (by cases h), (by simpa [stage] using ih (j + 1))⟩

theorem renderCells_cons (c : Cell) (cs : List Cell) :
    ∃ t B, (t = SEP ∨ t = NL) ∧ renderCells (c :: cs) = renderCell c ++ t :: B := by
  cases cs with
  | nil => exact ⟨NL, [], Or.inr rfl, rfl⟩
  | cons d ds => exact ⟨SEP, renderCells (d :: ds), Or.inl rfl, rfl⟩

theorem leadWs_renderCells_lt (cs : List Cell) (hne : cs ≠ []) (X : Bytes) :
    leadWs (renderCells cs ++ X) < (renderCells cs ++ X).length := by
  cases cs with
  | nil => exact absurd rfl hne
  | cons c cs =>
    obtain ⟨t, B, ht, hsp⟩ := renderCells_cons c cs
    have h := congrArg List.length (lead_split c t (B ++ X) ht)
    rw [hsp, List.append_assoc, List.cons_append]
    simp only [List.length_append, List.length_cons] at h ⊢
    unfold leadWs
    show (List.takeWhile isWs _).length < _
    omega

theorem stageRow_col (cs : List Cell) : ∀ (E : Nat → List Bytes) (j c : Nat),
    stageRow false E j cs c = E c ++ (if j ≤ c then ((cs.map Cell.value)[c - j]?).toList else []) := by
  induction cs with
  | nil => intro E j c; simp [stageRow]
  | cons d cs ih =>
    intro E j c
    rw [stageRow, ih]
    simp only [stage, Bool.false_eq_true, if_false]
    rcases Nat.lt_trichotomy c j with h | h | h
    · have h1 : ¬ j + 1 ≤ c := by omega
      have h2 : ¬ j ≤ c := by omega
      simp [h1, h2, upd_ne _ _ (Nat.ne_of_lt h)]
    · subst h
      have h1 : ¬ c + 1 ≤ c := by omega
      simp [h1, upd_self]
    · have h1 : j + 1 ≤ c := by omega
      have h2 : j ≤ c := by omega
      have h3 : c - j = (c - (j + 1)) + 1 := by omega
      simp [h1, h2, upd_ne _ _ (Nat.ne_of_gt h), h3]

theorem column_cons (r : List Bytes) (rs : List (List Bytes)) (c : Nat) :
    column (r :: rs) c = (r[c]?).toList ++ column rs c := by
  unfold column
  cases h : r[c]? <;> simp [h]

theorem stageRows_col (rows : List (List Cell)) : ∀ (E : Nat → List Bytes) (c : Nat),
    stageRows E rows c = E c ++ column (values rows) c := by
  induction rows with
  | nil => intro E c; simp [stageRows, values, column]
  | cons r rs ih =>
    intro E c
    rw [stageRows, ih, stageRow_col]
    simp [values, column_cons]

theorem stageRows_snoc (r : List Cell) (l : List (List Cell)) : ∀ E : Nat → List Bytes,
    stageRows E (l ++ [r]) = stageRow false (stageRows E l) 0 r := by
  induction l with
  | nil => intro E; rfl
  | cons x xs ih => intro E; simp [stageRows, ih]

theorem column_part_le (x y z : List (List Cell)) (c : Nat) :
    (column (values y) c).flatten.length ≤ (column (values (x ++ y ++ z)) c).flatten.length := by
  simp only [column, values, List.map_append, List.filterMap_append, List.flatten_append, List.length_append]
  omega

theorem stageRow_self (E' : Nat → List Bytes) (j : Nat) (c : Cell) (cs : List Cell) :
    (stageRow false E' j (c :: cs) j).flatten.length = (E' j).flatten.length + c.value.length := by
  rw [stageRow_col]
  simp

/-- a record in which the call stops: its text is cut after `m` bytes (the window ends, `X = []`), or it is complete but
    does not fit the budgets (`¬ RowCap`) -/
theorem row_stop {src : Bytes} {offs : List Nat} {maxrow ncols : Nat} {k np : Nat} {E : Nat → List Bytes} (cs : List Cell) :
    ∀ (m : Nat) (A0 X : Bytes) (s : KS) (j : Nat) (E' : Nat → List Bytes),
      cs ≠ [] → (∀ c ∈ cs, c.WF) → j + cs.length = ncols → m ≤ (renderCells cs).length →
      (m < (renderCells cs).length → X = []) →
      (m < (renderCells cs).length ∨ ¬ RowCap offs false E' j cs) →
      src = A0 ++ ((renderCells cs).take m ++ X) →
      CellStart src offs maxrow ncols s (A0 ++ ((renderCells cs).take m ++ X).takeWhile isWs) j false k np E' → Ext E E' →
      StrictCaps offs ncols E' →
      ∃ n s', KSteps src offs maxrow n s s' ∧
        ((m < (renderCells cs).length ∧ WindowEnd offs maxrow ncols s' k np E) ∨
         ∃ j', FullEnd offs maxrow ncols s' k np E j' ∧
           offAt offs (j' + 1) ≤ offAt offs j' + (stageRow false E' j cs j').flatten.length) := by
  induction cs with
  | nil => intro _ _ _ _ _ _ h; exact absurd rfl h
  | cons c cs ih =>
    intro m A0 X s j E' _ hwf hlen hm hX hwhy hsrc hcs hext hstr
    have hwfc := hwf c (by simp)
    have hjlt : j < ncols := by simp at hlen; omega
    by_cases hmc : m ≤ (renderCell c).length
    · -- the cut is in (or right behind) this cell
      obtain ⟨t, B, _, hsp⟩ := renderCells_cons c cs
      have hmlt : m < (renderCells (c :: cs)).length := by rw [hsp]; simp; omega
      have htk : (renderCells (c :: cs)).take m = (renderCell c).take m := by
        rw [hsp]; exact List.take_append_of_le_length hmc
      rw [hX hmlt, List.append_nil, htk] at hsrc hcs
      obtain ⟨n, s', hsteps, hend⟩ := cell_tail c hwfc m hsrc hcs hext (hstr j hjlt)
      refine ⟨n, s', hsteps, ?_⟩
      rcases hend with h | ⟨h, hb⟩
      · exact Or.inl ⟨hmlt, h⟩
      · exact Or.inr ⟨j, h, by rw [stageRow_self]; omega⟩
    · cases cs with
      | nil =>
        -- the last cell of a complete record: it cannot fit
        have hlenrc : (renderCells [c]).length = (renderCell c).length + 1 := by simp [renderCells]
        have hmeq : m = (renderCell c).length + 1 := by omega
        have hnocap : ¬ (offAt offs j + (E' j).flatten.length + c.value.length < offAt offs (j + 1)) := by
          rcases hwhy with h | h
          · omega
          · intro hc
            exact h ⟨fun _ => hc, trivial⟩
        have htk : (renderCells [c]).take m = renderCell c ++ [NL] := by
          rw [hmeq]; simp only [renderCells]
          exact List.take_of_length_le (by simp)
        rw [htk] at hsrc hcs
        have hrc : renderCell c ++ [NL] ++ X = renderCell c ++ NL :: X := by simp
        rw [hrc] at hsrc hcs
        obtain ⟨n, s', hsteps, hend⟩ := cell_full c hwfc A0 X NL (Or.inr rfl) hsrc hcs hext (hstr j hjlt) (by omega)
        exact ⟨n, s', hsteps, Or.inr ⟨j, hend, by rw [stageRow_self]; omega⟩⟩
      | cons d ds =>
        have hrc : renderCells (c :: d :: ds) = renderCell c ++ SEP :: renderCells (d :: ds) := by simp [renderCells]
        obtain ⟨m', rfl⟩ : ∃ m', m = (renderCell c).length + (m' + 1) := ⟨m - (renderCell c).length - 1, by omega⟩
        have htk : (renderCells (c :: d :: ds)).take ((renderCell c).length + (m' + 1)) =
            renderCell c ++ SEP :: (renderCells (d :: ds)).take m' := by
          rw [hrc, take_len_add]
          simp
        have hlen2 : (renderCells (c :: d :: ds)).length = (renderCell c).length + 1 + (renderCells (d :: ds)).length := by
          rw [hrc]; simp; omega
        have hm2 : m' ≤ (renderCells (d :: ds)).length := by omega
        rw [htk, List.append_assoc, List.cons_append] at hsrc hcs
        generalize hB : (renderCells (d :: ds)).take m' ++ X = B at hsrc hcs
        by_cases hcap : offAt offs j + (E' j).flatten.length + c.value.length < offAt offs (j + 1)
        · obtain ⟨n1, s1, hsteps1, hcs1⟩ :=
            cell_sep (offs := offs) (maxrow := maxrow) c hwfc A0 B s j false k np E' hsrc hcs
              (by simp at hlen; omega) (fun _ => hcap)
          have hsrc1 : src = (A0 ++ (renderCell c ++ [SEP])) ++ B := by rw [hsrc]; simp
          rw [← hB] at hcs1 hsrc1
          obtain ⟨n2, s2, hsteps2, hend⟩ :=
            ih m' (A0 ++ (renderCell c ++ [SEP])) X s1 (j + 1) (stage false E' j c.value)
              (by simp) (fun x hx => hwf x (by simp [hx])) (by simp at hlen ⊢; omega) hm2
              (fun h => hX (by omega))
              (by
                rcases hwhy with h | h
                · left; omega
                · right
                  intro hr
                  exact h ⟨fun _ => hcap, hr⟩)
              hsrc1 hcs1 (hext.stage j c.value) (hstr.stage hcap)
          refine ⟨n1 + n2, s2, StepsN.trans hsteps1 hsteps2, ?_⟩
          rcases hend with ⟨h1, h2⟩ | h
          · exact Or.inl ⟨by omega, h2⟩
          · exact Or.inr h
        · obtain ⟨n, s', hsteps, hend⟩ := cell_full c hwfc A0 B SEP (Or.inl rfl) hsrc hcs hext (hstr j hjlt) (by omega)
          exact ⟨n, s', hsteps, Or.inr ⟨j, hend, by rw [stageRow_self]; omega⟩⟩

theorem strictCaps_stageRow {offs : List Nat} {ncols : Nat} (cs : List Cell) : ∀ (E : Nat → List Bytes) (j : Nat),
    StrictCaps offs ncols E → RowCap offs false E j cs → StrictCaps offs ncols (stageRow false E j cs) := by
  induction cs with
  | nil => intro E j h _; exact h
  | cons c cs ih =>
    intro E j h hcap
    exact ih _ _ (h.stage (hcap.1 rfl)) hcap.2

theorem rows_run {src : Bytes} {offs : List Nat} {maxrow ncols : Nat} (hnc : 0 < ncols) (rows : List (List Cell)) :
    ∀ (A0 X : Bytes) (s : KS) (k : Nat) (E : Nat → List Bytes),
      (∀ r ∈ rows, r.length = ncols ∧ ∀ c ∈ r, c.WF) →
      src = A0 ++ (render rows ++ X) →
      CellStart src offs maxrow ncols s (A0 ++ (render rows ++ X).takeWhile isWs) 0 false k A0.length E →
      StrictCaps offs ncols E →
      ∃ n s' a, KSteps src offs maxrow n s s' ∧ a ≤ rows.length ∧
        StrictCaps offs ncols (stageRows E (rows.take a)) ∧
        ((a = rows.length ∧
          CellStart src offs maxrow ncols s' ((A0 ++ render rows) ++ X.takeWhile isWs) 0 false (k + a)
            (A0 ++ render rows).length (stageRows E rows) ∧
          StrictCaps offs ncols (stageRows E rows))
         ∨ (0 < a ∧ k + a = maxrow ∧
            KEnd offs maxrow ncols s' maxrow (A0 ++ render (rows.take a)).length (stageRows E (rows.take a)) true false none)
         ∨ (a < rows.length ∧ ∃ j,
            FullEnd offs maxrow ncols s' (k + a) (A0 ++ render (rows.take a)).length (stageRows E (rows.take a)) j ∧
            offAt offs (j + 1) ≤ offAt offs j + (stageRows E (rows.take (a + 1)) j).flatten.length)) := by
  induction rows with
  | nil =>
    intro A0 X s k E _ _ hcs hstr
    exact ⟨0, s, 0, .refl _, Nat.le_refl _, by simpa [stageRows] using hstr, Or.inl ⟨rfl, by simpa [render, stageRows] using hcs, by simpa [stageRows] using hstr⟩⟩
  | cons r rs ih =>
    intro A0 X s k E htab hsrc hcs hstr
    obtain ⟨hrlen, hrwf⟩ := htab r (by simp)
    have hrne : r ≠ [] := List.ne_nil_of_length_pos (by omega)
    have hrend : render (r :: rs) ++ X = renderCells r ++ (render rs ++ X) := by simp [render]
    have hkrow := hcs.krow rfl
    by_cases hcap : RowCap offs false E 0 r
    · rw [hrend] at hsrc hcs
      obtain ⟨n1, s1, hsteps1, hle⟩ :=
        row_cells (offs := offs) (maxrow := maxrow) r A0 (render rs ++ X) s 0 false k A0.length E hrne hrwf (by omega) hsrc hcs hcap
      simp only [Bool.false_eq_true, if_false] at hle
      rcases hle with ⟨hk, hcs1⟩ | ⟨hkeq, hend⟩
      · have hsrc1 : src = (A0 ++ renderCells r) ++ (render rs ++ X) := by rw [hsrc]; simp
        obtain ⟨n2, s2, a, hsteps2, hale, hcaps, hout⟩ :=
          ih (A0 ++ renderCells r) X s1 (k + 1) (stageRow false E 0 r)
            (fun x hx => htab x (by simp [hx])) hsrc1 hcs1 (strictCaps_stageRow r E 0 hstr hcap)
        refine ⟨n1 + n2, s2, a + 1, StepsN.trans hsteps1 hsteps2, by simp; omega, by simpa [stageRows] using hcaps, ?_⟩
        have hA : ∀ l : List (List Cell), A0 ++ renderCells r ++ render l = A0 ++ render (r :: l) := by
          intro l; simp [render]
        rcases hout with ⟨ha, hcs2, hstr2⟩ | ⟨hapos, hka, hend⟩ | ⟨halt, j, hend, hb⟩
        · left
          refine ⟨by simp [ha], ?_, by simpa [stageRows] using hstr2⟩
          rw [hA] at hcs2
          have hk' : k + 1 + a = k + (a + 1) := by omega
          rw [hk'] at hcs2
          simpa [stageRows] using hcs2
        · right; left
          refine ⟨by omega, by omega, ?_⟩
          rw [hA] at hend
          simpa [stageRows] using hend
        · right; right
          refine ⟨by simp; omega, j, ?_, by simpa [stageRows] using hb⟩
          have hk' : k + 1 + a = k + (a + 1) := by omega
          rw [hk', hA] at hend
          simpa [stageRows] using hend
      · -- this record fills the index buffer
        refine ⟨n1, s1, 1, hsteps1, by simp,
          by simpa [stageRows] using strictCaps_stageRow r E 0 hstr hcap, Or.inr (Or.inl ⟨by omega, hkeq, ?_⟩)⟩
        simpa [render, stageRows] using hend
    · -- this record does not fit the value budgets
      have htk : (renderCells r).take (renderCells r).length = renderCells r := List.take_length
      have hsrc0 : src = A0 ++ ((renderCells r).take (renderCells r).length ++ (render rs ++ X)) := by
        rw [htk, ← hrend]; exact hsrc
      have hcs0 : CellStart src offs maxrow ncols s
          (A0 ++ ((renderCells r).take (renderCells r).length ++ (render rs ++ X)).takeWhile isWs) 0 false k A0.length E := by
        rw [htk, ← hrend]; exact hcs
      obtain ⟨n1, s1, hsteps1, hend⟩ :=
        row_stop (offs := offs) (maxrow := maxrow) (E := E) r (renderCells r).length A0 (render rs ++ X) s 0 E hrne hrwf
          (by omega) (Nat.le_refl _) (fun h => absurd h (Nat.lt_irrefl _)) (Or.inr hcap) hsrc0 hcs0 (Ext.refl _) hstr
      rcases hend with ⟨h, _⟩ | ⟨j, hend, hb⟩
      · exact absurd h (Nat.lt_irrefl _)
      · refine ⟨n1, s1, 0, hsteps1, Nat.zero_le _, by simpa [stageRows] using hstr, Or.inr (Or.inr ⟨by simp, j, ?_, ?_⟩)⟩
        · simpa [stageRows, render] using hend
        · simpa [stageRows] using hb

end Exetera.Csv
