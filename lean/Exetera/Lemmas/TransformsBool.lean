import Exetera.Lemmas.TransformsBasic
/-! C06, `numeric_bool_transform`. Every alternative list of the literal table `Gen.boolLiterals` holds, with a letter,
both its cases, so the cascade only sees the lower-cased text, and on lower-case text the table lists exactly the
documented words (`boolLit_eq_boolValue`). The two blank-trimming loops cut out `trimBlank cell` without reading
outside the cell. -/
namespace Exetera.Transforms
open Exetera Exetera.Spec.Transforms

def expand : List (List Nat) → List Bytes
  | [] => [[]]
  | alts :: rest => alts.flatMap (fun a => (expand rest).map (a :: ·))

theorem mem_expand (alts : List (List Nat)) (val : Bytes) :
    val ∈ expand alts ↔
      (alts.length == val.length && (List.zip alts val).all (fun ab => ab.1.contains ab.2)) = true := by
  induction alts generalizing val with
  | nil => cases val <;> simp [expand]
  | cons a rest ih =>
    cases val with
    | nil => simp [expand]
    | cons b vs =>
      simp only [expand, List.mem_flatMap, List.mem_map, List.cons.injEq, List.length_cons, List.zip_cons_cons,
        List.all_cons]
      constructor
      · rintro ⟨x, hx, t, ht, rfl, rfl⟩
        have := (ih t).mp ht
        simp only [Bool.and_eq_true, beq_iff_eq] at this ⊢
        refine ⟨by omega, ?_, this.2⟩
        simpa using hx
      · intro h
        simp only [Bool.and_eq_true, beq_iff_eq] at h
        refine ⟨b, by simpa using h.2.1, vs, (ih vs).mpr ?_, rfl, rfl⟩
        simp only [Bool.and_eq_true, beq_iff_eq]
        exact ⟨by omega, h.2.2⟩

def rowLits (row : Nat × List (List Nat) × Int) : List (Bytes × Int) :=
  if row.1 == row.2.1.length then (expand row.2.1).map (fun x => (x, row.2.2)) else []

theorem lookup_rowLits (row : Nat × List (List Nat) × Int) (val : Bytes) :
    lookup (rowLits row) val = if rowAccepts row val then some row.2.2 else none := by
  have hacc : rowAccepts row val = true ↔ row.1 = row.2.1.length ∧ val ∈ expand row.2.1 := by
    simp only [rowAccepts, mem_expand, Bool.and_eq_true, beq_iff_eq]
    exact ⟨fun ⟨⟨h1, h2⟩, h3⟩ => ⟨h1.trans h2.symm, h2, h3⟩, fun ⟨h1, h2, h3⟩ => ⟨⟨h1.trans h2, h2⟩, h3⟩⟩
  unfold rowLits
  split
  · rename_i hk
    simp only [lookup_map_const, hacc, beq_iff_eq.mp hk, true_and]
  · rename_i hk
    have hne : ¬ row.1 = row.2.1.length := fun e => hk (beq_iff_eq.mpr e)
    simp only [hacc, hne, false_and, if_false]; rfl

theorem boolLitIn_eq_lookup (table : List (Nat × List (List Nat) × Int)) (val : Bytes) :
    boolLitIn table val = lookup (table.flatMap rowLits) val := by
  induction table with
  | nil => simp [boolLitIn, lookup]
  | cons row t ih =>
    simp only [List.flatMap_cons, lookup_append, lookup_rowLits]
    simp only [boolLitIn, List.find?_cons] at ih ⊢
    cases h : rowAccepts row val <;> simp [ih]

def caseAlts (c : Nat) : List Nat := if 97 ≤ c ∧ c ≤ 122 then [c - 32, c] else [c]

def plain (c : Nat) : Bool := !(65 ≤ c && c ≤ 90)

theorem mem_caseAlts (b c : Nat) (hc : plain c = true) : (caseAlts c).contains b = true ↔ lower b = c := by
  simp only [plain, Bool.not_eq_true', Bool.and_eq_false_iff, decide_eq_false_iff_not] at hc
  unfold caseAlts lower
  split <;> split <;> simp <;> omega

theorem contains_flatMap_caseAlts (L : List Nat) (hL : ∀ c ∈ L, plain c = true) (b : Nat) :
    (L.flatMap caseAlts).contains b = L.contains (lower b) := by
  rw [Bool.eq_iff_iff]
  simp only [List.contains_iff_mem, List.mem_flatMap]
  constructor
  · rintro ⟨c, hc, hb⟩
    rw [(mem_caseAlts b c (hL c hc)).mp (List.contains_iff_mem.mpr hb)]; exact hc
  · intro h
    exact ⟨_, h, List.contains_iff_mem.mp ((mem_caseAlts b _ (hL _ h)).mpr rfl)⟩

def caseClosed (row : Nat × List (List Nat) × Int) : Bool :=
  row.2.1.all fun alts => alts == (alts.filter plain).flatMap caseAlts

def lowerRow (row : Nat × List (List Nat) × Int) : Nat × List (List Nat) × Int :=
  (row.1, row.2.1.map (·.filter plain), row.2.2)

theorem rowAccepts_lower (row : Nat × List (List Nat) × Int) (h : caseClosed row = true) (val : Bytes) :
    rowAccepts row val = rowAccepts (lowerRow row) (val.map lower) := by
  obtain ⟨k, altss, v⟩ := row
  simp only [caseClosed, List.all_eq_true, beq_iff_eq] at h
  simp only [rowAccepts, lowerRow, List.length_map]
  congr 1
  induction altss generalizing val with
  | nil => rfl
  | cons alts altss ih =>
    cases val with
    | nil => rfl
    | cons b val =>
      have ha := h alts (by simp)
      simp only [List.map_cons, List.zip_cons_cons, List.all_cons, ih val (fun a ha => h a (by simp [ha]))]
      congr 1
      conv => lhs; rw [ha]
      exact contains_flatMap_caseAlts _ (fun c hc => (List.mem_filter.mp hc).2) b

theorem boolLitIn_lower (table : List (Nat × List (List Nat) × Int)) (h : ∀ row ∈ table, caseClosed row = true)
    (val : Bytes) : boolLitIn table val = boolLitIn (table.map lowerRow) (val.map lower) := by
  induction table with
  | nil => rfl
  | cons row t ih =>
    simp only [boolLitIn, List.map_cons, List.find?_cons, ← rowAccepts_lower row (h row (by simp)) val] at ih ⊢
    cases rowAccepts row val
    · exact ih (fun r hr => h r (by simp [hr]))
    · rfl

theorem boolLit_eq_boolValue (val : Bytes) : boolLit val = boolValue val := by
  rw [boolLit, boolLitIn_lower _ (by decide) val, boolLitIn_eq_lookup, boolValue]
  exact lookup_congr (by decide) (by decide) _

def isBlank (b : Nat) : Bool := b == 32

def leadN (cell : Bytes) : Nat := (cell.takeWhile isBlank).length
def trailE (cell : Bytes) : Nat := (cell.reverse.dropWhile isBlank).length

theorem boolBlank_eq : Gen.boolBlank = 32 := rfl

theorem skipLead_spec (vals : Bytes) (base : Nat) (suf : Bytes) (k : Nat)
    (h : ∀ j, j < suf.length → vals[base + k + j]? = suf[j]?) :
    skipLead vals base suf.length k = .ok (k + (suf.takeWhile isBlank).length) := by
  induction suf generalizing k with
  | nil => simp [skipLead]
  | cons b t ih =>
    have h0 := h 0 (by simp)
    simp only [Nat.add_zero, List.getElem?_cons_zero] at h0
    simp only [List.length_cons]
    rw [skipLead]
    simp only [getE, h0, boolBlank_eq]
    by_cases hb : b = 32
    · have : (b == 32) = true := by simp [hb]
      simp only [this, if_true]
      rw [ih (k + 1) (fun j hj => by
        have := h (j + 1) (by simp; omega)
        simp only [List.getElem?_cons_succ] at this
        rw [← this]; congr 1; omega)]
      simp [List.takeWhile, isBlank, hb]; omega
    · have : (b == 32) = false := by simp [hb]
      simp [this, List.takeWhile, isBlank]

theorem skipTrail_spec (vals : Bytes) (base : Nat) (r : Bytes)
    (h : ∀ j, j < r.length → vals[base + j]? = r.reverse[j]?) :
    skipTrail vals base r.length = .ok (r.dropWhile isBlank).length := by
  induction r with
  | nil => simp [skipTrail]
  | cons b r ih =>
    have h0 := h r.length (by simp)
    simp only [List.reverse_cons] at h0
    rw [List.getElem?_append_right (by simp)] at h0
    simp only [List.length_reverse, Nat.sub_self, List.getElem?_cons_zero] at h0
    simp only [List.length_cons]
    rw [skipTrail]
    simp only [getE, h0, boolBlank_eq]
    by_cases hb : b = 32
    · have : (b == 32) = true := by simp [hb]
      simp only [this, if_true]
      rw [ih (fun j hj => by
        have := h j (by simp; omega)
        simp only [List.reverse_cons] at this
        rw [List.getElem?_append_left (by simpa using hj)] at this
        exact this)]
      simp [List.dropWhile, isBlank, hb]
    · have : (b == 32) = false := by simp [hb]
      simp [this, List.dropWhile, isBlank]

theorem dropWhile_eq_drop (p : Nat → Bool) (l : Bytes) : l.dropWhile p = l.drop (l.takeWhile p).length := by
  induction l with
  | nil => rfl
  | cons a l ih =>
    simp only [List.dropWhile, List.takeWhile]
    cases p a <;> simp [ih]

theorem reverse_dropWhile_reverse (p : Nat → Bool) (d : Bytes) :
    (d.reverse.dropWhile p).reverse = d.take (d.reverse.dropWhile p).length := by
  have h := List.takeWhile_append_dropWhile (p := p) (l := d.reverse)
  have : d = (d.reverse.dropWhile p).reverse ++ (d.reverse.takeWhile p).reverse := by
    have h2 := congrArg List.reverse h
    rw [List.reverse_append, List.reverse_reverse] at h2
    exact h2.symm
  conv => rhs; rw [this]
  rw [List.take_left' (by simp)]

theorem trailE_split (cell : Bytes) :
    trailE cell = if ((cell.dropWhile isBlank).reverse.dropWhile isBlank).isEmpty then 0
      else ((cell.dropWhile isBlank).reverse.dropWhile isBlank).length + leadN cell := by
  have hsplit : cell = cell.takeWhile isBlank ++ cell.dropWhile isBlank := (List.takeWhile_append_dropWhile).symm
  unfold trailE leadN
  conv => lhs; rw [hsplit]
  rw [List.reverse_append, List.dropWhile_append]
  split
  · rename_i he
    have : (cell.takeWhile isBlank).reverse.dropWhile isBlank = [] :=
      dropWhile_of_all (by rw [List.all_reverse]; exact List.all_takeWhile)
    simp [this]
  · simp

theorem trim_eq_slice (cell : Bytes) : trimBlank cell = slice cell (leadN cell) (trailE cell) := by
  have e32 : (fun x : Nat => x == 32) = isBlank := rfl
  unfold trimBlank
  rw [e32, reverse_dropWhile_reverse isBlank (cell.dropWhile isBlank), trailE_split]
  split
  · rename_i he
    have : (cell.dropWhile isBlank).reverse.dropWhile isBlank = [] := by simpa using he
    simp [this, slice]
  · simp only [slice, Nat.add_sub_cancel]
    rw [dropWhile_eq_drop isBlank cell]; rfl

theorem trailE_le_length (cell : Bytes) : trailE cell ≤ cell.length := by
  unfold trailE
  have := (List.dropWhile_sublist isBlank (l := cell.reverse)).length_le
  simpa using this

theorem trim_nil_iff (cell : Bytes) : trimBlank cell = [] ↔ trailE cell ≤ leadN cell := by
  have h1 := trailE_le_length cell
  have h2 : leadN cell ≤ cell.length := (List.takeWhile_sublist isBlank).length_le
  rw [trim_eq_slice, ← List.length_eq_zero_iff, slice_length]
  omega

/-- the outcome of the trimming and literal lookup of one row -/
theorem boolCell_spec (c : Chunk) (i s : Nat) (cell : Bytes) (rest : List Bytes) (h : EncFrom c i s (cell :: rest)) :
    boolCell c i = .ok (if trimBlank cell = [] then (none, true) else (boolLit (trimBlank cell), false)) := by
  have h0 := h.start
  have h1 := h.next
  have hbyte := h.byte
  obtain ⟨_, hlen, hsl, _⟩ := h
  simp only [boolCell, getE, h0, h1, Nat.add_sub_cancel_left]
  have hl := skipLead_spec c.vals (c.off + s) cell 0 (fun j hj => by simpa using hbyte j hj)
  simp only [Nat.zero_add] at hl
  rw [hl]
  have ht := skipTrail_spec c.vals (c.off + s) cell.reverse (fun j hj => by
    simp only [List.length_reverse] at hj
    simpa using hbyte j hj)
  simp only [List.length_reverse] at ht
  rw [ht]
  simp only
  have e1 : (cell.takeWhile isBlank).length = leadN cell := rfl
  have e2 : (cell.reverse.dropWhile isBlank).length = trailE cell := rfl
  rw [e1, e2]
  by_cases hemp : trailE cell ≤ leadN cell
  · simp [hemp, (trim_nil_iff cell).mpr hemp]
  · have hne : ¬ trimBlank cell = [] := fun hh => hemp ((trim_nil_iff cell).mp hh)
    have hle := trailE_le_length cell
    simp only [hemp, if_false, hne]
    have hin : c.off + s + trailE cell ≤ c.vals.length := by omega
    simp only [sliceE, hin, if_true]
    have := slice_slice c.vals (c.off + s) (c.off + s + cell.length) (leadN cell) (trailE cell) (Nat.add_le_add_left hle _)
    rw [hsl] at this
    rw [← this, ← trim_eq_slice]

theorem boolRows_spec (c : Chunk) (mode : Mode) (inv : Bool) (capE capV : Nat) (rest : List Bytes) (i s : Nat)
    (el va : List Bool) (h : EncFrom c i s rest) (hE : i + rest.length ≤ capE) (hV : i + rest.length ≤ capV) :
    boolRows c mode inv capE capV rest.length i el va =
      match numericColumn mode inv (rest.map boolClass) with
      | some (vs, fs) => .ok (el ++ vs, va ++ fs)
      | none => .error (.other "Exception") := by
  induction rest generalizing i s el va with
  | nil => simp [boolRows, numericColumn]
  | cons cell rest ih =>
    have hrest := h.2.2.2
    simp only [List.length_cons] at hE hV
    have hE1 : ¬ capE ≤ i := by omega
    have hV1 : ¬ capV ≤ i := by omega
    simp only [List.length_cons, List.map_cons]
    rw [boolRows, boolCell_spec c i s cell rest h]
    have ih' := fun el va => ih (i + 1) (s + cell.length) el va hrest (by omega) (by omega)
    rw [numericColumn_cons]
    generalize numericColumn mode inv (rest.map boolClass) = col at ih' ⊢
    by_cases he : trimBlank cell = []
    · have hk : boolClass cell = .empty := by simp [boolClass, he]
      simp only [he, if_true, hk, hE1, hV1, if_false]
      cases mode <;> cases col <;> simp [numericCell, consCell, ih']
    · simp only [he, if_false, boolLit_eq_boolValue, hE1, hV1]
      cases hv : boolValue (trimBlank cell) with
      | some v =>
        have hk : boolClass cell = .value (v == 1) := by simp [boolClass, he, hv]
        simp only [hk]
        cases col <;> simp [numericCell, consCell, ih']
      | none =>
        have hk : boolClass cell = .garbage := by simp [boolClass, he, hv]
        simp only [hk]
        cases mode <;> cases col <;> simp [numericCell, consCell, ih']

/-- `numeric_bool_transform` on a well-formed chunk, with result arrays of at least `written_row_count` elements (the only
    caller allocates exactly that many) -/
theorem boolTransform_spec (c : Chunk) (mode : Mode) (inv : Bool) (capE capV : Nat) (cells : List Bytes)
    (h : Encodes c cells) (hE : c.rows ≤ capE) (hV : c.rows ≤ capV) :
    boolTransform c mode inv capE capV =
      match numericColumn mode inv (cells.map boolClass) with
      | some r => .ok r
      | none => .error (.other "Exception") := by
  obtain ⟨hr, ⟨s0, he, _⟩, hcol⟩ := h
  rw [boolTransform, withCol_ok c _ _ _ hcol, hr,
    boolRows_spec c mode inv capE capV cells 0 s0 [] [] he (by omega) (by omega)]
  cases numericColumn mode inv (cells.map boolClass) with
  | none => rfl
  | some r => simp

end Exetera.Transforms
