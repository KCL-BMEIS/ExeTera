import Exetera.Lemmas.C19StreamDriver
/-!
  C19, legacy streamed mapper `ordered_map_valid_stream_old` + `ordered_map_valid_partial_old`: for every chunk size ≥ 1
  and every in-range map whose valid entries do not decrease (the map of a left join against a duplicate-free right
  column), the column written is `Spec.mapSpec` — the value `map_valid` returns (`MapValid.mapValid_mapSpec`).

  The marker must not be a row number of the source (`inv < 0 ∨ len(data) ≤ inv`; `INVALID_INDEX = 1 << 62` in
  `Session`): the driver fetches the next data chunk when the last map entry it looked at is `≥ df_range[1]` and
  `< len(data)` without testing it against the marker.
-/
namespace Exetera.JoinOld
open Exetera Exetera.Spec Exetera.Join Exetera.MapValid

/-- the data view `dfc = data[d : d + len(dfc)]` -/
structure DWin {α} (data : List α) (d : Nat) (dfc : List α) : Prop where
  le : d + dfc.length ≤ data.length
  get : ∀ k, k < dfc.length → dfc[k]? = data[d + k]?

/-- **one `ordered_map_valid_partial_old` call** from any position: it appends the mapped values of a prefix of the rest
    of the map chunk; either the whole rest is consumed (and the last entry looked at is the marker or a row of the data
    view) or it stops at a valid entry beyond the data view and returns it. No out-of-bounds access. -/
theorem partialOldMapFrom_spec {α} (data : List α) (d : Nat) (dfc : List α) (inv : Int) (zero : α) (cap : Nat)
    (hw : DWin data d dfc) :
    ∀ (vs : List Int) (acc : List α) (last : Int),
      (∀ v ∈ vs, v ≠ inv → (d : Int) ≤ v ∧ v < data.length) → acc.length + vs.length ≤ cap →
      ∃ ys last', partialOldMapFrom d dfc inv zero cap vs acc last = .ok (acc ++ ys, last') ∧
        ys.length ≤ vs.length ∧ mapSpec data inv zero (vs.take ys.length) = some ys ∧
        ((ys.length = vs.length ∧ (vs = [] → last' = last) ∧
            (vs ≠ [] → last' = inv ∨ last' < ((d + dfc.length : Nat) : Int))) ∨
          (∃ v, vs[ys.length]? = some v ∧ v ≠ inv ∧ ((d + dfc.length : Nat) : Int) ≤ v ∧ last' = v)) := by
  intro vs
  induction vs with
  | nil =>
    intro acc last _ _
    exact ⟨[], last, by simp [partialOldMapFrom], Nat.le_refl _, rfl, Or.inl ⟨rfl, fun _ => rfl, fun h => absurd rfl h⟩⟩
  | cons v vs ih =>
    intro acc last hr hcap
    have hcap' : acc.length + 1 + vs.length ≤ cap := by
      rw [List.length_cons] at hcap
      omega
    have hr' : ∀ v' ∈ vs, v' ≠ inv → (d : Int) ≤ v' ∧ v' < data.length := fun v' hv' => hr v' (by simp [hv'])
    by_cases hbig : v ≠ inv ∧ v ≥ ((d + dfc.length : Nat) : Int)
    · -- a valid entry beyond the data view: the call returns it, nothing more is consumed
      have hne : (v != inv) = true := by simpa using hbig.1
      refine ⟨[], v, ?_, Nat.zero_le _, rfl, Or.inr ⟨v, by simp, hbig.1, hbig.2, rfl⟩⟩
      simp only [partialOldMapFrom, hne, if_true, hbig.2]
      simp
    · -- otherwise the entry is consumed with its specified value `x` (the buffer's zero for the marker)
      obtain ⟨x, hl, hstep⟩ : ∃ x, lookup data inv zero v = some x ∧
          partialOldMapFrom d dfc inv zero cap (v :: vs) acc last = partialOldMapFrom d dfc inv zero cap vs (acc ++ [x]) v := by
        by_cases hvi : v = inv
        · exact ⟨zero, by simp [lookup, hvi], by simp [partialOldMapFrom, hvi]⟩
        · have hne : (v != inv) = true := by simpa using hvi
          have hsmall : ¬ v ≥ ((d + dfc.length : Nat) : Int) := fun h => hbig ⟨hvi, h⟩
          obtain ⟨hdv, hvd⟩ := hr v (by simp) hvi
          obtain ⟨x, hx1, hx2⟩ := getI_row dfc (v - (d : Int)) "data_field[val - d]" (by omega) (by omega)
          have hk : (v - (d : Int)).toNat < dfc.length := by omega
          have hx3 : data[v.toNat]? = some x := by
            rw [← hx1, hw.get _ hk]
            congr 1
            omega
          have hacc : acc.length < cap := by omega
          exact ⟨x, by simp [lookup, hvi, (by omega : 0 ≤ v), hx3],
            by simp only [partialOldMapFrom, hne, if_true, hsmall, if_false, hx2, hacc]⟩
      obtain ⟨ys, last', hrun, hle, hspec, hcase⟩ := ih (acc ++ [x]) v hr' (by rw [List.length_append]; exact hcap')
      refine ⟨x :: ys, last', ?_, Nat.succ_le_succ hle, ?_, ?_⟩
      · rw [hstep, hrun, List.append_assoc]; rfl
      · simp only [List.length_cons, List.take_succ_cons, mapSpec, hl, hspec]
      · rcases hcase with ⟨h1, h2, h3⟩ | ⟨w, h1, h2, h3, h4⟩
        · refine Or.inl ⟨congrArg Nat.succ h1, fun h => by simp at h, fun _ => ?_⟩
          by_cases hvs : vs = []
          · rw [h2 hvs]; omega
          · exact h3 hvs
        · exact Or.inr ⟨w, by simpa using h1, h2, h3, h4⟩

/-- the call as the driver makes it: on a non-empty map chunk, with an empty buffer -/
theorem partialOldMap_spec {α} (data : List α) (d : Nat) (dfc : List α) (inv : Int) (zero : α) (cap : Nat)
    (hw : DWin data d dfc) (mfc : List Int) (hne : mfc ≠ [])
    (hr : ∀ v ∈ mfc, v ≠ inv → (d : Int) ≤ v ∧ v < data.length) (hcap : mfc.length ≤ cap) :
    ∃ ys dd, partialOldMap d dfc mfc inv zero cap = .ok (ys, dd) ∧ ys.length ≤ mfc.length ∧
      mapSpec data inv zero (mfc.take ys.length) = some ys ∧
      ((ys.length = mfc.length ∧ (dd = inv ∨ dd < ((d + dfc.length : Nat) : Int))) ∨
        (∃ v, mfc[ys.length]? = some v ∧ v ≠ inv ∧ ((d + dfc.length : Nat) : Int) ≤ v ∧ dd = v)) := by
  cases mfc with
  | nil => exact absurd rfl hne
  | cons v vs =>
    obtain ⟨ys, dd, hrun, hle, hspec, hcase⟩ :=
      partialOldMapFrom_spec data d dfc inv zero cap hw (v :: vs) [] v hr (by simpa using hcap)
    refine ⟨ys, dd, by simpa [partialOldMap] using hrun, hle, hspec, ?_⟩
    rcases hcase with ⟨h1, _, h3⟩ | h
    · exact Or.inl ⟨h1, h3 (by simp)⟩
    · exact Or.inr h

end Exetera.JoinOld
