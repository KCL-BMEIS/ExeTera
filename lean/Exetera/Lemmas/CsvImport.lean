import Exetera.Lemmas.CsvKernel
import Exetera.Lemmas.PrefixSums
/-! `IndexedStringImporter.import_part` on staging buffers that hold a column, onto a field that already holds entries
    (offsets are rebased by `chunk_accumulated`); importers as families of append homomorphisms (`ImpHom`) (C05). -/
namespace Exetera.Csv
open Exetera Spec

theorem endOf_cons_succ (e : Bytes) (es : List Bytes) (k : Nat) : endOf (e :: es) (k + 1) = e.length + endOf es k := by
  simp [endOf]

theorem offsetsFrom_eq_prefixSums (b : Nat) (es : List Bytes) : offsetsFrom b es = prefixSums b (es.map List.length) := by
  induction es generalizing b with
  | nil => rfl
  | cons e es ih => simp [offsetsFrom, prefixSums, ih]

theorem offsetsFrom_length (b : Nat) (es : List Bytes) : (offsetsFrom b es).length = es.length + 1 := by
  rw [offsetsFrom_eq_prefixSums, prefixSums.length_eq, List.length_map]

theorem offsetsFrom_getElem? (es : List Bytes) (b k : Nat) :
    (offsetsFrom b es)[k]? = if k ≤ es.length then some (b + endOf es k) else none := by
  rw [offsetsFrom_eq_prefixSums]
  split
  · next h => rw [prefixSums.getElem?_lengths b es k h, endOf]
  · exact List.getElem?_eq_none (by rw [prefixSums.length_eq, List.length_map]; omega)

theorem take_eq_offsets {r : List Nat} {es : List Bytes} (h : ∀ k, k ≤ es.length → r[k]? = some (endOf es k)) :
    r.take (es.length + 1) = offsetsFrom 0 es := by
  apply List.ext_getElem?
  intro k
  rw [List.getElem?_take, offsetsFrom_getElem?]
  by_cases hk : k ≤ es.length
  · have : k < es.length + 1 := by omega
    simp [hk, this, h k hk]
  · have : ¬ k < es.length + 1 := by omega
    simp [hk, this]

theorem slice_of_at {vals : List Nat} {off : Nat} {bs : Bytes} (h : At vals off bs) :
    slice vals off (off + bs.length) = bs := by
  apply List.ext_getElem?
  intro k
  unfold slice
  rw [List.getElem?_take, List.getElem?_drop]
  by_cases hk : k < bs.length
  · have : k < off + bs.length - off := by omega
    simp only [this, if_true]
    exact h k hk
  · have : ¬ k < off + bs.length - off := by omega
    simp only [this, if_false]
    rw [List.getElem?_eq_none (by omega)]

theorem offsetsFrom_head (b : Nat) (es : List Bytes) : [b] ++ (offsetsFrom b es).drop 1 = offsetsFrom b es := by
  cases es <;> simp [offsetsFrom]

theorem offsetsFrom_map_add (es : List Bytes) (b a : Nat) : (offsetsFrom b es).map (· + a) = offsetsFrom (b + a) es := by
  simp only [offsetsFrom_eq_prefixSums, prefixSums.map_add]

theorem offsetsFrom_append (a c : List Bytes) (b : Nat) :
    offsetsFrom b (a ++ c) = offsetsFrom b a ++ (offsetsFrom (b + a.flatten.length) c).drop 1 := by
  simp only [offsetsFrom_eq_prefixSums, prefixSums.append_lengths, List.drop_one]

def fieldOf' (es : List Bytes) : Imp :=
  { kind := .indexed, idx := indexOf es, vals := bytesOf es, acc := (bytesOf es).length }

theorem importPart_acc {offs : List Nat} {inds : List (List Nat)} {vals : List Nat} {c : Nat} {es0 es : List Bytes}
    (h : ColOK offs inds vals c es) (ho : offs[c]? = some (offAt offs c)) :
    Imp.importPart (fieldOf' es0) inds vals offs c es.length = .ok (fieldOf' (es0 ++ es)) := by
  obtain ⟨⟨r, hr, hk⟩, hat⟩ := h
  have htot : r[es.length]? = some es.flatten.length := by rw [hk _ (Nat.le_refl _), endOf_all]
  have hgo : getE offs c "column_offsets[col_idx]" = .ok (offAt offs c) := getE_eq_ok.mpr ho
  have hgt : getE r es.length "column_inds[col_idx,written_row_count]" = .ok es.flatten.length := getE_eq_ok.mpr htot
  simp only [Imp.importPart, fieldOf', hr, hgo, hgt, take_eq_offsets hk, slice_of_at hat]
  simp only [indexOf, bytesOf, offsetsFrom_map_add, offsetsFrom_append, Nat.zero_add, List.flatten_append,
    List.length_append]

/-- The importers of the driver as a family of append homomorphisms: `F c D` is the state of the importer of file column `c`
    once it has consumed the entries `D`. One `import_part` call on staging buffers whose column `c` holds the entries `E`
    (strictly inside the column's value budget, every entry acceptable to the importer: `good c`) leaves the importer in the
    state `F c (D ++ E)`, whatever (acceptable) `D` was: the result of a sequence of calls depends only on the concatenation of
    the blocks, not on where they were cut. -/
def ImpHom (ncols : Nat) (F : Nat → List Bytes → Imp) (good : Nat → Bytes → Prop) : Prop :=
  ∀ (offs : List Nat) (inds : List (List Nat)) (vals : List Nat) (maxrow c : Nat) (D E : List Bytes), c < ncols →
    Shape ncols maxrow offs inds vals → ColOK offs inds vals c E →
    offAt offs c + E.flatten.length < offAt offs (c + 1) → (∀ cell ∈ D, good c cell) → (∀ cell ∈ E, good c cell) →
    Imp.importPart (F c D) inds vals offs c E.length = .ok (F c (D ++ E))

theorem impHom_indexed (ncols : Nat) : ImpHom ncols (fun _ => fieldOf') (fun _ _ => True) := by
  intro offs inds vals maxrow c D E hc hsh hcol _ _ _
  exact importPart_acc hcol (offs_get hsh.offsLen (by omega))

theorem importAll_hom {offs : List Nat} {inds : List (List Nat)} {vals : List Nat} {ncols maxrow n : Nat}
    {F : Nat → List Bytes → Imp} {good : Nat → Bytes → Prop} (hhom : ImpHom ncols F good)
    {D E : Nat → List Bytes} (hsh : Shape ncols maxrow offs inds vals)
    (hcols : ∀ c, c < ncols → ColOK offs inds vals c (E c))
    (hcaps : ∀ c, c < ncols → offAt offs c + (E c).flatten.length < offAt offs (c + 1))
    (hlen : ∀ c, c < ncols → (E c).length = n) :
    ∀ (im : List Nat), (∀ c ∈ im, c < ncols) → (∀ c ∈ im, ∀ cell ∈ D c, good c cell) →
      (∀ c ∈ im, ∀ cell ∈ E c, good c cell) →
      importAll inds vals offs n im (im.map (fun c => F c (D c))) = .ok (im.map (fun c => F c (D c ++ E c))) := by
  intro im
  induction im with
  | nil => intro _ _ _; rfl
  | cons c im ih =>
    intro h hd hg
    have hc := h c (by simp)
    have h1 := hhom offs inds vals maxrow c (D c) (E c) hc hsh (hcols c hc) (hcaps c hc) (hd c (by simp)) (hg c (by simp))
    rw [hlen c hc] at h1
    simp only [List.map_cons, importAll, h1,
      ih (fun x hx => h x (by simp [hx])) (fun x hx => hd x (by simp [hx])) (fun x hx => hg x (by simp [hx]))]

theorem column_length (recs : List (List Bytes)) (c : Nat) (h : ∀ r ∈ recs, c < r.length) :
    (column recs c).length = recs.length := by
  induction recs with
  | nil => simp [column]
  | cons r rs ih =>
    have hr := h r (by simp)
    rw [column_cons, List.getElem?_eq_getElem hr]
    simp [ih (fun x hx => h x (by simp [hx]))]

/-- the indexed string field that holds exactly the entries `es` -/
def fieldOf (es : List Bytes) : Imp :=
  { kind := .indexed, idx := indexOf es, vals := bytesOf es, acc := (bytesOf es).length }

theorem stageRows_nil (rows : List (List Cell)) (c : Nat) : stageRows (fun _ => []) rows c = column (values rows) c := by
  rw [stageRows_col]; rfl

theorem stageRows_length {ncols : Nat} (rowsA : List (List Cell)) (htab : ∀ r ∈ rowsA, r.length = ncols ∧ ∀ c ∈ r, c.WF)
    (c : Nat) (hc : c < ncols) : (stageRows (fun _ => []) rowsA c).length = rowsA.length := by
  rw [stageRows_nil, column_length]
  · simp [values]
  · intro r hr
    simp only [values, List.mem_map] at hr
    obtain ⟨r', hr', rfl⟩ := hr
    simp [(htab r' hr').1, hc]

theorem importPart_staged {offs : List Nat} {inds : List (List Nat)} {vals : List Nat} {ncols c : Nat}
    (rows : List (List Cell)) (htab : ∀ r ∈ rows, r.length = ncols ∧ ∀ c ∈ r, c.WF) (hl : offs.length = ncols + 1)
    (hc : c < ncols) (h : ColOK offs inds vals c (stageRows (fun _ => []) rows c)) :
    Imp.importPart { kind := .indexed } inds vals offs c rows.length = .ok (fieldOf (column (values rows) c)) := by
  have h1 := importPart_acc (es0 := []) h (offs_get hl (by omega))
  rw [stageRows_length rows htab c hc, stageRows_nil] at h1
  exact h1

end Exetera.Csv
