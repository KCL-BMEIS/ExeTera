import Exetera.Model.JoinOld
/-!
  C19, the two foreign-key helpers of `Session`.

  `Session.get_index`: dictionary lookup of every foreign key in a duplicate-free target column; keys without a target
  row get markers `≥ INVALID_INDEX`.
  `Session.join(destination_pkey, fkey_indices, values_to_join)`: one value per run of `fkey_indices` is scattered into
  the space of the destination primary key.
-/
namespace Exetera.JoinOld
open Exetera

theorem buildLookup_spec (k : Int) : ∀ (vs : List Int) (i : Nat) (d : List (Int × Int)), vs.Nodup →
    (∀ t, vs[t]? = some k → (buildLookup vs i d).lookup k = some ((i + t : Nat) : Int)) ∧
    (k ∉ vs → (buildLookup vs i d).lookup k = d.lookup k)
  | [], i, d, _ => by simp [buildLookup]
  | v :: vs, i, d, hnd => by
    have hnd' := (List.nodup_cons.mp hnd).2
    have hv := (List.nodup_cons.mp hnd).1
    obtain ⟨ih1, ih2⟩ := buildLookup_spec k vs (i + 1) ((v, (i : Int)) :: d) hnd'
    constructor
    · intro t ht
      cases t with
      | zero =>
        simp only [List.getElem?_cons_zero, Option.some.injEq] at ht
        subst ht
        simp only [buildLookup]
        rw [ih2 hv]
        simp [List.lookup]
      | succ t =>
        simp only [List.getElem?_cons_succ] at ht
        simp only [buildLookup]
        rw [ih1 t ht]
        congr 2; omega
    · intro hk
      simp only [List.mem_cons, not_or] at hk
      simp only [buildLookup]
      rw [ih2 hk.2]
      have : (k == v) = false := by simpa using hk.1
      simp [List.lookup, this]

def DictOK (target : List Int) (d : List (Int × Int)) : Prop :=
  ∀ k, (∀ t : Nat, target[t]? = some k → d.lookup k = some (t : Int)) ∧
       (k ∉ target → ∀ v, d.lookup k = some v → INVALID_INDEX ≤ v)

/-- what `get_index` promises for the foreign keys `fk` in the output rows `outs` -/
def IndexRows (target fk outs : List Int) : Prop :=
  outs.length = fk.length ∧ ∀ (r : Nat) (k : Int), fk[r]? = some k →
    (∀ t : Nat, target[t]? = some k → outs[r]? = some (t : Int)) ∧
    (k ∉ target → ∃ v, outs[r]? = some v ∧ INVALID_INDEX ≤ v)

theorem IndexRows.cons {target fk outs : List Int} {k v : Int} (h : IndexRows target fk outs)
    (h1 : ∀ t : Nat, target[t]? = some k → v = (t : Int)) (h2 : k ∉ target → INVALID_INDEX ≤ v) :
    IndexRows target (k :: fk) (v :: outs) := by
  refine ⟨by simp [h.1], fun r k' hr => ?_⟩
  cases r with
  | zero =>
    simp only [List.getElem?_cons_zero, Option.some.injEq] at hr ⊢
    subst hr
    exact ⟨fun t ht => h1 t ht, fun hn => ⟨v, rfl, h2 hn⟩⟩
  | succ r => exact h.2 r k' hr

theorem foldl_getIndexStep (target : List Int) (hlen : (target.length : Int) ≤ INVALID_INDEX) :
    ∀ (fk : List Int) (s : GI), DictOK target s.dict → INVALID_INDEX ≤ s.cur →
      ∃ outs, (fk.foldl getIndexStep s).out = s.out ++ outs ∧ IndexRows target fk outs
  | [], s, _, _ => ⟨[], by simp, rfl, by simp⟩
  | k :: fk, s, hd, hc => by
    by_cases hk : k ∈ target
    · -- a target key: the dictionary holds its row, nothing is bound
      obtain ⟨t, ht, hkt⟩ := List.getElem_of_mem hk
      have hlook := (hd k).1 t (by rw [List.getElem?_eq_getElem ht, hkt])
      have hstep : getIndexStep s k = { s with out := s.out ++ [(t : Int)] } := by
        have : ¬ ((t : Int) ≥ INVALID_INDEX) := by omega
        simp [getIndexStep, hlook, this]
      obtain ⟨outs, h1, h2⟩ := foldl_getIndexStep target hlen fk (getIndexStep s k) (by rw [hstep]; exact hd)
        (by rw [hstep]; exact hc)
      refine ⟨(t : Int) :: outs, by rw [List.foldl_cons, h1, hstep, List.append_assoc]; rfl, h2.cons (fun t' ht' => ?_) (fun hn => absurd hk hn)⟩
      have := (hd k).1 t' ht'
      rw [hlook] at this
      exact Option.some.inj this
    · -- any other key gets a marker: the one it is bound to already, or a fresh one, which is then bound
      let index := (s.dict.lookup k).getD s.cur
      have hidx : INVALID_INDEX ≤ index := by
        cases hl : s.dict.lookup k with
        | none => simpa [index, hl] using hc
        | some v => simpa [index, hl] using (hd k).2 hk v hl
      have hstep : getIndexStep s k = { dict := (k, index) :: s.dict, cur := s.cur + 1, out := s.out ++ [index] } := by
        simp only [getIndexStep]
        rw [if_pos hidx]
      have hd' : DictOK target ((k, index) :: s.dict) := by
        intro k'
        constructor
        · intro t ht
          have hne : (k' == k) = false := by
            have : k' ≠ k := fun h => hk (by rw [← h]; exact List.mem_of_getElem? ht)
            simpa using this
          simp only [List.lookup, hne]
          exact (hd k').1 t ht
        · intro hk' v hv
          by_cases he : k' = k
          · subst he
            simp [List.lookup] at hv
            omega
          · have hne : (k' == k) = false := by simpa using he
            simp only [List.lookup, hne] at hv
            exact (hd k').2 hk' v hv
      obtain ⟨outs, h1, h2⟩ := foldl_getIndexStep target hlen fk (getIndexStep s k) (by rw [hstep]; exact hd')
        (by rw [hstep]; exact Int.le_trans hc (Int.le_add_one (Int.le_refl _)))
      exact ⟨index :: outs, by rw [List.foldl_cons, h1, hstep, List.append_assoc]; rfl,
        h2.cons (fun t ht => absurd (List.mem_of_getElem? ht) hk) (fun _ => hidx)⟩

theorem getIndex_rows (target fk : List Int) (hnd : target.Nodup) (hlen : (target.length : Int) ≤ INVALID_INDEX) :
    IndexRows target fk (getIndex target fk) := by
  have hd : DictOK target (buildLookup target 0 []) := by
    intro k
    obtain ⟨h1, h2⟩ := buildLookup_spec k target 0 [] hnd
    constructor
    · intro t ht; simpa using h1 t ht
    · intro hk v hv
      rw [h2 hk] at hv
      simp [List.lookup] at hv
  obtain ⟨outs, h1, h2⟩ := foldl_getIndexStep target hlen fk { dict := buildLookup target 0 [], cur := INVALID_INDEX } hd
    (Int.le_refl _)
  simp only [getIndex, h1, List.nil_append]
  exact h2

/-- the key of every run of equal adjacent values (what `raw_fkey_indices[get_spans(fkey)[:-1]]` holds) -/
def runKeysFrom : Option Int → List Int → List Int
  | _, [] => []
  | prev, x :: xs => if prev == some x then runKeysFrom (some x) xs else x :: runKeysFrom (some x) xs

def runKeys (xs : List Int) : List Int := runKeysFrom none xs

theorem mapM_runStarts (fkey : List Int) : ∀ (xs pre : List Int) (prev : Option Int), fkey = pre ++ xs →
    mapM' (fun s => getE fkey s "raw_fkey_indices[spans]") (runStartsFrom prev xs pre.length) = .ok (runKeysFrom prev xs)
  | [], _, _, _ => rfl
  | x :: xs, pre, prev, h => by
    have ih := mapM_runStarts fkey xs (pre ++ [x]) (some x) (by simp [h])
    simp only [List.length_append, List.length_singleton] at ih
    simp only [runStartsFrom, runKeysFrom]
    split
    · exact ih
    · have hg : getE fkey pre.length "raw_fkey_indices[spans]" = .ok x := by
        apply getE_eq_ok.mpr
        rw [h]
        simp
      simp only [mapM', hg, ih]

theorem runKeysFrom_mem : ∀ (xs : List Int) (prev : Option Int) (k : Int), k ∈ runKeysFrom prev xs → k ∈ xs
  | [], _, _, h => by simp [runKeysFrom] at h
  | x :: xs, prev, k, h => by
    simp only [runKeysFrom] at h
    split at h
    · exact List.mem_cons_of_mem _ (runKeysFrom_mem xs _ k h)
    · rcases List.mem_cons.mp h with h | h
      · simp [h]
      · exact List.mem_cons_of_mem _ (runKeysFrom_mem xs _ k h)

theorem mem_runKeysFrom : ∀ (xs : List Int) (prev : Option Int) (k : Int), k ∈ xs → prev ≠ some k → k ∈ runKeysFrom prev xs
  | [], _, _, h, _ => by simp at h
  | x :: xs, prev, k, h, hp => by
    simp only [runKeysFrom]
    by_cases hkx : k = x
    · subst hkx
      have : (prev == some k) = false := by simpa using hp
      simp [this]
    · have hk : k ∈ xs := by
        rcases List.mem_cons.mp h with h | h
        · exact absurd h hkx
        · exact h
      have ih := mem_runKeysFrom xs (some x) k hk (by simpa using fun h => hkx h.symm)
      split
      · exact ih
      · exact List.mem_cons_of_mem _ ih

theorem scatter_spec : ∀ (kvs : List (Int × Int)) (dest : List Int),
    (kvs.map (·.1)).Nodup → (∀ p ∈ kvs, 0 ≤ p.1 ∧ p.1 < dest.length) →
    ∃ out, scatter dest kvs = .ok out ∧ out.length = dest.length ∧
      (∀ p ∈ kvs, out[p.1.toNat]? = some p.2) ∧
      (∀ d : Nat, (∀ p ∈ kvs, p.1 ≠ (d : Int)) → out[d]? = dest[d]?)
  | [], dest, _, _ => ⟨dest, rfl, rfl, fun p hp => by simp at hp, fun _ _ => rfl⟩
  | (k, v) :: rest, dest, hnd, hr => by
    obtain ⟨h0, h1⟩ := hr (k, v) (by simp)
    have hkt : k.toNat < dest.length := by omega
    simp only [List.map_cons, List.nodup_cons] at hnd
    obtain ⟨hk, hnd'⟩ := hnd
    obtain ⟨out, h2, h3, h4, h5⟩ := scatter_spec rest (dest.set k.toNat v) hnd'
      (fun p hp => by simpa using hr p (by simp [hp]))
    refine ⟨out, ?_, by simpa using h3, ?_, ?_⟩
    · simp only [scatter, setI, h0, if_true, setE, hkt, h2]
    · intro p hp
      rcases List.mem_cons.mp hp with hp | hp
      · subst hp
        have := h5 k.toNat (fun q hq hqk => hk (by
          have : q.1 = k := by omega
          rw [← this]
          exact List.mem_map_of_mem hq))
        rw [this]
        simp [hkt]
      · exact h4 p hp
    · intro d hd
      have hdk : k.toNat ≠ d := by
        have := hd (k, v) (by simp)
        simp only [] at this
        omega
      rw [h5 d (fun p hp => hd p (by simp [hp])), List.getElem?_set_ne hdk]

/-- **`Session.join`**: with one value per run of the foreign-key indices, every run key in range (or a marker
    `≥ INVALID_INDEX`, dropped) and every key's rows contiguous (one run per key), the destination holds at row `k` the
    value of the run with key `k`, and `0` at every row no foreign key points to -/
theorem join_spec (destLen : Nat) (fkey values : List Int) (hlen : (runKeys fkey).length = values.length)
    (hnd : (runKeys fkey).Nodup) (hr : ∀ k ∈ fkey, k < INVALID_INDEX → 0 ≤ k ∧ k < destLen) :
    ∃ out, join destLen fkey values = .ok out ∧ out.length = destLen ∧
      (∀ (r : Nat) (k v : Int), (runKeys fkey)[r]? = some k → values[r]? = some v → k < INVALID_INDEX →
        out[k.toNat]? = some v) ∧
      (∀ d : Nat, d < destLen → (d : Int) ∉ fkey → out[d]? = some 0) := by
  have huniq := mapM_runStarts fkey fkey [] none rfl
  have hkeys : ((((runKeys fkey).zip values).filter (fun p => decide (p.1 < INVALID_INDEX))).map (·.1)).Nodup := by
    apply List.Pairwise.sublist _ hnd
    have h1 : List.Sublist ((((runKeys fkey).zip values).filter (fun p => decide (p.1 < INVALID_INDEX))).map (·.1))
        (((runKeys fkey).zip values).map (·.1)) := List.Sublist.map _ List.filter_sublist
    have h2 : ((runKeys fkey).zip values).map (·.1) = runKeys fkey := by
      rw [List.map_fst_zip]
      omega
    rwa [h2] at h1
  obtain ⟨out, h1, h2, h3, h4⟩ := scatter_spec _ (List.replicate destLen 0) hkeys (by
    intro p hp
    obtain ⟨hp1, hp2⟩ := List.mem_filter.mp hp
    have hk : p.1 ∈ fkey := runKeysFrom_mem fkey none p.1 (List.of_mem_zip hp1).1
    simpa using hr p.1 hk (by simpa using hp2))
  refine ⟨out, ?_, by simpa using h2, ?_, ?_⟩
  · have hne : ((runKeys fkey).length != values.length) = false := by simp [hlen]
    simp only [List.length_nil] at huniq
    simp only [join, runStarts, huniq, runKeys] at hne ⊢
    simp only [hne, Bool.false_eq_true, if_false]
    exact h1
  · intro r k v hk hv hlt
    have hmem : (k, v) ∈ (runKeys fkey).zip values := by
      apply List.mem_of_getElem? (i := r)
      simp [List.getElem?_zip_eq_some, hk, hv]
    exact h3 (k, v) (List.mem_filter.mpr ⟨hmem, by simpa using hlt⟩)
  · intro d hd hnot
    rw [h4 d (fun p hp hpd => hnot (by
      rw [← hpd]
      exact runKeysFrom_mem fkey none p.1 (List.of_mem_zip (List.mem_filter.mp hp).1).1))]
    simp [hd]

end Exetera.JoinOld
