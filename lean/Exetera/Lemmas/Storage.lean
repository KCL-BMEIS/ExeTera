import Exetera.Model.Storage
/-!
  The backing-store model: `write_part` appends. Both backings grow the array by zeros and then overwrite that tail
  (`sliceAssign_tail`); the as-found memory array addresses the tail from the end and so misses it exactly when the part
  is empty (D1), which is the only place where the two variants differ.
-/
namespace Exetera.Storage

open Exetera

theorem sliceAssign_of_length {α} (dst : List α) (a b : Nat) (src : List α)
    (h : (slice dst a b).length = src.length) :
    sliceAssign dst a b src = .ok (dst.take a ++ src ++ dst.drop (a + src.length)) := by
  simp [sliceAssign, h]

theorem sliceAssign_tail {α} (ds pad src : List α) (a : Nat) (ha : a = ds.length) (h : pad.length = src.length) :
    sliceAssign (ds ++ pad) a (ds ++ pad).length src = .ok (ds ++ src) := by
  subst ha
  rw [sliceAssign_of_length _ _ _ _ (by simp [slice, h])]
  simp [← h]

theorem memWritePart_some {α} (v : Variant) (z : α) (old part : List α) (hv : v = .repaired ∨ part ≠ []) :
    memWritePart v z (some old) part = .ok (some (old ++ part)) := by
  have e1 : sliceAssign (List.replicate (old.length + part.length) z) 0 old.length old
      = .ok (old ++ List.replicate part.length z) := by
    rw [sliceAssign_of_length _ _ _ _ (by simp [slice])]; simp
  have e2 := sliceAssign_tail old (List.replicate part.length z) part
  simp only [memWritePart, e1]
  cases v with
  | repaired => simp only [e2 _ rfl (by simp)]
  | asFound =>
    have hne : part.length ≠ 0 := by simpa using hv
    simp only [beq_iff_eq, hne, if_false,
      e2 ((old ++ List.replicate part.length z).length - part.length) (by simp) (by simp)]

theorem memWritePart_repaired {α} (z : α) (ds : Option (List α)) (part : List α) :
    memWritePart .repaired z ds part = .ok (some (ds.getD [] ++ part)) := by
  cases ds with
  | none => rfl
  | some old => exact memWritePart_some .repaired z old part (.inl rfl)

theorem h5Write_eq {α} (z : α) (ds part : List α) :
    h5Write z ds part part.length = .ok (ds ++ part) := by
  unfold h5Write
  cases part with
  | nil => simp
  | cons x part =>
    simp only [List.length_cons, Nat.add_one_ne_zero, beq_iff_eq, if_false, if_true]
    exact sliceAssign_tail ds _ (x :: part) _ (by simp) (by simp)

def Arr.appended {α} : Arr α → List α → Arr α
  | .mem ds, part => .mem (some (ds.getD [] ++ part))
  | .h5 ds, part => .h5 (ds ++ part)

theorem Arr.writePart_eq_appended {α} (v : Variant) (z : α) (a : Arr α) (part : List α)
    (hv : v = .repaired ∨ part ≠ []) : a.writePart v z part = .ok (a.appended part) := by
  cases a with
  | h5 ds => simp only [Arr.writePart, h5Write_eq, Arr.appended]
  | mem ds =>
    cases ds with
    | none => rfl
    | some old => simp only [Arr.writePart, memWritePart_some v z old part hv, Arr.appended, Option.getD_some]

theorem Arr.writePart_repaired {α} (z : α) (a : Arr α) (part : List α) :
    a.writePart .repaired z part = .ok (a.appended part) :=
  Arr.writePart_eq_appended .repaired z a part (.inl rfl)

@[simp] theorem Arr.contents_appended {α} (a : Arr α) (part : List α) :
    (a.appended part).contents = a.contents ++ part := by
  cases a with
  | mem ds => cases ds <;> rfl
  | h5 ds => rfl

theorem Arr.appended_ne_none {α} (a : Arr α) (part : List α) : a.appended part ≠ .mem none := by
  cases a <;> simp [Arr.appended]

@[simp] theorem Arr.contents_fresh {α} (h5 : Bool) : (Arr.fresh h5 : Arr α).contents = [] := by
  cases h5 <;> rfl

theorem foldE_append {σ α} (f : σ → α → Except Err σ) (s : σ) (xs ys : List α) :
    foldE f s (xs ++ ys) = match foldE f s xs with
      | .ok s' => foldE f s' ys
      | .error e => .error e := by
  induction xs generalizing s with
  | nil => simp [foldE]
  | cons x xs ih =>
    simp only [List.cons_append, foldE]
    cases f s x with
    | error e => simp
    | ok s' => simpa using ih s'

/-- invariant rule for `foldE`, for a family of step functions that take the same step from every state satisfying `P`
    (the two variants of a writer; one function is the family over `Unit`), so that all of them end in the same state -/
theorem foldE_rule {ι σ α} (f : ι → σ → α → Except Err σ) (P : σ → List α → Prop)
    (step : ∀ s done x, P s done → ∃ s', (∀ i, f i s x = .ok s') ∧ P s' (done ++ [x])) :
    ∀ (xs : List α) (s : σ) (done : List α), P s done →
      ∃ s', (∀ i, foldE (f i) s xs = .ok s') ∧ P s' (done ++ xs) := by
  intro xs
  induction xs with
  | nil => intro s done h; exact ⟨s, fun _ => rfl, by simpa using h⟩
  | cons x xs ih =>
    intro s done h
    obtain ⟨s1, h1, hP1⟩ := step s done x h
    obtain ⟨s2, h2, hP2⟩ := ih s1 (done ++ [x]) hP1
    exact ⟨s2, fun i => by simp only [foldE, h1 i, h2 i], by simpa using hP2⟩

theorem writeParts_eq {α} (v : Variant) (z : α) (a : Arr α) (parts : List (List α))
    (hv : v = .repaired ∨ ∀ p ∈ parts, p ≠ []) : writeParts v z a parts = .ok (parts.foldl Arr.appended a) := by
  unfold writeParts
  induction parts generalizing a with
  | nil => rfl
  | cons p ps ih =>
    simp only [foldE, Arr.writePart_eq_appended v z a p (hv.imp_right (· p List.mem_cons_self)), List.foldl_cons]
    exact ih _ (hv.imp_right fun h q hq => h q (List.mem_cons_of_mem p hq))

@[simp] theorem contents_foldl_appended {α} (a : Arr α) (parts : List (List α)) :
    (parts.foldl Arr.appended a).contents = a.contents ++ parts.flatten := by
  induction parts generalizing a with
  | nil => simp
  | cons p ps ih => simp [ih]

/-- an array that was written: an HDF5 dataset, or a memory array after at least one `write_part` -/
theorem foldl_appended_ne_none {α} (a : Arr α) (parts : List (List α)) (h : a ≠ .mem none ∨ parts ≠ []) :
    parts.foldl Arr.appended a ≠ .mem none := by
  induction parts generalizing a with
  | nil => exact h.resolve_right (fun h => h rfl)
  | cons p ps ih => exact ih _ (.inl (Arr.appended_ne_none a p))

end Exetera.Storage
