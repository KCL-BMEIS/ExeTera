import Exetera.Lemmas.CsvRow
/-! `fast_csv_reader` on any window of the supported regime with *any* staging buffers (every value budget ≥ 1, at least one
    index row): the three ways the call can end (`kernel_general`), and the case in which nothing fills (`kernel_fits`) (C05). -/
namespace Exetera.Csv
open Exetera Spec

/-- buffers whose first index slots are 0 hold no entries -/
theorem staged_init {offs : List Nat} {maxrow ncols : Nat} {inds : List (List Nat)} {vals : List Nat}
    (hsh : Shape ncols maxrow offs inds vals) (hz : ∀ c, c < ncols → ∃ r, inds[c]? = some r ∧ r[0]? = some 0) :
    Staged offs maxrow ncols inds vals (fun _ => []) := by
  refine ⟨hsh, ?_, fun c hc => by simpa using hsh.mono c hc⟩
  intro c hc
  obtain ⟨r, hr, hr0⟩ := hz c hc
  refine ⟨⟨r, hr, ?_⟩, fun k hk => by simp at hk⟩
  intro k hk
  have : k = 0 := by simpa using hk
  subst this
  simpa [endOf] using hr0

theorem init_cellStart {src : Bytes} {offs : List Nat} {maxrow ncols : Nat} {inds : List (List Nat)} {vals : List Nat}
    (pre T : Bytes) (hh : Bool)
    (hsh : Shape ncols maxrow offs inds vals) (hnc : 0 < ncols) (hmax : 0 < maxrow)
    (hz : ∀ c, c < ncols → ∃ r, inds[c]? = some r ∧ r[0]? = some 0) (hlt : pre.length + leadWs T < src.length) :
    CellStart src offs maxrow ncols (initKS pre.length (pre.length + leadWs T) hh 0 (offAt offs 1) inds vals)
      (pre ++ T.takeWhile isWs) 0 hh 0 pre.length (fun _ => []) := by
  exact {
    index := by simp [initKS, leadWs]
    ics := by simp [initKS, leadWs]
    col := rfl
    hdr_ := rfl
    row := rfl
    np := rfl
    esc := rfl
    cand := rfl
    count := rfl
    vfc := rfl
    indsFull := rfl
    valsFull := rfl
    done := by simp [initKS]; omega
    colOff := by simp [initKS, hsh.offs0]
    colCnt := by simp [initKS, hsh.offs0]
    cstart := by intro _; simp [initKS]
    staged := staged_init hsh hz
    jlt := hnc
    lens := by intro _; exact ⟨fun c h => by omega, fun _ _ _ => rfl⟩
    hdrE := by intro _; exact ⟨fun _ => rfl, rfl⟩
    krow := fun _ => hmax
    maxrow_pos := hmax }

/-- a kernel call that filled no buffer: it resumes at `np`, reports `n` complete records, and column `c` of the staging
    buffers holds the entries `E c` -/
structure KernelOK (ncols maxrow : Nat) (offs : List Nat) (o : KOut) (np n : Nat) (E : Nat → List Bytes) : Prop where
  nextPos : o.nextPos = np
  written : o.written = (n : Int)
  indsFull : o.indsFull = false
  valsFull : o.valsFull = false
  vfc : o.vfc = none
  shape : Shape ncols maxrow offs o.inds o.vals
  cols : ∀ c, c < ncols → ColOK offs o.inds o.vals c (E c)

/-- as `KernelOK` but for any kernel call, whatever its full flags; `caps`: the entries stay strictly inside the value budgets -/
structure KernelRes (ncols maxrow : Nat) (offs : List Nat) (o : KOut) (np n : Nat) (E : Nat → List Bytes) : Prop where
  nextPos : o.nextPos = np
  written : o.written = (n : Int)
  shape : Shape ncols maxrow offs o.inds o.vals
  cols : ∀ c, c < ncols → ColOK offs o.inds o.vals c (E c)
  caps : ∀ c, c < ncols → offAt offs c + (E c).flatten.length < offAt offs (c + 1)

theorem KEnd.res {offs : List Nat} {maxrow ncols : Nat} {s' : KS} {k np : Nat} {E : Nat → List Bytes} {fi fv : Bool}
    {vfc : Option Nat} (h : KEnd offs maxrow ncols s' k np E fi fv vfc) (hcaps : StrictCaps offs ncols E) :
    KernelRes ncols maxrow offs s'.out np k E :=
  ⟨h.np, by simp [KS.out, h.hdr, h.row], h.shape, h.cols, hcaps⟩

/-- what the window holds of the record that follows its complete records: nothing, or the first `m` bytes of `r` -/
def tailText : Option (List Cell × Nat) → Bytes
  | none => []
  | some (r, m) => (renderCells r).take m

def tailRows : Option (List Cell × Nat) → List (List Cell)
  | none => []
  | some (r, _) => [r]

/-- the call up to the loop: the index rows and the first budget are read, the blanks behind the resume position skipped -/
theorem call_entry {src : Bytes} {offs : List Nat} {maxrow ncols : Nat} {inds : List (List Nat)} {vals : List Nat}
    (hh : Bool) (pre rest : Bytes) (hsrc : src = pre ++ rest) (hsh : Shape ncols maxrow offs inds vals) (hnc : 0 < ncols)
    (hz : ∀ c, c < ncols → ∃ r, inds[c]? = some r ∧ r[0]? = some 0) :
    fastCsvReader src pre.length inds vals offs hh =
      if pre.length + leadWs rest == src.length then .ok ⟨pre.length, if hh then -1 else 0, false, false, none, inds, vals⟩
      else (whileE kguard (step src offs maxrow) (src.length + 1)
        (initKS pre.length (pre.length + leadWs rest) hh 0 (offAt offs 1) inds vals)).map KS.out := by
  obtain ⟨r0, hr0, hr00⟩ := hz 0 hnc
  have hr0len := hsh.rowLen 0 r0 hr0
  have hg0 : getE inds 0 "column_inds.shape" = .ok r0 := getE_eq_ok.mpr hr0
  have hg1 : getE offs 1 "column_offsets[1]" = .ok (offAt offs 1) :=
    getE_eq_ok.mpr (offs_get hsh.offsLen (by omega))
  have hcs0 : (if hh = true then (Except.ok 0 : Except Err Nat) else get2 inds 0 0 "column_inds[col_index,row_index]") =
      .ok 0 := by
    cases hh
    · simpa using get2_eq _ hr0 hr00
    · rfl
  have hmr : r0.length - 1 = maxrow := by omega
  have hskip : skipFrom src pre.length = pre.length + leadWs rest := by
    rw [hsrc]; exact skipFrom_at _ _
  simp only [fastCsvReader, hg0, hcs0, hg1, hmr, hskip]
  by_cases h : (pre.length + leadWs rest == src.length) = true
  · rw [if_pos h, if_pos h]
  · rw [if_neg h, if_neg h]
    generalize whileE _ _ _ _ = w
    cases w <;> rfl

theorem call_of_steps {src : Bytes} {offs : List Nat} {maxrow ncols : Nat} {inds : List (List Nat)} {vals : List Nat}
    (hh : Bool) (pre rest : Bytes) (hsrc : src = pre ++ rest) (hsh : Shape ncols maxrow offs inds vals) (hnc : 0 < ncols)
    (hz : ∀ c, c < ncols → ∃ r, inds[c]? = some r ∧ r[0]? = some 0) (hlead : pre.length + leadWs rest < src.length)
    {n : Nat} {s' : KS}
    (hsteps : KSteps src offs maxrow n (initKS pre.length (pre.length + leadWs rest) hh 0 (offAt offs 1) inds vals) s')
    (hdone : s'.done = true) :
    fastCsvReader src pre.length inds vals offs hh = .ok s'.out := by
  have hn : n ≤ src.length + 1 := by
    have h := stepsN_index hsteps (Nat.le_of_lt hlead)
    simp only [initKS] at h
    omega
  rw [call_entry hh pre rest hsrc hsh hnc hz, if_neg (by rw [beq_iff_eq]; omega),
    whileE_of_stepsN hsteps (by simp [kguard, hdone]) (src.length + 1) hn]
  rfl

/-- only blanks (or nothing) are left behind the resume position: the call returns at once -/
theorem call_blank {src : Bytes} {offs : List Nat} {maxrow ncols : Nat} {inds : List (List Nat)} {vals : List Nat}
    (pre rest : Bytes) (hsrc : src = pre ++ rest) (hsh : Shape ncols maxrow offs inds vals) (hnc : 0 < ncols)
    (hz : ∀ c, c < ncols → ∃ r, inds[c]? = some r ∧ r[0]? = some 0) (hblank : rest.length ≤ leadWs rest) :
    fastCsvReader src pre.length inds vals offs false = .ok ⟨pre.length, 0, false, false, none, inds, vals⟩ := by
  have hle := leadWs_le rest
  rw [call_entry false pre rest hsrc hsh hnc hz, if_pos (by rw [beq_iff_eq, hsrc, List.length_append]; omega)]
  rfl

theorem kernel_general {src : Bytes} {offs : List Nat} {maxrow ncols : Nat} {inds : List (List Nat)} {vals : List Nat}
    (hh : Bool) (hrow : List Cell) (rowsW : List (List Cell)) (nxt : Option (List Cell × Nat)) (pre : Bytes)
    (hsrc : src = pre ++ (((if hh then renderCells hrow else []) ++ render rowsW) ++ tailText nxt))
    (hnxt : ∀ r m, nxt = some (r, m) → m < (renderCells r).length ∧ r.length = ncols ∧ ∀ c ∈ r, c.WF)
    (hhdr : hh = true → hrow.length = ncols ∧ ∀ c ∈ hrow, c.WF)
    (htab : ∀ r ∈ rowsW, r.length = ncols ∧ ∀ c ∈ r, c.WF) (hnc : 0 < ncols)
    (hsh : Shape ncols maxrow offs inds vals) (hmax : 0 < maxrow)
    (hz : ∀ c, c < ncols → ∃ r, inds[c]? = some r ∧ r[0]? = some 0)
    (hbud : ∀ c, c < ncols → offAt offs c < offAt offs (c + 1)) :
    ∃ o a, fastCsvReader src pre.length inds vals offs hh = .ok o ∧ a ≤ rowsW.length ∧
      KernelRes ncols maxrow offs o (pre ++ ((if hh then renderCells hrow else []) ++ render (rowsW.take a))).length a
        (stageRows (fun _ => []) (rowsW.take a)) ∧
      ((o.indsFull = false ∧ o.valsFull = false ∧ o.vfc = none ∧ a = rowsW.length)
       ∨ (o.indsFull = true ∧ o.valsFull = false ∧ o.vfc = none ∧ a = maxrow)
       ∨ (o.indsFull = false ∧ o.valsFull = true ∧ ∃ j, j < ncols ∧ o.vfc = some j ∧
            offAt offs (j + 1) ≤
              offAt offs j + (column (values ((rowsW ++ tailRows nxt).take (a + 1))) j).flatten.length)) := by
  generalize hrest : ((if hh then renderCells hrow else []) ++ render rowsW) ++ tailText nxt = rest at hsrc
  have hstr0 : StrictCaps offs ncols (fun _ => []) := by
    intro c hc; simpa using hbud c hc
  by_cases hlead : pre.length + leadWs rest < src.length
  · -- the loop is entered
    have hinit := init_cellStart (src := src) pre rest hh hsh hnc hmax hz hlead
    obtain ⟨n1, s1, hsteps1, hcs1⟩ : ∃ n1 s1, KSteps src offs maxrow n1
        (initKS pre.length (pre.length + leadWs rest) hh 0 (offAt offs 1) inds vals) s1 ∧
        CellStart src offs maxrow ncols s1
          ((pre ++ (if hh then renderCells hrow else [])) ++ (render rowsW ++ tailText nxt).takeWhile isWs) 0 false 0
          (pre ++ (if hh then renderCells hrow else [])).length (fun _ => []) := by
      cases hh with
      | true =>
        obtain ⟨hlen, hwf⟩ := hhdr rfl
        have hne' : hrow ≠ [] := List.ne_nil_of_length_pos (by omega)
        simp only [if_true] at hrest ⊢
        have hsrc' : src = pre ++ (renderCells hrow ++ (render rowsW ++ tailText nxt)) := by
          rw [hsrc, ← hrest]; simp
        have hinit' : CellStart src offs maxrow ncols
            (initKS pre.length (pre.length + leadWs rest) true 0 (offAt offs 1) inds vals)
            (pre ++ (renderCells hrow ++ (render rowsW ++ tailText nxt)).takeWhile isWs) 0 true 0 pre.length (fun _ => []) := by
          have : renderCells hrow ++ (render rowsW ++ tailText nxt) = rest := by rw [← hrest]; simp
          rw [this]; exact hinit
        obtain ⟨n1, s1, hsteps1, hle⟩ :=
          row_cells (offs := offs) (maxrow := maxrow) hrow pre (render rowsW ++ tailText nxt) _ 0 true 0 pre.length
            (fun _ => []) hne' hwf (by omega) hsrc' hinit' (rowCap_true _ _ _ _)
        simp only [if_true, stageRow_true] at hle
        rcases hle with ⟨_, hcs1⟩ | ⟨h0, _⟩
        · exact ⟨n1, s1, hsteps1, hcs1⟩
        · omega
      | false =>
        simp only [Bool.false_eq_true, if_false, List.nil_append, List.append_nil] at hrest ⊢
        refine ⟨0, _, .refl _, ?_⟩
        rw [hrest]; exact hinit
    generalize hA0 : pre ++ (if hh then renderCells hrow else []) = A0 at hcs1
    have hsrc1 : src = A0 ++ (render rowsW ++ tailText nxt) := by
      rw [hsrc, ← hrest, ← hA0]; simp
    have hA0' : ∀ l : List (List Cell), pre ++ ((if hh then renderCells hrow else []) ++ render l) = A0 ++ render l := by
      intro l; rw [← hA0]; simp
    obtain ⟨n2, s2, a, hsteps2, hale, hcapsA, hout⟩ :=
      rows_run (offs := offs) (maxrow := maxrow) hnc rowsW A0 (tailText nxt) s1 0 (fun _ => []) htab hsrc1 hcs1 hstr0
    have h12 := StepsN.trans hsteps1 hsteps2
    rcases hout with ⟨ha, hcs2, hstr2⟩ | ⟨hapos, hka, hend⟩ | ⟨halt, j, hend, hb⟩
    · -- all complete records are staged: what follows them?
      subst ha
      simp only [Nat.zero_add] at hcs2
      have htake : rowsW.take rowsW.length = rowsW := List.take_length
      obtain ⟨n3, s3, hsteps3, hfin⟩ : ∃ n3 s3, KSteps src offs maxrow n3 s2 s3 ∧
          (WindowEnd offs maxrow ncols s3 rowsW.length (A0 ++ render rowsW).length (stageRows (fun _ => []) rowsW) ∨
           ∃ j, FullEnd offs maxrow ncols s3 rowsW.length (A0 ++ render rowsW).length (stageRows (fun _ => []) rowsW) j ∧
             offAt offs (j + 1) ≤ offAt offs j +
               (column (values ((rowsW ++ tailRows nxt).take (rowsW.length + 1))) j).flatten.length) := by
        cases hn : nxt with
        | none =>
          rw [hn] at hcs2 hsrc1
          simp only [tailText, List.takeWhile_nil, List.append_nil] at hcs2 hsrc1
          rw [← hsrc1] at hcs2 ⊢
          exact ⟨0, s2, .refl _, Or.inl (cell_tail_none hcs2 (Ext.refl _))⟩
        | some p =>
          obtain ⟨r, m⟩ := p
          obtain ⟨hm, hrl, hrwf⟩ := hnxt r m hn
          rw [hn] at hcs2 hsrc1
          simp only [tailText] at hcs2 hsrc1
          have hrne : r ≠ [] := List.ne_nil_of_length_pos (by omega)
          have hsrc2 : src = (A0 ++ render rowsW) ++ ((renderCells r).take m ++ []) := by rw [hsrc1]; simp
          have hcs2' : CellStart src offs maxrow ncols s2
              ((A0 ++ render rowsW) ++ ((renderCells r).take m ++ []).takeWhile isWs) 0 false rowsW.length
              (A0 ++ render rowsW).length (stageRows (fun _ => []) rowsW) := by
            simpa using hcs2
          obtain ⟨n3, s3, hsteps3, hend⟩ :=
            row_stop (offs := offs) (maxrow := maxrow) (E := stageRows (fun _ => []) rowsW) r m (A0 ++ render rowsW) [] s2 0
              (stageRows (fun _ => []) rowsW) hrne hrwf (by omega) (Nat.le_of_lt hm) (fun _ => rfl) (Or.inl hm) hsrc2 hcs2'
              (Ext.refl _) hstr2
          refine ⟨n3, s3, hsteps3, ?_⟩
          rcases hend with ⟨_, h⟩ | ⟨j, h, hb⟩
          · exact Or.inl h
          · refine Or.inr ⟨j, h, ?_⟩
            have h1 : (rowsW ++ tailRows (some (r, m))).take (rowsW.length + 1) = rowsW ++ [r] := by
              simp only [tailRows]
              exact List.take_of_length_le (by simp)
            rw [← stageRows_snoc, stageRows_col] at hb
            rw [h1]
            simpa using hb
      have h123 := StepsN.trans h12 hsteps3
      rcases hfin with hwe | ⟨j, hfe, hb⟩
      · have hcall := call_of_steps hh pre rest hsrc hsh hnc hz hlead h123 hwe.done
        refine ⟨s3.out, rowsW.length, hcall, hale, ?_, Or.inl ⟨hwe.indsFull, hwe.valsFull, hwe.vfc, rfl⟩⟩
        rw [htake, hA0']
        exact hwe.res hstr2
      · have hcall := call_of_steps hh pre rest hsrc hsh hnc hz hlead h123 hfe.done
        refine ⟨s3.out, rowsW.length, hcall, hale, ?_, Or.inr (Or.inr ⟨hfe.indsFull, hfe.valsFull, j, hfe.jlt, hfe.vfc, ?_⟩)⟩
        · rw [htake, hA0']
          exact hfe.toKEnd.res hstr2
        · exact hb
    · -- the index buffer is full
      have hcall := call_of_steps hh pre rest hsrc hsh hnc hz hlead h12 hend.done
      refine ⟨s2.out, a, hcall, hale, ?_, Or.inr (Or.inl ⟨hend.indsFull, hend.valsFull, hend.vfc, by omega⟩)⟩
      obtain rfl : a = maxrow := by omega
      rw [hA0']
      exact hend.res hcapsA
    · -- a value budget is used up inside record `a`
      simp only [Nat.zero_add] at hend
      have hcall := call_of_steps hh pre rest hsrc hsh hnc hz hlead h12 hend.done
      refine ⟨s2.out, a, hcall, hale, ?_, Or.inr (Or.inr ⟨hend.indsFull, hend.valsFull, j, hend.jlt, hend.vfc, ?_⟩)⟩
      · rw [hA0']
        exact hend.toKEnd.res hcapsA
      · have h1 : (rowsW ++ tailRows nxt).take (a + 1) = rowsW.take (a + 1) := by
          rw [List.take_append_of_le_length (by omega)]
        rw [h1]
        rw [stageRows_col] at hb
        simpa using hb
  · -- only blanks are left: no header, no complete record
    have hle := leadWs_le rest
    have hlen : src.length = pre.length + rest.length := by rw [hsrc]; simp
    have hblank : rest.length ≤ leadWs rest := by omega
    have hhf : hh = false := by
      cases hh with
      | false => rfl
      | true =>
        exfalso
        obtain ⟨hl, _⟩ := hhdr rfl
        have hne' : hrow ≠ [] := List.ne_nil_of_length_pos (by omega)
        have := leadWs_renderCells_lt hrow hne' (render rowsW ++ tailText nxt)
        rw [← hrest] at hblank
        simp only [if_true, List.append_assoc] at hblank
        omega
    subst hhf
    have hrW : rowsW = [] := by
      cases hW : rowsW with
      | nil => rfl
      | cons r1 rs =>
        exfalso
        have hr1 := (htab r1 (by rw [hW]; simp)).1
        have hne' : r1 ≠ [] := List.ne_nil_of_length_pos (by omega)
        have := leadWs_renderCells_lt r1 hne' (render rs ++ tailText nxt)
        rw [← hrest, hW] at hblank
        simp only [Bool.false_eq_true, if_false, List.nil_append, render, List.append_assoc] at hblank
        omega
    subst hrW
    have hcall := call_blank (offs := offs) (vals := vals) pre rest hsrc hsh hnc hz hblank
    refine ⟨_, 0, hcall, Nat.le_refl _, ?_, Or.inl ⟨rfl, rfl, rfl, rfl⟩⟩
    exact ⟨by simp [render], rfl, hsh, (staged_init hsh hz).cols, fun c hc => by simpa [stageRows] using hbud c hc⟩

/-- when the records in the window (the unfinished one included) fit the value budgets and the index buffer, the call
    reports all complete records and raises no flag -/
theorem kernel_fits {src : Bytes} {offs : List Nat} {maxrow ncols : Nat} {inds : List (List Nat)} {vals : List Nat}
    (hh : Bool) (hrow : List Cell) (rowsW : List (List Cell)) (nxt : Option (List Cell × Nat)) (pre : Bytes)
    (hsrc : src = pre ++ (((if hh then renderCells hrow else []) ++ render rowsW) ++ tailText nxt))
    (hnxt : ∀ r m, nxt = some (r, m) → m < (renderCells r).length ∧ r.length = ncols ∧ ∀ c ∈ r, c.WF)
    (hhdr : hh = true → hrow.length = ncols ∧ ∀ c ∈ hrow, c.WF)
    (htab : ∀ r ∈ rowsW, r.length = ncols ∧ ∀ c ∈ r, c.WF) (hnc : 0 < ncols)
    (hsh : Shape ncols maxrow offs inds vals) (hmax : 0 < maxrow)
    (hz : ∀ c, c < ncols → ∃ r, inds[c]? = some r ∧ r[0]? = some 0)
    (hfit : ∀ c, c < ncols →
      offAt offs c + (column (values (rowsW ++ tailRows nxt)) c).flatten.length < offAt offs (c + 1))
    (hrows : rowsW.length < maxrow) :
    ∃ o, fastCsvReader src pre.length inds vals offs hh = .ok o ∧
      KernelOK ncols maxrow offs o (pre ++ ((if hh then renderCells hrow else []) ++ render rowsW)).length rowsW.length
        (stageRows (fun _ => []) rowsW) := by
  obtain ⟨o, a, hker, hale, hres, hout⟩ :=
    kernel_general hh hrow rowsW nxt pre hsrc hnxt hhdr htab hnc hsh hmax hz (fun c hc => by have := hfit c hc; omega)
  rcases hout with ⟨hif, hvf, hvfc, ha⟩ | ⟨_, _, _, ha⟩ | ⟨_, _, j, hj, _, hb⟩
  · subst ha
    rw [List.take_length] at hres
    exact ⟨o, hker, hres.nextPos, hres.written, hif, hvf, hvfc, hres.shape, hres.cols⟩
  · omega
  · have h1 := column_part_le [] ((rowsW ++ tailRows nxt).take (a + 1)) ((rowsW ++ tailRows nxt).drop (a + 1)) j
    rw [List.nil_append, List.take_append_drop] at h1
    have := hfit j hj
    omega

end Exetera.Csv
