import Exetera.Spec.Storage
import Exetera.Lemmas.PrefixSums
/-! Facts about the specification's `offsets`. -/
namespace Exetera.Spec

/-- `offsetsFrom` leaves out the first offset -/
theorem offsetsFrom_eq_prefixSums {β} (b : Nat) (xs : List (List β)) :
    offsetsFrom b xs = (prefixSums b (xs.map List.length)).tail := by
  induction xs generalizing b with
  | nil => rfl
  | cons e es ih => rw [offsetsFrom, ih, List.map_cons, prefixSums, List.tail_cons, prefixSums.cons_tail]

theorem offsets_eq_prefixSums {β} (xs : List (List β)) : offsets xs = prefixSums 0 (xs.map List.length) := by
  rw [offsets, offsetsFrom_eq_prefixSums, prefixSums.cons_tail]

theorem offsets_snoc {β} (es : List (List β)) (e : List β) :
    offsets (es ++ [e]) = offsets es ++ [es.flatten.length + e.length] := by
  rw [offsets_eq_prefixSums, offsets_eq_prefixSums, prefixSums.snoc_lengths, Nat.zero_add]

@[simp] theorem offsets_nil {β} : offsets ([] : List (List β)) = [0] := rfl

@[simp] theorem length_offsets {β} (xs : List (List β)) : (offsets xs).length = xs.length + 1 := by
  rw [offsets_eq_prefixSums, prefixSums.length_eq, List.length_map]

theorem offsets_ne_nil {β} (xs : List (List β)) : offsets xs ≠ [] := by simp [offsets]

/-- the `i`-th offset is the number of bytes of the first `i` entries -/
theorem offsets_getElem? {β} (xs : List (List β)) (i : Nat) (h : i ≤ xs.length) :
    (offsets xs)[i]? = some (xs.take i).flatten.length := by
  rw [offsets_eq_prefixSums, prefixSums.getElem?_lengths 0 xs i h, Nat.zero_add]

theorem offsets_getLast? {β} (xs : List (List β)) : (offsets xs).getLast? = some xs.flatten.length := by
  rw [offsets_eq_prefixSums, prefixSums.getLast?_lengths, Nat.zero_add]

theorem offsets_pairwise {β} (xs : List (List β)) : (offsets xs).Pairwise (· ≤ ·) :=
  offsets_eq_prefixSums xs ▸ prefixSums.pairwise 0 _

theorem offsets_head? {β} (xs : List (List β)) : (offsets xs).head? = some 0 := rfl

end Exetera.Spec
