import Exetera.Gen.Kernels
import Exetera.Model.Journal
import Exetera.Lemmas.While
import Exetera.Lemmas.GenKernels
import Exetera.Lemmas.GenKernelsSpans
/-!
  The TRANSLATED `ordered_generate_journalling_indices` (two passes of three consecutive `while` loops each; six copies of the
  run-skipping `while i+1 < len(old) and old[i+1] == old[i]` whose condition subscripts) against `Journal.journalIndices`.

  The run-skipping loop on the kernel's fuel computes `skipRun` (the model's structural recursion); its six copies are one
  definition (`rfl`).  The model has the pass as a parameter (`none`: counting, `some cap`: writing), and so has the kernel side
  here: the six outer loop bodies are `mainK`, `oldK`, `newK` at the two passes, each an emission (count the pair, or store it at
  `joint`) followed by a move of the cursors, as the model's steps are.  One relation `R w` serves both passes; in the writing
  pass the buffers are the model's written lists followed by the untouched `-1`s.
-/
namespace Exetera.GenK

open Exetera Exetera.PyRt Exetera.Gen.Kernels Exetera.Journal

namespace JIdx

open ordered_generate_journalling_indices

abbrev St := ordered_generate_journalling_indices.St

theorem guard_val (s : St) (i : Nat) (hi : s.v0 = i) :
    guardE_L2 s = .ok (decide (i + 1 < s.p0.length) && (s.p0[i + 1]? == s.p0[i]?)) := by
  by_cases hlt : i + 1 < s.p0.length
  · have hd : decide (((i + 1 : Nat) : Int) < pyLen s.p0) = true := decide_eq_true (by simp only [pyLen]; omega)
    have e : (i : Int) + 1 = ((i + 1 : Nat) : Int) := rfl
    have hi' : i < s.p0.length := by omega
    simp only [guardE_L2, hi, e, hd, if_true, idxE_nat, getE_of_lt _ hlt, getE_of_lt _ hi', bindE_ok,
      List.getElem?_eq_getElem hlt, List.getElem?_eq_getElem hi', hlt, decide_true, Bool.true_and, Option.some_beq_some]
  · have hd : decide ((i : Int) + 1 < pyLen s.p0) = false := decide_eq_false (by simp only [pyLen]; omega)
    simp only [guardE_L2, hi, hd, Bool.false_eq_true, if_false, hlt, decide_false, Bool.false_and]

theorem skip_from : ∀ (f F i : Nat) (s : St), s.v0 = i → s.p0.length - i ≤ f → s.p0.length - i ≤ F →
    whileG guardE_L2 body_L2 F s = .ok { s with v0 := (skipRunFrom s.p0 f i : Nat) } := by
  intro f
  induction f with
  | zero =>
    intro F i s hi hf _
    rw [skipRunFrom, ← hi]
    exact whileG_done (by rw [guard_val s i hi, decide_eq_false (by omega), Bool.false_and]) F
  | succ f ih =>
    intro F i s hi hf hF
    have hg := guard_val s i hi
    rw [skipRunFrom]
    cases hc : (decide (i + 1 < s.p0.length) && (s.p0[i + 1]? == s.p0[i]?)) with
    | false =>
      rw [hc] at hg
      rw [if_neg Bool.false_ne_true, ← hi]
      exact whileG_done hg F
    | true =>
      rw [hc] at hg
      have hlt : i + 1 < s.p0.length := of_decide_eq_true (Bool.and_eq_true_iff.mp hc).1
      obtain ⟨F', rfl⟩ : ∃ F', F = F' + 1 := ⟨F - 1, by omega⟩
      rw [if_pos rfl, whileG_step hg (rfl : body_L2 s = .ok { s with v0 := s.v0 + 1 })]
      exact ih F' (i + 1) { s with v0 := s.v0 + 1 } (by rw [hi]; rfl) (show s.p0.length - (i + 1) ≤ f by omega)
        (show s.p0.length - (i + 1) ≤ F' by omega)

theorem skip (s : St) (i F : Nat) (hi : s.v0 = i) (hF : s.p0.length ≤ F) :
    whileG guardE_L2 body_L2 F s = .ok { s with v0 := (skipRun s.p0 i : Nat) } :=
  skip_from (s.p0.length - i) F i s hi (Nat.le_refl _) (by omega)

theorem gL3 : guardE_L3 = guardE_L2 := rfl
theorem bL3 : body_L3 = body_L2 := rfl
theorem gL5 : guardE_L5 = guardE_L2 := rfl
theorem bL5 : body_L5 = body_L2 := rfl
theorem gL8 : guardE_L8 = guardE_L2 := rfl
theorem bL8 : body_L8 = body_L2 := rfl
theorem gL9 : guardE_L9 = guardE_L2 := rfl
theorem bL9 : body_L9 = body_L2 := rfl
theorem gL11 : guardE_L11 = guardE_L2 := rfl
theorem bL11 : body_L11 = body_L2 := rfl

theorem npFull_nat (n : Nat) (v : Int) : npFull (n : Int) v = .ok (List.replicate n v) := by
  simp [npFull]

theorem write_fill (b : List Int) (cap k : Nat) (v : Int) (hk : k = b.length) (h : k < cap) (site : String) :
    setIdxE (b ++ List.replicate (cap - b.length) (-1)) (k : Int) v site
      = .ok ((b ++ [v]) ++ List.replicate (cap - (b ++ [v]).length) (-1)) := by
  subst hk
  rw [setIdxE_of_lt _ _ (by rw [List.length_append, List.length_replicate]; omega), set_append_replicate b cap v (-1) h]

/-! As in the model, `w = none` is the counting pass and `w = some cap` the writing pass (the kernel does not look at `cap`). -/

/-- what a pass does with a pair `(a, b)` of the result (count it, or store it at `joint`), then moving the cursors to `i`, `j` -/
def emitK : Option Nat → St → Int → Int → Int → Int → Except Err St
  | none, s, _, _, i, j => .ok { s with v0 := i, v1 := j, v2 := s.v2 + 1 }
  | some _, s, a, b, i, j =>
    bindE (setIdxE s.v3 s.v5 a "v3[v5]") fun x =>
    bindE (setIdxE s.v4 s.v5 b "v4[v5]") fun y =>
    .ok { s with v0 := i, v1 := j, v3 := x, v4 := y, v5 := s.v5 + 1 }

def oldK (w : Option Nat) (F : Nat) (s : St) : Except Err St :=
  bindE (whileG guardE_L2 body_L2 F s) fun s => emitK w s s.v0 (-1) (s.v0 + 1) s.v1

def newK (w : Option Nat) (s : St) : Except Err St := emitK w s (-1) s.v1 s.v0 (s.v1 + 1)

def bothK (w : Option Nat) (F : Nat) (s : St) : Except Err St :=
  bindE (whileG guardE_L2 body_L2 F s) fun s => emitK w s s.v0 s.v1 (s.v0 + 1) (s.v1 + 1)

def mainK (w : Option Nat) (F : Nat) (s : St) : Except Err St :=
  bindE (idxE s.p0 s.v0 "p0[v0]") fun a =>
  bindE (idxE s.p1 s.v1 "p1[v1]") fun b =>
  if decide (a < b) then oldK w F s
  else
    bindE (idxE s.p0 s.v0 "p0[v0]") fun a =>
    bindE (idxE s.p1 s.v1 "p1[v1]") fun b =>
    if decide (a > b) then newK w s else bothK w F s

theorem count_loops : body_L1 = mainK none ∧ body_L4 = oldK none ∧ body_L6 = newK none := ⟨rfl, rfl, rfl⟩

theorem write_loops (cap : Nat) : body_L7 = mainK (some cap) ∧ body_L10 = oldK (some cap) ∧ body_L12 = newK (some cap) ∧
    guard_L7 = guard_L1 ∧ guard_L10 = guard_L4 ∧ guard_L12 = guard_L6 := ⟨rfl, rfl, rfl, rfl, rfl, rfl⟩

/-- the model's steps are an emission followed by a move of the cursors, too -/
def emitM (w : Option Nat) (t : JS) (a b : Int) (i j : Nat) : Except Err JS :=
  bindE (emit w t a b) fun t' => .ok { t' with i := i, j := j }

theorem emitM_some {cap : Nat} {t t' : JS} {a b : Int} {i j : Nat} (h : emitM (some cap) t a b i j = .ok t') :
    t.ob.length < cap ∧ t' = { t with i := i, j := j, ob := t.ob ++ [a], nb := t.nb ++ [b] } := by
  simp only [emitM, emit] at h
  split at h
  · rename_i hlt
    exact ⟨hlt, (Except.ok.inj h).symm⟩
  · cases h

theorem emit_move (w : Option Nat) (t : JS) (a b : Int) (i j : Nat) (g : JS → JS)
    (hg : ∀ n ob nb, g ⟨t.i, t.j, n, ob, nb⟩ = ⟨i, j, n, ob, nb⟩) :
    (match emit w t a b with | .ok t' => .ok (g t') | .error e => .error e) = emitM w t a b i j := by
  cases w with
  | none => simp only [emit, emitM, bindE_ok, hg]
  | some cap =>
    by_cases h : t.ob.length < cap
    · simp only [emit, emitM, h, if_true, bindE_ok, hg]
    · simp only [emit, emitM, h, if_false, bindE_error]

theorem oldStep_eq (w : Option Nat) (old : List Int) (t : JS) :
    oldStep w old t = emitM w t (skipRun old t.i : Nat) (-1) (skipRun old t.i + 1) t.j :=
  emit_move w t _ _ _ _ _ fun _ _ _ => rfl

theorem newStep_eq (w : Option Nat) (t : JS) : newStep w t = emitM w t (-1) t.j t.i (t.j + 1) :=
  emit_move w t _ _ _ _ _ fun _ _ _ => rfl

theorem bothStep_eq (w : Option Nat) (old : List Int) (t : JS) :
    bothStep w old t = emitM w t (skipRun old t.i : Nat) t.j (skipRun old t.i + 1) (t.j + 1) :=
  emit_move w t _ _ _ _ _ fun _ _ _ => rfl

/-- counting: `total` is the model's; writing: `joint` is the number written, and the two preallocated maps are the model's
    written lists followed by the untouched `-1`s -/
def Out : Option Nat → St → JS → Prop
  | none, s, t => s.v2 = (t.n : Int)
  | some cap, s, t => s.v5 = (t.ob.length : Int) ∧ t.nb.length = t.ob.length ∧
      s.v3 = t.ob ++ List.replicate (cap - t.ob.length) (-1) ∧ s.v4 = t.nb ++ List.replicate (cap - t.nb.length) (-1)

def R (w : Option Nat) (old new : List Int) (s : St) (t : JS) : Prop :=
  s.p0 = old ∧ s.p1 = new ∧ s.v0 = (t.i : Int) ∧ s.v1 = (t.j : Int) ∧ Out w s t

theorem Out.cursors {w : Option Nat} {s : St} {t : JS} (h : Out w s t) (x y : Int) : Out w { s with v0 := x, v1 := y } t := by
  cases w <;> exact h

theorem emit_sim {w : Option Nat} {s : St} {t t' : JS} {a b : Int} {i j : Nat} (hO : Out w s t)
    (h : emitM w t a b i j = .ok t') : ∃ s', emitK w s a b i j = .ok s' ∧ R w s.p0 s.p1 s' t' := by
  cases w with
  | none =>
    cases h
    exact ⟨_, rfl, rfl, rfl, rfl, rfl, congrArg (· + 1) hO⟩
  | some cap =>
    obtain ⟨hlt, rfl⟩ := emitM_some h
    obtain ⟨h5, hlen, h3, h4⟩ := hO
    refine ⟨{ s with
      v0 := i, v1 := j, v5 := s.v5 + 1
      v3 := (t.ob ++ [a]) ++ List.replicate (cap - (t.ob ++ [a]).length) (-1)
      v4 := (t.nb ++ [b]) ++ List.replicate (cap - (t.nb ++ [b]).length) (-1) }, ?_, rfl, rfl, rfl, rfl, ?_, ?_, rfl, rfl⟩
    · simp only [emitK, h3, h4, h5, write_fill t.ob cap _ _ rfl hlt, write_fill t.nb cap _ _ hlen.symm hlt, bindE_ok]
    · simp only [List.length_append, List.length_singleton, h5]
      rfl
    · simp only [List.length_append, List.length_singleton, hlen]

variable {w : Option Nat} {old new : List Int} {F : Nat} {s : St} {t t' : JS}

theorem old_sim (hF : old.length ≤ F) (hR : R w old new s t) (hb : oldStep w old t = .ok t') :
    ∃ s', oldK w F s = .ok s' ∧ R w old new s' t' := by
  obtain ⟨rfl, rfl, h0, h1, hO⟩ := hR
  rw [oldStep_eq] at hb
  simp only [oldK, skip s t.i F h0 hF, bindE_ok, h1]
  exact emit_sim (hO.cursors _ _) hb

theorem new_sim (hR : R w old new s t) (hb : newStep w t = .ok t') : ∃ s', newK w s = .ok s' ∧ R w old new s' t' := by
  obtain ⟨rfl, rfl, h0, h1, hO⟩ := hR
  rw [newStep_eq] at hb
  simp only [newK, h0, h1]
  exact emit_sim hO hb

theorem both_sim (hF : old.length ≤ F) (hR : R w old new s t) (hb : bothStep w old t = .ok t') :
    ∃ s', bothK w F s = .ok s' ∧ R w old new s' t' := by
  obtain ⟨rfl, rfl, h0, h1, hO⟩ := hR
  rw [bothStep_eq] at hb
  simp only [bothK, skip s t.i F h0 hF, bindE_ok, h1]
  exact emit_sim (hO.cursors _ _) hb

theorem main_sim (hF : old.length ≤ F) (hR : R w old new s t) (hb : mainBody w old new t = .ok t') :
    ∃ s', mainK w F s = .ok s' ∧ R w old new s' t' := by
  simp only [mainBody] at hb
  cases ha : getE old t.i "old[i]" with
  | error e => simp [ha] at hb
  | ok a =>
    cases hbb : getE new t.j "new[j]" with
    | error e => simp [ha, hbb] at hb
    | ok b =>
      simp only [ha, hbb] at hb
      simp only [mainK, hR.1, hR.2.1, hR.2.2.1, hR.2.2.2.1, idxE_nat, getE_site "p0[v0]" ha, getE_site "p1[v1]" hbb, bindE_ok]
      by_cases hlt : a < b
      · simp only [hlt, if_true] at hb
        simp only [hlt, decide_true, if_true]
        exact old_sim hF hR hb
      · simp only [hlt, if_false] at hb
        simp only [hlt, decide_false, Bool.false_eq_true, if_false]
        by_cases hgt : a > b
        · simp only [hgt, if_true] at hb
          simp only [hgt, decide_true, if_true]
          exact new_sim hR hb
        · simp only [hgt, if_false] at hb
          simp only [hgt, decide_false, Bool.false_eq_true, if_false]
          exact both_sim hF hR hb

theorem pass_sim (hF : old.length + new.length ≤ F) {c : JS} (h : pass w old new = .ok c) (hR : R w old new s {}) :
    ∃ s1 s2 s3, whileE guard_L1 (mainK w F) F s = .ok s1 ∧ whileE guard_L4 (oldK w F) F s1 = .ok s2 ∧
      whileE guard_L6 (newK w) F s2 = .ok s3 ∧ R w old new s3 c := by
  unfold pass at h
  cases h1 : whileE (fun s : JS => decide (s.i < old.length) && decide (s.j < new.length)) (mainBody w old new)
      (old.length + new.length) {} with
  | error e => simp [h1] at h
  | ok t1 =>
    simp only [h1] at h
    cases h2 : whileE (fun s : JS => decide (s.i < old.length)) (oldStep w old) old.length t1 with
    | error e => simp [h2] at h
    | ok t2 =>
      simp only [h2] at h
      obtain ⟨s1, hw1, hR1⟩ := whileE_sim (R w old new) guard_L1 (mainK w F) _ _
        (by
          rintro s t ⟨h0, h1, hv0, hv1, _⟩
          simp only [guard_L1, h0, h1, hv0, hv1, pyLen, Int.ofNat_lt])
        (fun s t t' hR _ hb => main_sim (by omega) hR hb) _ s {} t1 hR h1
      obtain ⟨s2, hw2, hR2⟩ := whileE_sim (R w old new) guard_L4 (oldK w F) _ _
        (by
          rintro s t ⟨h0, h1, hv0, hv1, _⟩
          simp only [guard_L4, h0, hv0, pyLen, Int.ofNat_lt])
        (fun s t t' hR _ hb => old_sim (by omega) hR hb) _ s1 t1 t2 hR1 h2
      obtain ⟨s3, hw3, hR3⟩ := whileE_sim (R w old new) guard_L6 (newK w) _ _
        (by
          rintro s t ⟨h0, h1, hv0, hv1, _⟩
          simp only [guard_L6, h1, hv1, pyLen, Int.ofNat_lt])
        (fun s t t' hR _ hb => new_sim hR hb) _ s2 t2 c hR2 h
      exact ⟨s1, s2, s3, whileE_mono _ _ _ _ _ hw1 F hF, whileE_mono _ _ _ _ _ hw2 F (by omega),
        whileE_mono _ _ _ _ _ hw3 F (by omega), hR3⟩

end JIdx

open ordered_generate_journalling_indices in
theorem ordered_generate_journalling_indices_ok (old new : List Int) (r : List Int × List Int) (fuel : Nat)
    (hfuel : old.length + new.length ≤ fuel) (h : journalIndices old new = .ok r) :
    ordered_generate_journalling_indices.run old new fuel = .ok r := by
  unfold journalIndices at h
  cases hc : pass none old new with
  | error e => simp [hc] at h
  | ok c =>
    simp only [hc] at h
    cases hw : pass (some c.n) old new with
    | error e => simp [hw] at h
    | ok w =>
      simp only [hw, Except.ok.injEq] at h
      subst h
      obtain ⟨s1, s2, s3, e1, e2, e3, g0, g1, -, -, (gv2 : s3.v2 = (c.n : Int))⟩ := JIdx.pass_sim (F := fuel) hfuel hc
        (s := ⟨old, new, 0, 0, 0, [], [], 0⟩) ⟨rfl, rfl, rfl, rfl, rfl⟩
      obtain ⟨u1, u2, u3, f1, f2, f3, -, -, -, -, -, -, k3, k4⟩ := JIdx.pass_sim (F := fuel) hfuel hw
        (s := ⟨s3.p0, s3.p1, 0, 0, (c.n : Int), List.replicate c.n (-1), List.replicate c.n (-1), 0⟩)
        ⟨g0, g1, rfl, rfl, rfl, rfl, by simp, by simp⟩
      obtain ⟨b1, b4, b6⟩ := JIdx.count_loops
      obtain ⟨b7, b10, b12, g7, g10, g12⟩ := JIdx.write_loops c.n
      unfold ordered_generate_journalling_indices.run
      simp only [b1, b4, b6, b7, b10, b12, g7, g10, g12, e1, e2, e3, bindE_ok, gv2, JIdx.npFull_nat, f1, f2, f3, k3, k4]

end Exetera.GenK
