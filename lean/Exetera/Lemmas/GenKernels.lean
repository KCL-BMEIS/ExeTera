import Exetera.Model.PyRt
import Exetera.Model.Spans
import Exetera.Lemmas.Basic
/-!
  Proof toolkit for the TRANSLATED kernels (`Gen/Kernels.lean`): the refinement relation `Sim` between a generated
  kernel and its hand-written model, facts about the runtime prelude (`Model/PyRt.lean`), a fixed-size result buffer against
  the list a model has written so far (`Buf`), and the simulation rule that relates a translated
  `for i in range(len(spans) - 1)` loop to the hand model's `forPairs` recursion.
-/
namespace Exetera.GenK

open Exetera Exetera.PyRt Exetera.Spans

/-- same result, and in the error case the same error class (the two sides name their subscript sites differently) -/
def Sim {α} (a b : Except Err α) : Prop :=
  match a, b with
  | .ok x, .ok y => x = y
  | .error e, .error e' => e.tag = e'.tag
  | _, _ => False

theorem Sim.rfl' {α} (a : Except Err α) : Sim a a := by
  cases a <;> simp [Sim]

theorem Sim.of_eq {α} {a b : Except Err α} (h : a = b) : Sim a b := h ▸ Sim.rfl' a

theorem Sim.ok_right {α} {a b : Except Err α} {r : α} (h : Sim a b) (hb : b = .ok r) : a = .ok r := by
  subst hb
  cases a <;> simp_all [Sim]

theorem Sim.ok_left {α} {a b : Except Err α} {r : α} (h : Sim a b) (ha : a = .ok r) : b = .ok r := by
  subst ha
  cases b <;> simp_all [Sim]

theorem Sim.ok_iff {α} {a b : Except Err α} (h : Sim a b) (r : α) : a = .ok r ↔ b = .ok r :=
  ⟨h.ok_left, h.ok_right⟩

theorem Sim.error_right {α} {a b : Except Err α} {e : Err} (h : Sim a b) (hb : b = .error e) :
    ∃ e', a = .error e' ∧ e'.tag = e.tag := by
  subst hb
  cases a <;> simp_all [Sim]

/-- `Err.tag` of an out-of-bounds error does not depend on the site -/
@[simp] theorem oob_tag (s : String) : (Err.oob s).tag = "index_error" := rfl

/-! ### the runtime prelude on non-negative data -/

theorem idxE_nat {α} (xs : List α) (i : Nat) (site : String) : idxE xs (i : Int) site = getE xs i site := by
  simp [idxE]

theorem setIdxE_nat {α} (xs : List α) (i : Nat) (v : α) (site : String) : setIdxE xs (i : Int) v site = setE xs i v site := by
  simp [setIdxE]

theorem getE_map_ofNat (sp : List Nat) (i : Nat) (site : String) {x : Nat} (h : sp[i]? = some x) :
    getE (sp.map Int.ofNat) i site = .ok (x : Int) := by
  simp [getE, List.getElem?_map, h]

/-- a read of an `Int` array known to be the cast of a model array, as a rewrite rule for that array alone (rewriting with `hx`
    itself would also rewrite the array inside every state the goal mentions) -/
theorem getE_ofNat {xs : List Int} {sp : List Nat} (hx : xs = sp.map Int.ofNat) {i x : Nat} (h : sp[i]? = some x) (site : String) :
    getE xs i site = .ok (x : Int) := hx ▸ getE_map_ofNat sp i site h

theorem npZeros_nat (n : Nat) : npZeros (n : Int) = .ok (List.replicate n 0) := by
  simp [npZeros]

theorem npZeros_neg {n : Int} (h : n < 0) : npZeros n = .error (.valueError "negative dimensions are not allowed") := by
  simp [npZeros, h]

/-- `dest[:] = r` with matching lengths -/
theorem setSliceE_all {α} (dest r : List α) (h : r.length = dest.length) : setSliceE dest none none r = .ok r := by
  simp [setSliceE, normBound, broadcastTo, h]

/-- `xs[:-1]` -/
theorem pySlice_dropLast {α} (xs : List α) : pySlice xs none (some (-1)) = xs.dropLast := by
  simp only [pySlice, normBound, slice]
  have h1 : ((-1 : Int) < 0) := by omega
  simp only [h1, if_true, List.drop_zero, Nat.sub_zero]
  have : ((-1 : Int) + (xs.length : Int)).toNat = xs.length - 1 := by omega
  rw [this, List.dropLast_eq_take]

/-- `xs[1:]` -/
theorem pySlice_tail {α} (xs : List α) : pySlice xs (some 1) none = xs.tail := by
  simp only [pySlice, normBound, slice]
  have h1 : ¬ ((1 : Int) < 0) := by omega
  simp only [h1, if_false]
  cases xs with
  | nil => simp
  | cons a t =>
    have : min (1 : Int).toNat (a :: t).length = 1 := by simp
    rw [this]
    simp

/-! ### subscripts and comparisons at casts of naturals

  The translated kernels compute in `Int`, the hand models in `Nat`. Stated once, for `simp only`: a subscript at `↑a`, `↑a + ↑b`
  or `↑a + 1` is the checked read or write at the natural index, and a comparison of casts is the comparison of the naturals. -/

theorem idxE_nat_add {α} (xs : List α) (a b : Nat) (site : String) :
    idxE xs ((a : Int) + (b : Int)) site = getE xs (a + b) site := idxE_nat xs (a + b) site

theorem idxE_nat_succ {α} (xs : List α) (a : Nat) (site : String) : idxE xs ((a : Int) + 1) site = getE xs (a + 1) site :=
  idxE_nat xs (a + 1) site

theorem setIdxE_nat_add {α} (xs : List α) (a b : Nat) (v : α) (site : String) :
    setIdxE xs ((a : Int) + (b : Int)) v site = setE xs (a + b) v site := setIdxE_nat xs (a + b) v site

theorem setIdxE_nat_succ {α} (xs : List α) (a : Nat) (v : α) (site : String) :
    setIdxE xs ((a : Int) + 1) v site = setE xs (a + 1) v site := setIdxE_nat xs (a + 1) v site

theorem idxE_at {α} {xs : List α} {k : Int} {i : Nat} (hk : k = i) (site : String) : idxE xs k site = getE xs i site :=
  hk ▸ idxE_nat xs i site

theorem setIdxE_at {α} {xs : List α} {k : Int} {i : Nat} (hk : k = i) (v : α) (site : String) :
    setIdxE xs k v site = setE xs i v site := hk ▸ setIdxE_nat xs i v site

theorem natCast_bne (a b : Nat) : ((a : Int) != (b : Int)) = (a != b) := by
  rw [Bool.eq_iff_iff]; simp only [bne_iff_ne, ne_eq, Int.natCast_inj]

theorem natCast_beq (a b : Nat) : ((a : Int) == (b : Int)) = (a == b) := by
  rw [Bool.eq_iff_iff]; simp only [beq_iff_eq, Int.natCast_inj]

theorem int_add_sub_cancel_left (a b : Int) : a + b - a = b := by omega

theorem int_add_sub_cancel (a b : Int) : a + (b - a) = b := by omega

theorem int_sub_add_one {a c : Int} (b : Int) (h : c = a + 1) : a - b + 1 = c - b := by omega

theorem toNat_natCast_sub (a b : Nat) : ((b : Int) - (a : Int)).toNat = b - a := by omega

theorem ite_ite_and {α} (c1 c2 : Bool) (A B : α) :
    (if c1 = true then (if c2 = true then A else B) else B) = if (c1 && c2) = true then A else B := by
  cases c1 <;> cases c2 <;> rfl

theorem natCast_sub_beq_one (a b : Nat) : (((b : Int) - (a : Int)) == 1) = decide (b = a + 1) := by
  rw [Bool.eq_iff_iff, beq_iff_eq, decide_eq_true_iff]; omega

theorem natCast_sub_gt_one (a b : Nat) : ((b : Int) - (a : Int) > 1) ↔ b > a + 1 := by omega

theorem natCast_beq_one (n : Nat) : ((n : Int) == 1) = (n == 1) := natCast_beq n 1

theorem natCast_gt_one (n : Nat) : ((n : Int) > 1) ↔ n > 1 := by omega

theorem natCast_ge (a b : Nat) : ((a : Int) ≥ (b : Int)) ↔ a ≥ b := by omega

theorem natCast_sub_pos (a b : Nat) : ((b : Int) - (a : Int) > 0) ↔ b > a := by omega

theorem getE_of_none {α} {xs : List α} {i : Nat} (site : String) (h : xs[i]? = none) : getE xs i site = .error (.oob site) := by
  simp only [getE, h]

theorem getE_of_some {α} {xs : List α} {i : Nat} {x : α} (site : String) (h : xs[i]? = some x) : getE xs i site = .ok x := by
  simp only [getE, h]

theorem setE_eq_ok {α} {xs r : List α} {i : Nat} {v : α} {site : String} :
    setE xs i v site = .ok r ↔ i < xs.length ∧ xs.set i v = r := by
  unfold setE
  by_cases h : i < xs.length
  · simp only [h, if_true, Except.ok.injEq, true_and]
  · simp only [h, if_false, false_and, reduceCtorEq]

theorem setE_ok_site {α} {xs r : List α} {i : Nat} {v : α} {s1 : String} (s2 : String)
    (h : setE xs i v s1 = .ok r) : setE xs i v s2 = .ok r := setE_eq_ok.mpr (setE_eq_ok.mp h)

/-- the result of a subscript does not depend on the site named in its error -/
theorem getE_site {α} {xs : List α} {i : Nat} {s1 : String} {v : α} (s2 : String) (h : getE xs i s1 = .ok v) :
    getE xs i s2 = .ok v := by
  simp only [getE_eq_ok] at h ⊢
  exact h

/-- `decide` of a comparison of two casts is `decide` of the comparison (whatever the instance: `simp` leaves the one the
    translation wrote alone) -/
theorem decide_cast_lt (a b : Nat) [inst : Decidable ((a : Int) < (b : Int))] : @decide _ inst = decide (a < b) :=
  decide_eq_decide.mpr Int.ofNat_lt

theorem bindE_ite {α β} (c : Prop) [Decidable c] (a a' : Except Err α) (f : α → Except Err β) :
    bindE (if c then a else a') f = if c then bindE a f else bindE a' f := by
  split <;> rfl

/-! ### a chunk-sized result buffer -/

/-- `buf` has capacity `cap` and its first `r` places hold `xs` -/
def Buf (cap r : Nat) (buf xs : List Int) : Prop := buf.length = cap ∧ xs.length = r ∧ buf.take r = xs

theorem Buf.push {cap r : Nat} {buf xs : List Int} (h : Buf cap r buf xs) (hc : r < cap) (v : Int) :
    Buf cap (r + 1) (buf.set r v) (xs ++ [v]) := by
  obtain ⟨h1, h2, h3⟩ := h
  refine ⟨by rw [List.length_set, h1], by rw [List.length_append, h2, List.length_singleton], ?_⟩
  rw [take_succ_set _ _ _ (by omega), h3]

theorem Buf.lt {cap r : Nat} {buf xs : List Int} (h : Buf cap r buf xs) (hc : r < cap) : r < buf.length := by
  rw [h.1]; exact hc

/-- `Buf.push` with the position given as the length of the model's list -/
theorem Buf.push_length {cap : Nat} {buf xs : List Int} (h : Buf cap xs.length buf xs) (hc : xs.length < cap) (v : Int) :
    Buf cap (xs ++ [v]).length (buf.set xs.length v) (xs ++ [v]) := by
  rw [List.length_append]; exact h.push hc v

theorem Buf.le {cap r : Nat} {buf xs : List Int} (h : Buf cap r buf xs) : r ≤ cap := by
  obtain ⟨h1, h2, h3⟩ := h
  rw [← h1, ← h2, ← h3, List.length_take]
  exact Nat.min_le_right _ _

/-- `Buf` spelt out for a kernel with two result buffers -/
theorem Buf.unpack₂ {cap n : Nat} {lb rb : List Int} {F : List Int → List Int → Prop}
    (h : ∃ l r, F l r ∧ Buf cap n l lb ∧ Buf cap n r rb) :
    ∃ l r, F l r ∧ l.length = cap ∧ r.length = cap ∧ l.take n = lb ∧ r.take n = rb :=
  let ⟨l, r, hF, hl, hr⟩ := h
  ⟨l, r, hF, hl.1, hr.1, hl.2.2, hr.2.2⟩

/-- `Buf` spelt out for a kernel with one result buffer -/
theorem Buf.unpack₁ {cap n : Nat} {rb : List Int} {F : List Int → Prop} (h : ∃ r, F r ∧ Buf cap n r rb) :
    ∃ r, F r ∧ r.length = cap ∧ r.take n = rb :=
  let ⟨r, hF, hr⟩ := h
  ⟨r, hF, hr.1, hr.2.2⟩

/-! ### loops

  A counting loop of a translated kernel is `forRangeAux stop body n k`; `forRangeE` and `forRangeB` only compute `n` from
  the bounds. `forRangeAux_outcome` is the one induction over it: an invariant `P` that knows how many iterations are left, so
  that it can say "the hand model's recursion with fuel `n` from here yields `r`"; `forRangeAux_rule` is its case for a loop
  that is shown not to fail. -/

/-- the rule with a postcondition on the outcome, error or not -/
theorem forRangeAux_outcome {σ} {stop : σ → Bool} {body : Int → σ → Except Err σ} (P : Nat → Nat → σ → Prop)
    (Q : Except Err σ → Prop) (hzero : ∀ i s, P 0 i s → Q (.ok s))
    (hstep : ∀ n i s, P (n + 1) i s →
      match body (i : Int) s with
      | .error e => Q (.error e)
      | .ok s' => if stop s' then Q (.ok s') else P n (i + 1) s') :
    ∀ n i s, P n i s → Q (forRangeAux stop body n (i : Int) s) := by
  intro n
  induction n with
  | zero => exact fun i s h => hzero i s h
  | succ n ih =>
    intro i s h
    have hs := hstep n i s h
    unfold forRangeAux
    cases hb : body (i : Int) s with
    | error e => rw [hb] at hs; exact hs
    | ok s' =>
      rw [hb] at hs
      dsimp only at hs ⊢
      by_cases hst : stop s' = true
      · rw [if_pos hst] at hs ⊢; exact hs
      · rw [if_neg hst] at hs ⊢; exact ih (i + 1) s' hs

theorem forRangeAux_rule {σ} {stop : σ → Bool} {body : Int → σ → Except Err σ} (P : Nat → Nat → σ → Prop) (Q : σ → Prop)
    (hzero : ∀ i s, P 0 i s → Q s)
    (hstep : ∀ n i s, P (n + 1) i s → ∃ s', body (i : Int) s = .ok s' ∧ if stop s' then Q s' else P n (i + 1) s') :
    ∀ n i s, P n i s → ∃ s', forRangeAux stop body n (i : Int) s = .ok s' ∧ Q s' :=
  forRangeAux_outcome P (fun o => ∃ s', o = .ok s' ∧ Q s') (fun i s h => ⟨s, rfl, hzero i s h⟩) fun n i s h => by
    obtain ⟨s', hb, hs'⟩ := hstep n i s h
    rw [hb]
    dsimp only
    by_cases hst : stop s' = true
    · rw [if_pos hst] at hs' ⊢; exact ⟨s', rfl, hs'⟩
    · rw [if_neg hst] at hs' ⊢; exact hs'

/-- The same for a translated `while` loop (`whileG`: the condition may subscript), with a postcondition on the outcome, error
    or not. The invariant's index bounds the iterations left: an iteration that runs needs `0 < n` and hands `n - 1` on, so any
    fuel `F ≥ n` suffices. -/
theorem whileG_rule {σ} {guard : σ → Except Err Bool} {body : σ → Except Err σ} (P : Nat → σ → Prop)
    (Q : Except Err σ → Prop)
    (hstep : ∀ n s, P n s →
      match guard s with
      | .error e => Q (.error e)
      | .ok false => Q (.ok s)
      | .ok true => 0 < n ∧
        match body s with
        | .error e => Q (.error e)
        | .ok s' => P (n - 1) s') :
    ∀ F n s, P n s → n ≤ F → Q (whileG guard body F s) := by
  intro F
  induction F with
  | zero =>
    intro n s h hn
    have hs := hstep n s h
    unfold whileG
    cases hg : guard s with
    | error e => rw [hg] at hs; exact hs
    | ok g =>
      rw [hg] at hs
      cases g with
      | false => exact hs
      | true => exact absurd hs.1 (by omega)
  | succ F ih =>
    intro n s h hn
    have hs := hstep n s h
    unfold whileG
    cases hg : guard s with
    | error e => rw [hg] at hs; exact hs
    | ok g =>
      rw [hg] at hs
      cases g with
      | false => exact hs
      | true =>
        cases hb : body s with
        | error e => rw [hb] at hs; exact hs.2
        | ok s' =>
          rw [hb] at hs
          exact ih (n - 1) s' hs.2 (by omega)

/-- a `while` loop whose condition cannot fail (`whileE`) is the case of `whileG` with a total guard -/
theorem whileE_eq_whileG {σ} (guard : σ → Bool) (body : σ → Except Err σ) :
    ∀ F s, whileE guard body F s = whileG (fun s => .ok (guard s)) body F s := by
  intro F
  induction F with
  | zero => intro s; simp only [whileE, whileG]
  | succ F ih => intro s; simp only [whileE, whileG, ih]; cases guard s <;> rfl

/-- sequencing two steps that are each known to succeed with some property of the result: the intermediate state is named by
    the property `P`, not written out -/
theorem bindE_exists {α β} {X : Except Err α} {K : α → Except Err β} {Q : β → Prop} (P : α → Prop)
    (h1 : ∃ a, X = .ok a ∧ P a) (h2 : ∀ a, P a → ∃ b, K a = .ok b ∧ Q b) : ∃ b, bindE X K = .ok b ∧ Q b := by
  obtain ⟨a, ha, hP⟩ := h1
  rw [ha]
  exact h2 a hP

theorem forRangeB_nat {σ} (a : Nat) (hi : Int) (stop : σ → Bool) (body : Int → σ → Except Err σ) (s : σ) :
    forRangeB (a : Int) hi stop body s = forRangeAux stop body (hi - a).toNat (a : Int) s := rfl

theorem forRangeB_at {σ} {lo : Int} {a : Nat} (h : lo = a) (hi : Int) (stop : σ → Bool) (body : Int → σ → Except Err σ) (s : σ) :
    forRangeB lo hi stop body s = forRangeAux stop body (hi - a).toNat (a : Int) s := by subst h; rfl

theorem forRangeB_zero {σ} (hi : Int) (stop : σ → Bool) (body : Int → σ → Except Err σ) (s : σ) :
    forRangeB 0 hi stop body s = forRangeAux stop body hi.toNat ((0 : Nat) : Int) s := by
  rw [forRangeB, Int.sub_zero]; rfl

theorem forRangeE_nat {σ} (a : Nat) (hi : Int) (body : Int → σ → Except Err σ) (s : σ) :
    forRangeE (a : Int) hi body s = forRangeAux (fun _ => false) body (hi - a).toNat (a : Int) s := rfl

theorem forRangeE_at {σ} {lo : Int} {a : Nat} (h : lo = a) (hi : Int) (body : Int → σ → Except Err σ) (s : σ) :
    forRangeE lo hi body s = forRangeAux (fun _ => false) body (hi - a).toNat (a : Int) s := by subst h; rfl

theorem forRangeE_zero {σ} (hi : Int) (body : Int → σ → Except Err σ) (s : σ) :
    forRangeE 0 hi body s = forRangeAux (fun _ => false) body hi.toNat ((0 : Nat) : Int) s := by
  rw [forRangeE, Int.sub_zero]; rfl

theorem toNat_natCast_sub_one (n : Nat) : ((n : Int) - 1).toNat = n - 1 := by omega

/-! ### `for i in range(len(spans) - 1)` against `forPairs` -/

/-- Simulation of a translated span loop by the hand model's recursion.
    `R dest s` says what of the state matters (the arrays the loop reads, and `dest` being the destination buffer);
    `hstep` is the one-iteration lemma: iteration `k` computes `f spans[k] spans[k+1]`, stores it at `dest[k]`, and fails
    with the same error class exactly when `f` fails. -/
theorem forRange_forPairs {σ} (sp : List Nat) (R : List Int → σ → Prop) (body : Int → σ → Except Err σ)
    (f : Nat → Nat → Except Err Int)
    (hstep : ∀ (k cur next : Nat) (dest : List Int) (s : σ), sp[k]? = some cur → sp[k + 1]? = some next → R dest s →
      k < dest.length →
      match f cur next with
      | .ok v => ∃ s', body (k : Int) s = .ok s' ∧ R (dest.set k v) s'
      | .error e => ∃ e', body (k : Int) s = .error e' ∧ e'.tag = e.tag) :
    ∀ (n k : Nat) (dest : List Int) (s : σ), k + n + 1 = sp.length → dest.length = k + n → R dest s →
      match forPairs f (sp.drop k) with
      | .ok vs => ∃ s', forRangeAux (fun _ => false) body n (k : Int) s = .ok s' ∧ R (dest.take k ++ vs) s'
      | .error e => ∃ e', forRangeAux (fun _ => false) body n (k : Int) s = .error e' ∧ e'.tag = e.tag := by
  intro n
  induction n with
  | zero =>
    intro k dest s hk hd hR
    have : sp.drop k = [sp[k]'(by omega)] := by
      rw [List.drop_eq_getElem_cons (by omega)]
      simp [List.drop_eq_nil_of_le (show sp.length ≤ k + 1 by omega)]
    rw [this]
    simp only [forPairs, forRangeAux]
    refine ⟨s, rfl, ?_⟩
    have : dest.take k = dest := List.take_of_length_le (by omega)
    simpa [this] using hR
  | succ n ih =>
    intro k dest s hk hd hR
    have hk0 : k < sp.length := by omega
    have hk1 : k + 1 < sp.length := by omega
    have hdrop : sp.drop k = sp[k] :: sp[k + 1] :: sp.drop (k + 2) := by
      rw [List.drop_eq_getElem_cons hk0, List.drop_eq_getElem_cons hk1]
    have hdrop1 : sp.drop (k + 1) = sp[k + 1] :: sp.drop (k + 2) := List.drop_eq_getElem_cons hk1
    have hs := hstep k sp[k] sp[k + 1] dest s (List.getElem?_eq_getElem hk0) (List.getElem?_eq_getElem hk1) hR (by omega)
    rw [hdrop]
    simp only [forPairs, forRangeAux]
    cases hf : f sp[k] sp[k + 1] with
    | error e =>
      rw [hf] at hs
      obtain ⟨e', hb, ht⟩ := hs
      simp only [hb]
      exact ⟨e', rfl, ht⟩
    | ok v =>
      rw [hf] at hs
      obtain ⟨s', hb, hR'⟩ := hs
      simp only [hb, Bool.false_eq_true, if_false]
      have hrec := ih (k + 1) (dest.set k v) s' (by omega) (by simp; omega) hR'
      rw [hdrop1] at hrec
      have hcast : ((k : Int) + 1) = ((k + 1 : Nat) : Int) := by omega
      rw [hcast]
      cases hp : forPairs f (sp[k + 1] :: sp.drop (k + 2)) with
      | error e =>
        rw [hp] at hrec
        simpa [consE] using hrec
      | ok vs =>
        rw [hp] at hrec
        obtain ⟨s'', hrun, hR''⟩ := hrec
        refine ⟨s'', hrun, ?_⟩
        have : (dest.set k v).take (k + 1) ++ vs = dest.take k ++ v :: vs := by
          rw [List.take_add_one]
          simp [show k < dest.length by omega, List.take_set_of_le]
        rw [← this]; exact hR''

/-- the whole loop `for i in range(len(spans) - 1)` on a fresh `np.zeros(len(spans) - 1)` buffer -/
theorem forRange_forPairs_run {σ} (sp : List Nat) (hne : sp ≠ []) (R : List Int → σ → Prop) (body : Int → σ → Except Err σ)
    (f : Nat → Nat → Except Err Int)
    (hstep : ∀ (k cur next : Nat) (dest : List Int) (s : σ), sp[k]? = some cur → sp[k + 1]? = some next → R dest s →
      k < dest.length →
      match f cur next with
      | .ok v => ∃ s', body (k : Int) s = .ok s' ∧ R (dest.set k v) s'
      | .error e => ∃ e', body (k : Int) s = .error e' ∧ e'.tag = e.tag)
    (s : σ) (dest : List Int) (hd : dest.length = sp.length - 1) (hR : R dest s) :
    match forPairs f sp with
    | .ok vs => ∃ s', forRangeE 0 ((sp.length : Int) - 1) body s = .ok s' ∧ R vs s'
    | .error e => ∃ e', forRangeE 0 ((sp.length : Int) - 1) body s = .error e' ∧ e'.tag = e.tag := by
  have hl : 0 < sp.length := List.length_pos_iff.mpr hne
  have h := forRange_forPairs sp R body f hstep (sp.length - 1) 0 dest s (by omega) (by omega) hR
  unfold forRangeE
  have hn : ((sp.length : Int) - 1 - 0).toNat = sp.length - 1 := by omega
  rw [hn]
  simpa using h

end Exetera.GenK
