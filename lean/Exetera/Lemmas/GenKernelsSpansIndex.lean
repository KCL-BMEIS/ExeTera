import Exetera.Gen.Kernels
import Exetera.Lemmas.GenKernels
import Exetera.Lemmas.GenKernelsSpans
/-!
  The TRANSLATED `apply_spans_index_of_min / _max` refine the hand-written models of `Model/Spans.lean`.  The models' value
  for one span, `spanIndexOfMin` / `spanIndexOfMax`, is first rewritten in the vocabulary of the kernels (`argminE` of a
  `pySlice`); after that kernel and model differ only in where the value is stored.
-/
namespace Exetera.GenK

open Exetera Exetera.PyRt Exetera.Spans Exetera.Gen.Kernels

theorem argBestFrom_lt : ∀ (xs : List Int) (i : Nat) (best : Int) (bi : Nat),
    argBestFrom (fun a b => decide (a < b)) xs i best bi = argminFrom xs i best bi
  | [], _, _, _ => rfl
  | x :: xs, i, best, bi => by
    simp only [argBestFrom, argminFrom, decide_eq_true_eq]
    split <;> exact argBestFrom_lt xs _ _ _

theorem argBestFrom_gt : ∀ (xs : List Int) (i : Nat) (best : Int) (bi : Nat),
    argBestFrom (fun a b => decide (a > b)) xs i best bi = argmaxFrom xs i best bi
  | [], _, _, _ => rfl
  | x :: xs, i, best, bi => by
    simp only [argBestFrom, argmaxFrom, decide_eq_true_eq]
    split <;> exact argBestFrom_gt xs _ _ _

theorem argminE_eq (l : List Int) : argminE l = bindE (argmin l) fun k => .ok (k : Int) := by
  cases l with
  | nil => rfl
  | cons x xs => simp only [argminE, argmin, argBestFrom_lt, bindE_ok]

theorem argmaxE_eq (l : List Int) : argmaxE l = bindE (argmax l) fun k => .ok (k : Int) := by
  cases l with
  | nil => rfl
  | cons x xs => simp only [argmaxE, argmax, argBestFrom_gt, bindE_ok]

theorem spanIndexOfMin_eq (src : List Int) (cur next : Nat) :
    spanIndexOfMin src cur next = if (next : Int) - (cur : Int) == 1 then .ok (cur : Int)
      else bindE (argminE (pySlice src (some (cur : Int)) (some (next : Int)))) fun t => .ok ((cur : Int) + t) := by
  rw [spanIndexOfMin, sub_beq_one, pySlice_nat, argminE_eq]
  cases argmin (slice src cur next) <;> rfl

theorem spanIndexOfMax_eq (src : List Int) (cur next : Nat) :
    spanIndexOfMax src cur next = if (next : Int) - (cur : Int) == 1 then .ok (cur : Int)
      else bindE (argmaxE (pySlice src (some (cur : Int)) (some (next : Int)))) fun t => .ok ((cur : Int) + t) := by
  rw [spanIndexOfMax, sub_beq_one, pySlice_nat, argmaxE_eq]
  cases argmax (slice src cur next) <;> rfl

theorem apply_spans_index_of_min_refines (sp : List Nat) (src : List Int) :
    Sim (apply_spans_index_of_min.run (ints sp) src none) (applySpansIndexOfMin sp src) :=
  forSpans_sim sp (spanIndexOfMin src) (fun k s => apply_spans_index_of_min.body_L1 { s with v0 := k })
    (fun d => { p0 := ints sp, p1 := src, p2 := d, v0 := 0, v1 := 0, v2 := 0 }) (·.p2)
    (fun d s => s.p0 = ints sp ∧ s.p1 = src ∧ s.p2 = d)
    (by
      rintro k cur next dest ⟨⟩ hc hn ⟨rfl, rfl, rfl⟩ hk
      simp only [apply_spans_index_of_min.body_L1, idxE_ints_succ _ hn, idxE_ints _ hc, bindE_ok, spanIndexOfMin_eq]
      refine Follows.ite (fun _ => ?_) (fun _ => Follows.bind_same _ fun t => ?_)
      all_goals rw [setIdxE_of_lt _ _ hk]; exact Follows.ok rfl ⟨rfl, rfl, rfl⟩)
    (fun _ => ⟨rfl, rfl, rfl⟩) (fun _ _ h => h.2.2)

theorem apply_spans_index_of_max_refines (sp : List Nat) (src : List Int) :
    Sim (apply_spans_index_of_max.run (ints sp) src none) (applySpansIndexOfMax sp src) :=
  forSpans_sim sp (spanIndexOfMax src) (fun k s => apply_spans_index_of_max.body_L1 { s with v0 := k })
    (fun d => { p0 := ints sp, p1 := src, p2 := d, v0 := 0, v1 := 0, v2 := 0 }) (·.p2)
    (fun d s => s.p0 = ints sp ∧ s.p1 = src ∧ s.p2 = d)
    (by
      rintro k cur next dest ⟨⟩ hc hn ⟨rfl, rfl, rfl⟩ hk
      simp only [apply_spans_index_of_max.body_L1, idxE_ints_succ _ hn, idxE_ints _ hc, bindE_ok, spanIndexOfMax_eq]
      refine Follows.ite (fun _ => ?_) (fun _ => Follows.bind_same _ fun t => ?_)
      all_goals rw [setIdxE_of_lt _ _ hk]; exact Follows.ok rfl ⟨rfl, rfl, rfl⟩)
    (fun _ => ⟨rfl, rfl, rfl⟩) (fun _ _ h => h.2.2)

end Exetera.GenK
