import Exetera.Gen.Kernels
import Exetera.Model.JoinOld
import Exetera.Lemmas.While
import Exetera.Lemmas.GenKernels
import Exetera.Lemmas.GenKernelsJoin
import Exetera.Lemmas.GenKernelsJoinFlat
/-!
  The TRANSLATED kernels of the legacy streamed merge (`Session.ordered_merge_left / _right`, streamed form) against their
  models of `Model/JoinOld.lean`:

    generate_ordered_map_to_left_right_unique_partial_old   ~  runPartialOld
    ordered_map_valid_partial_old                           ~  partialOldMap     (`while True:` left by `return` only)
    chunks                                                  ~  nextRange, iterated (`chunkList`)

  `…_partial_old`: the model keeps the part of the scratch array `left_to_right` written so far as the list `buf`
  (`buf = left_to_right[0:i]`); the translated kernel, like the code, stores at position `i` of the caller's array. Relation:
  `left_to_right[:i]` = the model's `buf`, `left_to_right[i:]` still the caller's entries (`Over` of `GenKernelsJoinFlat`),
  loop variables equal. `whileE_sim` lifts the one-iteration lemma to the loop, `whileE_mono` lets it run on any larger fuel.

  `ordered_map_valid_partial_old` (`_streaming_map_fields` → `ordered_map_valid_stream_old`): the model returns the list of values
  of the consumed map entries (`acc = result[0:i]`, the buffer's zero for a marker row, which the code does not write); the
  translated kernel, like the code, stores into the caller's scratch array, which the driver hands over zeroed
  (`np.zeros(chunksize)`, `rslt[:] = 0` after every write-out). Relation: the array is `bufOf cap acc` — the model's list padded
  with zeros to the capacity (marker rows beyond the capacity are not stored by the code and only counted by the model). The
  model wraps a negative subscript `data_field[val - d]` (`MapValid.getI`), the translation makes it an error: the transfer is
  stated for maps without a valid entry below the window start `d`.

  `chunks(length, chunksize)` (the chunk ranges every legacy streamed driver iterates over): a generator is translated as the
  function that returns the lists of the values it yields until exhaustion (`y0` = the starts, `y1` = the ends). `chunkList`
  iterates `nextRange` (`next(it)` on the generator whose next chunk starts at `cur`).
-/
namespace Exetera.GenK

open Exetera Exetera.PyRt Exetera.Gen.Kernels Exetera.JoinOld

theorem partialOldBody_eq (dj : Nat) (left right : List Int) (cap : Nat) (inv : Int) (s : PO) :
    partialOldBody dj left right cap inv s =
      bindE (getE left s.i "left[i]") fun a => bindE (getE right s.j "right[j]") fun b =>
      if a < b then
        if s.i < cap then .ok { s with buf := s.buf ++ [inv], i := s.i + 1, unmapped := s.unmapped + 1 }
        else .error (.oob "left_to_right[i]")
      else if a > b then .ok { s with j := s.j + 1 }
      else if s.i < cap then .ok { s with buf := s.buf ++ [((s.j + dj : Nat) : Int)], i := s.i + 1 }
      else .error (.oob "left_to_right[i]") := by
  unfold partialOldBody
  cases getE left s.i "left[i]" <;> cases getE right s.j "right[j]" <;> rfl

namespace LRUOld

abbrev St := generate_ordered_map_to_left_right_unique_partial_old.St

def R (dj : Nat) (left right result : List Int) (inv : Int) (s : St) (t : PO) : Prop :=
  ∃ buf, s = ⟨dj, left, right, buf, inv, t.i, t.j, t.unmapped⟩ ∧ Over result t.i buf t.buf

theorem guard_eq (dj : Nat) (left right result : List Int) (inv : Int) (s : St) (t : PO) (h : R dj left right result inv s t) :
    generate_ordered_map_to_left_right_unique_partial_old.guard_L1 s
      = (decide (t.i < left.length) && decide (t.j < right.length)) := by
  obtain ⟨buf, rfl, _⟩ := h
  simp only [generate_ordered_map_to_left_right_unique_partial_old.guard_L1, pyLen, Int.ofNat_lt]

theorem body_sim (dj : Nat) (left right result : List Int) (inv : Int) (s : St) (t t' : PO)
    (h : R dj left right result inv s t) (hb : partialOldBody dj left right result.length inv t = .ok t') :
    ∃ s', generate_ordered_map_to_left_right_unique_partial_old.body_L1 s = .ok s' ∧ R dj left right result inv s' t' := by
  obtain ⟨buf, rfl, hO⟩ := h
  obtain ⟨i, j, u, out⟩ := t
  refine (?_ : OkFollows (R dj left right result inv) _ _) t' hb
  simp only [partialOldBody_eq, Int.natCast_add, generate_ordered_map_to_left_right_unique_partial_old.body_L1, idxE_nat]
  refine .getE _ _ _ _ fun a ha => .getE _ _ _ _ fun b hbb => ?_
  simp only [getE_of_some _ ha, getE_of_some _ hbb, bindE_ok]
  refine .ite_decide rfl (fun _ => .store hO _ _ fun hc => .ok ⟨_, rfl, hO.store hc _⟩) fun _ => ?_
  exact .ite_decide rfl (fun _ => .ok ⟨buf, rfl, hO⟩) fun _ => .store hO _ _ fun hc => .ok ⟨_, rfl, hO.store hc _⟩

end LRUOld

theorem lru_partial_old_ok (dj : Nat) (left right result : List Int) (inv : Int) (t : PO) (fuel : Nat)
    (hf : left.length + right.length ≤ fuel) (h : runPartialOld dj left right result.length inv = .ok t) :
    generate_ordered_map_to_left_right_unique_partial_old.run (dj : Int) left right result inv fuel
      = .ok ((t.i : Int), (t.j : Int), (t.unmapped : Int), t.buf ++ result.drop t.buf.length) := by
  obtain ⟨_, hw, buf, rfl, hO⟩ := whileE_sim (LRUOld.R dj left right result inv)
    generate_ordered_map_to_left_right_unique_partial_old.guard_L1 generate_ordered_map_to_left_right_unique_partial_old.body_L1
    _ _ (LRUOld.guard_eq dj left right result inv) (fun s t t' hR _ hb => LRUOld.body_sim dj left right result inv s t t' hR hb)
    fuel ⟨dj, left, right, result, inv, 0, 0, 0⟩ {} t ⟨result, rfl, Over.init result⟩ (whileE_mono _ _ _ _ _ h fuel hf)
  simp only [generate_ordered_map_to_left_right_unique_partial_old.run, hw, bindE_ok, ← hO.final]

namespace MapOld

/-- the caller's zeroed scratch array of `cap` slots after the values `acc` were stored at its first positions -/
def bufOf (cap : Nat) (acc : List Int) : List Int := (acc ++ List.replicate (cap - acc.length) 0).take cap

theorem bufOf_nil (cap : Nat) : bufOf cap [] = List.replicate cap 0 := by
  simp [bufOf]

theorem bufOf_len (cap : Nat) (acc : List Int) : (bufOf cap acc).length = cap := by
  simp [bufOf]; omega

theorem bufOf_zero (cap : Nat) (acc : List Int) : bufOf cap (acc ++ [0]) = bufOf cap acc := by
  unfold bufOf
  by_cases h : acc.length < cap
  · have e : cap - acc.length = (cap - (acc ++ [0]).length) + 1 := by simp; omega
    rw [e, List.replicate_succ]
    simp
  · rw [List.take_append_of_le_length (by simp; omega), List.take_append_of_le_length (by omega)]
    rw [List.take_append_of_le_length (by omega)]

theorem bufOf_set (cap : Nat) (acc : List Int) (x : Int) (h : acc.length < cap) :
    (bufOf cap acc).set acc.length x = bufOf cap (acc ++ [x]) := by
  unfold bufOf
  have e : cap - acc.length = (cap - (acc ++ [x]).length) + 1 := by simp; omega
  rw [e, List.replicate_succ]
  rw [List.take_of_length_le (by simp; omega), List.take_of_length_le (by simp; omega)]
  simp

theorem bufOf_of_le (cap : Nat) (acc : List Int) (h : acc.length ≤ cap) :
    bufOf cap acc = acc ++ List.replicate (cap - acc.length) 0 := by
  unfold bufOf
  rw [List.take_of_length_le (by simp; omega)]

abbrev St := ordered_map_valid_partial_old.St

abbrev mk (d : Int) (dfc mfc buf : List Int) (inv i v : Int) (ret : Bool) (r0 r1 : Int) : St :=
  ⟨d, dfc, mfc, buf, inv, i, v, ret, r0, r1⟩

theorem while_ret (d : Int) (dfc mfc buf : List Int) (inv i v r0 r1 : Int) (n : Nat) :
    whileE ordered_map_valid_partial_old.guard_L1 ordered_map_valid_partial_old.body_L1 n (mk d dfc mfc buf inv i v true r0 r1)
      = .ok (mk d dfc mfc buf inv i v true r0 r1) := by
  exact whileE_of_guard_false rfl n

/-- a valid entry beyond the data view: `return i, val` -/
theorem body_beyond (d : Int) (dfc mfc buf : List Int) (inv v1 r0 r1 : Int) (i : Nat) (v : Int)
    (hv : mfc[i]? = some v) (hne : v ≠ inv) (hbig : v ≥ d + (dfc.length : Int)) :
    ordered_map_valid_partial_old.body_L1 (mk d dfc mfc buf inv i v1 false r0 r1)
      = .ok (mk d dfc mfc buf inv i v true i v) := by
  simp [ordered_map_valid_partial_old.body_L1, idxE_nat, getE, hv, hne, pyLen, hbig]

/-- a valid entry inside the data view: stored at `result[i]`; `return i, val` when it was the last entry -/
theorem body_store (d : Int) (dfc mfc buf : List Int) (inv v1 r0 r1 : Int) (i : Nat) (v x : Int)
    (hv : mfc[i]? = some v) (hne : v ≠ inv) (hsmall : ¬ v ≥ d + (dfc.length : Int)) (hpos : 0 ≤ v - d)
    (hx : dfc[(v - d).toNat]? = some x) (hi : i < buf.length) :
    ordered_map_valid_partial_old.body_L1 (mk d dfc mfc buf inv i v1 false r0 r1)
      = .ok (if ((i : Int) + 1 ≥ (mfc.length : Int)) then mk d dfc mfc (buf.set i x) inv ((i : Int) + 1) v true ((i : Int) + 1) v
             else mk d dfc mfc (buf.set i x) inv ((i : Int) + 1) v false r0 r1) := by
  have hidx : idxE dfc (v - d) "p1[v1 - p0]" = .ok x := by
    have hdv : d ≤ v := by omega
    simp [idxE, hdv, getE, hx]
  have hsmall' : ¬ (d + (dfc.length : Int) ≤ v) := hsmall
  simp [ordered_map_valid_partial_old.body_L1, idxE_nat, getE, hv, hne, pyLen, hsmall', hidx, setIdxE_nat, setE, hi]
  split <;> rfl

/-- a marker row: nothing stored -/
theorem body_marker (d : Int) (dfc mfc buf : List Int) (inv v1 r0 r1 : Int) (i : Nat)
    (hv : mfc[i]? = some inv) :
    ordered_map_valid_partial_old.body_L1 (mk d dfc mfc buf inv i v1 false r0 r1)
      = .ok (if ((i : Int) + 1 ≥ (mfc.length : Int)) then mk d dfc mfc buf inv ((i : Int) + 1) inv true ((i : Int) + 1) inv
             else mk d dfc mfc buf inv ((i : Int) + 1) inv false r0 r1) := by
  simp [ordered_map_valid_partial_old.body_L1, idxE_nat, getE, hv, pyLen]
  split <;> rfl

theorem loop_from (d : Nat) (dfc : List Int) (inv : Int) (cap : Nat) (mfc : List Int) :
    ∀ (vs pre acc : List Int) (last v1 r0 r1 : Int) (fuel : Nat) (res : List Int × Int),
      vs ≠ [] → mfc = pre ++ vs → pre.length = acc.length → vs.length ≤ fuel →
      (∀ v ∈ vs, v ≠ inv → (d : Int) ≤ v) →
      partialOldMapFrom d dfc inv (0 : Int) cap vs acc last = .ok res →
      whileE ordered_map_valid_partial_old.guard_L1 ordered_map_valid_partial_old.body_L1 fuel
          (mk d dfc mfc (bufOf cap acc) inv acc.length v1 false r0 r1)
        = .ok (mk d dfc mfc (bufOf cap res.1) inv res.1.length res.2 true res.1.length res.2) := by
  intro vs
  induction vs with
  | nil => intro _ _ _ _ _ _ _ _ h; exact absurd rfl h
  | cons v vs ih =>
    intro pre acc last v1 r0 r1 fuel res _ hm hpre hfuel hpos h
    obtain ⟨n, rfl⟩ : ∃ n, fuel = n + 1 := ⟨fuel - 1, by simp only [List.length_cons] at hfuel; omega⟩
    have hv : mfc[acc.length]? = some v := by
      rw [hm, ← hpre, List.getElem?_append_right (Nat.le_refl _), Nat.sub_self]
      rfl
    have hlen : mfc.length = acc.length + 1 + vs.length := by
      rw [hm, List.length_append, hpre, List.length_cons]; omega
    have hg : ordered_map_valid_partial_old.guard_L1 (mk d dfc mfc (bufOf cap acc) inv acc.length v1 false r0 r1) = true := rfl
    -- after an entry that appended `x`: `return` if it was the last one, otherwise the loop goes on from `acc ++ [x]`
    have tail : ∀ x : Int, partialOldMapFrom d dfc inv (0 : Int) cap vs (acc ++ [x]) v = .ok res →
        whileE ordered_map_valid_partial_old.guard_L1 ordered_map_valid_partial_old.body_L1 n
          (if ((acc.length : Int) + 1 ≥ (mfc.length : Int)) then
            mk d dfc mfc (bufOf cap (acc ++ [x])) inv ((acc.length : Int) + 1) v true ((acc.length : Int) + 1) v
          else mk d dfc mfc (bufOf cap (acc ++ [x])) inv ((acc.length : Int) + 1) v false r0 r1)
        = .ok (mk d dfc mfc (bufOf cap res.1) inv res.1.length res.2 true res.1.length res.2) := by
      intro x hrec
      have e0 : ((acc.length : Nat) : Int) + 1 = (((acc ++ [x]).length : Nat) : Int) := by
        rw [List.length_append, List.length_singleton]; rfl
      cases vs with
      | nil =>
        simp only [partialOldMapFrom, Except.ok.injEq] at hrec
        subst hrec
        rw [if_pos (by rw [hlen]; simp), while_ret, e0]
      | cons w ws =>
        rw [if_neg (by rw [hlen]; simp; omega), e0]
        exact ih (pre ++ [v]) (acc ++ [x]) v v r0 r1 n res (List.cons_ne_nil _ _) (by rw [hm, List.append_assoc]; rfl)
          (by rw [List.length_append, List.length_append, hpre]; rfl)
          (by simp only [List.length_cons] at hfuel ⊢; omega) (fun u hu => hpos u (List.mem_cons_of_mem _ hu)) hrec
    rw [whileE, hg, if_pos rfl]
    by_cases hvi : v = inv
    · have hne : (v != inv) = false := by rw [hvi]; exact bne_self_eq_false inv
      simp only [partialOldMapFrom, hne, Bool.false_eq_true, if_false] at h
      subst hvi
      rw [body_marker d dfc mfc _ v v1 r0 r1 acc.length hv, ← bufOf_zero cap acc]
      exact tail 0 h
    · have hne : (v != inv) = true := bne_iff_ne.mpr hvi
      simp only [partialOldMapFrom, hne, if_true] at h
      by_cases hbig : v ≥ ((d + dfc.length : Nat) : Int)
      · simp only [hbig, if_true, Except.ok.injEq] at h
        subst h
        rw [body_beyond d dfc mfc _ inv v1 r0 r1 acc.length v hv hvi (by push_cast at hbig; exact hbig)]
        exact while_ret ..
      · simp only [hbig, if_false] at h
        have hdv : (d : Int) ≤ v := hpos v List.mem_cons_self hvi
        cases hgi : MapValid.getI dfc (v - (d : Int)) "data_field[val - d]" with
        | error e => simp [hgi] at h
        | ok x =>
          simp only [hgi] at h
          have hx : dfc[(v - (d : Int)).toNat]? = some x := by
            have h0 : 0 ≤ v - (d : Int) := by omega
            unfold MapValid.getI at hgi
            rw [if_pos h0] at hgi
            exact getE_eq_ok.mp hgi
          by_cases hc : acc.length < cap
          · simp only [hc, if_true] at h
            rw [body_store d dfc mfc _ inv v1 r0 r1 acc.length v x hv hvi (by push_cast at hbig; exact hbig) (by omega) hx
              (by rw [bufOf_len]; exact hc), bufOf_set cap acc x hc]
            exact tail x h
          · simp [hc] at h

end MapOld

theorem map_valid_partial_old_ok (d : Nat) (dfc mfc : List Int) (inv : Int) (cap : Nat) (r : List Int × Int) (fuel : Nat)
    (hf : mfc.length ≤ fuel) (hpos : ∀ v ∈ mfc, v ≠ inv → (d : Int) ≤ v)
    (h : partialOldMap d dfc mfc inv (0 : Int) cap = .ok r) :
    ordered_map_valid_partial_old.run (d : Int) dfc mfc (List.replicate cap 0) inv fuel
      = .ok ((r.1.length : Int), r.2, MapOld.bufOf cap r.1) := by
  cases mfc with
  | nil => simp [partialOldMap] at h
  | cons v vs =>
    simp only [partialOldMap] at h
    have := MapOld.loop_from d dfc inv cap (v :: vs) (v :: vs) [] [] v 0 0 0 fuel r (by simp) rfl rfl hf hpos h
    rw [MapOld.bufOf_nil] at this
    unfold ordered_map_valid_partial_old.run
    simp only [MapOld.mk, List.length_nil, Int.natCast_zero] at this
    simp only [this, bindE_ok, if_true]

/-- the ranges `next(it)` returns one after the other, from the generator position `cur` (at most `n` of them) -/
def chunkList (len cs : Nat) : Nat → Nat → List (Nat × Nat)
  | 0, _ => []
  | n + 1, cur =>
    match nextRange cur len cs with
    | none => []
    | some (a, b) => (a, b) :: chunkList len cs n b

/-- `list(chunks(length, chunksize))` -/
def chunksOf (len cs : Nat) : List (Nat × Nat) := chunkList len cs len 0

theorem chunkList_lt (len cs n cur : Nat) (h : cur < len) :
    chunkList len cs (n + 1) cur = (cur, min len (cur + cs)) :: chunkList len cs n (min len (cur + cs)) := by
  simp only [chunkList, nextRange, h, if_true]

theorem chunkList_ge (len cs n cur : Nat) (h : ¬ cur < len) : chunkList len cs n cur = [] := by
  cases n <;> simp only [chunkList, nextRange, h, if_false]

namespace Chunks

abbrev St := chunks.St

abbrev mk (len cs cur nxt : Int) (y0 y1 : List Int) : St := ⟨len, cs, cur, nxt, y0, y1⟩

theorem loop (len cs : Nat) (hcs : 1 ≤ cs) :
    ∀ (n cur : Nat) (nxt : Int) (y0 y1 : List Int), len - cur ≤ n →
      ∃ s', whileE chunks.guard_L1 chunks.body_L1 n (mk len cs cur nxt y0 y1) = .ok s' ∧
        s'.y0 = y0 ++ (chunkList len cs n cur).map (fun p => (p.1 : Int)) ∧
        s'.y1 = y1 ++ (chunkList len cs n cur).map (fun p => (p.2 : Int)) := by
  have hg : ∀ (cur : Nat) nxt y0 y1, chunks.guard_L1 (mk len cs cur nxt y0 y1) = decide (cur < len) := fun cur _ _ _ => by
    simp only [chunks.guard_L1, Int.ofNat_lt]
  have stop : ∀ (n cur : Nat) nxt y0 y1, ¬ cur < len →
      ∃ s', whileE chunks.guard_L1 chunks.body_L1 n (mk len cs cur nxt y0 y1) = .ok s' ∧
        s'.y0 = y0 ++ (chunkList len cs n cur).map (fun p => (p.1 : Int)) ∧
        s'.y1 = y1 ++ (chunkList len cs n cur).map (fun p => (p.2 : Int)) := fun n cur nxt y0 y1 h =>
    ⟨mk len cs cur nxt y0 y1, whileE_of_guard_false (by rw [hg, decide_eq_false h]) n, by rw [chunkList_ge _ _ _ _ h]; simp,
      by rw [chunkList_ge _ _ _ _ h]; simp⟩
  intro n
  induction n with
  | zero => intro cur nxt y0 y1 h; exact stop 0 cur nxt y0 y1 (by omega)
  | succ n ih =>
    intro cur nxt y0 y1 h
    by_cases hlt : cur < len
    case neg => exact stop (n + 1) cur nxt y0 y1 hlt
    have hb : chunks.body_L1 (mk len cs cur nxt y0 y1)
        = .ok (mk len cs ((min len (cur + cs) : Nat) : Int) ((min len (cur + cs) : Nat) : Int)
            (y0 ++ [(cur : Int)]) (y1 ++ [((min len (cur + cs) : Nat) : Int)])) := by
      simp only [chunks.body_L1, ← Int.natCast_add, natCast_min]
    obtain ⟨s', hw, h0, h1⟩ := ih (min len (cur + cs)) ((min len (cur + cs) : Nat) : Int) (y0 ++ [(cur : Int)])
      (y1 ++ [((min len (cur + cs) : Nat) : Int)]) (by omega)
    refine ⟨s', by rw [whileE, hg, decide_eq_true hlt, if_pos rfl, hb]; exact hw, ?_, ?_⟩
    · rw [h0, chunkList_lt _ _ _ _ hlt, List.map_cons, List.append_assoc]; rfl
    · rw [h1, chunkList_lt _ _ _ _ hlt, List.map_cons, List.append_assoc]; rfl

end Chunks

/-- **the translated generator**: for `chunksize ≥ 1` it is exhausted within `length` iterations and yields exactly the ranges
    `chunksOf length chunksize` (starts, ends) -/
theorem chunks_run_eq (len cs : Nat) (hcs : 1 ≤ cs) (fuel : Nat) (hf : len ≤ fuel) :
    chunks.run (len : Int) (cs : Int) fuel
      = .ok ((chunksOf len cs).map (fun p => (p.1 : Int)), (chunksOf len cs).map (fun p => (p.2 : Int))) := by
  obtain ⟨s', hw, h0, h1⟩ := Chunks.loop len cs hcs len 0 0 [] [] (by omega)
  have hw' := whileE_mono _ _ _ _ _ hw fuel hf
  unfold chunks.run
  simp only [Chunks.mk, Int.natCast_zero] at hw'
  simp only [hw', bindE_ok, h0, h1, chunksOf, List.nil_append]

/-- a length that is not positive: nothing is yielded, whatever the chunk size -/
theorem chunks_run_empty (len cs : Int) (hlen : len ≤ 0) (fuel : Nat) : chunks.run len cs fuel = .ok ([], []) := by
  have hg : chunks.guard_L1 ⟨len, cs, 0, 0, [], []⟩ = false := by
    simp only [chunks.guard_L1, decide_eq_false_iff_not]; omega
  simp only [chunks.run, whileE_of_guard_false hg, bindE_ok]

/-- the ranges are consecutive and cover `[cur, length)`: concatenating the row numbers of the ranges gives `cur, …, length - 1` -/
theorem chunkList_partition (len cs : Nat) (hcs : 1 ≤ cs) :
    ∀ (n cur : Nat), cur ≤ len → len - cur ≤ n →
      (chunkList len cs n cur).flatMap (fun p => List.range' p.1 (p.2 - p.1)) = List.range' cur (len - cur) := by
  have stop : ∀ n cur, ¬ cur < len →
      (chunkList len cs n cur).flatMap (fun p => List.range' p.1 (p.2 - p.1)) = List.range' cur (len - cur) := fun n cur h => by
    rw [chunkList_ge _ _ _ _ h, show len - cur = 0 by omega]; rfl
  intro n
  induction n with
  | zero => intro cur _ h; exact stop 0 cur (by omega)
  | succ n ih =>
    intro cur hle h
    by_cases hlt : cur < len
    case neg => exact stop (n + 1) cur hlt
    -- the first range `[cur, e)` and the ranges from `e` on
    have he1 : cur < min len (cur + cs) ∧ min len (cur + cs) ≤ len :=
      ⟨Nat.lt_min.mpr ⟨hlt, Nat.lt_add_of_pos_right hcs⟩, Nat.min_le_left _ _⟩
    rw [chunkList_lt _ _ _ _ hlt, List.flatMap_cons]
    generalize min len (cur + cs) = e at he1 ⊢
    rw [ih e he1.2 (by omega), show len - cur = (e - cur) + (len - e) by omega, ← List.range'_append_1,
      show cur + (e - cur) = e by omega]

/-- every range is non-empty, at most `chunksize` long and inside the column -/
theorem chunkList_bounds (len cs : Nat) (hcs : 1 ≤ cs) :
    ∀ (n cur : Nat) (p : Nat × Nat), p ∈ chunkList len cs n cur → cur ≤ p.1 ∧ p.1 < p.2 ∧ p.2 ≤ p.1 + cs ∧ p.2 ≤ len := by
  intro n
  induction n with
  | zero => intro cur p h; cases h
  | succ n ih =>
    intro cur p h
    by_cases hlt : cur < len
    · rw [chunkList_lt _ _ _ _ hlt] at h
      rcases List.mem_cons.mp h with rfl | h
      · simp only; omega
      · have := ih _ p h
        omega
    · rw [chunkList_ge _ _ _ _ hlt] at h; cases h

end Exetera.GenK
