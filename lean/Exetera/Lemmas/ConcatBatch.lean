import Exetera.Lemmas.ConcatKernel
import Exetera.Lemmas.While
/-! C16, session level (`Session.apply_spans_concat`, repaired variant). The batch loop stores the offsets and bytes of
    `concatSpec` whatever the batch boundaries are, provided the value buffer has room (one batch is one `kernel_spec`);
    the sizing of repair NC16b gives it that room: `2·bytes + 3·rows` bounds the output of a span and `longestBound` is a
    running maximum, so after `valueCap .repaired` every span output fits in half the buffer. -/
set_option linter.unusedSectionVars false
namespace Exetera.Concat

open Exetera Exetera.Spec.CsvLine

variable {α : Type} [DecidableEq α]

structure BatchInv (outs : List (List α)) (st : S α) : Prop where
  le : st.s ≤ outs.length
  indices : st.dest.indices = if st.s = 0 then [] else offsets (outs.take st.s)
  values : st.dest.values = (outs.take st.s).flatten
  total : st.total = (outs.take st.s).flatten.length

/-- the batch loop's test whether the kernel wrote anything, after a call that handled at least one span -/
theorem wrote_something (pre : List Nat) (base : Nat) (T : List (List α)) (vb : List α) (h : 0 < T.length) :
    (decide ((pre ++ offsetsFrom base T).length > 0) || decide (vb.length > 0)) = true := by
  rw [List.length_append, offsetsFrom_length, Bool.or_eq_true, decide_eq_true_eq]
  exact Or.inl (Nat.lt_of_lt_of_le h (Nat.le_add_left _ _))

section
/- The batch loop on a column, with a value buffer of `valueCap` bytes that has room: every span output has at most `M`
   bytes, `M ≤ valueCap`, and a batch goes on only below `valueCap / 2` bytes, so the room asked for is
   `valueCap / 2 - 1 + M ≤ valueCap`. -/
variable (sep delim : α) (spans : List Nat) (entries : List (List α)) (srcChunk valueCap : Nat)
  (hb : ∀ p ∈ spans, p ≤ entries.length) (hsc : 1 ≤ srcChunk) (M : Nat)
  (hM : ∀ o ∈ concatSpec sep delim entries spans, o.length ≤ M)
  (hMV : M ≤ valueCap) (hV : valueCap / 2 - 1 + M ≤ valueCap)
include hb hsc hM hMV hV

theorem batchBody_step (st : S α) (hinv : BatchInv (concatSpec sep delim entries spans) st)
    (hg : batchGuard spans st = true) :
    ∃ st', batchBody .repaired sep delim spans (offsets entries) entries.flatten srcChunk valueCap st = .ok st' ∧
      BatchInv (concatSpec sep delim entries spans) st' ∧
      (concatSpec sep delim entries spans).length - st'.s < (concatSpec sep delim entries spans).length - st.s := by
  have hlen := concatSpec_length sep delim entries spans
  have hlt : st.s < spans.length - 1 := of_decide_eq_true hg
  obtain ⟨k, hk, hle, hker⟩ := kernel_spec
    (batchParams .repaired sep delim spans (offsets entries) entries.flatten srcChunk valueCap st) entries rfl rfl hb M
    hM (Nat.le_refl _) hMV hV st.s hlt
    (Nat.lt_succ_of_le (by split; exact hsc; exact Nat.zero_le _))
  simp only [batchParams] at hker hle
  generalize concatSpec sep delim entries spans = outs at hinv hker hlen ⊢
  generalize hT : (outs.drop st.s).take k = T at hker
  have htake : outs.take (st.s + k) = outs.take st.s ++ T := by rw [← hT, List.take_add]
  have hTpos : 0 < T.length := by
    rw [← hT, List.length_take, List.length_drop, hlen, Nat.min_eq_left (Nat.le_sub_of_add_le' hle)]
    exact hk
  refine ⟨_, by simp only [batchBody, batchParams, hker, wrote_something _ _ _ _ hTpos, if_true]; rfl,
    ⟨?_, ?_, ?_, ?_⟩, ?_⟩
  · exact hlen ▸ hle
  · dsimp only
    rw [if_neg (Nat.ne_of_gt (Nat.add_pos_right _ hk)), htake, offsets_append, hinv.indices, hinv.total]
    by_cases h0 : st.s = 0 <;> simp [h0, offsets, offsetsFrom]
  · dsimp only
    rw [htake, hinv.values, List.flatten_append]
  · dsimp only
    rw [htake, hinv.total, List.flatten_append, List.length_append]
  · exact Nat.sub_lt_sub_left (hlen ▸ hlt) (Nat.lt_add_of_pos_right hk)

theorem runBatches_spec :
    ∃ st, runBatches .repaired sep delim spans (offsets entries) entries.flatten srcChunk valueCap = .ok st ∧
      st.dest = ⟨storedIndices (concatSpec sep delim entries spans), (concatSpec sep delim entries spans).flatten⟩ := by
  have hlen := concatSpec_length sep delim entries spans
  obtain ⟨st, hrun, hinv, hguard⟩ := whileE_rule (batchGuard spans)
    (batchBody .repaired sep delim spans (offsets entries) entries.flatten srcChunk valueCap)
    (BatchInv (concatSpec sep delim entries spans))
    (fun st => (concatSpec sep delim entries spans).length - st.s)
    (fun st hinv hg => batchBody_step sep delim spans entries srcChunk valueCap hb hsc M hM hMV hV st hinv hg)
    spans.length {} ⟨Nat.zero_le _, rfl, rfl, rfl⟩ (Nat.le_trans (Nat.sub_le _ _) (hlen ▸ Nat.sub_le _ 1))
  refine ⟨st, hrun, ?_⟩
  have hs : st.s = (concatSpec sep delim entries spans).length :=
    Nat.le_antisymm hinv.le (hlen ▸ Nat.le_of_not_lt (of_decide_eq_false hguard))
  have hi := hinv.indices
  have hv := hinv.values
  rw [hs, List.take_length] at hi hv
  show (⟨st.dest.indices, st.dest.values⟩ : Dest α) = _
  rw [hi, hv, storedIndices]
  cases concatSpec sep delim entries spans <;> rfl

end

section
variable (sep delim : α) (entries : List (List α))

theorem spanOut_length_le (a b : Nat) :
    (spanOut sep delim entries a b).length ≤ 2 * (slice entries a b).flatten.length + 3 * (b - a) := by
  rw [spanOut_eq_joinRest]
  refine Nat.le_trans (joinRest_length_le sep delim _ true) (Nat.add_le_add_left (Nat.mul_le_mul_left 3 ?_) _)
  rw [slice_length]
  exact Nat.min_le_left _ _

theorem spanBound_spec (p : Nat × Nat) (h1 : p.1 ≤ entries.length) (h2 : p.2 ≤ entries.length) :
    spanBound (offsets entries) p
      = .ok (2 * (((entries.take p.2).flatten.length : Nat) - ((entries.take p.1).flatten.length : Nat) : Int)
              + 3 * ((p.2 : Int) - (p.1 : Int))) := by
  simp only [spanBound, getE_offsets entries p.2 _ h2, getE_offsets entries p.1 _ h1]

/-- `n` bytes written for `b - a` entries that hold `F` bytes stay below numpy's int64 expression -/
theorem le_bound_toNat (n F A a b : Nat) (h : n ≤ 2 * F + 3 * (b - a)) (hab : a ≤ b) :
    n ≤ (2 * (((A + F : Nat) : Int) - A) + 3 * ((b : Int) - a)).toNat := by
  omega

/-- the bound is negative for an inverted span, whose output is empty -/
theorem spanBound_ok (p : Nat × Nat)
    (h1 : p.1 ≤ entries.length) (h2 : p.2 ≤ entries.length) :
    ∃ w, spanBound (offsets entries) p = .ok w ∧ (spanOut sep delim entries p.1 p.2).length ≤ w.toNat := by
  refine ⟨_, spanBound_spec entries p h1 h2, ?_⟩
  by_cases hab : p.1 ≤ p.2
  · rw [take_flatten_length_slice entries p.1 p.2 hab]
    exact le_bound_toNat _ _ _ _ _ (spanOut_length_le sep delim entries p.1 p.2) hab
  · rw [spanOut, slice_eq_nil_of_le entries p.1 p.2 (Nat.le_of_not_le hab)]
    exact Nat.zero_le _

theorem le_ite_gt (w m : Int) : m ≤ (if w > m then w else m) ∧ w ≤ (if w > m then w else m) := by
  split <;> omega

/-- `np.max`: the result dominates the start value and the bound of every span, hence whatever quantity `L` the span
    bounds dominate -/
theorem longestBound_spec (idx : List Nat) (L : Nat × Nat → Nat) (ps : List (Nat × Nat)) :
    ∀ m : Int, (∀ p ∈ ps, ∃ w, spanBound idx p = .ok w ∧ L p ≤ w.toNat) →
      ∃ m', longestBound idx ps m = .ok m' ∧ m ≤ m' ∧ ∀ p ∈ ps, L p ≤ m'.toNat := by
  induction ps with
  | nil => intro m _; exact ⟨m, rfl, Int.le_refl _, fun _ h => nomatch h⟩
  | cons p ps ih =>
    intro m hL
    obtain ⟨w, hw, hLw⟩ := hL p List.mem_cons_self
    obtain ⟨m', hrun, hle, hall⟩ := ih (if w > m then w else m) (fun q hq => hL q (List.mem_cons_of_mem p hq))
    refine ⟨m', by simp only [longestBound, hw, hrun], Int.le_trans (le_ite_gt w m).1 hle, fun q hq => ?_⟩
    rcases List.mem_cons.mp hq with rfl | hq
    · exact Nat.le_trans hLw (Int.toNat_le_toNat (Int.le_trans (le_ite_gt w m).2 hle))
    · exact hall q hq

theorem grow_spec (longest : Int) (d : Nat) :
    d ≤ (if 2 * longest > (d : Int) then (2 * longest).toNat else d) ∧
      longest.toNat ≤ (if 2 * longest > (d : Int) then (2 * longest).toNat else d) / 2 := by
  split <;> omega

theorem valueCap_spec (spans : List Nat) (destChunk mult : Nat)
    (hb : ∀ p ∈ spans, p ≤ entries.length) :
    ∃ cap, valueCap .repaired spans (offsets entries) destChunk mult = .ok cap ∧ destChunk * mult ≤ cap ∧
      ∀ o ∈ concatSpec sep delim entries spans, o.length ≤ cap / 2 := by
  have hL : ∀ p ∈ spans.zip spans.tail, ∃ w, spanBound (offsets entries) p = .ok w ∧
      (spanOut sep delim entries p.1 p.2).length ≤ w.toNat := fun p hp =>
    have := List.of_mem_zip hp
    spanBound_ok sep delim entries p (hb _ this.1) (hb _ (List.mem_of_mem_tail this.2))
  have hout : ∀ m : Nat, (∀ p ∈ spans.zip spans.tail, (spanOut sep delim entries p.1 p.2).length ≤ m) →
      ∀ o ∈ concatSpec sep delim entries spans, o.length ≤ m := by
    intro m h o ho
    obtain ⟨q, hq, rfl⟩ := List.mem_map.mp ho
    exact h q hq
  unfold valueCap
  cases hz : spans.zip spans.tail with
  | nil => exact ⟨destChunk * mult, rfl, Nat.le_refl _, hout _ (hz ▸ fun _ h => nomatch h)⟩
  | cons p rest =>
    rw [hz] at hL
    obtain ⟨w, hw, hLw⟩ := hL p List.mem_cons_self
    obtain ⟨m', hrun, hle, hall⟩ := longestBound_spec (offsets entries) _ rest w
      (fun q hq => hL q (List.mem_cons_of_mem p hq))
    refine ⟨_, by simp only [hw, hrun], (grow_spec m' _).1, hout _ fun q hq => Nat.le_trans ?_ (grow_spec m' _).2⟩
    rcases List.mem_cons.mp (hz ▸ hq) with rfl | hq
    · exact Nat.le_trans hLw (Int.toNat_le_toNat hle)
    · exact hall q hq

theorem applySpansConcatS_spec (spans : List Nat) (srcChunk destChunk mult : Nat) (hb : ∀ p ∈ spans, p ≤ entries.length) (hsc : 1 ≤ srcChunk) :
    ∃ st, applySpansConcatS .repaired sep delim spans (offsets entries) entries.flatten srcChunk destChunk mult = .ok st ∧
      st.dest = ⟨storedIndices (concatSpec sep delim entries spans), (concatSpec sep delim entries spans).flatten⟩ := by
  obtain ⟨cap, hcap, _, hroom⟩ := valueCap_spec sep delim entries spans destChunk mult hb
  obtain ⟨st, hrun, hdest⟩ := runBatches_spec sep delim spans entries srcChunk cap hb hsc (cap / 2) hroom
    (Nat.div_le_self cap 2)
    (Nat.le_trans (Nat.add_le_add_right (Nat.sub_le _ _) _) (Nat.two_mul (cap / 2) ▸ Nat.mul_div_le cap 2))
  exact ⟨st, by simp only [applySpansConcatS, hcap, hrun], hdest⟩

end

end Exetera.Concat
