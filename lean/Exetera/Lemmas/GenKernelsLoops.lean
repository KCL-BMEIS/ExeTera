import Exetera.Lemmas.GenKernels
/-!
  Proof toolkit for the TRANSLATED kernels: a translated `while` loop whose condition subscripts (`whileG`, run on the
  kernel's global fuel) follows every successful run of a hand model's `whileE` loop (run on the model's own, per-loop fuel),
  provided the global fuel covers a variant `μ` of the model's loop.  A translated loop whose condition is total is itself a
  `whileE`; `whileE_sim` relates it to the model's on the same fuel.
-/
namespace Exetera.GenK

open Exetera Exetera.PyRt

/-- a condition that fails to evaluate ends the loop with its error, whatever the fuel -/
theorem whileG_error {σ} {guard : σ → Except Err Bool} {body : σ → Except Err σ} {s : σ} {e : Err} (hg : guard s = .error e)
    (F : Nat) : whileG guard body F s = .error e := by
  cases F <;> simp [whileG, hg]

theorem whileG_of_whileE {σ τ} (R : σ → τ → Prop) (gG : σ → Except Err Bool) (bG : σ → Except Err σ)
    (g2 : τ → Bool) (b2 : τ → Except Err τ) (μ : τ → Nat)
    (hg : ∀ s t, R s t → gG s = .ok (g2 t))
    (hb : ∀ s t t', R s t → g2 t = true → b2 t = .ok t' → ∃ s', bG s = .ok s' ∧ R s' t' ∧ μ t' < μ t) :
    ∀ (n : Nat) (s : σ) (t t' : τ), R s t → whileE g2 b2 n t = .ok t' → ∀ F, μ t ≤ F →
      ∃ s', whileG gG bG F s = .ok s' ∧ R s' t' := by
  intro n s t t' hR h F hF
  refine whileG_rule (fun m s => ∃ n t, R s t ∧ whileE g2 b2 n t = .ok t' ∧ μ t ≤ m) (fun o => ∃ s', o = .ok s' ∧ R s' t') ?_
    F F s ⟨n, t, hR, h, hF⟩ (Nat.le_refl F)
  rintro m s ⟨n, t, hR, h, hm⟩
  rw [hg s t hR]
  cases hgt : g2 t with
  | false =>
    obtain rfl : t = t' := by cases n <;> simpa [whileE, hgt] using h
    exact ⟨s, rfl, hR⟩
  | true =>
    cases n with
    | zero => simp [whileE, hgt] at h
    | succ n =>
      simp only [whileE, hgt, if_true] at h
      cases hbt : b2 t with
      | error e => simp [hbt] at h
      | ok t1 =>
        obtain ⟨s1, hb1, hR1, hμ⟩ := hb s t t1 hR hgt hbt
        refine ⟨by omega, ?_⟩
        rw [hb1]
        exact ⟨n, t1, hR1, by simpa only [hbt] using h, by omega⟩

/-- simulation of one `whileE` loop by another: equal guards and matching successful iterations on related states -/
theorem whileE_sim {σ τ} (R : σ → τ → Prop) (g1 : σ → Bool) (b1 : σ → Except Err σ) (g2 : τ → Bool) (b2 : τ → Except Err τ)
    (hg : ∀ s t, R s t → g1 s = g2 t)
    (hb : ∀ s t t', R s t → g2 t = true → b2 t = .ok t' → ∃ s', b1 s = .ok s' ∧ R s' t') :
    ∀ (n : Nat) (s : σ) (t t' : τ), R s t → whileE g2 b2 n t = .ok t' → ∃ s', whileE g1 b1 n s = .ok s' ∧ R s' t' := by
  intro n
  induction n with
  | zero =>
    intro s t t' hR h
    cases hgt : g2 t with
    | true => simp [whileE, hgt] at h
    | false =>
      simp only [whileE, hgt, Bool.false_eq_true, if_false, Except.ok.injEq] at h
      subst h
      exact ⟨s, by simp [whileE, hg s t hR, hgt], hR⟩
  | succ n ih =>
    intro s t t' hR h
    cases hgt : g2 t with
    | false =>
      simp only [whileE, hgt, Bool.false_eq_true, if_false, Except.ok.injEq] at h
      subst h
      exact ⟨s, by simp [whileE, hg s t hR, hgt], hR⟩
    | true =>
      simp only [whileE, hgt, if_true] at h
      cases hbt : b2 t with
      | error e => simp [hbt] at h
      | ok t1 =>
        simp only [hbt] at h
        obtain ⟨s1, hb1, hR1⟩ := hb s t t1 hR hgt hbt
        obtain ⟨s', hw, hR'⟩ := ih s1 t1 t' hR1 h
        exact ⟨s', by simp [whileE, hg s t hR, hgt, hb1, hw], hR'⟩

theorem whileG_done {σ} {guard : σ → Except Err Bool} {body : σ → Except Err σ} {s : σ} (hg : guard s = .ok false) (F : Nat) :
    whileG guard body F s = .ok s := by
  cases F <;> simp [whileG, hg]

theorem whileG_step {σ} {guard : σ → Except Err Bool} {body : σ → Except Err σ} {s s' : σ} (hg : guard s = .ok true)
    (hb : body s = .ok s') (F : Nat) : whileG guard body (F + 1) s = whileG guard body F s' := by
  simp [whileG, hg, hb]

end Exetera.GenK
