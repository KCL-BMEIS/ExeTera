import Exetera.Lemmas.While
/-!
  Fuel lemmas for `whileE` used by C12.

  * `FuelAgree r rF`: `rF` is the same result as `r` unless `r` ran out of fuel. It composes through nested loops: a loop whose
    body is replaced by an agreeing body and whose fuel is raised agrees with the original loop (`whileE_agree`). So a run of a
    driver that did not end in `outOfFuel` is unchanged by raising the fuel of any of its loops.
  * `whileE_tighten`: a run that did not end in `outOfFuel` needs no more than `μ s + 1` iterations for any measure `μ` that every
    successful iteration strictly decreases (on states satisfying an invariant); an `.ok` run needs no more than `μ s`.
-/
namespace Exetera

def FuelAgree {α} (r rF : Except Err α) : Prop := r = .error .outOfFuel ∨ rF = r

theorem FuelAgree.rfl' {α} (r : Except Err α) : FuelAgree r r := Or.inr rfl

theorem FuelAgree.eq_of_ne {α} {r rF : Except Err α} (h : FuelAgree r rF) (hr : r ≠ .error .outOfFuel) : rF = r :=
  h.resolve_left hr

theorem whileE_agree {σ} (g : σ → Bool) (b bF : σ → Except Err σ) (hb : ∀ s, FuelAgree (b s) (bF s)) :
    ∀ (n : Nat) (s : σ) (m : Nat), n ≤ m → FuelAgree (whileE g b n s) (whileE g bF m s) := by
  intro n s
  refine whileE_induct g b (C := fun n s r => ∀ m, n ≤ m → FuelAgree r (whileE g bF m s)) ?_ ?_ ?_ ?_ n s
  · intro _ s hg m _; exact .inr (whileE_of_guard_false hg m)
  · intro _ _ _ _; exact .inl rfl
  · intro n s e hg he m hm
    obtain ⟨m, rfl⟩ : ∃ k, m = k + 1 := ⟨m - 1, by omega⟩
    rcases hb s with h | h
    · exact .inl (he.symm.trans h)
    · exact .inr (whileE_succ_of_error hg (h.trans he) m)
  · intro n s s₁ hg hs ih m hm
    obtain ⟨m, rfl⟩ : ∃ k, m = k + 1 := ⟨m - 1, by omega⟩
    rw [whileE_succ_of_ok hg ((hb s).eq_of_ne (by simp [hs]) |>.trans hs)]
    exact ih m (by omega)

theorem whileE_fuel_irrelevant {σ} (g : σ → Bool) (b : σ → Except Err σ) (n : Nat) (s : σ)
    (h : whileE g b n s ≠ .error .outOfFuel) (m : Nat) (hm : n ≤ m) : whileE g b m s = whileE g b n s :=
  (whileE_agree g b b (fun _ => Or.inr rfl) n s m hm).eq_of_ne h

theorem whileE_tighten {σ} (g : σ → Bool) (b : σ → Except Err σ) (Inv : σ → Prop) (μ : σ → Nat)
    (step : ∀ s s', Inv s → g s = true → b s = .ok s' → Inv s' ∧ μ s' < μ s) :
    ∀ (n : Nat) (s : σ), Inv s → whileE g b n s ≠ .error .outOfFuel →
      ∀ m, μ s < m → whileE g b m s = whileE g b n s := by
  intro n s
  refine whileE_induct g b
    (C := fun _ s r => Inv s → r ≠ .error .outOfFuel → ∀ m, μ s < m → whileE g b m s = r) ?_ ?_ ?_ ?_ n s
  · intro _ s hg _ _ m _; exact whileE_of_guard_false hg m
  · intro _ _ _ h; exact absurd rfl h
  · intro _ s e hg he _ _ m hm
    obtain ⟨m, rfl⟩ : ∃ k, m = k + 1 := ⟨m - 1, by omega⟩
    exact whileE_succ_of_error hg he m
  · intro _ s s₁ hg hs ih hI hr m hm
    obtain ⟨m, rfl⟩ : ∃ k, m = k + 1 := ⟨m - 1, by omega⟩
    obtain ⟨hI₁, hlt⟩ := step s s₁ hI hg hs
    rw [whileE_succ_of_ok hg hs]
    exact ih hI₁ hr m (by omega)

theorem whileE_tighten_ok {σ} (g : σ → Bool) (b : σ → Except Err σ) (Inv : σ → Prop) (μ : σ → Nat)
    (step : ∀ s s', Inv s → g s = true → b s = .ok s' → Inv s' ∧ μ s' < μ s) :
    ∀ (n : Nat) (s s' : σ), Inv s → whileE g b n s = .ok s' → ∀ m, μ s ≤ m → whileE g b m s = .ok s' := by
  intro n s s' hI h
  refine whileE_ok_induct g b (C := fun s s' => Inv s → ∀ m, μ s ≤ m → whileE g b m s = .ok s') ?_ ?_ n s s' h hI
  · intro s hg _ m _; exact whileE_of_guard_false hg m
  · intro s s₁ s' hg hs ih hI m hm
    obtain ⟨hI₁, hlt⟩ := step s s₁ hI hg hs
    obtain ⟨m, rfl⟩ : ∃ k, m = k + 1 := ⟨m - 1, by omega⟩
    rw [whileE_succ_of_ok hg hs]
    exact ih hI₁ m (by omega)

/-- the number of iterations of a finished loop, counted by any counter that each iteration bumps by one, is at most any
    measure that each iteration strictly decreases -/
theorem whileE_counter_le_measure {σ} (g : σ → Bool) (b : σ → Except Err σ) (Inv : σ → Prop) (μ c : σ → Nat)
    (step : ∀ s s', Inv s → g s = true → b s = .ok s' → Inv s' ∧ μ s' < μ s ∧ c s' = c s + 1) :
    ∀ (n : Nat) (s s' : σ), Inv s → whileE g b n s = .ok s' → c s' + μ s' ≤ c s + μ s := by
  intro n s s' hI h
  refine whileE_ok_induct g b (C := fun s s' => Inv s → c s' + μ s' ≤ c s + μ s) ?_ ?_ n s s' h hI
  · intro _ _ _; omega
  · intro s s₁ s' hg hs ih hI
    obtain ⟨hI₁, hlt, hc⟩ := step s s₁ hI hg hs
    have := ih hI₁
    omega

/-- chunked loops: if every successful iteration lowers the measure by at least `c` or ends the loop, an `.ok` run needs at
    most `⌈μ s / c⌉` iterations (stated without division: any `m` with `μ s ≤ m * c`) -/
theorem whileE_tighten_scaled {σ} (g : σ → Bool) (b : σ → Except Err σ) (Inv : σ → Prop) (μ : σ → Nat) (c : Nat)
    (pos : ∀ s, Inv s → g s = true → 0 < μ s)
    (step : ∀ s s', Inv s → g s = true → b s = .ok s' → Inv s' ∧ (μ s' + c ≤ μ s ∨ g s' = false)) :
    ∀ (n : Nat) (s s' : σ), Inv s → whileE g b n s = .ok s' → ∀ m, μ s ≤ m * c → whileE g b m s = .ok s' := by
  intro n s s' hI h
  refine whileE_induct g b
    (C := fun _ s r => ∀ s', r = .ok s' → Inv s → ∀ m, μ s ≤ m * c → whileE g b m s = .ok s') ?_ ?_ ?_ ?_ n s s' h hI
  · intro _ s hg s' h _ m _; cases h; exact whileE_of_guard_false hg m
  · intro _ _ _ h; cases h
  · intro _ _ _ _ _ _ h; cases h
  · intro n s s₁ hg hs ih s' h hI m hm
    obtain ⟨hI₁, hdec⟩ := step s s₁ hI hg hs
    have hp := pos s hI hg
    obtain ⟨m, rfl⟩ : ∃ k, m = k + 1 := ⟨m - 1, by cases m with | zero => simp at hm; omega | succ k => rfl⟩
    rw [whileE_succ_of_ok hg hs]
    rcases hdec with hd | hd
    · exact ih s' h hI₁ m (by rw [Nat.succ_mul] at hm; omega)
    · rw [whileE_of_guard_false hd] at h ⊢; exact h

theorem whileE_fixpoint {σ} (g : σ → Bool) (b : σ → Except Err σ) (s : σ) (hg : g s = true) (hb : b s = .ok s) :
    ∀ n, whileE g b n s = .error .outOfFuel := by
  intro n
  induction n with
  | zero => exact whileE_zero_of_guard hg
  | succ n ih => rw [whileE_succ_of_ok hg hb]; exact ih

theorem whileE_congr_inv {σ} (g : σ → Bool) (b b' : σ → Except Err σ) (Inv : σ → Prop)
    (heq : ∀ s, Inv s → g s = true → b' s = b s)
    (hpres : ∀ s s', Inv s → g s = true → b s = .ok s' → Inv s') :
    ∀ (n : Nat) (s : σ), Inv s → whileE g b' n s = whileE g b n s := by
  intro n s
  refine whileE_induct g b (C := fun n s r => Inv s → whileE g b' n s = r) ?_ ?_ ?_ ?_ n s
  · intro n s hg _; exact whileE_of_guard_false hg n
  · intro s hg _; exact whileE_zero_of_guard hg
  · intro n s e hg he hI; exact whileE_succ_of_error hg ((heq s hI hg).trans he) n
  · intro n s s₁ hg hs ih hI
    rw [whileE_succ_of_ok hg ((heq s hI hg).trans hs)]
    exact ih (hpres s s₁ hI hg hs)

end Exetera
