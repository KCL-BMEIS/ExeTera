import Exetera.Model.Dates
import Exetera.Spec.Dates
/-!
`Dates.getDays` (C20) in closed form. With a filter of the right length the call is
`originE` (the explicit start, else `np.min` over the rows that pass the filter) followed by a map: day numbers by floor
division, flags by `inRangeFlag` (`getDays_eq`). The flag arrays the code builds stage by stage are carried in the form
`ts.mapIdx q`, so that each `&` with a comparison is one rewrite (`andRange_mapIdx`).
-/
namespace Exetera.Dates
open Exetera Exetera.Spec.Dates

theorem floorDays_eq (o t : Int) : floorDays o t = (t - o) / 86400 := rfl

theorem floorDays_isDayOf (o t : Int) : IsDayOf o t (floorDays o t) := by
  unfold IsDayOf
  rw [floorDays_eq]
  constructor <;> omega

/-- `np.min` is core's `List.min?` -/
theorem minE_ok_iff {xs : List Int} {o : Int} : minE xs = .ok o ↔ o ∈ xs ∧ ∀ y ∈ xs, o ≤ y := by
  rw [← List.min?_eq_some_iff]
  cases xs with
  | nil => simp [minE]
  | cons a as => simp only [minE, List.min?_cons', Except.ok.injEq, Option.some.injEq]

theorem minE_nil_error : minE [] = .error (.valueError "zero-size array to reduction operation minimum which has no identity") := rfl

theorem minE_ok_of_ne_nil {xs : List Int} (h : xs ≠ []) : ∃ o, minE xs = .ok o := by
  cases xs with
  | nil => exact absurd rfl h
  | cons a as => exact ⟨_, rfl⟩

theorem mem_maskSel {ts : List Int} {m : List Bool} {t : Int} :
    t ∈ maskSel ts m ↔ ∃ i : Nat, ts[i]? = some t ∧ m[i]? = some true := by
  induction ts generalizing m with
  | nil => simp [maskSel]
  | cons a as ih =>
    cases m with
    | nil => simp [maskSel]
    | cons b bs =>
      have hx : (∃ i : Nat, (a :: as)[i]? = some t ∧ (b :: bs)[i]? = some true) ↔
          (a = t ∧ b = true) ∨ ∃ i : Nat, as[i]? = some t ∧ bs[i]? = some true :=
        ⟨fun ⟨i, h⟩ => match i with
          | 0 => .inl ⟨Option.some.inj h.1, Option.some.inj h.2⟩
          | i + 1 => .inr ⟨i, h⟩,
         fun h => h.elim (fun ⟨h1, h2⟩ => ⟨0, congrArg some h1, congrArg some h2⟩) fun ⟨i, h⟩ => ⟨i + 1, h⟩⟩
      rw [hx, ← ih]
      cases b
      · simp only [maskSel, Bool.false_eq_true, if_false, and_false, false_or]
      · simp only [maskSel, if_true, List.mem_cons, and_true, eq_comm]

theorem mask_getElem? (f : List Int) (i : Nat) :
    (f.map (fun v => v != 0))[i]? = f[i]?.map (fun v => v != 0) := by simp

theorem mask_true_iff (f : List Int) (i : Nat) :
    (f.map (fun v => v != 0))[i]? = some true ↔ passes (some f) i = true := by
  simp only [List.getElem?_map, passes]
  cases f[i]? <;> simp [keeps]

/-- `date_filter.astype(bool)` -/
def maskOf (filt : Option (List Int)) : Option (List Bool) := filt.map (fun f => f.map (fun v => v != 0))

/-- `date_field[date_filter]`, all of `date_field` without a filter -/
def passing (ts : List Int) (filt : Option (List Int)) : List Int :=
  match maskOf filt with
  | none => ts
  | some m => maskSel ts m

theorem mem_passing {ts : List Int} {filt : Option (List Int)} {t : Int} :
    t ∈ passing ts filt ↔ ∃ i : Nat, ts[i]? = some t ∧ passes filt i = true := by
  cases filt with
  | none => simp [passing, maskOf, passes, List.mem_iff_getElem?]
  | some f => simp only [passing, maskOf, Option.map_some, mem_maskSel, mask_true_iff]

theorem passing_eq_nil_iff {ts : List Int} {filt : Option (List Int)} :
    passing ts filt = [] ↔ ¬ ∃ i, i < ts.length ∧ passes filt i = true := by
  simp only [List.eq_nil_iff_forall_not_mem, mem_passing, List.getElem?_eq_some_iff]
  exact ⟨fun h ⟨i, hi, hp⟩ => h _ ⟨i, ⟨hi, rfl⟩, hp⟩, fun h _ ⟨i, ⟨hi, _⟩, hp⟩ => h ⟨i, hi, hp⟩⟩

/-- the origin `get_days` works with: `start_date` if given, else the earliest timestamp that passes the filter -/
def originE (ts : List Int) (filt : Option (List Int)) : Option Int → Except Err Int
  | some s => .ok s
  | none => minE (passing ts filt)

theorem originE_ok_iff {ts : List Int} {filt : Option (List Int)} {start : Option Int} {o : Int} :
    originE ts filt start = .ok o ↔ IsOrigin ts filt start o := by
  cases start with
  | some s => simp [originE, IsOrigin, eq_comm]
  | none =>
    simp only [originE, minE_ok_iff, mem_passing, IsOrigin]
    exact and_congr_right fun _ => ⟨fun h i t ht hp => h t ⟨i, ht, hp⟩, fun h t ⟨i, ht, hp⟩ => h i t ht hp⟩

/-- the initial `in_range` -/
def inr0Of (ts : List Int) (filt : Option (List Int)) : List Bool :=
  match maskOf filt with
  | none => List.replicate ts.length true
  | some m => m

theorem inr0Of_eq {ts : List Int} {filt : Option (List Int)} (hlen : ∀ f, filt = some f → f.length = ts.length) :
    inr0Of ts filt = ts.mapIdx (fun i _ => passes filt i) := by
  cases filt with
  | none => exact List.ext_getElem (by simp [inr0Of, maskOf]) (fun i _ _ => by simp [inr0Of, maskOf, passes])
  | some f =>
    refine List.ext_getElem (by simp [inr0Of, maskOf, hlen f rfl]) (fun i h _ => ?_)
    have : i < f.length := by simpa [inr0Of, maskOf] using h
    simp [inr0Of, maskOf, passes, keeps, List.getElem?_eq_getElem this]

theorem andRange_mapIdx (ts : List Int) (q : Nat → Int → Bool) (p : Int → Bool) :
    andRange (ts.mapIdx q) (ts.map p) = .ok (ts.mapIdx (fun i t => q i t && p t)) := by
  simp only [andRange, List.length_mapIdx, List.length_map, if_true, Except.ok.injEq]
  induction ts generalizing q with
  | nil => rfl
  | cons t ts ih => simp only [List.mapIdx_cons, List.map_cons, List.zipWith_cons_cons, ih]

theorem endStage_mapIdx (ts : List Int) (q : Nat → Int → Bool) (end_ : Option Int) :
    endStage ts (ts.mapIdx q) end_ = .ok (ts.mapIdx (fun i t => q i t && beforeEnd end_ t)) := by
  cases end_ with
  | none => simp [endStage, beforeEnd]
  | some e => exact andRange_mapIdx ts q _

theorem startStage_mapIdx {ts : List Int} {filt : Option (List Int)} (hlen : ∀ f, filt = some f → f.length = ts.length)
    (q : Nat → Int → Bool) (start : Option Int) :
    startStage ts (maskOf filt) (ts.mapIdx q) start =
      match originE ts filt start with
      | .ok o => .ok (o, ts.mapIdx (fun i t => q i t && afterStart start t))
      | .error e => .error e := by
  cases start with
  | some s => simp only [startStage, andRange_mapIdx, originE, afterStart]
  | none =>
    cases filt with
    | none => simp [startStage, maskOf, originE, passing, afterStart]; rfl
    | some f => simp [startStage, maskOf, originE, passing, afterStart, hlen f rfl]; rfl

theorem getDays_general (ts : List Int) (filt : Option (List Int)) (start end_ : Option Int)
    (h : ¬(filt = none ∧ start = none ∧ end_ = none)) :
    getDays ts filt start end_ =
      match startStage ts (maskOf filt) (inr0Of ts filt) start with
      | .error e => .error e
      | .ok (o, inr1) =>
        match endStage ts inr1 end_ with
        | .error e => .error e
        | .ok inr2 => .ok ⟨ts.map (floorDays o), some inr2⟩ := by
  unfold getDays
  split
  · exact absurd ⟨rfl, rfl, rfl⟩ h
  · rfl

theorem getDays_eq {ts : List Int} {filt : Option (List Int)} (hlen : ∀ f, filt = some f → f.length = ts.length)
    (start end_ : Option Int) :
    getDays ts filt start end_ =
      match originE ts filt start with
      | .error e => .error e
      | .ok o => .ok ⟨ts.map (floorDays o),
          if filt = none ∧ start = none ∧ end_ = none then none else some (ts.mapIdx (inRangeFlag filt start end_))⟩ := by
  by_cases hall : filt = none ∧ start = none ∧ end_ = none
  · obtain ⟨rfl, rfl, rfl⟩ := hall
    simp only [getDays, originE, passing, maskOf, Option.map_none, and_self, if_true]
    cases minE ts <;> rfl
  · rw [getDays_general _ _ _ _ hall, inr0Of_eq hlen, startStage_mapIdx hlen, if_neg hall]
    cases originE ts filt start with
    | error e => rfl
    | ok o => simp only [endStage_mapIdx]; rfl

/-- a filter of the wrong length is an error at the first use of the mask -/
theorem getDays_ok_len {ts : List Int} {filt : Option (List Int)} {start end_ : Option Int} {out : DaysOut}
    (h : getDays ts filt start end_ = .ok out) : ∀ f, filt = some f → f.length = ts.length := by
  intro f hf
  subst hf
  false_or_by_contra
  rename_i hl
  rw [getDays_general _ _ _ _ (by simp)] at h
  cases start <;> simp [startStage, maskOf, inr0Of, andRange, hl] at h

theorem getDays_spec {ts : List Int} {filt : Option (List Int)} {start end_ : Option Int} {out : DaysOut}
    (h : getDays ts filt start end_ = .ok out) :
    ∃ o, IsOrigin ts filt start o ∧ out.days = ts.map (floorDays o) ∧
      ((filt = none ∧ start = none ∧ end_ = none) → out.inRange = none) ∧
      (¬(filt = none ∧ start = none ∧ end_ = none) → ∃ fl, out.inRange = some fl ∧ fl.length = ts.length ∧
        ∀ (i : Nat) (t : Int), ts[i]? = some t → fl[i]? = some (inRangeFlag filt start end_ i t)) := by
  rw [getDays_eq (getDays_ok_len h)] at h
  cases ho : originE ts filt start with
  | error e => simp [ho] at h
  | ok o =>
    simp only [ho, Except.ok.injEq] at h
    subst h
    exact ⟨o, originE_ok_iff.mp ho, rfl, fun ha => if_pos ha, fun hn =>
      ⟨_, if_neg hn, List.length_mapIdx, fun i t ht => by simp [List.getElem?_mapIdx, ht]⟩⟩

end Exetera.Dates
