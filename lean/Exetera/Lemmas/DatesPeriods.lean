import Exetera.Lemmas.DatesDays
import Exetera.Lemmas.While
/-!
The period helpers of C20: `get_periods`, `generate_period_offset_map`, `get_period_offsets`, and what the documented
pipeline needs of the boundaries `get_periods` produces.

* `get_periods`: stepping `k` times from `start` stays between `start` and `end` exactly while
  `k ≤ ⌊|end - start| / |step|⌋`, whichever way the step points (`within_iff`); the loop guard, the `datetime` range check
  of the body and the shape of the result all follow from it.
* the offset map: for ascending boundaries the half-open periods tile `[first, last)` (`exists_inPeriod`, `inPeriod_bounds`,
  `inPeriod_unique`), and `fillLoop` writes into every day the index of the period that contains it.
* the lookup: `lookupAll` is `lookupMasked` under an all-true mask.
-/
namespace Exetera.Dates
open Exetera Exetera.Spec.Dates

theorem boundaries_length (start step : Int) (n : Nat) : (boundaries start step n).length = n + 1 := by
  simp [boundaries]

theorem boundaries_get (start step : Int) (n k : Nat) (hk : k ≤ n) :
    (boundaries start step n)[k]? = some (start + (k : Int) * step) := by
  have : k < n + 1 := Nat.lt_succ_of_le hk
  simp [boundaries, List.getElem?_range this]

theorem boundaries_get_none (start step : Int) (n k : Nat) (hk : n < k) : (boundaries start step n)[k]? = none := by
  simp [boundaries]; exact hk

theorem boundaries_succ (start step : Int) (k : Nat) :
    boundaries start step (k + 1) = boundaries start step k ++ [start + ((k + 1 : Nat) : Int) * step] := by
  simp [boundaries, List.range_succ]

theorem mem_boundaries {start step : Int} {n : Nat} {p : Int} (h : p ∈ boundaries start step n) :
    ∃ k, k ≤ n ∧ p = start + (k : Int) * step := by
  simp only [boundaries, List.mem_map, List.mem_range] at h
  obtain ⟨k, hk, rfl⟩ := h
  exact ⟨k, Nat.le_of_lt_succ hk, rfl⟩

theorem mul_natAbs_le {k : Nat} {a b : Int} (hb : 0 ≤ b) (ha : 0 ≤ a) : k * b.natAbs ≤ a.natAbs ↔ k * b ≤ a := by
  obtain ⟨B, rfl⟩ := Int.eq_ofNat_of_zero_le hb
  obtain ⟨A, rfl⟩ := Int.eq_ofNat_of_zero_le ha
  rw [Int.natAbs_natCast, Int.natAbs_natCast, ← Int.natCast_mul, Int.ofNat_le]

theorem within_iff {start end_ step : Int} (hstep : step ≠ 0)
    (hdir : (0 < step → start ≤ end_) ∧ (step < 0 → end_ ≤ start)) (k : Nat) :
    (min start end_ ≤ start + k * step ∧ start + k * step ≤ max start end_) ↔
      k ≤ (end_ - start).natAbs / step.natAbs := by
  rw [Nat.le_div_iff_mul_le (Int.natAbs_pos.mpr hstep)]
  rcases Int.lt_or_gt_of_ne hstep with h | h
  · have hle := hdir.2 h
    have hs : 0 ≤ -step := Int.neg_nonneg_of_nonpos (Int.le_of_lt h)
    have hk : 0 ≤ k * -step := Int.mul_nonneg (Int.natCast_nonneg k) hs
    rw [Int.min_eq_right hle, Int.max_eq_left hle, ← Int.natAbs_neg step, ← Int.natAbs_neg (end_ - start),
      mul_natAbs_le hs (Int.neg_nonneg_of_nonpos (Int.sub_nonpos_of_le hle))]
    rw [Int.mul_neg] at hk ⊢
    have hX : (k : Int) * step ≤ 0 := Int.neg_nonneg.mp hk
    exact ⟨fun hw => Int.neg_le_neg (Int.sub_left_le_of_le_add hw.1), fun hn => ⟨Int.le_add_of_sub_left_le
      (Int.le_of_neg_le_neg hn), Int.le_trans (Int.add_le_add_left hX start) (Int.le_of_eq (Int.add_zero start))⟩⟩
  · have hle := hdir.1 h
    have hk : 0 ≤ k * step := Int.mul_nonneg (Int.natCast_nonneg k) (Int.le_of_lt h)
    rw [Int.min_eq_left hle, Int.max_eq_right hle, mul_natAbs_le (Int.le_of_lt h) (Int.sub_nonneg_of_le hle)]
    exact ⟨fun hw => Int.le_sub_left_of_add_le hw.2, fun hn => ⟨Int.le_add_of_nonneg_right hk, Int.add_le_of_le_sub_left hn⟩⟩

/-! ### get_periods -/

theorem unitDays_cases {period : String} {u : Int} (h : unitDays period = some u) : u = 1 ∨ u = 7 := by
  unfold unitDays at h
  split at h
  · exact .inl (Option.some.inj h).symm
  · split at h
    · exact .inr (Option.some.inj h).symm
    · cases h

theorem unitDays_none_iff (period : String) :
    unitDays period = none ↔ ¬(period = "day" ∨ period = "days" ∨ period = "week" ∨ period = "weeks") := by
  simp only [unitDays, Bool.or_eq_true, beq_iff_eq, ← or_assoc]
  split
  · simp [*]
  · split <;> simp [*]

theorem step_dir {period : String} {u delta start end_ : Int} (hu : unitDays period = some u) (hdelta : delta ≠ 0)
    (hdir : (0 < delta → start ≤ end_) ∧ (delta < 0 → end_ ≤ start)) :
    delta * u * 86400 ≠ 0 ∧ ((0 < delta * u * 86400 → start ≤ end_) ∧ (delta * u * 86400 < 0 → end_ ≤ start)) ∧
      (delta * u * 86400 < 0 ↔ delta < 0) := by
  have hK : 0 < u * 86400 := by rcases unitDays_cases hu with rfl | rfl <;> decide
  rw [Int.mul_assoc]
  have h1 : 0 < delta * (u * 86400) ↔ 0 < delta := by
    simpa only [Int.zero_mul] using Int.mul_lt_mul_right hK (b := 0) (c := delta)
  have h2 : delta * (u * 86400) < 0 ↔ delta < 0 := by
    simpa only [Int.zero_mul] using Int.mul_lt_mul_right hK (b := delta) (c := 0)
  exact ⟨(Int.lt_or_gt_of_ne hdelta).elim (fun h => Int.ne_of_lt (h2.mpr h)) (fun h => (Int.ne_of_lt (h1.mpr h)).symm),
    ⟨fun h => hdir.1 (h1.mp h), fun h => hdir.2 (h2.mp h)⟩, h2⟩

section loop
variable {start end_ step : Int} (hstep : step ≠ 0) (hdir : (0 < step → start ≤ end_) ∧ (step < 0 → end_ ≤ start))
include hstep hdir

theorem pGuard_iff {s : PState} {k : Nat} (hk : k ≤ (end_ - start).natAbs / step.natAbs)
    (hl : s.last = start + (k : Int) * step) :
    pGuard end_ step s = true ↔ k + 1 ≤ (end_ - start).natAbs / step.natAbs := by
  have hin := (within_iff hstep hdir k).mpr hk
  rw [← within_iff hstep hdir (k + 1), Int.natCast_add, Int.add_mul, Int.natCast_one, Int.one_mul, ← Int.add_assoc]
  rw [← hl] at hin ⊢
  unfold pGuard
  rcases Int.lt_or_gt_of_ne hstep with h | h
  · have hle := hdir.2 h
    rw [Int.min_eq_right hle, Int.max_eq_left hle] at hin ⊢
    rw [if_neg (Int.lt_asymm h), decide_eq_true_iff]
    exact ⟨fun hg => ⟨Int.le_add_of_sub_left_le hg, Int.le_trans (Int.add_le_add_left (Int.le_of_lt h) _) (Int.add_zero _ ▸ hin.2)⟩,
      fun hw => Int.sub_left_le_of_le_add hw.1⟩
  · have hle := hdir.1 h
    rw [Int.min_eq_left hle, Int.max_eq_right hle] at hin ⊢
    rw [if_pos h, decide_eq_true_iff]
    exact ⟨fun hg => ⟨Int.le_trans hin.1 (Int.le_add_of_nonneg_right (Int.le_of_lt h)), Int.add_le_of_le_sub_left hg⟩,
      fun hw => Int.le_sub_left_of_add_le hw.2⟩

def PInv (start step : Int) (n : Nat) (s : PState) : Prop :=
  ∃ k, k ≤ n ∧ s.dates = boundaries start step k ∧ s.last = start + (k : Int) * step

/-- `datetime + timedelta` cannot overflow because every boundary lies between `start` and `end_` -/
theorem periods_loop (hs : 0 ≤ start ∧ start ≤ DT_MAX) (he : 0 ≤ end_ ∧ end_ ≤ DT_MAX) :
    ∃ s', whileE (pGuard end_ step) (pBody step) ((end_ - start).natAbs / step.natAbs) ⟨[start], start⟩ = .ok s' ∧
      s'.dates = boundaries start step ((end_ - start).natAbs / step.natAbs) := by
  generalize hn : (end_ - start).natAbs / step.natAbs = n
  obtain ⟨s', hw, ⟨k, hkn, hdates, hlast⟩, hg⟩ :=
    whileE_rule (pGuard end_ step) (pBody step) (PInv start step n) (fun s => n + 1 - s.dates.length)
      (fun s ⟨k, hkn, hdates, hlast⟩ hg => by
        subst hn
        have hk1 := (pGuard_iff hstep hdir hkn hlast).mp hg
        have hin := (within_iff hstep hdir (k + 1)).mpr hk1
        have hnxt : s.last + step = start + ((k + 1 : Nat) : Int) * step := by
          rw [hlast, Int.natCast_add, Int.add_mul, Int.natCast_one, Int.one_mul, Int.add_assoc]
        rw [← hnxt] at hin
        refine ⟨⟨s.dates ++ [s.last + step], s.last + step⟩, ?_, ⟨k + 1, hk1, ?_, hnxt⟩, ?_⟩
        · simp only [pBody]
          rw [if_pos ⟨Int.le_trans (Int.le_min.mpr ⟨hs.1, he.1⟩) hin.1, Int.le_trans hin.2 (Int.max_le.mpr ⟨hs.2, he.2⟩)⟩]
        · simp only [boundaries_succ, hdates, hnxt]
        · simp only [List.length_append, List.length_singleton, hdates, boundaries_length]
          exact Nat.sub_lt_sub_left (Nat.lt_succ_of_le hk1) (Nat.lt_succ_self _))
      n ⟨[start], start⟩ ⟨0, Nat.zero_le _, by simp [boundaries], by simp⟩ (by simp)
  subst hn
  refine ⟨s', hw, ?_⟩
  have : ¬ k + 1 ≤ (end_ - start).natAbs / step.natAbs := fun h => by
    rw [(pGuard_iff hstep hdir hkn hlast).mpr h] at hg
    exact Bool.noConfusion hg
  rw [hdates, Nat.le_antisymm hkn (Nat.not_lt.mp this)]

end loop

theorem inPeriod_succ {a : Int} {bs : List Int} {j : Nat} {x : Int} :
    InPeriod (a :: bs) (j + 1) x ↔ InPeriod bs j x :=
  Iff.rfl

theorem inPeriod_zero {a b : Int} {bs : List Int} {x : Int} :
    InPeriod (a :: b :: bs) 0 x ↔ a ≤ x ∧ x < b :=
  ⟨fun ⟨_, _, h1, h2, h3, h4⟩ => by cases h1; cases h2; exact ⟨h3, h4⟩, fun ⟨h3, h4⟩ => ⟨a, b, rfl, rfl, h3, h4⟩⟩

theorem not_inPeriod_single (a : Int) (j : Nat) (x : Int) : ¬ InPeriod [a] j x := by
  rintro ⟨lo, hi, _, h2, _⟩
  simp at h2

theorem ascending_head_le {a : Int} {bs : List Int} (h : Ascending (a :: bs)) {x : Int} (hx : x ∈ a :: bs) : a ≤ x := by
  rcases List.mem_cons.mp hx with rfl | hx
  · exact Int.le_refl _
  · exact (List.pairwise_cons.mp h).1 x hx

theorem ascending_tail {a : Int} {bs : List Int} (h : Ascending (a :: bs)) : Ascending bs :=
  (List.pairwise_cons.mp h).2

theorem ascending_le_getLast : ∀ (bs : List Int) (a : Int), Ascending (a :: bs) →
    ∀ l, (a :: bs).getLast? = some l → ∀ x ∈ a :: bs, x ≤ l := by
  intro bs
  induction bs with
  | nil =>
    intro a _ l hl x hx
    simp at hl hx
    omega
  | cons b bs ih =>
    intro a h l hl x hx
    have hb := ih b (ascending_tail h) l (by simpa [List.getLast?_cons_cons] using hl)
    rcases List.mem_cons.mp hx with rfl | hx
    · exact Int.le_trans (ascending_head_le h (List.mem_cons_of_mem x List.mem_cons_self)) (hb b List.mem_cons_self)
    · exact hb x hx

theorem inPeriod_bounds {a : Int} {bs : List Int} (h : Ascending (a :: bs)) {l : Int} (hl : (a :: bs).getLast? = some l)
    {j : Nat} {x : Int} (hj : InPeriod (a :: bs) j x) : a ≤ x ∧ x < l := by
  obtain ⟨lo, hi, h1, h2, h3, h4⟩ := hj
  exact ⟨Int.le_trans (ascending_head_le h (List.mem_of_getElem? h1)) h3,
    Int.lt_of_lt_of_le h4 (ascending_le_getLast _ _ h l hl hi (List.mem_of_getElem? h2))⟩

theorem exists_inPeriod : ∀ (bs : List Int) (a : Int), Ascending (a :: bs) →
    ∀ l, (a :: bs).getLast? = some l → ∀ x, a ≤ x → x < l → ∃ j, InPeriod (a :: bs) j x := by
  intro bs
  induction bs with
  | nil =>
    intro a _ l hl x h1 h2
    simp at hl
    omega
  | cons b bs ih =>
    intro a h l hl x h1 h2
    by_cases hxb : x < b
    · exact ⟨0, inPeriod_zero.mpr ⟨h1, hxb⟩⟩
    · obtain ⟨j, hj⟩ := ih b (ascending_tail h) l (by simpa [List.getLast?_cons_cons] using hl) x (Int.not_lt.mp hxb) h2
      exact ⟨j + 1, inPeriod_succ.mpr hj⟩

theorem inPeriod_unique {bs : List Int} (h : Ascending bs) {j j' : Nat} {x : Int}
    (h1 : InPeriod bs j x) (h2 : InPeriod bs j' x) : j = j' := by
  obtain ⟨lo, hi, a1, a2, a3, a4⟩ := h1
  obtain ⟨lo', hi', b1, b2, b3, b4⟩ := h2
  have key : ∀ (i i' : Nat) (u v : Int), bs[i]? = some u → bs[i']? = some v → i ≤ i' → u ≤ v := by
    intro i i' u v hu hv hle
    obtain ⟨hi1, rfl⟩ := List.getElem?_eq_some_iff.mp hu
    obtain ⟨hi2, rfl⟩ := List.getElem?_eq_some_iff.mp hv
    rcases Nat.lt_or_eq_of_le hle with hlt | rfl
    · exact (List.pairwise_iff_getElem.mp h) i i' hi1 hi2 hlt
    · exact Int.le_refl _
  rcases Nat.lt_trichotomy j j' with hlt | heq | hgt
  · exact absurd (Int.lt_of_lt_of_le a4 (Int.le_trans (key (j + 1) j' hi lo' a2 b1 hlt) b3)) (Int.lt_irrefl x)
  · exact heq
  · exact absurd (Int.lt_of_lt_of_le b4 (Int.le_trans (key (j' + 1) j hi' lo b2 a1 hgt) a3)) (Int.lt_irrefl x)

/-! ### generate_period_offset_map -/

theorem normIdx_of_range {n : Nat} {a : Int} (h0 : 0 ≤ a) (hn : a ≤ n) : normIdx n a = a.toNat := by
  rw [normIdx, if_neg (Int.not_lt.mpr h0), Nat.min_eq_left (Int.toNat_le.mpr hn)]

theorem sliceAssign_length (buf : List Int) (a b v : Int) : (sliceAssign buf a b v).length = buf.length := by
  simp [sliceAssign]

theorem sliceAssign_get {buf : List Int} {a b : Int} (v : Int) (ha0 : 0 ≤ a) (ha : a ≤ buf.length) (hb0 : 0 ≤ b)
    (hb : b ≤ buf.length) (d : Nat) (hd : d < buf.length) :
    (sliceAssign buf a b v)[d]? = if a ≤ d ∧ (d : Int) < b then some v else buf[d]? := by
  simp only [sliceAssign, List.getElem?_mapIdx, normIdx_of_range ha0 ha, normIdx_of_range hb0 hb,
    List.getElem?_eq_getElem hd, Option.map_some, Int.toNat_le, Int.lt_toNat]
  split <;> rfl

theorem fillLoop_spec : ∀ (rest : List Int) (a : Int) (i : Nat) (buf : List Int), Ascending (a :: rest) → 0 ≤ a →
    (∀ x ∈ a :: rest, x ≤ (buf.length : Int)) →
    (fillLoop (a :: rest) i buf).length = buf.length ∧ ∀ d : Nat, d < buf.length →
      (∀ j, InPeriod (a :: rest) j d → (fillLoop (a :: rest) i buf)[d]? = some ((i + j : Nat) : Int)) ∧
      ((∀ j, ¬ InPeriod (a :: rest) j d) → (fillLoop (a :: rest) i buf)[d]? = buf[d]?) := by
  intro rest
  induction rest with
  | nil =>
    intro a i buf _ _ _
    exact ⟨rfl, fun d _ => ⟨fun j hj => absurd hj (not_inPeriod_single a j d), fun _ => rfl⟩⟩
  | cons b rest ih =>
    intro a i buf hasc ha0 hbound
    have hab : a ≤ b := ascending_head_le hasc (List.mem_cons_of_mem a List.mem_cons_self)
    have ha : a ≤ (buf.length : Int) := hbound a List.mem_cons_self
    have hb : b ≤ (buf.length : Int) := hbound b (List.mem_cons_of_mem a List.mem_cons_self)
    have hlen' := sliceAssign_length buf a b (i : Int)
    obtain ⟨hl, hget⟩ := ih b (i + 1) (sliceAssign buf a b (i : Int)) (ascending_tail hasc) (Int.le_trans ha0 hab)
      (by intro x hx; rw [hlen']; exact hbound x (List.mem_cons_of_mem a hx))
    rw [show fillLoop (a :: b :: rest) i buf = fillLoop (b :: rest) (i + 1) (sliceAssign buf a b (i : Int)) from rfl]
    refine ⟨by rw [hl, hlen'], fun d hd => ?_⟩
    obtain ⟨h1, h2⟩ := hget d (by rw [hlen']; exact hd)
    have hsl := sliceAssign_get (i : Int) ha0 ha (Int.le_trans ha0 hab) hb d hd
    constructor
    · intro j hj
      cases j with
      | zero =>
        -- the slice just written is not touched again: the later periods start at `b` or after it
        have hlt := (inPeriod_zero.mp hj).2
        rw [h2 fun j' ⟨lo, _, hlo, _, hle, _⟩ => by
            exact absurd (Int.lt_of_lt_of_le hlt (Int.le_trans (ascending_head_le (ascending_tail hasc)
              (List.mem_of_getElem? hlo)) hle)) (Int.lt_irrefl _),
          hsl, if_pos (inPeriod_zero.mp hj)]
        rfl
      | succ j =>
        rw [h1 j (inPeriod_succ.mp hj)]
        congr 2
        omega
    · intro hno
      rw [h2 (fun j hj => hno (j + 1) (inPeriod_succ.mpr hj)), hsl, if_neg (fun h => hno 0 (inPeriod_zero.mpr h))]

theorem periodDeltas_cons (p0 : Int) (rest : List Int) :
    periodDeltas (p0 :: rest) = 0 :: rest.map (fun p => (p - p0) / 86400) := by
  simp [periodDeltas]

theorem periodDeltas_ascending {ps : List Int} (h : Ascending ps) : Ascending (periodDeltas ps) := by
  cases ps with
  | nil => simp [periodDeltas, Ascending]
  | cons p0 rest =>
    unfold periodDeltas Ascending
    exact List.Pairwise.map _ (fun a b hab => Int.ediv_le_ediv (by decide) (Int.sub_le_sub_right hab p0)) h

theorem fill_spec {ds : List Int} {L : Int} (hasc : Ascending (0 :: ds)) (hl : (0 :: ds).getLast? = some L) :
    (fillLoop (0 :: ds) 0 (List.replicate L.toNat 0)).length = L.toNat ∧ ∀ d : Nat, d < L.toNat →
      ∃ k : Nat, (fillLoop (0 :: ds) 0 (List.replicate L.toNat 0))[d]? = some (k : Int) ∧ InPeriod (0 :: ds) k d := by
  have hL : 0 ≤ L := ascending_head_le hasc (List.mem_of_getLast? hl)
  obtain ⟨hlen, hget⟩ := fillLoop_spec ds 0 0 (List.replicate L.toNat 0) hasc (Int.le_refl 0) (fun x hx => by
    rw [List.length_replicate, Int.toNat_of_nonneg hL]
    exact ascending_le_getLast _ _ hasc _ hl x hx)
  rw [List.length_replicate] at hlen hget
  refine ⟨hlen, fun d hd => ?_⟩
  obtain ⟨j, hj⟩ := exists_inPeriod _ _ hasc _ hl (d : Int) (Int.natCast_nonneg d) (Int.lt_toNat.mp hd)
  exact ⟨j, by simpa using (hget d hd).1 j hj, hj⟩

/-- the map produced for ascending boundaries: one entry per whole day between the first and the last boundary, each the
    index of a period whose day interval contains that day -/
theorem offsetMap_spec (p0 : Int) (rest : List Int) (hasc : Ascending (p0 :: rest)) :
    ∃ m l, (p0 :: rest).getLast? = some l ∧ offsetMap (p0 :: rest) = .ok m ∧
      (m.length : Int) = (l - p0) / 86400 ∧
      ∀ d : Nat, d < m.length → ∃ k : Nat, m[d]? = some (k : Int) ∧ InPeriod (periodDeltas (p0 :: rest)) k d := by
  obtain ⟨l, hl⟩ : ∃ l, (p0 :: rest).getLast? = some l := ⟨_, List.getLast?_eq_some_getLast (List.cons_ne_nil _ _)⟩
  have hp0l : p0 ≤ l := ascending_head_le hasc (List.mem_of_getLast? hl)
  have hdl : (periodDeltas (p0 :: rest)).getLast? = some ((l - p0) / 86400) := by
    simp only [periodDeltas, List.getLast?_map, hl, Option.map_some]
  have hdasc := periodDeltas_ascending hasc
  rw [periodDeltas_cons] at hdasc hdl ⊢
  obtain ⟨hlen, hget⟩ := fill_spec hdasc hdl
  have hq : 0 ≤ (l - p0) / 86400 := Int.ediv_nonneg (Int.sub_nonneg_of_le hp0l) (by decide)
  refine ⟨_, l, hl, ?_, by rw [hlen]; exact Int.toNat_of_nonneg hq, by rwa [hlen]⟩
  simp only [offsetMap, periodDeltas_cons, hdl]
  rw [if_neg (Int.not_lt.mpr hq)]

/-! ### get_period_offsets -/

theorem fancyGet_of_range {pbd : List Int} {d : Int} (h0 : 0 ≤ d) (h1 : d < pbd.length) :
    fancyGet pbd d = .ok pbd[d.toNat]! ∧ pbd[d.toNat]? = some pbd[d.toNat]! := by
  have hlt : d.toNat < pbd.length := (Int.toNat_lt h0).mpr h1
  simp [fancyGet, h0, getE_of_lt _ hlt, hlt]

/-- the masked lookup: every flagged day inside the map ⇒ `.ok`, flagged rows get the map entry, the others −1 -/
theorem lookupMasked_spec (pbd : List Int) : ∀ (days : List Int) (flags : List Bool), flags.length = days.length →
    (∀ (i : Nat) (d : Int), days[i]? = some d → flags[i]? = some true → 0 ≤ d ∧ d < pbd.length) →
    ∃ out, lookupMasked pbd days flags = .ok out ∧ out.length = days.length ∧
      ∀ (i : Nat) (d : Int), days[i]? = some d →
        out[i]? = if flags[i]? = some true then pbd[d.toNat]? else some (-1) := by
  intro days
  induction days with
  | nil =>
    intro flags hl _
    obtain rfl : flags = [] := List.eq_nil_of_length_eq_zero hl
    exact ⟨[], rfl, rfl, by simp⟩
  | cons d ds ih =>
    intro flags hl hin
    cases flags with
    | nil => simp at hl
    | cons b bs =>
      -- `(x :: xs)[i + 1]?` is `xs[i]?` and `(x :: xs)[0]?` is `some x` by computation
      obtain ⟨outs, ho, hlo, hgo⟩ := ih bs (Nat.succ.inj hl) (fun i d' h1 h2 => hin (i + 1) d' h1 h2)
      obtain ⟨v, hv, hpv⟩ : ∃ v, (if b then fancyGet pbd d else .ok (-1)) = .ok v ∧
          some v = if some b = some true then pbd[d.toNat]? else some (-1) := by
        cases b with
        | false => exact ⟨_, rfl, rfl⟩
        | true =>
          obtain ⟨h0, h1⟩ := hin 0 d rfl rfl
          exact ⟨_, (fancyGet_of_range h0 h1).1, (fancyGet_of_range h0 h1).2.symm⟩
      refine ⟨v :: outs, by simp only [lookupMasked, hv, ho], congrArg (· + 1) hlo, fun i d' hd' => ?_⟩
      cases i with
      | zero => cases hd'; exact hpv
      | succ i => exact hgo i d' hd'

theorem lookupAll_eq_masked (pbd : List Int) : ∀ days : List Int,
    lookupAll pbd days = lookupMasked pbd days (List.replicate days.length true)
  | [] => rfl
  | d :: ds => by simp only [lookupAll, lookupMasked, List.length_cons, List.replicate_succ, if_true, lookupAll_eq_masked pbd ds]

def DayAligned (bs : List Int) : Prop := ∀ first, bs.head? = some first → ∀ p ∈ bs, (p - first) % 86400 = 0

/-- floor division is only weakly monotone; it is strict when the greater argument is a whole number of days, which is why
    the period boundaries have to be `DayAligned` -/
theorem ediv_lt_of_aligned {a b : Int} (hb : b % 86400 = 0) (h : a < b) : a / 86400 < b / 86400 := by
  omega

theorem inPeriod_days {bs : List Int} {first : Int} (hal : ∀ p ∈ bs, (p - first) % 86400 = 0) {k : Nat} {t : Int}
    (h : InPeriod bs k t) : InPeriod (bs.map (fun p => (p - first) / 86400)) k ((t - first) / 86400) := by
  obtain ⟨lo, hi, h1, h2, h3, h4⟩ := h
  exact ⟨_, _, by rw [List.getElem?_map, h1]; rfl, by rw [List.getElem?_map, h2]; rfl,
    Int.ediv_le_ediv (by decide) (Int.sub_le_sub_right h3 first),
    ediv_lt_of_aligned (hal hi (List.mem_of_getElem? h2)) (Int.sub_lt_sub_right h4 first)⟩

theorem boolToInt_mask (fl : List Bool) :
    (fl.map (fun b => if b then (1 : Int) else 0)).map (fun v => v != 0) = fl := by
  induction fl with
  | nil => rfl
  | cons b bs ih => cases b <;> simp [ih]

theorem boundaries_pairwise (start step : Int) (n : Nat) :
    (boundaries start step n).Pairwise (fun a b => ∃ j : Nat, b = a + j * step) := by
  unfold boundaries
  rw [List.pairwise_map]
  refine List.Pairwise.imp (fun {a b} hab => ⟨b - a, ?_⟩) (List.pairwise_lt_range (n := n + 1))
  rw [Int.natCast_sub (Nat.le_of_lt hab), Int.sub_mul]
  omega

/-- the boundaries as `pipeline` hands them to `bucket`: reversed into ascending order when generated backwards -/
def ascBoundaries (start step : Int) (n : Nat) : List Int :=
  if step < 0 then (boundaries start step n).reverse else boundaries start step n

theorem mem_ascBoundaries {start step : Int} {n : Nat} {x : Int} :
    x ∈ ascBoundaries start step n ↔ x ∈ boundaries start step n := by
  unfold ascBoundaries
  split <;> simp

theorem ascBoundaries_ne (start step : Int) (n : Nat) : ascBoundaries start step n ≠ [] :=
  List.ne_nil_of_mem (mem_ascBoundaries.mpr (List.mem_of_getElem? (boundaries_get start step n 0 (Nat.zero_le n))))

theorem ascBoundaries_ascending (start step : Int) (n : Nat) : Ascending (ascBoundaries start step n) := by
  unfold ascBoundaries Ascending
  split
  · rename_i h
    rw [List.pairwise_reverse]
    refine (boundaries_pairwise start step n).imp fun {a b} ⟨j, hj⟩ => ?_
    have := Int.mul_nonneg (Int.natCast_nonneg j) (Int.neg_nonneg_of_nonpos (Int.le_of_lt h))
    rw [Int.mul_neg] at this
    omega
  · rename_i h
    refine (boundaries_pairwise start step n).imp fun {a b} ⟨j, hj⟩ => ?_
    have := Int.mul_nonneg (Int.natCast_nonneg j) (Int.not_lt.mp h)
    omega

theorem ascBoundaries_aligned (start c : Int) (n : Nat) : DayAligned (ascBoundaries start (c * 86400) n) := by
  intro first hfirst p hp
  obtain ⟨k, _, rfl⟩ := mem_boundaries (mem_ascBoundaries.mp hp)
  obtain ⟨j, _, rfl⟩ := mem_boundaries (mem_ascBoundaries.mp (List.mem_of_mem_head? hfirst))
  simp only [← Int.mul_assoc]
  omega

end Exetera.Dates
