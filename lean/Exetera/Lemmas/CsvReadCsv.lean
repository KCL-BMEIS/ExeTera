import Exetera.Lemmas.CsvLoop
/-! `read_csv_with_schema_dict`: budgets, `index_map`, include / exclude (C05). The budgets it computes are ≥ 1, so the driver
    theorems apply. -/
namespace Exetera.Csv
open Exetera Spec

/-- `column_offsets` written recursively -/
def offsRec (crs : Nat) : Nat → List Nat → List Nat
  | b, [] => [b]
  | b, sz :: rest => b :: offsRec crs (b + max sz 1 * crs) rest

theorem offsRec_ne_nil (crs b : Nat) (sizes : List Nat) : offsRec crs b sizes ≠ [] := by
  cases sizes <;> simp [offsRec]

theorem getLastD_concat' (pre : List Nat) (b : Nat) : (pre ++ [b]).getLastD 0 = b := by
  rw [List.getLastD_eq_getLast?]; simp

theorem foldl_offs (crs : Nat) (sizes : List Nat) : ∀ (pre : List Nat) (b : Nat),
    sizes.foldl (fun acc sz => acc ++ [acc.getLastD 0 + max sz 1 * crs]) (pre ++ [b]) = pre ++ offsRec crs b sizes := by
  induction sizes with
  | nil => intro pre b; rfl
  | cons sz rest ih =>
    intro pre b
    simp only [List.foldl_cons, offsRec, getLastD_concat']
    rw [ih (pre ++ [b]) (b + max sz 1 * crs)]
    simp

theorem columnOffsets_eq (sizes : List Nat) (crs : Nat) : columnOffsets sizes crs = offsRec crs 0 sizes := by
  unfold columnOffsets
  exact foldl_offs crs sizes [] 0

theorem offsRec_length (crs : Nat) (sizes : List Nat) : ∀ b, (offsRec crs b sizes).length = sizes.length + 1 := by
  induction sizes with
  | nil => intro b; rfl
  | cons sz rest ih => intro b; simp [offsRec, ih]

theorem offsRec_step (crs : Nat) (sizes : List Nat) : ∀ (b c : Nat), c < sizes.length →
    offAt (offsRec crs b sizes) (c + 1) = offAt (offsRec crs b sizes) c + max (sizes.getD c 0) 1 * crs := by
  induction sizes with
  | nil => intro b c hc; simp at hc
  | cons sz rest ih =>
    intro b c hc
    cases c with
    | zero =>
      cases rest <;> simp [offsRec, offAt]
    | succ c =>
      have := ih (b + max sz 1 * crs) c (by simpa using hc)
      simpa [offsRec, offAt] using this

theorem offsRec_zero (crs b : Nat) (sizes : List Nat) : offAt (offsRec crs b sizes) 0 = b := by
  cases sizes <;> simp [offsRec, offAt]

theorem zip_map_self {α β γ} (l : List α) (g : α → β) (h : α → β → γ) :
    (l.zip (l.map g)).map (fun p => h p.1 p.2) = l.map (fun k => h k (g k)) := by
  induction l with
  | nil => rfl
  | cons x xs ih => simp [ih]

/-- an include / exclude list of known names passes the check of `read_csv_with_schema_dict` -/
theorem unknownName_false {names : List String} {o : Option (List String)} (h : ∀ l, o = some l → ∀ k ∈ l, k ∈ names) :
    unknownName names o = false := by
  cases o with
  | none => rfl
  | some l =>
    rw [unknownName, List.any_eq_false]
    intro k hk
    simp [h l rfl k hk]

/-- `column_offsets` when every column is imported as an indexed string -/
abbrev textOffsets (names : List String) (crs : Nat) : List Nat :=
  offsRec crs 0 (names.map (fun _ => Gen.Csv.INDEXED_STRING_FIELD_SIZE))

theorem textOffsets_step (names : List String) (crs c : Nat) (hc : c < names.length) :
    offAt (textOffsets names crs) (c + 1) = offAt (textOffsets names crs) c + Gen.Csv.INDEXED_STRING_FIELD_SIZE * crs := by
  rw [offsRec_step crs _ 0 c (by simpa using hc)]
  have : (names.map (fun _ => Gen.Csv.INDEXED_STRING_FIELD_SIZE)).getD c 0 = Gen.Csv.INDEXED_STRING_FIELD_SIZE := by
    simp [List.getD, List.getElem?_map, List.getElem?_eq_getElem hc]
  rw [this]; rfl

theorem fieldsToUse_sublist (names : List String) (incl excl : Option (List String)) :
    (fieldsToUse names incl excl).Sublist names := by
  unfold fieldsToUse
  cases incl <;> cases excl <;> simp only
  · exact List.Sublist.refl _
  · exact List.filter_sublist
  · exact List.filter_sublist
  · exact List.Sublist.trans List.filter_sublist List.filter_sublist

theorem fieldsToUse_subset (names : List String) (incl excl : Option (List String)) :
    ∀ k ∈ fieldsToUse names incl excl, k ∈ names :=
  fun _ hk => (fieldsToUse_sublist names incl excl).subset hk

/-- `index_map` points into the file's columns -/
theorem indexMap_lt (names : List String) (incl excl : Option (List String)) :
    ∀ c ∈ (fieldsToUse names incl excl).map (fun k => names.idxOf k), c < names.length := by
  intro c hc
  simp only [List.mem_map] at hc
  obtain ⟨k, hk, rfl⟩ := hc
  exact List.idxOf_lt_length_of_mem (fieldsToUse_subset names incl excl k hk)

/-- `read_csv_with_schema_dict` when every column is imported as an indexed string: what `read_file_using_fast_csv_reader`
    returns for the budgets and the `index_map` it computes, field by field under the selected names -/
theorem readCsv_of_readFile {file : Bytes} {crs fuel : Nat} (names : List String) (schema : List (String × FieldKind))
    (incl excl : Option (List String)) (hall : ∀ k ∈ names, kindOf schema k = .indexed)
    (hincl : ∀ l, incl = some l → ∀ k ∈ l, k ∈ names) (hexcl : ∀ l, excl = some l → ∀ k ∈ l, k ∈ names)
    {n : Int} {cols : Nat → List Bytes}
    (hrf : ∃ calls, readFile file crs names.length (textOffsets names crs)
        ((fieldsToUse names incl excl).map (fun k => names.idxOf k))
        (((fieldsToUse names incl excl).map (fun k => names.idxOf k)).map (fun _ => ({ kind := .indexed } : Imp))) fuel =
      .ok ⟨n, ((fieldsToUse names incl excl).map (fun k => names.idxOf k)).map (fun c => fieldOf (cols c)), calls⟩) :
    readCsv file names schema incl excl crs fuel =
      .ok ⟨n, (fieldsToUse names incl excl).map (fun k => ⟨k, fieldOf (cols (names.idxOf k))⟩)⟩ := by
  obtain ⟨calls, hrf⟩ := hrf
  have hoffs : columnOffsets (names.map (fun k => (kindOf schema k).fieldSize)) crs = textOffsets names crs := by
    rw [columnOffsets_eq]
    congr 1
    apply List.map_congr_left
    intro k hk
    rw [hall k hk]; rfl
  have himps : (fieldsToUse names incl excl).map (fun k => ({ kind := kindOf schema k } : Imp)) =
      ((fieldsToUse names incl excl).map (fun k => names.idxOf k)).map (fun _ => ({ kind := .indexed } : Imp)) := by
    rw [List.map_map]
    apply List.map_congr_left
    intro k hk
    simp [hall k (fieldsToUse_subset names incl excl k hk)]
  unfold readCsv
  simp only [unknownName_false hincl, unknownName_false hexcl, Bool.false_eq_true, if_false, hoffs, himps, hrf]
  congr 2
  rw [List.map_map]
  exact zip_map_self (fieldsToUse names incl excl) _ (fun k i => (⟨k, i⟩ : Field))

/-- `read_csv_with_schema_dict` when every column is imported as an indexed string and no staging buffer fills -/
theorem readCsv_windows {file : Bytes} {crs : Nat} {hrow : List Cell} {rows : List (List Cell)}
    (names : List String) (schema : List (String × FieldKind)) (incl excl : Option (List String))
    (hall : ∀ k ∈ names, kindOf schema k = .indexed)
    (hincl : ∀ l, incl = some l → ∀ k ∈ l, k ∈ names) (hexcl : ∀ l, excl = some l → ∀ k ∈ l, k ∈ names)
    (st : SettingR file crs names.length ((fieldsToUse names incl excl).map (fun k => names.idxOf k)) hrow rows)
    (hfile : file ≠ []) (hmin : ∀ l ∈ hrow :: rows, names.length < (renderCells l).length)
    (hfit : ∀ c, c < names.length → (column (values rows) c).flatten.length < Gen.Csv.INDEXED_STRING_FIELD_SIZE * crs)
    (fuel : Nat) (hfuel : rows.length + 2 ≤ fuel) :
    readCsv file names schema incl excl crs fuel =
      .ok ⟨rows.length, (fieldsToUse names incl excl).map
        (fun k => ⟨k, fieldOf (column (values rows) (names.idxOf k))⟩)⟩ := by
  apply readCsv_of_readFile names schema incl excl hall hincl hexcl
  exact readFile_fit st hfile (impHom_indexed _) (fun _ _ _ _ => trivial) hmin (by rw [offsRec_length]; simp) (offsRec_zero _ _ _)
    (fun c hc => by
      show offAt (textOffsets names crs) c + colBytes rows c < offAt (textOffsets names crs) (c + 1)
      rw [textOffsets_step names crs c hc]; have := hfit c hc; unfold colBytes; omega) fuel hfuel

/-- the regrowth bound for the budgets `read_csv_with_schema_dict` starts with (`INDEXED_STRING_FIELD_SIZE * chunk_row_size`
    bytes per column, `2 * chunk_row_size` index rows) -/
def csvRegrowthBound (rows : List (List Cell)) (ncols crs : Nat) : Nat :=
  need (crs * Gen.Csv.CHUNK_ROW_FACTOR) rows.length +
    sumTo (fun c => need (Gen.Csv.INDEXED_STRING_FIELD_SIZE * crs) (colBytes rows c)) ncols

/-- how often `b` can be enlarged before it exceeds `t`: `b * 2 ^ (need b t - 1) ≤ t`, i.e. `need b t ≤ log₂ (t / b) + 1`
    (every regrowth at least doubles) -/
theorem need_pow (t : Nat) : ∀ (n b : Nat), t + 1 - b ≤ n → 0 < need b t → b * 2 ^ (need b t - 1) ≤ t := by
  intro n
  induction n with
  | zero =>
    intro b hn hpos
    rw [need.eq_1] at hpos
    have : ¬ (0 < b ∧ b ≤ t) := by omega
    simp [this] at hpos
  | succ n ih =>
    intro b hn hpos
    by_cases h : 0 < b ∧ b ≤ t
    · have hd := need_double h.1 h.2
      have hg := grow_gt h.1
      by_cases h2 : 0 < need (Gen.Csv.LARGER_FACTOR * b) t
      · have := ih (Gen.Csv.LARGER_FACTOR * b) (by omega) h2
        have e1 : need b t - 1 = (need (Gen.Csv.LARGER_FACTOR * b) t - 1) + 1 := by omega
        rw [e1, Nat.pow_succ]
        calc b * (2 ^ (need (Gen.Csv.LARGER_FACTOR * b) t - 1) * 2)
            = 2 * b * 2 ^ (need (Gen.Csv.LARGER_FACTOR * b) t - 1) := by
              rw [Nat.mul_comm (2 ^ _) 2, ← Nat.mul_assoc, Nat.mul_comm b 2]
          _ ≤ Gen.Csv.LARGER_FACTOR * b * 2 ^ (need (Gen.Csv.LARGER_FACTOR * b) t - 1) := Nat.mul_le_mul_right _ hg
          _ ≤ t := this
      · have e1 : need b t - 1 = 0 := by omega
        rw [e1]; simp; exact h.2
    · rw [need.eq_1] at hpos
      simp [h] at hpos

theorem readCsv_regrowth {file : Bytes} {crs : Nat} {hrow : List Cell} {rows : List (List Cell)}
    (names : List String) (schema : List (String × FieldKind)) (incl excl : Option (List String))
    (hall : ∀ k ∈ names, kindOf schema k = .indexed)
    (hincl : ∀ l, incl = some l → ∀ k ∈ l, k ∈ names) (hexcl : ∀ l, excl = some l → ∀ k ∈ l, k ∈ names)
    (st : SettingR file crs names.length ((fieldsToUse names incl excl).map (fun k => names.idxOf k)) hrow rows)
    (hfile : file ≠ []) (fuel : Nat) (hfuel : rows.length + 2 + csvRegrowthBound rows names.length crs ≤ fuel) :
    readCsv file names schema incl excl crs fuel =
      .ok ⟨rows.length, (fieldsToUse names incl excl).map
        (fun k => ⟨k, fieldOf (column (values rows) (names.idxOf k))⟩)⟩ := by
  apply readCsv_of_readFile names schema incl excl hall hincl hexcl
  have hbound : regrowthBound rows names.length (textOffsets names crs) (crs * Gen.Csv.CHUNK_ROW_FACTOR) =
      csvRegrowthBound rows names.length crs := by
    unfold regrowthBound csvRegrowthBound
    congr 1
    apply sumTo_congr
    intro c hc
    rw [textOffsets_step names crs c hc]
    congr 1
    omega
  have hpos : 0 < Gen.Csv.INDEXED_STRING_FIELD_SIZE * crs := Nat.mul_pos (by decide) st.crsPos
  exact readFile_regrowth st hfile (by rw [offsRec_length]; simp) (offsRec_zero _ _ _)
    (fun c hc => by
      show offAt (textOffsets names crs) c < offAt (textOffsets names crs) (c + 1)
      rw [textOffsets_step names crs c hc]; omega) fuel (by rw [hbound]; exact hfuel)

end Exetera.Csv
