import Exetera.Gen.Kernels
import Exetera.Lemmas.GenKernels
import Exetera.Lemmas.GenKernelsSpans
/-!
  The TRANSLATED `_get_spans_for_2_fields_njit` (early `return spans[:1]`, `for i in np.arange(1, n)`, short-circuit `or` with
  subscripts on both sides, stores into the caller-supplied `spans` buffer, `return spans[:count + 2]`) refines the hand model
  `getSpansFor2FieldsNjit .repaired` / `scan2` of `Model/Spans.lean`, for every pair of columns and EVERY buffer (too short
  a buffer, a shorter second column: same error class on both sides).

  `scan_follows` is the loop of this kernel and of `_get_spans_for_multi_fields_njit` at once: the two differ in the test that
  says whether row `i` differs from row `i - 1`.
-/
namespace Exetera.GenK

open Exetera Exetera.PyRt Exetera.Spans Exetera.Gen.Kernels

/-- one step of the scans `scan2` / `scanMulti`: does row `i` differ from the row before (`test`), and if so is there room in
    the buffer to record it -/
def scanStep (test : Except Err Bool) (cap count : Nat) : Except Err Bool :=
  bindE test fun d => if d then (if count + 1 < cap then .ok true else .error (.oob "spans[count]")) else .ok false

/-- A translated scan `for i in range(i, i + k)` that, where `test i` holds, stores `i` at `spans[count + 1]` and bumps `count`,
    followed by `fin` (`spans[count + 1] = n; return spans[:count + 2]`), against a model scan `M` given by its two equations.
    `R s count buf` says that the state `s` holds the inputs, the counter `count` and the buffer `buf`. -/
theorem scan_follows {σ} (R : σ → Nat → List Int → Prop) (body : Int → σ → Except Err σ)
    (fin : σ → Except Err (List Int × List Int)) (test : Nat → Except Err Bool) (M : Nat → Nat → Nat → Except Err (List Nat))
    (n cap : Nat)
    (hM0 : ∀ i c, M 0 i c = if c + 1 < cap then .ok [n] else .error (.oob "spans[count + 1]"))
    (hMS : ∀ k i c, M (k + 1) i c =
      bindE (scanStep (test i) cap c) fun d => if d then consE i (M k (i + 1) (c + 1)) else M k (i + 1) c)
    (hbody : ∀ (i c : Nat) (buf : List Int) s, 1 ≤ i → R s c buf → buf.length = cap →
      Follows (fun s' d => if d then c + 1 < cap ∧ R s' (c + 1) (buf.set (c + 1) i) else R s' c buf) (body (i : Int) s)
        (scanStep (test i) cap c))
    (hfin : ∀ (c : Nat) (buf : List Int) s, R s c buf → buf.length = cap →
      Follows (fun out (_ : Unit) => out.1 = buf.take (c + 1) ++ [(n : Int)]) (fin s)
        (if c + 1 < cap then .ok () else .error (.oob "spans[count + 1]"))) :
    ∀ (k i c : Nat) (buf : List Int) s, 1 ≤ i → R s c buf → buf.length = cap →
      Follows (fun out vs => out.1 = buf.take (c + 1) ++ ints vs)
        (bindE (forRangeAux (fun _ => false) body k (i : Int) s) fin) (M k i c) := by
  intro k
  induction k with
  | zero =>
    intro i c buf s _ hR hl
    have h := hfin c buf s hR hl
    rw [hM0]
    split
    · rw [if_pos ‹_›] at h; exact h
    · rw [if_neg ‹_›] at h; exact h
  | succ k ih =>
    intro i c buf s hi hR hl
    rw [hMS, forRangeAux_succ, bindE_assoc]
    refine (hbody i c buf s hi hR hl).bind fun s' d h => ?_
    cases d with
    | false => exact ih (i + 1) c buf s' (Nat.le_succ_of_le hi) h hl
    | true =>
      refine (ih (i + 1) (c + 1) _ s' (Nat.le_succ_of_le hi) h.2 (by rw [List.length_set]; exact hl)).consE i fun o l ho => ?_
      rw [ho, take_succ_set _ _ _ (hl ▸ h.1), List.append_assoc]
      rfl

/-- the row test of `scan2`: `ndarray0[i] != ndarray0[i - 1] or ndarray1[i] != ndarray1[i - 1]`, the second pair read only when
    the first agrees -/
def ne2 (a b : List Int) (i : Nat) : Except Err Bool :=
  bindE (getE a i "ndarray0[i]") fun x =>
  bindE (getE a (i - 1) "ndarray0[i - 1]") fun x' =>
  if x != x' then .ok true else
    bindE (getE b i "ndarray1[i]") fun y =>
    bindE (getE b (i - 1) "ndarray1[i - 1]") fun y' => .ok (y != y')

theorem scan2_succ (a b : List Int) (n cap k i count : Nat) :
    scan2 a b n cap (k + 1) i count = bindE (scanStep (ne2 a b i) cap count) fun d =>
      if d then consE i (scan2 a b n cap k (i + 1) (count + 1)) else scan2 a b n cap k (i + 1) count := by
  rw [scan2, scanStep, ne2]
  cases getE a i "ndarray0[i]" with
  | error e => cases getE a (i - 1) "ndarray0[i - 1]" <;> rfl
  | ok x =>
    cases getE a (i - 1) "ndarray0[i - 1]" with
    | error e => rfl
    | ok x' =>
      dsimp only [bindE_ok]
      split
      · dsimp only [bindE_ok, if_true]; split <;> rfl
      · cases getE b i "ndarray1[i]" with
        | error e => cases getE b (i - 1) "ndarray1[i - 1]" <;> rfl
        | ok y =>
          cases getE b (i - 1) "ndarray1[i - 1]" with
          | error e => rfl
          | ok y' =>
            dsimp only [bindE_ok]
            split
            · split <;> rfl
            · rfl

namespace G2F

abbrev St := _get_spans_for_2_fields_njit.St

/-- what follows the loop: `spans[count + 1] = len(ndarray0); return spans[:count + 2]` -/
def fin (s : St) : Except Err (List Int × List Int) :=
  bindE (setIdxE s.p2 (s.v0 + 1) (pyLen s.p0) "p2[v0 + 1]") fun t8 =>
  let s := { s with p2 := t8 }
  .ok ((pySlice s.p2 none (some (s.v0 + 2))), s.p2)

def R (a b : List Int) (s : St) (c : Nat) (buf : List Int) : Prop := s.p0 = a ∧ s.p1 = b ∧ s.p2 = buf ∧ s.v0 = (c : Int)

theorem body_follows (a b : List Int) (cap : Nat) :
    ∀ (i c : Nat) (buf : List Int) (s : St), 1 ≤ i → R a b s c buf → buf.length = cap →
      Follows (fun s' d => if d then c + 1 < cap ∧ R a b s' (c + 1) (buf.set (c + 1) i) else R a b s' c buf)
        (_get_spans_for_2_fields_njit.body_L1 { s with v1 := (i : Int) }) (scanStep (ne2 a b i) cap c) := by
  rintro i c _ ⟨a, b, buf, _, _⟩ hi ⟨rfl, rfl, rfl, rfl⟩ rfl
  have hi1 : (i : Int) - 1 = ((i - 1 : Nat) : Int) := by omega
  simp only [_get_spans_for_2_fields_njit.body_L1, idxE_nat, hi1, scanStep, ne2, bindE_assoc]
  refine Follows.getE _ _ _ _ fun x _ => ?_
  refine Follows.getE _ _ _ _ fun x' _ => ?_
  refine Follows.bind (R := fun d d' => d = d') ?_ ?_
  · refine Follows.ite (fun _ => .ok rfl rfl) fun _ => ?_
    refine Follows.getE _ _ _ _ fun y _ => ?_
    exact Follows.getE _ _ _ _ fun y' _ => .ok rfl rfl
  · rintro d _ rfl
    cases d with
    | false => exact .ok rfl ⟨rfl, rfl, rfl, rfl⟩
    | true =>
      simp only [if_true, setIdxE_nat_succ, setE]
      split
      · exact .ok rfl ⟨‹_›, rfl, rfl, rfl, rfl⟩
      · exact .error rfl rfl

theorem fin_follows (a b : List Int) (cap : Nat) :
    ∀ (c : Nat) (buf : List Int) (s : St), R a b s c buf → buf.length = cap →
      Follows (fun out (_ : Unit) => out.1 = buf.take (c + 1) ++ [(a.length : Int)]) (fin s)
        (if c + 1 < cap then .ok () else .error (.oob "spans[count + 1]")) := by
  rintro c _ ⟨a, b, buf, _, _⟩ ⟨rfl, rfl, rfl, rfl⟩ rfl
  simp only [fin, setIdxE_nat_succ, setE, pyLen]
  split
  · refine .ok rfl ?_
    show pySlice _ none (some ((c + 1 + 1 : Nat) : Int)) = _
    rw [pySlice_take, take_succ_set _ _ _ ‹_›]
  · exact .error rfl rfl

end G2F

theorem get_spans_for_2_fields_njit_refines (a b buf : List Int) :
    Sim ((_get_spans_for_2_fields_njit.run a b buf).map Prod.fst)
      ((getSpansFor2FieldsNjit .repaired a b buf.length).map ints) := by
  unfold _get_spans_for_2_fields_njit.run getSpansFor2FieldsNjit
  cases buf with
  | nil => exact rfl
  | cons b0 bt =>
    cases a with
    | nil => exact rfl
    | cons a0 at' =>
      have h := scan_follows (G2F.R (a0 :: at') b) (fun k s => _get_spans_for_2_fields_njit.body_L1 { s with v1 := k }) G2F.fin
        (ne2 (a0 :: at') b) (scan2 (a0 :: at') b (a0 :: at').length (b0 :: bt).length) (a0 :: at').length (b0 :: bt).length
        (fun _ _ => rfl) (scan2_succ _ _ _ _) (G2F.body_follows _ b _) (G2F.fin_follows _ b _) at'.length 1 0 (0 :: bt)
        { p0 := a0 :: at', p1 := b, p2 := 0 :: bt, v0 := 0, v1 := 0 } (Nat.le_refl 1) ⟨rfl, rfl, rfl, rfl⟩ rfl
      revert h
      show Follows _ _ _ → Sim (Except.map Prod.fst (bindE (forRangeAux _ _ (((at'.length + 1 : Nat) : Int) - 1).toNat 1 _) G2F.fin))
        (Except.map ints (consE 0 (scan2 (a0 :: at') b (at'.length + 1) (bt.length + 1) at'.length 1 0)))
      rw [toNat_natCast_sub_one]
      cases scan2 (a0 :: at') b (at'.length + 1) (bt.length + 1) at'.length 1 0 with
      | error e => rintro ⟨e', he, ht⟩; erw [he]; exact ht
      | ok vs => rintro ⟨out, ho, hout⟩; erw [ho]; exact hout

end Exetera.GenK
