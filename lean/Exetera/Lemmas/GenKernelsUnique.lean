import Exetera.Gen.Kernels
import Exetera.Model.Unique
import Exetera.Lemmas.GenKernels
import Exetera.Lemmas.GenKernelsCompareArrays
import Exetera.Lemmas.GenKernelsSpans
/-!
  The TRANSLATED `get_indexed_string_unique` (a set of lengths, a typed list of byte arrays the kernel appends to, three optional
  typed lists tested with `is not None`, `for j, unique_v in enumerate(unique_result)` with `break`, `unique_counts[j] += 1`,
  `continue`) against `Unique.getIndexedStringUnique` — transfer: every `.ok` run of the model is a run of the translated kernel
  with the same four lists.
-/
namespace Exetera.GenK

open Exetera Exetera.PyRt Exetera.Unique Exetera.Gen.Kernels

namespace GU

open get_indexed_string_unique

abbrev St := get_indexed_string_unique.St

/-- an int64 typed list as the kernel receives it -/
def natsI (xs : List Nat) : List Int := xs.map Int.ofNat

/-- an optional typed list as the translated kernel carries it: a presence flag and a value -/
def optOf (f : Bool) (xs : List Int) : Option (List Int) := if f then some xs else none

theorem optOf_none {f : Bool} {xs : List Int} (h : optOf f xs = none) : f = false := by
  cases f <;> simp_all [optOf]

theorem optOf_some {f : Bool} {xs l : List Int} (h : optOf f xs = some l) : f = true ∧ xs = l := by
  cases f <;> simp_all [optOf]

theorem optOf_cases {f : Bool} {q : List Int} {o : Option (List Nat)} (h : optOf f q = o.map natsI) :
    (o = none ∧ f = false) ∨ (∃ l, o = some l ∧ f = true ∧ q = natsI l) := by
  cases o with
  | none => exact .inl ⟨rfl, optOf_none h⟩
  | some l => exact .inr ⟨l, rfl, optOf_some h⟩

theorem ints8_inj : ∀ {a b : List UInt8}, ints8 a = ints8 b → a = b
  | [], [], _ => rfl
  | [], _ :: _, h => by simp [ints8] at h
  | _ :: _, [], h => by simp [ints8] at h
  | x :: a, y :: b, h => by
    simp only [ints8, List.map_cons, List.cons.injEq] at h
    have h1 : x.toNat = y.toNat := by omega
    rw [UInt8.toNat_inj.mp h1, ints8_inj (a := a) (b := b) h.2]

theorem ints8_beq (a b : List UInt8) : (ints8 a == ints8 b) = (a == b) := by
  by_cases h : a = b
  · subst h; simp
  · have : ints8 a ≠ ints8 b := fun h' => h (ints8_inj h')
    exact (beq_eq_false_iff_ne.mpr this).trans (beq_eq_false_iff_ne.mpr h).symm

theorem ints8_slice (v : List UInt8) (a b : Nat) : slice (ints8 v) a b = ints8 (slice v a b) := by
  simp [slice, ints8, List.map_take, List.map_drop]

theorem getE_natsI (sp : List Nat) (i : Nat) (site : String) {x : Nat} (h : sp[i]? = some x) :
    getE (natsI sp) i site = .ok (x : Int) := getE_map_ofNat sp i site h

abbrev scanLoop (l : List (List Int × Nat)) (S : St) : Except Err St :=
  forEachAux (fun s : St => s.brk2) (fun k s => body_L2 { s with v5 := (k.2 : Int), v6 := k.1 }) l S

theorem miss (X : St) (hx : (X.v3 == X.v6) = false) : body_L2 X = .ok X := by
  simp only [body_L2, hx, Bool.false_eq_true, if_false]

theorem hit_brk (X s' : St) (hx : (X.v3 == X.v6) = true) (h : body_L2 X = .ok s') : s'.brk2 = true := by
  simp only [body_L2, hx, if_true] at h
  obtain ⟨a, _, h⟩ := bindE_eq_ok.mp h
  obtain ⟨b, _, h⟩ := bindE_eq_ok.mp h
  cases h
  rfl

theorem scan (v : Bytes) : ∀ (us : List Bytes) (j : Nat) (S : St), S.brk2 = false → S.v3 = ints8 v →
    match scanEq v us j with
    | none => ∃ a b, scanLoop (List.zipIdx (us.map ints8) j) S = .ok { S with v5 := a, v6 := b }
    | some j' => scanLoop (List.zipIdx (us.map ints8) j) S = body_L2 { S with v5 := (j' : Int), v6 := S.v3 } := by
  intro us
  induction us with
  | nil =>
    intro j S _ _
    simp only [scanEq, List.map_nil, List.zipIdx_nil, scanLoop, forEachAux]
    exact ⟨S.v5, S.v6, rfl⟩
  | cons u us ih =>
    intro j S hb hv
    obtain ⟨q0, q1, q2, q3, f3, q4, f4, q5, f5, w0, w1, w2, w3, w4, w5, w6, bk⟩ := S
    simp only at hb hv
    subst hb hv
    simp only [scanEq, List.map_cons, List.zipIdx_cons, scanLoop, forEachAux]
    by_cases hvu : v = u
    · subst hvu
      simp only [beq_self_eq_true, if_true]
      cases hbody : body_L2 ⟨q0, q1, q2, q3, f3, q4, f4, q5, f5, w0, w1, w2, ints8 v, w4, (j : Int), ints8 v, false⟩ with
      | error e => rfl
      | ok s' =>
        have := hit_brk _ s' (by simp) hbody
        simp only [this, if_true]
    · have hne : (v == u) = false := by simp [hvu]
      simp only [hne, Bool.false_eq_true, if_false]
      have hm := miss ⟨q0, q1, q2, q3, f3, q4, f4, q5, f5, w0, w1, w2, ints8 v, w4, (j : Int), ints8 u, false⟩
        (by simp only [ints8_beq, hne])
      rw [hm]
      simp only [Bool.false_eq_true, if_false]
      exact ih (j + 1) ⟨q0, q1, q2, q3, f3, q4, f4, q5, f5, w0, w1, w2, ints8 v, w4, (j : Int), ints8 u, false⟩ rfl rfl

/-- `xs.append(x)` on an optional typed list -/
def optApp (f : Bool) (p : List Int) (x : Int) : List Int := if f then p ++ [x] else p

theorem optOf_app {f : Bool} {p : List Int} {o : Option (List Nat)} (h : optOf f p = o.map natsI) (x : Nat) :
    optOf f (optApp f p (x : Int)) = (o.map (· ++ [x])).map natsI := by
  rcases optOf_cases h with ⟨rfl, rfl⟩ | ⟨l, rfl, rfl, rfl⟩
  · rfl
  · simp [optOf, optApp, natsI]

/-- the "new unique value" block as it stands (twice) in `body_L1`, after `unique_result.append(v)` -/
abbrev addNewK (s : St) : Except Err St :=
  bindE (if s.p3_some then
      bindE (if s.p3_some then .ok s.p3 else .error (.other "AttributeError")) fun t => .ok { s with p3 := t ++ [s.v1] }
    else .ok s) fun s =>
  bindE (if s.p4_some then
      bindE (if s.p4_some then .ok s.p4 else .error (.other "AttributeError")) fun t => .ok { s with p4 := t ++ [pyLen s.p2 - 1] }
    else .ok s) fun s =>
  if s.p5_some then
    bindE (if s.p5_some then .ok s.p5 else .error (.other "AttributeError")) fun t => .ok { s with p5 := t ++ [1] }
  else .ok s

theorem addNewK_eq (s : St) : addNewK s = .ok
    { s with p3 := optApp s.p3_some s.p3 s.v1, p4 := optApp s.p4_some s.p4 (pyLen s.p2 - 1), p5 := optApp s.p5_some s.p5 1 } := by
  obtain ⟨q0, q1, q2, q3, f3, q4, f4, q5, f5, w0, w1, w2, w3, w4, w5, w6, bk⟩ := s
  cases f3 <;> cases f4 <;> cases f5 <;> rfl

/-- the matching entry found, no `unique_counts`: `unique_inverse.append(j)` -/
theorem body_L2_hit (X : St) (hx : (X.v3 == X.v6) = true) (h5 : X.p5_some = false) :
    body_L2 X = .ok { X with v4 := false, p4 := optApp X.p4_some X.p4 X.v5, brk2 := true } := by
  obtain ⟨q0, q1, q2, q3, f3, q4, f4, q5, f5, w0, w1, w2, w3, w4, w5, w6, bk⟩ := X
  simp only at hx h5
  subst h5
  cases f4 <;> simp only [body_L2, hx, if_true, Bool.false_eq_true, if_false, bindE_ok, optApp]

/-- the matching entry found, with `unique_counts`: also `unique_counts[j] += 1` -/
theorem body_L2_hit_counts (X : St) (hx : (X.v3 == X.v6) = true) (h5 : X.p5_some = true) (j : Nat) (hj : X.v5 = (j : Int))
    (cj : Int) (hg : X.p5[j]? = some cj) :
    body_L2 X = .ok { X with v4 := false, p4 := optApp X.p4_some X.p4 X.v5, p5 := X.p5.set j (cj + 1), brk2 := true } := by
  obtain ⟨q0, q1, q2, q3, f3, q4, f4, q5, f5, w0, w1, w2, w3, w4, w5, w6, bk⟩ := X
  simp only at hx h5 hj hg
  subst h5 hj
  have hjl : j < q5.length := (List.getElem?_eq_some_iff.mp hg).1
  cases f4 <;> simp only [body_L2, hx, if_true, Bool.false_eq_true, if_false, bindE_ok, optApp, readOptE, idxE_nat,
    getE_of_some _ hg, setIdxE_nat, setE_ok _ _ _ _ hjl]

structure R (indices : List Nat) (values : Bytes) (s : St) (t : UState) : Prop where
  h0 : s.p0 = natsI indices
  h1 : s.p1 = ints8 values
  h2 : s.p2 = t.out.result.map ints8
  h3 : optOf s.p3_some s.p3 = t.out.index.map natsI
  h4 : optOf s.p4_some s.p4 = t.out.inverse.map natsI
  h5 : optOf s.p5_some s.p5 = t.out.counts.map natsI
  hv0 : s.v0 = t.lengthsSeen
  hb : s.brk2 = false

theorem R.addNew {indices : List Nat} {values : Bytes} {s : St} {t : UState} (hR : R indices values s t) (v : Bytes) (i : Nat)
    (ls : List Int) (a : Int) (b4 : Bool) (k5 : Int) (k6 : List Int) {bk : Bool} (hbk : bk = false) :
    R indices values
      { s with p2 := s.p2 ++ [ints8 v], p3 := optApp s.p3_some s.p3 (i : Int),
               p4 := optApp s.p4_some s.p4 (pyLen (s.p2 ++ [ints8 v]) - 1), p5 := optApp s.p5_some s.p5 1, v0 := ls,
               v1 := (i : Int), v2 := a, v3 := ints8 v, v4 := b4, v5 := k5, v6 := k6, brk2 := bk }
      { lengthsSeen := ls, out := t.out.addNew v i } := by
  have hlen : pyLen (s.p2 ++ [ints8 v]) - 1 = ((t.out.result.length : Nat) : Int) := by
    rw [hR.h2]; simp [pyLen]
  exact ⟨hR.h0, hR.h1, by simp [hR.h2, UOut.addNew], optOf_app hR.h3 i, hlen ▸ optOf_app hR.h4 _, optOf_app hR.h5 1, rfl, hbk⟩

theorem step (indices : List Nat) (values : Bytes) (i : Nat) (s : St) (t t' : UState)
    (hR : R indices values s t) (h : uniqueStep indices values t i = .ok t') :
    ∃ s', body_L1 { s with v1 := (i : Int) } = .ok s' ∧ R indices values s' t' := by
  simp only [uniqueStep] at h
  split at h
  · cases h
  · rename_i hi ghi
    split at h
    · cases h
    · rename_i lo glo
      rw [getE_eq_ok] at ghi glo
      have hv3 : pySlice s.p1 (some (lo : Int)) (some (hi : Int)) = ints8 (slice values lo hi) := by
        rw [hR.h1, pySlice_nat, ints8_slice]
      rw [← hR.hv0] at h
      simp only [body_L1, idxE_nat, idxE_nat_succ, getE_ofNat hR.h0 ghi, getE_ofNat hR.h0 glo, bindE_ok, hv3]
      cases hc : s.v0.contains ((hi : Int) - (lo : Int))
      · rw [hc] at h
        cases h
        simp only [Bool.not_false, if_true, addNewK_eq
          { s with p2 := s.p2 ++ [ints8 (slice values lo hi)], v0 := ((hi : Int) - (lo : Int)) :: s.v0, v1 := (i : Int),
                   v2 := (hi : Int) - (lo : Int), v3 := ints8 (slice values lo hi) }]
        exact ⟨_, rfl, hR.hv0 ▸ hR.addNew _ i _ _ _ _ _ hR.hb⟩
      · rw [hc] at h
        simp only [Bool.not_true, Bool.false_eq_true, if_false] at h ⊢
        have hs := scan (slice values lo hi) t.out.result 0
          { s with v1 := (i : Int), v2 := (hi : Int) - (lo : Int), v3 := ints8 (slice values lo hi), v4 := true } hR.hb rfl
        rw [← hR.h2] at hs
        simp only [forEachB]
        cases hsc : scanEq (slice values lo hi) t.out.result 0 with
        | none =>
          rw [hsc] at hs h
          obtain ⟨a, b, hs⟩ := hs
          cases h
          simp only [hs, bindE_ok, if_true, addNewK_eq
            { s with p2 := s.p2 ++ [ints8 (slice values lo hi)], v1 := (i : Int), v2 := (hi : Int) - (lo : Int),
                     v3 := ints8 (slice values lo hi), v4 := true, v5 := a, v6 := b, brk2 := false }]
          exact ⟨_, rfl, hR.hv0 ▸ hR.addNew _ i _ _ _ _ _ rfl⟩
        | some j =>
          rw [hsc] at hs h
          simp only at h
          simp only [hs]
          rcases optOf_cases hR.h5 with ⟨hcn, hf5⟩ | ⟨c, hcn, hf5, hq5⟩
          · rw [hcn] at h
            cases h
            have hX := body_L2_hit
              { s with v1 := (i : Int), v2 := (hi : Int) - (lo : Int), v3 := ints8 (slice values lo hi), v4 := true,
                       v5 := (j : Int), v6 := ints8 (slice values lo hi) } (beq_self_eq_true _) hf5
            simp only [hX, bindE_ok, Bool.false_eq_true, if_false]
            exact ⟨_, rfl, hR.h0, hR.h1, hR.h2, hR.h3, optOf_app hR.h4 j, hcn ▸ hR.h5, rfl, rfl⟩
          · rw [hcn] at h
            simp only at h
            split at h
            · cases h
            · rename_i cj hg
              cases h
              rw [getE_eq_ok] at hg
              have hX := body_L2_hit_counts
                { s with v1 := (i : Int), v2 := (hi : Int) - (lo : Int), v3 := ints8 (slice values lo hi), v4 := true,
                         v5 := (j : Int), v6 := ints8 (slice values lo hi) }
                (beq_self_eq_true _) hf5 j rfl (cj : Int) (by rw [hq5]; simp [natsI, hg])
              simp only [hX, bindE_ok, Bool.false_eq_true, if_false]
              refine ⟨_, rfl, hR.h0, hR.h1, hR.h2, hR.h3, optOf_app hR.h4 j, ?_, rfl, rfl⟩
              simp [optOf, hf5, hq5, natsI, List.map_set]

theorem rows (indices : List Nat) (values : Bytes) (s : St) (t t' : UState) (hR : R indices values s t) (n i : Nat)
    (h : uniqueLoop indices values n i t = .ok t') :
    ∃ s', forRangeAux (fun _ => false) (fun k s => body_L1 { s with v1 := k }) n (i : Int) s = .ok s' ∧
      R indices values s' t' := by
  refine forRangeAux_rule (fun n i s => ∃ t, R indices values s t ∧ uniqueLoop indices values n i t = .ok t') _ ?_ ?_ n i s
    ⟨t, hR, h⟩
  · rintro i s ⟨t, hR, h⟩
    cases h
    exact hR
  · rintro n i s ⟨t, hR, h⟩
    simp only [uniqueLoop] at h
    split at h
    · cases h
    · rename_i t1 hst
      obtain ⟨s1, hb, hR1⟩ := step indices values i s t t1 hR hst
      exact ⟨s1, hb, t1, hR1, h⟩

/-- an optional typed list that is empty at the call (the public caller's shape) -/
def optNil (b : Bool) : Option (List Int) := if b then some [] else none

end GU

open GU in
/-- every `.ok` run of the model is a run of the translated kernel (called, as `unique_for_indexed_string` does, with an empty
    `unique_result` and empty / absent companions) with the same four lists -/
theorem get_indexed_string_unique_ok (indices : List Nat) (values : Bytes) (ri rv rc : Bool) (o : UOut)
    (h : getIndexedStringUnique indices values ri rv rc = .ok o) :
    get_indexed_string_unique.run (natsI indices) (ints8 values) [] (optNil ri) (optNil rv) (optNil rc)
      = .ok (o.result.map ints8, o.index.map natsI, o.inverse.map natsI, o.counts.map natsI) := by
  unfold getIndexedStringUnique at h
  simp only at h
  cases hl : uniqueLoop indices values (indices.length - 1) 0
      ⟨[-1], ⟨[], if ri then some [] else none, if rv then some [] else none, if rc then some [] else none⟩⟩ with
  | error e => simp [hl] at h
  | ok t' =>
    simp only [hl, Except.ok.injEq] at h
    subst h
    obtain ⟨s', hrun, hR⟩ := rows indices values
      ⟨natsI indices, ints8 values, [], (optNil ri).getD [], (optNil ri).isSome, (optNil rv).getD [], (optNil rv).isSome,
        (optNil rc).getD [], (optNil rc).isSome, [-1], 0, 0, [], false, 0, [], false⟩ _ t'
      ⟨rfl, rfl, rfl, by cases ri <;> rfl, by cases rv <;> rfl, by cases rc <;> rfl, rfl, rfl⟩ (indices.length - 1) 0 hl
    have hn : ((pyLen (natsI indices)) - 1 - 0).toNat = indices.length - 1 := by
      simp only [pyLen, natsI, List.length_map]; omega
    unfold get_indexed_string_unique.run
    simp only [forRangeE, hn]
    rw [show ((0 : Nat) : Int) = 0 from rfl] at hrun
    rw [hrun]
    simp only [bindE_ok]
    have h3 := hR.h3; have h4 := hR.h4; have h5 := hR.h5
    simp only [optOf] at h3 h4 h5
    rw [hR.h2, h3, h4, h5]

end Exetera.GenK
