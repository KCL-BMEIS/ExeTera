import Exetera.Lemmas.TransformsBasic
/-! C06: `fixed_string_transform` keeps the first `strlen` bytes of every cell, zero padded; `cellsE`
(`transform_to_values`) reads the cells. -/
namespace Exetera.Transforms
open Exetera Exetera.Spec.Transforms

theorem copyBytes_spec (vals : Bytes) (n p a k : Nat) (d : Bytes) (hp : p + n ≤ vals.length) (hk : n ≤ k)
    (ha : d.length = a) :
    copyBytes vals n p a (d ++ List.replicate k 0) = .ok (d ++ slice vals p (p + n) ++ List.replicate (k - n) 0) := by
  induction n generalizing p a k d with
  | zero => simp [copyBytes, slice_self]
  | succ n ih =>
    have hp' : p < vals.length := by omega
    obtain ⟨k', rfl⟩ : ∃ k', k = k' + 1 := ⟨k - 1, by omega⟩
    rw [copyBytes, getE_of_lt _ hp']
    simp only
    have hs := setE_prefix d k' 0 vals[p] "memory[a]"
    rw [ha] at hs
    rw [hs]
    simp only
    rw [ih (p + 1) (a + 1) k' (d ++ [vals[p]]) (by omega) (by omega) (by simp [ha])]
    rw [slice_succ vals p n hp']
    simp

theorem slice_min_take {α} (xs : List α) (a l n : Nat) : slice xs a (a + min l n) = (slice xs a (a + l)).take n := by
  simp only [slice, Nat.add_sub_cancel_left, List.take_take]
  rw [Nat.min_comm]

theorem fixedRows_spec (c : Chunk) (strlen : Nat) (rest : List Bytes) (i s : Nat) (done : Bytes)
    (h : EncFrom c i s rest) (hd : done.length = i * strlen) :
    fixedRows c strlen rest.length i (done ++ List.replicate (rest.length * strlen) 0)
      = .ok (done ++ (rest.map (fixedCell strlen)).flatten) := by
  induction rest generalizing i s done with
  | nil => simp [fixedRows]
  | cons cell rest ih =>
    have h0 := h.start
    have h1 := h.next
    have hrest := h.2.2.2
    obtain ⟨_, hlen, hsl, _⟩ := h
    simp only [List.length_cons]
    rw [fixedRows]
    simp only [getE, h0, h1]
    have e1 : min (s + cell.length + c.off) (s + c.off + strlen) - (s + c.off) = min cell.length strlen := by omega
    have e2 : (rest.length + 1) * strlen = rest.length * strlen + strlen := by rw [Nat.succ_mul]
    rw [e1, e2]
    rw [copyBytes_spec c.vals (min cell.length strlen) (s + c.off) (i * strlen) (rest.length * strlen + strlen) done
      (by have := Nat.min_le_left cell.length strlen; omega) (by have := Nat.min_le_right cell.length strlen; omega) hd]
    simp only
    have e3 : s + c.off = c.off + s := by omega
    rw [e3, slice_min_take, hsl]
    have e4 : rest.length * strlen + strlen - min cell.length strlen
        = (strlen - cell.length) + rest.length * strlen := by omega
    rw [e4, ← List.replicate_append_replicate]
    have := ih (i + 1) (s + cell.length) (done ++ fixedCell strlen cell) hrest (by
      simp only [List.length_append, fixedCell, List.length_take, List.length_replicate, hd, Nat.succ_mul]; omega)
    simp only [fixedCell, List.append_assoc] at this ⊢
    rw [this]
    simp [fixedCell]

theorem fixedStringTransform_spec (c : Chunk) (strlen : Nat) (cells : List Bytes) (h : Encodes c cells) :
    fixedStringTransform c strlen = .ok ((cells.map (fixedCell strlen)).flatten) := by
  obtain ⟨hr, ⟨s0, he, _⟩, hcol⟩ := h
  have := fixedRows_spec c strlen cells 0 s0 [] he (by simp)
  rw [fixedStringTransform, withCol_ok c _ _ _ hcol]
  simpa [hr] using this

theorem cellsFrom_spec (c : Chunk) (rest : List Bytes) (i s : Nat) (h : EncFrom c i s rest) :
    cellsFrom c rest.length i = .ok rest := by
  induction rest generalizing i s with
  | nil => simp [cellsFrom]
  | cons cell rest ih =>
    rw [List.length_cons, cellsFrom]
    simp only [getE, h.start, h.next, h.sliceE_cell, ih (i + 1) (s + cell.length) h.2.2.2]

theorem cellsE_spec (c : Chunk) (cells : List Bytes) (h : Encodes c cells) : cellsE c = .ok cells := by
  obtain ⟨hr, ⟨s0, he, _⟩, hcol⟩ := h
  rw [cellsE, withCol_ok c _ _ _ hcol, hr]; exact cellsFrom_spec c cells 0 s0 he

end Exetera.Transforms
