import Exetera.Lemmas.JournalDefs
import Exetera.Lemmas.JournalSpec
import Exetera.Spec.JournalTable
/-!
  The sorting part of `journal_table` (C17). A stable sort commutes with filtering, and sorting rows that all have the same
  key changes nothing; so the rows of a key `k` in `old_sorted_index` (stable sort by `j_valid_from`, then by key) are the rows
  of `k` sorted stably by time, which is `Spec.Journal.history` (`history_eq`), and in `new_sorted_index` they are
  `positions k` (`newIndex_filter`). The second argsort of `dataset_sort_index` sorts positions in the first one's result,
  not row numbers; `sortStable_mapSnd` turns it into a sort of the row numbers (`sortIndex2_ok`).
-/
namespace Exetera.Journal
open Exetera Exetera.Spec.Journal

theorem insertByTime_eq (t : Int) (r : Nat) (l : List (Int × Nat)) : insertByTime t r l = insertStable t r l := by
  induction l with
  | nil => rfl
  | cons p rest ih =>
    obtain ⟨t', r'⟩ := p
    simp only [insertByTime, insertStable, ih]

theorem sortByTime_eq (l : List (Int × Nat)) : sortByTime l = sortStable l := by
  induction l with
  | nil => rfl
  | cons p rest ih =>
    obtain ⟨t, r⟩ := p
    simp only [sortByTime, sortStable, ih, insertByTime_eq]

theorem insertStable_perm (k : Int) (r : Nat) (l : List (Int × Nat)) : (insertStable k r l).Perm ((k, r) :: l) := by
  induction l with
  | nil => exact List.Perm.refl _
  | cons p rest ih =>
    obtain ⟨k', r'⟩ := p
    simp only [insertStable]
    split
    · exact (List.Perm.cons _ ih).trans (List.Perm.swap _ _ _)
    · exact List.Perm.refl _

theorem sortStable_perm (l : List (Int × Nat)) : (sortStable l).Perm l := by
  induction l with
  | nil => exact List.Perm.refl _
  | cons p rest ih =>
    obtain ⟨k, r⟩ := p
    simp only [sortStable]
    exact (insertStable_perm k r _).trans (List.Perm.cons _ ih)

def KeySorted (l : List (Int × Nat)) : Prop := l.Pairwise (fun a b => a.1 ≤ b.1)

theorem insertStable_of_le {k : Int} {r : Nat} {l : List (Int × Nat)} (h : ∀ p, p ∈ l → k ≤ p.1) :
    insertStable k r l = (k, r) :: l := by
  cases l with
  | nil => rfl
  | cons p rest =>
    obtain ⟨k', r'⟩ := p
    have := h (k', r') (by simp)
    simp only [insertStable]
    rw [if_neg (by simp at this; omega)]

theorem insertStable_sorted {k : Int} {r : Nat} {l : List (Int × Nat)} (h : KeySorted l) :
    KeySorted (insertStable k r l) := by
  induction l with
  | nil => simp [insertStable, KeySorted]
  | cons p rest ih =>
    obtain ⟨k', r'⟩ := p
    unfold KeySorted at h ih ⊢
    rw [List.pairwise_cons] at h
    simp only [insertStable]
    split
    · rename_i hlt
      rw [List.pairwise_cons]
      refine ⟨?_, ih h.2⟩
      intro q hq
      rcases List.mem_cons.1 ((insertStable_perm k r rest).mem_iff.1 hq) with hq | hq
      · subst hq; simp; omega
      · exact h.1 q hq
    · rename_i hge
      rw [List.pairwise_cons, List.pairwise_cons]
      refine ⟨?_, h⟩
      intro q hq
      rcases List.mem_cons.1 hq with hq | hq
      · subst hq; simp; omega
      · have := h.1 q hq; simp at this ⊢; omega

theorem sortStable_sorted (l : List (Int × Nat)) : KeySorted (sortStable l) := by
  induction l with
  | nil => simp [sortStable, KeySorted]
  | cons p rest ih =>
    obtain ⟨k, r⟩ := p
    simp only [sortStable]
    exact insertStable_sorted ih

theorem sortStable_of_sorted {l : List (Int × Nat)} (h : KeySorted l) : sortStable l = l := by
  induction l with
  | nil => rfl
  | cons p rest ih =>
    obtain ⟨k, r⟩ := p
    unfold KeySorted at h ih
    rw [List.pairwise_cons] at h
    simp only [sortStable, ih h.2]
    exact insertStable_of_le (fun p hp => h.1 p hp)

theorem insertStable_filter (q : Int × Nat → Bool) {k : Int} {r : Nat} {l : List (Int × Nat)} (h : KeySorted l) :
    (insertStable k r l).filter q = if q (k, r) then insertStable k r (l.filter q) else l.filter q := by
  induction l with
  | nil => simp only [insertStable, List.filter_cons, List.filter_nil]
  | cons p rest ih =>
    obtain ⟨k', r'⟩ := p
    unfold KeySorted at h ih
    rw [List.pairwise_cons] at h
    simp only [insertStable]
    by_cases hlt : k' < k
    · rw [if_pos hlt]
      by_cases hq' : q (k', r') = true
      · simp only [List.filter_cons, hq', if_true, ih h.2, insertStable, hlt]
        split <;> rfl
      · simp only [List.filter_cons, hq', ih h.2]
        simp
    · rw [if_neg hlt]
      have hall : ∀ p, p ∈ ((k', r') :: rest).filter q → k ≤ p.1 := by
        intro p hp
        have hp' := (List.mem_filter.1 hp).1
        rcases List.mem_cons.1 hp' with hp' | hp'
        · subst hp'; simp; omega
        · have := h.1 p hp'; simp at this; omega
      rw [insertStable_of_le hall]
      by_cases hq : q (k, r) = true
      · simp only [List.filter_cons (x := (k, r)), hq, if_true]
      · simp only [List.filter_cons (x := (k, r)), hq]

theorem sortStable_filter (q : Int × Nat → Bool) (l : List (Int × Nat)) :
    (sortStable l).filter q = sortStable (l.filter q) := by
  induction l with
  | nil => rfl
  | cons p rest ih =>
    obtain ⟨k, r⟩ := p
    simp only [sortStable]
    rw [insertStable_filter q (sortStable_sorted rest), ih]
    by_cases hq : q (k, r) = true
    · simp only [List.filter_cons, hq, if_true, sortStable]
    · simp only [List.filter_cons, hq]; simp

theorem insertStable_mapSnd (h : Nat → Nat) (k : Int) (r : Nat) (l : List (Int × Nat)) :
    insertStable k (h r) (l.map (fun p => (p.1, h p.2))) = (insertStable k r l).map (fun p => (p.1, h p.2)) := by
  induction l with
  | nil => rfl
  | cons p rest ih =>
    obtain ⟨k', r'⟩ := p
    simp only [List.map_cons, insertStable]
    split
    · simp only [List.map_cons, ih]
    · rfl

theorem sortStable_mapSnd (h : Nat → Nat) (l : List (Int × Nat)) :
    sortStable (l.map (fun p => (p.1, h p.2))) = (sortStable l).map (fun p => (p.1, h p.2)) := by
  induction l with
  | nil => rfl
  | cons p rest ih =>
    obtain ⟨k, r⟩ := p
    simp only [List.map_cons, sortStable, ih, insertStable_mapSnd]

def TimeRowLt (a b : Int × Nat) : Prop := a.1 < b.1 ∨ (a.1 = b.1 ∧ a.2 < b.2)

theorem insertStable_lex {t : Int} {r : Nat} : ∀ {l : List (Int × Nat)}, l.Pairwise TimeRowLt → (∀ p, p ∈ l → r < p.2) →
    (insertStable t r l).Pairwise TimeRowLt
  | [], _, _ => List.pairwise_singleton _ _
  | (t', r') :: rest, hl, hr => by
    unfold insertStable
    split
    · rename_i hlt
      refine List.Pairwise.cons (fun p hp => ?_) (insertStable_lex hl.of_cons (fun p hp => hr p (List.mem_cons_of_mem _ hp)))
      rcases List.mem_cons.1 ((insertStable_perm t r rest).mem_iff.1 hp) with rfl | hp
      · exact Or.inl hlt
      · exact List.rel_of_pairwise_cons hl hp
    · rename_i hge
      refine List.Pairwise.cons (fun p hp => ?_) hl
      have hrp := hr p hp
      have h1 : t' = p.1 ∨ t' < p.1 := by
        rcases List.mem_cons.1 hp with rfl | hp
        · exact Or.inl rfl
        · exact (List.rel_of_pairwise_cons hl hp).elim Or.inr (fun h => Or.inl h.1)
      by_cases e : t = p.1
      · exact Or.inr ⟨e, hrp⟩
      · exact Or.inl (by show t < p.1; omega)

theorem sortStable_lex : ∀ {l : List (Int × Nat)}, (l.map (·.2)).Pairwise (· < ·) → (sortStable l).Pairwise TimeRowLt
  | [], _ => List.Pairwise.nil
  | (t, r) :: rest, h => by
    rw [List.map_cons, List.pairwise_cons] at h
    exact insertStable_lex (sortStable_lex h.2)
      (fun p hp => h.1 p.2 (List.mem_map.2 ⟨p, (sortStable_perm rest).mem_iff.1 hp, rfl⟩))

theorem filterMap_eq_map_of {α β} {f : α → Option β} {g : α → β} {l : List α} (h : ∀ x, x ∈ l → f x = some (g x)) :
    l.filterMap f = l.map g := by
  induction l with
  | nil => rfl
  | cons a t ih =>
    rw [List.filterMap_cons, h a (by simp), List.map_cons, ih (fun x hx => h x (by simp [hx]))]

theorem getElem?_filterMap_all {α β} {f : α → Option β} {l : List α} (h : ∀ x, x ∈ l → (f x).isSome) (i : Nat) :
    (l.filterMap f)[i]? = l[i]?.bind f := by
  induction l generalizing i with
  | nil => rfl
  | cons a t ih =>
    obtain ⟨b, hb⟩ := Option.isSome_iff_exists.1 (h a (by simp))
    rw [List.filterMap_cons, hb]
    cases i with
    | zero => simp [hb]
    | succ i => simpa using ih (fun x hx => h x (by simp [hx])) i

theorem length_filterMap_all {α β} {f : α → Option β} {l : List α} (h : ∀ x, x ∈ l → (f x).isSome) :
    (l.filterMap f).length = l.length := by
  induction l with
  | nil => rfl
  | cons a t ih =>
    obtain ⟨b, hb⟩ := Option.isSome_iff_exists.1 (h a (by simp))
    rw [List.filterMap_cons, hb, List.length_cons, List.length_cons, ih (fun x hx => h x (by simp [hx]))]

theorem head?_filterMap_all {α β} {f : α → Option β} {l : List α} (h : ∀ x, x ∈ l → (f x).isSome) :
    (l.filterMap f).head? = l.head?.bind f := by
  cases l with
  | nil => rfl
  | cons a t =>
    obtain ⟨b, hb⟩ := Option.isSome_iff_exists.1 (h a (by simp))
    simp [hb]

theorem getLast?_filterMap_all {α β} {f : α → Option β} {l : List α} (h : ∀ x, x ∈ l → (f x).isSome) :
    (l.filterMap f).getLast? = l.getLast?.bind f := by
  rw [← List.head?_reverse, ← List.filterMap_reverse, head?_filterMap_all (by simpa using h), List.head?_reverse]

theorem gather_isSome {α} {xs : List α} {p : List Nat} (h : ∀ r, r ∈ p → r < xs.length) :
    ∀ r, r ∈ p → (xs[r]?).isSome := fun r hr => by rw [List.getElem?_eq_getElem (h r hr)]; rfl

theorem gather_length {α} {xs : List α} {p : List Nat} (h : ∀ r, r ∈ p → r < xs.length) :
    (p.filterMap (xs[·]?)).length = p.length := length_filterMap_all (gather_isSome h)

theorem gather_getElem? {α} {xs : List α} {p : List Nat} (h : ∀ r, r ∈ p → r < xs.length) (i : Nat) :
    (p.filterMap (xs[·]?))[i]? = p[i]?.bind (xs[·]?) := getElem?_filterMap_all (gather_isSome h) i

theorem gatherE_ok {α} {xs : List α} {p : List Nat} (h : ∀ r, r ∈ p → r < xs.length) :
    gatherE xs p = .ok (p.filterMap (xs[·]?)) := by
  induction p with
  | nil => rfl
  | cons r rs ih =>
    have hr := h r (by simp)
    simp only [gatherE, getE_of_lt _ hr, ih (fun x hx => h x (by simp [hx])), List.filterMap_cons,
      List.getElem?_eq_getElem hr]

/-- the key of row `r` (rows are always in range where this is used) -/
def keyAt (xs : List Int) (r : Nat) : Int := xs[r]?.getD 0

theorem getElem?_eq_keyAt {xs : List Int} {r : Nat} (h : r < xs.length) : xs[r]? = some (keyAt xs r) := by
  simp [keyAt, List.getElem?_eq_getElem h]

theorem gatherE_keys {xs : List Int} {p : List Nat} (h : ∀ r, r ∈ p → r < xs.length) :
    gatherE xs p = .ok (p.map (keyAt xs)) := by
  rw [gatherE_ok h, filterMap_eq_map_of (fun r hr => getElem?_eq_keyAt (h r hr))]

def sortRowsBy (g : Nat → Int) (l : List Nat) : List Nat := (sortStable (l.map (fun r => (g r, r)))).map (·.2)

theorem sortRowsBy_perm (g : Nat → Int) (l : List Nat) : (sortRowsBy g l).Perm l := by
  have := (sortStable_perm (l.map (fun r => (g r, r)))).map (·.2)
  simpa [sortRowsBy, List.map_map, Function.comp_def] using this

theorem mem_sortRowsBy {g : Nat → Int} {l : List Nat} {r : Nat} : r ∈ sortRowsBy g l ↔ r ∈ l :=
  (sortRowsBy_perm g l).mem_iff

theorem length_sortRowsBy (g : Nat → Int) (l : List Nat) : (sortRowsBy g l).length = l.length :=
  (sortRowsBy_perm g l).length_eq

theorem sortRowsBy_map_key (g : Nat → Int) (l : List Nat) :
    (sortRowsBy g l).map g = (sortStable (l.map (fun r => (g r, r)))).map (·.1) := by
  unfold sortRowsBy
  rw [List.map_map]
  apply List.map_congr_left
  intro p hp
  have := (sortStable_perm _).mem_iff.1 hp
  obtain ⟨r, _, rfl⟩ := List.mem_map.1 this
  rfl

theorem sortRowsBy_sorted (g : Nat → Int) (l : List Nat) : ((sortRowsBy g l).map g).Pairwise (· ≤ ·) := by
  rw [sortRowsBy_map_key, List.pairwise_map]
  exact sortStable_sorted _

theorem sortRowsBy_filter (g : Nat → Int) (q : Nat → Bool) (l : List Nat) :
    (sortRowsBy g l).filter q = sortRowsBy g (l.filter q) := by
  unfold sortRowsBy
  rw [List.filter_map, sortStable_filter, List.filter_map]
  rfl

theorem pairwise_of_mem {α} {R : α → α → Prop} {l : List α} (h : ∀ a b, a ∈ l → b ∈ l → R a b) : l.Pairwise R := by
  induction l with
  | nil => exact List.Pairwise.nil
  | cons x t ih =>
    rw [List.pairwise_cons]
    exact ⟨fun b hb => h x b (by simp) (by simp [hb]), ih (fun a b ha hb => h a b (by simp [ha]) (by simp [hb]))⟩

theorem sortRowsBy_const {g : Nat → Int} {l : List Nat} {k : Int} (h : ∀ r, r ∈ l → g r = k) : sortRowsBy g l = l := by
  unfold sortRowsBy
  rw [sortStable_of_sorted]
  · simp [List.map_map, Function.comp_def]
  · unfold KeySorted
    rw [List.pairwise_map]
    exact pairwise_of_mem (fun a b ha hb => by simp only [h a ha, h b hb]; omega)

theorem zipIdx_eq_range_map (xs : List Int) :
    xs.zipIdx = (List.range xs.length).map (fun r => (keyAt xs r, r)) := by
  apply List.ext_getElem?
  intro i
  rw [List.getElem?_zipIdx, List.getElem?_map]
  by_cases h : i < xs.length
  · simp [List.getElem?_range h, getElem?_eq_keyAt h]
  · have h2 : (List.range xs.length)[i]? = none := List.getElem?_eq_none (by simp; omega)
    simp [List.getElem?_eq_none (Nat.le_of_not_lt h), h2]

theorem argsortStable_eq (xs : List Int) : argsortStable xs = sortRowsBy (keyAt xs) (List.range xs.length) := by
  unfold argsortStable sortRowsBy
  rw [zipIdx_eq_range_map]

theorem positionsFrom_eq_zipIdx (k : Int) (xs : List Int) (base : Nat) :
    positionsFrom k base xs = ((xs.zipIdx base).filter (fun p => p.1 == k)).map (·.2) := by
  induction xs generalizing base with
  | nil => rfl
  | cons x t ih =>
    simp only [positionsFrom, List.zipIdx_cons, List.filter_cons, beq_iff_eq]
    split
    · simp only [List.map_cons, ih]
    · exact ih _

theorem positions_eq_filter_range (k : Int) (xs : List Int) :
    positions k xs = (List.range xs.length).filter (fun r => keyAt xs r == k) := by
  unfold positions
  rw [positionsFrom_eq_zipIdx, zipIdx_eq_range_map, List.filter_map, List.map_map]
  simp [Function.comp_def]

theorem positionsFrom_map_back (k : Int) (g : Nat → Int) (l pre : List Nat) :
    (positionsFrom k pre.length (l.map g)).filterMap ((pre ++ l)[·]?) = l.filter (fun r => g r == k) := by
  induction l generalizing pre with
  | nil => rfl
  | cons r t ih =>
    have ih' := ih (pre ++ [r])
    simp only [List.length_append, List.length_singleton, List.append_assoc, List.singleton_append] at ih'
    simp only [List.map_cons, positionsFrom, List.filter_cons, beq_iff_eq]
    split
    · simp only [List.filterMap_cons, List.getElem?_append_right (Nat.le_refl _), Nat.sub_self,
        List.getElem?_cons_zero, ih']
    · exact ih'

theorem positions_map_back (k : Int) (g : Nat → Int) (l : List Nat) :
    (positions k (l.map g)).filterMap (l[·]?) = l.filter (fun r => g r == k) := by
  simpa [positions] using positionsFrom_map_back k g l []

/-- `old_sorted_index` -/
def oldIndex (ids vf : List Int) : List Nat :=
  sortRowsBy (keyAt ids) (sortRowsBy (keyAt vf) (List.range vf.length))

/-- `new_sorted_index` -/
def newIndex (ids : List Int) : List Nat := sortRowsBy (keyAt ids) (List.range ids.length)

theorem mem_oldIndex {ids vf : List Int} {r : Nat} : r ∈ oldIndex ids vf ↔ r < vf.length := by
  simp [oldIndex, mem_sortRowsBy]

theorem mem_newIndex {ids : List Int} {r : Nat} : r ∈ newIndex ids ↔ r < ids.length := by
  simp [newIndex, mem_sortRowsBy]

theorem length_oldIndex (ids vf : List Int) : (oldIndex ids vf).length = vf.length := by
  simp [oldIndex, length_sortRowsBy]

theorem zipIdx_map_reindex (g : Nat → Int) (l : List Nat) :
    ((l.map g).zipIdx).map (fun p => (p.1, l[p.2]?.getD 0)) = l.map (fun r => (g r, r)) := by
  apply List.ext_getElem?
  intro i
  rw [List.getElem?_map, List.getElem?_zipIdx, List.getElem?_map, List.getElem?_map]
  by_cases h : i < l.length
  · simp [List.getElem?_eq_getElem h]
  · simp [List.getElem?_eq_none (Nat.le_of_not_lt h)]

theorem sortIndex2_ok {ids vf : List Int} (hvf : vf.length = ids.length) :
    sortIndex2 ids vf = .ok (oldIndex ids vf) := by
  have hacc : ∀ r, r ∈ argsortStable vf → r < ids.length := by
    intro r hr
    rw [argsortStable_eq, mem_sortRowsBy, List.mem_range] at hr
    omega
  unfold sortIndex2
  simp only [gatherE_keys hacc, bind, Except.bind]
  have hidx : ∀ i, i ∈ argsortStable ((argsortStable vf).map (keyAt ids)) → i < (argsortStable vf).length := by
    intro i hi
    rw [argsortStable_eq, mem_sortRowsBy, List.mem_range, List.length_map] at hi
    exact hi
  rw [gatherE_ok hidx,
    filterMap_eq_map_of (g := fun i => (argsortStable vf)[i]?.getD 0)
      (fun i hi => by simp [List.getElem?_eq_getElem (hidx i hi)])]
  congr 1
  unfold oldIndex
  rw [← argsortStable_eq]
  generalize argsortStable vf = acc
  unfold argsortStable sortRowsBy
  rw [← zipIdx_map_reindex, sortStable_mapSnd (fun i => acc[i]?.getD 0), List.map_map, List.map_map]
  rfl

theorem range_map_keyAt (xs : List Int) : (List.range xs.length).map (keyAt xs) = xs := by
  have h := congrArg (List.map Prod.fst) (zipIdx_eq_range_map xs)
  rw [List.zipIdx_map_fst, List.map_map] at h
  exact h.symm

theorem map_keyAt_perm {xs : List Int} {l : List Nat} (h : l.Perm (List.range xs.length)) : (l.map (keyAt xs)).Perm xs :=
  (h.map (keyAt xs)).trans (List.Perm.of_eq (range_map_keyAt xs))

theorem oldIndex_perm {ids vf : List Int} (hvf : vf.length = ids.length) :
    (oldIndex ids vf).Perm (List.range ids.length) := by
  unfold oldIndex
  rw [← hvf]
  exact (sortRowsBy_perm _ _).trans (sortRowsBy_perm _ _)

theorem newIndex_perm (ids : List Int) : (newIndex ids).Perm (List.range ids.length) := sortRowsBy_perm _ _

theorem newKeys_strict {ids : List Int} (hu : ids.Nodup) : ((newIndex ids).map (keyAt ids)).Pairwise (· < ·) := by
  have h1 : ((newIndex ids).map (keyAt ids)).Pairwise (· ≤ ·) := sortRowsBy_sorted _ _
  have h2 := List.nodup_iff_pairwise_ne.1 ((map_keyAt_perm (newIndex_perm ids)).nodup_iff.2 hu)
  exact List.Pairwise.imp₂ (fun a b hab hne => by omega) h1 h2

theorem oldIndex_filter (ids vf : List Int) (k : Int) :
    (oldIndex ids vf).filter (fun r => keyAt ids r == k) =
      sortRowsBy (keyAt vf) ((List.range vf.length).filter (fun r => keyAt ids r == k)) := by
  unfold oldIndex
  rw [sortRowsBy_filter, sortRowsBy_const (k := k) (fun r hr => by simpa using (List.mem_filter.1 hr).2),
    sortRowsBy_filter]

theorem history_eq {ids vf : List Int} (hvf : vf.length = ids.length) (k : Int) :
    history ids vf k = (oldIndex ids vf).filter (fun r => keyAt ids r == k) := by
  rw [oldIndex_filter, hvf, ← positions_eq_filter_range]
  unfold history sortRowsBy
  rw [sortByTime_eq, filterMap_eq_map_of (g := fun r => (keyAt vf r, r))]
  intro r hr
  have := positions_lt hr
  rw [getElem?_eq_keyAt (by omega)]
  rfl

theorem newIndex_filter (ids : List Int) (k : Int) :
    (newIndex ids).filter (fun r => keyAt ids r == k) = positions k ids := by
  unfold newIndex
  rw [sortRowsBy_filter, sortRowsBy_const (k := k) (fun r hr => by simpa using (List.mem_filter.1 hr).2),
    positions_eq_filter_range]

end Exetera.Journal
