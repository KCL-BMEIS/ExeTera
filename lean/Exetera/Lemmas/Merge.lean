import Exetera.Model.Merge
import Exetera.Spec.Merge
import Exetera.Spec.MapValid
import Exetera.Lemmas.MapValidStream
import Exetera.Lemmas.MapValidIndexedStream
import Exetera.Lemmas.MapValidIndexedFlat
/-! C02, one destination column. A row selection `sel : List (Option Nat)` (a side of a list of join rows) determines the
    destination column `selectCol col sel`; both column mappers of `merge` — the streams of the ordered path and the
    `safe_map_*` functions of the unordered path — compute it from the marker encoding `encSel inv sel` (C04). The selection
    "every row once" gives the column back, which is why a side without map field may be copied. -/
namespace Exetera.Merge

open Exetera Exetera.Spec Exetera.MapValid

/-- a run succeeds with a result on which `f` takes the value `v`; on a concrete run both follow from evaluating
    `x.toOption.map f` once -/
theorem exists_ok_of_map {ε α β} {x : Except ε α} {f : α → β} {v : β} (h : x.toOption.map f = some v) :
    ∃ a, x = .ok a ∧ f a = v := by
  cases x with
  | error e => cases h
  | ok a => exact ⟨a, rfl, Option.some.inj h⟩

/-- the destination column a source column must become for a given list of selected rows -/
def selectCol : Col → List (Option Nat) → Option Col
  | .flat e vals, sel => (selectCells vals e sel).map (Col.flat e)
  | .indexed ix vs, sel =>
    (selectCells (entries ix vs) [] sel).map (fun es => Col.indexed (encodeIndexed es).1 (encodeIndexed es).2)

/-- a row selection as a join map with marker `inv` -/
def encSel (inv : Int) (sel : List (Option Nat)) : List Int := sel.map (encCell inv)

theorem mapSpec_encSel {α} (src : List α) (inv : Int) (empty : α) :
    ∀ (sel : List (Option Nat)), (∀ i, some i ∈ sel → (i : Int) ≠ inv) →
      mapSpec src inv empty (encSel inv sel) = selectCells src empty sel
  | [], _ => rfl
  | none :: rest, h => by
    have ih := mapSpec_encSel src inv empty rest (fun i hi => h i (List.mem_cons_of_mem _ hi))
    simp only [encSel, List.map_cons, encCell, mapSpec, lookup, if_true, selectCells] at ih ⊢
    rw [ih]
    cases selectCells src empty rest <;> rfl
  | some i :: rest, h => by
    have ih := mapSpec_encSel src inv empty rest (fun j hj => h j (List.mem_cons_of_mem _ hj))
    have hi : (i : Int) ≠ inv := h i (List.mem_cons_self)
    simp only [encSel, List.map_cons, encCell, mapSpec, lookup, selectCells] at ih ⊢
    rw [ih]
    simp only [hi, if_false, Int.natCast_nonneg, if_true, Int.toNat_natCast]
    rfl

theorem inRange_encSel (n : Nat) (inv : Int) (sel : List (Option Nat)) (hsel : ∀ i, some i ∈ sel → i < n) :
    InRange n (encSel inv sel) inv := by
  intro p k hpk hk
  simp only [encSel, List.getElem?_map, Option.map_eq_some_iff] at hpk
  obtain ⟨o, ho, rfl⟩ := hpk
  cases o with
  | none => exact absurd rfl hk
  | some i =>
    have := hsel i (List.mem_of_getElem? ho)
    simp only [encCell]
    omega

/-- the column the C04 specifications assign to a map: `mapSpec` for a flat source, `mapIndexedSpec` for an indexed one -/
def specCol (inv : Int) (m : List Int) : Col → Option Col
  | .flat e vals => (mapSpec vals inv e m).map (Col.flat e)
  | .indexed ix vs => (mapIndexedSpec ix vs inv m).map (fun o => Col.indexed o.1 o.2)

theorem specCol_encSel (col : Col) (inv : Int) (sel : List (Option Nat)) (hne : ∀ i, some i ∈ sel → (i : Int) ≠ inv) :
    specCol inv (encSel inv sel) col = selectCol col sel := by
  cases col with
  | flat e vals => simp only [specCol, selectCol, mapSpec_encSel vals inv e sel hne]
  | indexed ix vs =>
    simp only [specCol, selectCol, mapIndexedSpec, mapSpec_encSel (entries ix vs) inv [] sel hne, Option.map_map]
    rfl

/-! ### the value buffer of the indexed stream (fix NC02c) -/

theorem le_foldl_max (l : List Nat) : ∀ (a : Nat), a ≤ l.foldl max a ∧ ∀ x ∈ l, x ≤ l.foldl max a := by
  induction l with
  | nil => intro a; simp
  | cons y ys ih =>
    intro a
    obtain ⟨h1, h2⟩ := ih (max a y)
    refine ⟨by simp only [List.foldl_cons]; omega, ?_⟩
    intro x hx
    simp only [List.foldl_cons]
    rcases List.mem_cons.1 hx with rfl | hx
    · omega
    · exact h2 x hx

theorem toNat_sub_toNat_le (a b : Int) : b.toNat - a.toNat ≤ (b - a).toNat := by
  rw [Nat.sub_le_iff_le_add, Int.toNat_le, Int.natCast_add]
  have := Int.add_le_add (Int.self_le_toNat (b - a)) (Int.self_le_toNat a)
  rwa [Int.sub_add_cancel] at this

theorem entry_le_longest {β} (ix : List Int) (vs : List β) : ∀ e ∈ entries ix vs, e.length ≤ longestEntry ix := by
  intro e he
  -- entries and their lengths are read off the same pairs of neighbouring offsets
  rw [entries, ← List.map_uncurry_zip_eq_zipWith] at he
  obtain ⟨p, hp, rfl⟩ := List.mem_map.mp he
  have hmem : (p.2 - p.1).toNat ∈ List.zipWith (fun a b => (b - a).toNat) ix ix.tail := by
    rw [← List.map_uncurry_zip_eq_zipWith]; exact List.mem_map.mpr ⟨p, hp, rfl⟩
  have := (le_foldl_max _ 0).2 _ hmem
  simp only [Function.uncurry, List.length_take, List.length_drop, longestEntry]
  exact Nat.le_trans (Nat.min_le_left _ _) (Nat.le_trans (toNat_sub_toNat_le p.1 p.2) this)

theorem le_mul_ceil (L cs : Nat) (hcs : 1 ≤ cs) : L ≤ cs * ((L + cs - 1) / cs) := by
  have h := Nat.lt_mul_div_succ (L + cs - 1) (show 0 < cs by omega)
  have : cs * ((L + cs - 1) / cs + 1) = cs * ((L + cs - 1) / cs) + cs := by rw [Nat.mul_add, Nat.mul_one]
  omega

/-- **the auto-sized value buffer holds every entry** -/
theorem entries_fit_auto {β} (vf : Nat) (ix : List Int) (vs : List β) (cs : Nat) (hcs : 1 ≤ cs) :
    ∀ e ∈ entries ix vs, e.length ≤ cs * autoValueFactor vf ix cs :=
  fun e he => Nat.le_trans (entry_le_longest ix vs e he)
    (Nat.le_trans (le_mul_ceil (longestEntry ix) cs hcs) (Nat.mul_le_mul_left cs (Nat.le_max_right vf _)))

/-- a source column whose indexed entries fit a value buffer of `cap` bytes (what a stream with a fixed `value_factor`
    needs; `mapColumn` sizes the buffer itself, so `ColWF` suffices there) -/
structure ColOK (col : Col) (n : Nat) (cap : Nat) : Prop where
  len : col.len = n
  indexedOK : ∀ ix vs, col = .indexed ix vs → IndexedOK ix vs ∧ ∀ e ∈ entries ix vs, e.length ≤ cap

/-- a source column as the property grants it: the right number of rows, an indexed column well formed (C01). Nothing is
    asked about entry lengths (with fix NC02c the streamed mapper sizes its value buffer itself). -/
structure ColWF (col : Col) (n : Nat) : Prop where
  len : col.len = n
  indexedOK : ∀ ix vs, col = .indexed ix vs → IndexedOK ix vs

theorem ColWF.flat (e : Cell) (vals : List Cell) : ColWF (.flat e vals) vals.length := ⟨rfl, nofun⟩

theorem ColWF.indexed {ix vs : List Int} (h : IndexedOK ix vs) : ColWF (.indexed ix vs) (ix.length - 1) :=
  ⟨rfl, fun _ _ e => by cases e; exact h⟩

theorem ColWF.of_ok {col : Col} {n cap : Nat} (h : ColOK col n cap) : ColWF col n :=
  ⟨h.len, fun ix vs e => (h.indexedOK ix vs e).1⟩

/-- for the columns of `mapColumn` the two notions coincide: the capacity is met by construction -/
theorem ColWF.toOK {col : Col} {n : Nat} (h : ColWF col n) (vf cs : Nat) (hcs : 1 ≤ cs) :
    ∀ ix vs, col = .indexed ix vs → ColOK col n (cs * autoValueFactor vf ix cs) := by
  rintro ix vs rfl
  refine ⟨h.len, fun ix' vs' e' => ?_⟩
  cases e'
  exact ⟨h.indexedOK _ _ rfl, entries_fit_auto vf _ _ cs hcs⟩

/-- the rows of a source column as the C04 theorems count them -/
def rows : Col → Nat
  | .flat _ vals => vals.length
  | .indexed ix vs => (entries ix vs).length

theorem rows_eq_len (col : Col) : rows col = col.len := by
  cases col with
  | flat e vals => rfl
  | indexed ix vs => exact entries_length ix vs

/-- a side without map: `chunked_copy` -/
theorem mapColumn_copy {side : String} (h : mapPlan side "nomap" = .ok .copy) (col : Col) (inv : Int) (cs vf : Nat) :
    mapColumn side col none inv cs vf = .ok col := by
  simp only [mapColumn, h]

/-- **one streamed column** (`ordered_map_valid_stream` / `ordered_map_valid_indexed_stream` with the `invalid` the call
    site passes): the destination column is the selected rows of the source -/
theorem mapColumn_stream_wf (side : String) (col : Col) (n : Nat) (sel : List (Option Nat)) (inv : Int) (cs vf : Nat)
    (hflat : mapPlan side "flat" = .ok (.stream true)) (hidx : mapPlan side "indexed" = .ok (.istream true))
    (hcs : 1 ≤ cs) (hcol : ColWF col n) (hsel : ∀ i, some i ∈ sel → i < n) (hinv : (n : Int) ≤ inv) :
    ∃ out, mapColumn side col (some (encSel inv sel)) inv cs vf = .ok out ∧ selectCol col sel = some out := by
  have hr : InRange (rows col) (encSel inv sel) inv := by
    rw [rows_eq_len, hcol.len]; exact inRange_encSel n inv sel hsel
  rw [← specCol_encSel col inv sel (fun i hi => by have := hsel i hi; omega)]
  cases col with
  | flat e vals =>
    obtain ⟨out, h1, h2⟩ := stream_spec_any vals (encSel inv sel) inv cs e hcs hr
    refine ⟨.flat e out, ?_, by simp only [specCol, h2, Option.map_some]⟩
    simp only [mapColumn, Col.isIndexed, Bool.false_eq_true, if_false]
    rw [hflat]
    simp only [if_true]
    rw [h1]
  | indexed ix vs =>
    -- the stream sizes its own value buffer (fix NC02c): every entry fits, whatever the caller's floor `vf`
    obtain ⟨out, h1, h2⟩ := indexed_stream_spec_any ix vs (encSel inv sel) inv cs (autoValueFactor vf ix cs)
      (hcol.indexedOK ix vs rfl) hcs hr (fun _ _ x _ _ hx => entries_fit_auto vf ix vs cs hcs x (List.mem_of_getElem? hx))
    refine ⟨.indexed out.1 out.2, ?_, by simp only [specCol, h2, Option.map_some]⟩
    simp only [mapColumn, Col.isIndexed, if_true]
    rw [hidx]
    simp only [if_true]
    rw [h1]

/-- the same for a column that is known to fit a fixed value buffer -/
theorem mapColumn_stream (side : String) (col : Col) (n : Nat) (sel : List (Option Nat)) (inv : Int) (cs vf : Nat)
    (hflat : mapPlan side "flat" = .ok (.stream true)) (hidx : mapPlan side "indexed" = .ok (.istream true))
    (hcs : 1 ≤ cs) (hcol : ColOK col n (cs * vf)) (hsel : ∀ i, some i ∈ sel → i < n) (hinv : (n : Int) ≤ inv) :
    ∃ out, mapColumn side col (some (encSel inv sel)) inv cs vf = .ok out ∧ selectCol col sel = some out :=
  mapColumn_stream_wf side col n sel inv cs vf hflat hidx hcs (ColWF.of_ok hcol) hsel hinv

theorem mapOf_eq_encSel (sel : List (Option Nat)) : mapOf sel = encSel (-1) sel :=
  List.map_congr_left (fun o _ => by cases o <;> rfl)

/-- pandas' `notnull` filter is the test "not the marker" on the row map -/
theorem filtOf_eq (sel : List (Option Nat)) : filtOf sel = (encSel (-1) sel).map (fun k => k != -1) := by
  simp only [filtOf, encSel, List.map_map]
  exact List.map_congr_left (fun o _ => by cases o <;> simp [encCell])

/-- `safe_map_values` / `safe_map_indexed_values` with pandas' row numbers and `notnull` filters (the unordered path):
    the destination column is the selected rows of the source -/
theorem safeMapColumn_spec (col : Col) (n : Nat) (sel : List (Option Nat)) (hcol : ColWF col n)
    (hsel : ∀ i, some i ∈ sel → i < n) : ∃ out, safeMapColumn col sel = .ok out ∧ selectCol col sel = some out := by
  have hr : InRange (rows col) (encSel (-1) sel) (-1) := by
    rw [rows_eq_len, hcol.len]; exact inRange_encSel n (-1) sel hsel
  rw [← specCol_encSel col (-1) sel (fun i _ => by omega)]
  cases col with
  | flat e vals =>
    obtain ⟨out, h1, h2⟩ := safeMapValues_mapSpec vals (encSel (-1) sel) (-1) none e hr
    exact ⟨.flat e out, by simp only [safeMapColumn, mapOf_eq_encSel, filtOf_eq, h1],
      by simp only [specCol, Option.getD_none ▸ h2, Option.map_some]⟩
  | indexed ix vs =>
    obtain ⟨out, h1, h2⟩ := safeMapIndexedValues_mapSpec ix vs (encSel (-1) sel) (-1) (hcol.indexedOK ix vs rfl) hr
    exact ⟨.indexed out.1 out.2, by simp only [safeMapColumn, mapOf_eq_encSel, filtOf_eq, h1],
      by simp only [specCol, h2, Option.map_some]⟩

def idSel (n : Nat) : List (Option Nat) := (List.range n).map some

theorem selectCells_succ {α} (a : α) (src : List α) (empty : α) : ∀ sel : List (Option Nat),
    selectCells (a :: src) empty (sel.map (Option.map (· + 1))) = selectCells src empty sel
  | [] => rfl
  | none :: rest => by
    simp only [List.map_cons, Option.map_none, selectCells, selectCells_succ a src empty rest]
  | some i :: rest => by
    simp only [List.map_cons, Option.map_some, selectCells, List.getElem?_cons_succ, selectCells_succ a src empty rest]

theorem selectCells_id {α} (empty : α) : ∀ src : List α, selectCells src empty (idSel src.length) = some src
  | [] => rfl
  | a :: src => by
    have h : idSel (src.length + 1) = some 0 :: (idSel src.length).map (Option.map (· + 1)) := by
      simp [idSel, List.range_succ_eq_map, List.map_map, Function.comp_def]
    rw [List.length_cons, h]
    simp only [selectCells, List.getElem?_cons_zero, selectCells_succ, selectCells_id empty src]

theorem le_getLast?_of_sorted {l : List Int} {z : Int} (hp : l.Pairwise (· ≤ ·)) (h : l.getLast? = some z) :
    ∀ x ∈ l, x ≤ z := by
  obtain ⟨ys, rfl⟩ := List.getLast?_eq_some_iff.mp h
  intro x hx
  rcases List.mem_append.mp hx with hx | hx
  · exact (List.pairwise_append.mp hp).2.2 x hx z (List.mem_singleton_self z)
  · cases List.mem_singleton.mp hx; exact Int.le_refl _

theorem entries_cons_cons {β} (a b : Int) (ix : List Int) (vs : List β) :
    entries (a :: b :: ix) vs = (vs.drop a.toNat).take (b.toNat - a.toNat) :: entries (b :: ix) vs := rfl

/-- offsets `a ≤ … ≤ z` within `vs`: the entries they delimit have these offsets again and tile `vs[a:z]`. The offsets are
    non-negative, so the first one is taken as a natural number and the arithmetic stays free of `Int.toNat`. -/
theorem encode_entries_aux {β} (vs : List β) : ∀ (ix : List Int) (a : Nat), ((a : Int) :: ix).Pairwise (· ≤ ·) →
    (∀ x ∈ ix, x ≤ vs.length) →
    offsetsFromI a (entries ((a : Int) :: ix) vs) = (a : Int) :: ix ∧
      ∀ z : Nat, ((a : Int) :: ix).getLast? = some (z : Int) →
        (entries ((a : Int) :: ix) vs).flatten = (vs.drop a).take (z - a)
  | [], a, _, _ => by
    refine ⟨rfl, fun z hz => ?_⟩
    simp only [List.getLast?_singleton, Option.some.injEq, Int.natCast_inj] at hz
    subst hz
    simp [entries]
  | b :: rest, a, hp, hb => by
    have hp' := List.pairwise_cons.mp hp
    have hab : (a : Int) ≤ b := hp'.1 b List.mem_cons_self
    obtain ⟨b, rfl⟩ := Int.eq_ofNat_of_zero_le (Int.le_trans (Int.natCast_nonneg a) hab)
    replace hab : a ≤ b := Int.ofNat_le.mp hab
    have hbv : b ≤ vs.length := Int.ofNat_le.mp (hb b List.mem_cons_self)
    obtain ⟨ih1, ih2⟩ := encode_entries_aux vs rest b hp'.2 (fun x hx => hb x (List.mem_cons_of_mem _ hx))
    have hlen : ((vs.drop a).take (b - a)).length = b - a := by
      rw [List.length_take, List.length_drop, Nat.min_eq_left (Nat.sub_le_sub_right hbv a)]
    rw [entries_cons_cons]
    simp only [Int.toNat_natCast]
    refine ⟨?_, fun z hz => ?_⟩
    · simp only [offsetsFromI, hlen]
      rw [← Int.natCast_add, Nat.add_sub_cancel' hab, ih1]
    · rw [List.getLast?_cons_cons] at hz
      have hbz : b ≤ z := Int.ofNat_le.mp (le_getLast?_of_sorted hp'.2 hz b List.mem_cons_self)
      rw [List.flatten_cons, ih2 z hz, ← Nat.sub_add_sub_cancel hbz hab, Nat.add_comm, List.take_add, List.drop_drop,
        Nat.add_sub_cancel' hab]

/-- **a well-formed stored indexed column is the encoding of its own entries** -/
theorem encode_entries {β} {ix : List Int} {vs : List β} (hok : IndexedOK ix vs) :
    encodeIndexed (entries ix vs) = (ix, vs) := by
  obtain ⟨h0, hp, hl⟩ := hok
  cases ix with
  | nil => simp at h0
  | cons a rest =>
    simp only [List.head?_cons, Option.some.injEq] at h0
    subst h0
    obtain ⟨h1, h2⟩ := encode_entries_aux vs rest 0 hp (fun x hx => le_getLast?_of_sorted hp hl x (List.mem_cons_of_mem _ hx))
    simp only [Int.natCast_zero] at h1 h2
    simp [encodeIndexed, h1, h2 _ hl]

theorem selectCol_id {col : Col} {n : Nat} (hcol : ColWF col n) : selectCol col (idSel n) = some col := by
  rw [← hcol.len, ← rows_eq_len]
  cases col with
  | flat e vals => simp only [selectCol, rows, selectCells_id, Option.map_some]
  | indexed ix vs => simp only [selectCol, rows, selectCells_id, Option.map_some, encode_entries (hcol.indexedOK ix vs rfl)]

theorem selectCells_length {α} (src : List α) (empty : α) : ∀ (sel : List (Option Nat)) (out : List α),
    selectCells src empty sel = some out → out.length = sel.length
  | [], out, h => by cases h; rfl
  | none :: rest, out, h => by
    obtain ⟨o, ho, rfl⟩ := Option.map_eq_some_iff.mp h
    exact congrArg (· + 1) (selectCells_length src empty rest o ho)
  | some i :: rest, out, h => by
    simp only [selectCells] at h
    split at h
    · rename_i h2
      cases h
      exact congrArg (· + 1) (selectCells_length src empty rest _ h2)
    · cases h

theorem offsetsFromI_length {β} (es : List (List β)) (base : Int) : (offsetsFromI base es).length = es.length + 1 := by
  rw [MapValid.offsetsFrom_eq, List.length_cons, MapValid.runSums_length]

theorem selectCol_len {col out : Col} {sel : List (Option Nat)} (h : selectCol col sel = some out) :
    out.len = sel.length := by
  cases col with
  | flat e vals =>
    simp only [selectCol, Option.map_eq_some_iff] at h
    obtain ⟨o, ho, rfl⟩ := h
    simpa [Col.len] using selectCells_length vals e sel o ho
  | indexed ix vs =>
    simp only [selectCol, Option.map_eq_some_iff] at h
    obtain ⟨es, hes, rfl⟩ := h
    have := selectCells_length (entries ix vs) [] sel es hes
    simp [Col.len, encodeIndexed, offsetsFromI_length, this]

theorem intCol_len (xs : List Int) : (intCol xs).len = xs.length := by simp [intCol, Col.len]
theorem boolCol_len (xs : List Bool) : (boolCol xs).len = xs.length := by simp [boolCol, Col.len]

end Exetera.Merge
