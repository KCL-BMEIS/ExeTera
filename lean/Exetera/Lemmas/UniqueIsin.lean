import Exetera.Model.Unique
import Exetera.Lemmas.While
/-!
`isin` on an indexed string column (C14).  Row `i` of the stored form `(indices, values)` of a column is
`values[indices[i]:indices[i+1]]`; `compare_arrays` computes the byte order `lexCmp`, which is total; so on a sorted test
list the binary search of `isin_indexed_string_speedup` decides membership.
-/
namespace Exetera.Unique
open Exetera Exetera.Spec

theorem lt_of_add_succ_eq {i k n : Nat} (h : i + (k + 1) = n) : i < n :=
  Nat.lt_of_lt_of_le (Nat.lt_add_of_pos_right (Nat.succ_pos k)) (Nat.le_of_eq h)

theorem succ_add_of_add_succ {i k n : Nat} (h : i + (k + 1) = n) : i + 1 + k = n :=
  Nat.add_right_comm i 1 k ▸ h

theorem offsetsFrom_length (col : List Bytes) : ∀ base, (offsetsFrom col base).length = col.length + 1 := by
  induction col with
  | nil => intro _; rfl
  | cons x xs ih => intro base; simp [offsetsFrom, ih]

theorem offsetsFrom_zero (col : List Bytes) (base : Nat) : (offsetsFrom col base)[0]? = some base := by
  cases col <;> simp [offsetsFrom]

theorem slice_append_left {α} (pre x rest : List α) :
    slice (pre ++ (x ++ rest)) pre.length (pre.length + x.length) = x := by
  simp [slice]

theorem row_at (col : List Bytes) : ∀ (base : Nat) (pre : Bytes), pre.length = base → ∀ (i : Nat) (h : i < col.length),
    ∃ lo hi, (offsetsFrom col base)[i]? = some lo ∧ (offsetsFrom col base)[i + 1]? = some hi ∧
      slice (pre ++ col.flatten) lo hi = col[i] ∧ hi = lo + col[i].length := by
  induction col with
  | nil => intro _ _ _ i h; cases h
  | cons x xs ih =>
    -- `offsetsFrom (x :: xs) base` is `base :: offsetsFrom xs (base + x.length)` by computation
    intro base pre hpre i h
    cases i with
    | zero =>
      subst hpre
      exact ⟨_, _, rfl, offsetsFrom_zero xs _, slice_append_left pre x xs.flatten, rfl⟩
    | succ j =>
      obtain ⟨lo, hi, h1, h2, h3, h4⟩ := ih (base + x.length) (pre ++ x) (by rw [List.length_append, hpre]) j
        (Nat.lt_of_succ_lt_succ h)
      exact ⟨lo, hi, h1, h2, by rw [List.flatten_cons, ← List.append_assoc]; exact h3, h4⟩

theorem encode_row (col : List Bytes) (i : Nat) (h : i < col.length) :
    ∃ lo hi, (∀ site, getE (encode col).1 i site = .ok lo) ∧ (∀ site, getE (encode col).1 (i + 1) site = .ok hi) ∧
      slice (encode col).2 lo hi = col[i] ∧ hi = lo + col[i].length := by
  obtain ⟨lo, hi, h1, h2, h3, h4⟩ := row_at col 0 [] rfl i h
  exact ⟨lo, hi, by intro _; simp [encode, getE_eq_ok, h1], by intro _; simp [encode, getE_eq_ok, h2],
    by simpa [encode] using h3, h4⟩

theorem encode_rows (col : List Bytes) : (encode col).1.length - 1 = col.length := by
  simp [encode, offsetsFrom_length]

theorem lexCmp_range (a b : Bytes) : lexCmp a b = -1 ∨ lexCmp a b = 0 ∨ lexCmp a b = 1 := by
  fun_induction lexCmp a b <;> simp_all

theorem lexCmp_self (a : Bytes) : lexCmp a a = 0 := by
  induction a with
  | nil => rfl
  | cons x xs ih => simp [lexCmp, ih, UInt8.lt_irrefl]

theorem lexCmp_eq_zero {a b : Bytes} : lexCmp a b = 0 ↔ a = b := by
  constructor
  · intro h
    fun_induction lexCmp a b with
    | case1 => rfl
    | case2 => simp at h
    | case3 => simp at h
    | case4 => simp at h
    | case5 => simp at h
    | case6 x xs y ys h1 h2 ih =>
      rw [UInt8.le_antisymm (UInt8.not_lt.mp h2) (UInt8.not_lt.mp h1), ih h]
  · intro h; subst h; exact lexCmp_self a

theorem lexCmp_swap (a b : Bytes) : lexCmp b a = - lexCmp a b := by
  fun_induction lexCmp a b with
  | case1 => rfl
  | case2 => simp [lexCmp]
  | case3 => simp [lexCmp]
  | case4 x xs y ys h =>
    have : ¬ y < x := UInt8.lt_asymm h
    simp [lexCmp, h, this]
  | case5 x xs y ys h1 h2 => simp [lexCmp, h2]
  | case6 x xs y ys h1 h2 ih => simp [lexCmp, h1, h2, ih]

theorem lexCmp_cons_le {x y : UInt8} {xs ys : Bytes} :
    lexCmp (x :: xs) (y :: ys) ≤ 0 ↔ x < y ∨ (x = y ∧ lexCmp xs ys ≤ 0) := by
  rw [lexCmp]
  split
  · simp [*]
  · split
    · rename_i h1 h2
      have : x ≠ y := fun e => h1 (e ▸ h2)
      simp [*]
    · rename_i h1 h2
      have : x = y := UInt8.le_antisymm (UInt8.not_lt.mp h2) (UInt8.not_lt.mp h1)
      simp [*]

theorem lexCmp_le_trans : ∀ (a b c : Bytes), lexCmp a b ≤ 0 → lexCmp b c ≤ 0 → lexCmp a c ≤ 0 := by
  intro a
  induction a with
  | nil => intro b c _ _; cases c <;> simp [lexCmp]
  | cons x xs ih =>
    intro b c h1 h2
    cases b with
    | nil => simp [lexCmp] at h1
    | cons y ys =>
      cases c with
      | nil => simp [lexCmp] at h2
      | cons z zs =>
        rw [lexCmp_cons_le] at h1 h2 ⊢
        rcases h1 with h1 | ⟨rfl, h1⟩ <;> rcases h2 with h2 | ⟨rfl, h2⟩
        · exact .inl (UInt8.lt_trans h1 h2)
        · exact .inl h1
        · exact .inl h2
        · exact .inr ⟨rfl, ih ys zs h1 h2⟩

theorem bytesLe_iff {a b : Bytes} : bytesLe a b = true ↔ lexCmp a b ≤ 0 := by simp [bytesLe]

theorem bytesLe_trans (a b c : Bytes) : bytesLe a b = true → bytesLe b c = true → bytesLe a c = true := by
  simp only [bytesLe_iff]; exact lexCmp_le_trans a b c

theorem bytesLe_total (a b : Bytes) : (bytesLe a b || bytesLe b a) = true := by
  simp only [Bool.or_eq_true, bytesLe_iff]
  have := lexCmp_swap a b
  omega

theorem bytesLe_antisymm {a b : Bytes} : bytesLe a b = true → bytesLe b a = true → a = b := by
  simp only [bytesLe_iff]
  intro h1 h2
  have := lexCmp_swap a b
  exact lexCmp_eq_zero.mp (by omega)

theorem bytesLe_refl (a : Bytes) : bytesLe a a = true := by simp [bytesLe_iff, lexCmp_self]

theorem lexCmp_gt_of_gt_of_le {v t u : Bytes} (h : lexCmp v t = 1) (hu : bytesLe u t = true) : lexCmp v u = 1 := by
  have hn : ¬ lexCmp v u ≤ 0 := fun h' => by have := lexCmp_le_trans v u t h' (bytesLe_iff.mp hu); omega
  rcases lexCmp_range v u with h' | h' | h' <;> omega

theorem lexCmp_lt_of_lt_of_le {v t u : Bytes} (h : lexCmp v t = -1) (hu : bytesLe t u = true) : lexCmp v u = -1 := by
  have hn : ¬ lexCmp u v ≤ 0 := fun h' => by
    have := lexCmp_le_trans t u v (bytesLe_iff.mp hu) h'
    have := lexCmp_swap v t
    omega
  have := lexCmp_swap v u
  rcases lexCmp_range v u with h' | h' | h' <;> omega

/-- the statement carries the comparison of the lengths that follows the loop in `compareArrays`: with it the loop from
    `i` on compares the two suffixes, which is what the induction needs -/
theorem compareLoop_drop (a b : Bytes) : ∀ (k i : Nat), i + k ≤ a.length → i + k ≤ b.length →
    (i + k = a.length ∨ i + k = b.length) →
    (match compareLoop a b k i with
      | .error e => .error e
      | .ok (some r) => .ok r
      | .ok none => if a.length < b.length then .ok (-1) else if b.length < a.length then .ok 1 else .ok 0 : Except Err Int)
      = .ok (lexCmp (a.drop i) (b.drop i)) := by
  intro k
  induction k with
  | zero =>
    -- one suffix is empty; the other is empty too exactly if the lengths agree
    intro i ha hb hor
    rw [Nat.add_zero] at ha hb hor
    simp only [compareLoop]
    rcases hor with rfl | rfl
    · rw [List.drop_length]
      by_cases h : a.length < b.length
      · rw [if_pos h, List.drop_eq_getElem_cons h]
        rfl
      · rw [if_neg h, if_neg (Nat.not_lt.mpr hb), List.drop_eq_nil_of_le (Nat.not_lt.mp h)]
        rfl
    · rw [List.drop_length]
      by_cases h : b.length < a.length
      · rw [if_neg (Nat.lt_asymm h), if_pos h, List.drop_eq_getElem_cons h]
        rfl
      · rw [if_neg (Nat.not_lt.mpr ha), if_neg h, List.drop_eq_nil_of_le (Nat.not_lt.mp h)]
        rfl
  | succ k ih =>
    intro i ha hb hor
    have hia : i < a.length := Nat.lt_of_lt_of_le (Nat.lt_add_of_pos_right (Nat.succ_pos k)) ha
    have hib : i < b.length := Nat.lt_of_lt_of_le (Nat.lt_add_of_pos_right (Nat.succ_pos k)) hb
    have e : i + 1 + k = i + (k + 1) := Nat.add_right_comm i 1 k
    rw [compareLoop, getE_of_lt _ hia, getE_of_lt _ hib, List.drop_eq_getElem_cons hia, List.drop_eq_getElem_cons hib,
      lexCmp]
    dsimp only
    by_cases h1 : a[i] < b[i]
    · rw [if_pos h1, if_pos h1]
    · rw [if_neg h1, if_neg h1]
      by_cases h2 : a[i] > b[i]
      · rw [if_pos h2, if_pos h2]
      · rw [if_neg h2, if_neg h2]
        exact ih (i + 1) (e ▸ ha) (e ▸ hb) (e ▸ hor)

theorem compareArrays_eq (a b : Bytes) : compareArrays a b = .ok (lexCmp a b) := by
  have h := compareLoop_drop a b (min a.length b.length) 0
  rw [Nat.zero_add] at h
  exact h (Nat.min_le_left ..) (Nat.min_le_right ..) ((Nat.le_total a.length b.length).imp Nat.min_eq_left Nat.min_eq_right)

def SortedLe (tests : List Bytes) : Prop := tests.Pairwise (fun a b => bytesLe a b = true)

theorem SortedLe.le_of_le {tests : List Bytes} (hs : SortedLe tests) {i j : Nat} (hij : i ≤ j) (hj : j < tests.length) :
    bytesLe (tests[i]'(Nat.lt_of_le_of_lt hij hj)) tests[j] = true := by
  rcases Nat.lt_or_eq_of_le hij with h | h
  · exact (List.pairwise_iff_getElem.mp hs) i j (Nat.lt_trans h hj) hj h
  · subst h; exact bytesLe_refl _

/-- loop invariant of the binary search for `v`: the window stays inside the list, everything to its left is smaller
    than `v`, everything to its right larger -/
def BSInv (tests : List Bytes) (v : Bytes) (s : BS) : Prop :=
  0 ≤ s.start ∧ s.stop < (tests.length : Int) ∧
  (s.found = true → v ∈ tests) ∧
  (∀ (j : Nat) (h : j < tests.length), (j : Int) < s.start → lexCmp v tests[j] = 1) ∧
  (∀ (j : Nat) (h : j < tests.length), s.stop < (j : Int) → lexCmp v tests[j] = -1)

/-- variant: the width of the remaining window (0 once found) -/
def bsMu (s : BS) : Nat := if s.found then 0 else (s.stop - s.start + 1).toNat

theorem bs_step (tests : List Bytes) (v : Bytes) (hs : SortedLe tests) (s : BS)
    (hI : BSInv tests v s) (hg : bsGuard s = true) :
    ∃ s', bsBody tests v s = .ok s' ∧ BSInv tests v s' ∧ bsMu s' < bsMu s := by
  obtain ⟨h0, hstop, hf, hlo, hhi⟩ := hI
  simp only [bsGuard, Bool.and_eq_true, decide_eq_true_eq, Bool.not_eq_true'] at hg
  obtain ⟨hle, hnf⟩ := hg
  -- the midpoint is an index `m` with `start ≤ m ≤ stop`; nothing else about the division is used
  obtain ⟨m, hm, hm1, hm2⟩ : ∃ m : Nat, (s.start + s.stop) / 2 = (m : Int) ∧ s.start ≤ m ∧ (m : Int) ≤ s.stop := by
    have hq : s.start ≤ (s.start + s.stop) / 2 ∧ (s.start + s.stop) / 2 ≤ s.stop := by omega
    obtain ⟨m, hm⟩ := Int.eq_ofNat_of_zero_le (Int.le_trans h0 hq.1)
    exact ⟨m, hm, hm ▸ hq⟩
  have hmlt : m < tests.length := Int.ofNat_lt.mp (Int.lt_of_le_of_lt hm2 hstop)
  have hbody : bsBody tests v s = if lexCmp v tests[m] == 0 then .ok { s with found := true }
      else if lexCmp v tests[m] == 1 then .ok { s with start := m + 1 } else .ok { s with stop := m - 1 } := by
    simp only [bsBody, hm, Int.not_lt.mpr (Int.natCast_nonneg m), if_false, Int.toNat_natCast, getE_of_lt _ hmlt,
      compareArrays_eq]
  have hmu : bsMu s = (s.stop - s.start + 1).toNat := by simp only [bsMu, hnf, Bool.false_eq_true, if_false]
  rw [hbody, hmu]
  clear hbody hmu hm
  have hw : 0 < s.stop - s.start + 1 := Int.lt_add_one_iff.mpr (Int.sub_nonneg_of_le hle)
  rcases lexCmp_range v tests[m] with hc | hc | hc <;> rw [hc]
  · -- `v < tests[m]`: everything from `m` on is too large
    refine ⟨_, rfl, ⟨h0, Int.sub_one_lt_iff.mpr (Int.ofNat_le.mpr (Nat.le_of_lt hmlt)), hf, hlo, fun j hj hjs => ?_⟩, by
        simp only [bsMu, hnf, Bool.false_eq_true, if_false]
        exact (Int.toNat_lt_toNat hw).mpr
          (Int.add_lt_add_right (Int.sub_lt_sub_right (Int.sub_one_lt_iff.mpr hm2) _) _)⟩
    exact lexCmp_lt_of_lt_of_le hc (hs.le_of_le (Int.ofNat_le.mp (Int.sub_one_lt_iff.mp hjs)) hj)
  · exact ⟨_, rfl, ⟨h0, hstop, fun _ => lexCmp_eq_zero.mp hc ▸ List.getElem_mem hmlt, hlo, hhi⟩,
      by simp only [bsMu, if_true]; exact Int.pos_iff_toNat_pos.mp hw⟩
  · -- `v > tests[m]`: everything up to `m` is too small
    refine ⟨_, rfl, ⟨Int.le_add_one (Int.natCast_nonneg m), hstop, hf, fun j hj hjs => ?_, hhi⟩, by
        simp only [bsMu, hnf, Bool.false_eq_true, if_false]
        exact (Int.toNat_lt_toNat hw).mpr
          (Int.add_lt_add_right (Int.sub_lt_sub_left (Int.lt_add_one_iff.mpr hm1) _) _)⟩
    exact lexCmp_gt_of_gt_of_le hc (hs.le_of_le (Int.ofNat_le.mp (Int.lt_add_one_iff.mp hjs)) hmlt)

/-- the fuel `tests.length` of the model's `while` is enough: the window shrinks in every iteration (`bsMu`) -/
theorem isinRow_eq (tests : List Bytes) (v : Bytes) (hs : SortedLe tests) :
    isinRow tests v = .ok (decide (v ∈ tests)) := by
  have hinit : BSInv tests v ⟨0, (tests.length : Int) - 1, false⟩ :=
    ⟨Int.le_refl 0, Int.sub_one_lt_iff.mpr (Int.le_refl _), nofun,
      fun j _ h => absurd (Int.natCast_nonneg j) (Int.not_le.mpr h),
      fun j h h' => absurd (Int.ofNat_lt.mpr h) (Int.not_lt.mpr (Int.sub_one_lt_iff.mp h'))⟩
  obtain ⟨s', hw, ⟨_, _, hf, hlo, hhi⟩, hg⟩ := whileE_rule bsGuard (bsBody tests v) (BSInv tests v) bsMu
    (bs_step tests v hs) tests.length _ hinit (by simp [bsMu])
  rw [isinRow, hw]
  refine congrArg Except.ok ?_
  cases hfd : s'.found with
  | true => exact (decide_eq_true (hf hfd)).symm
  | false =>
    -- the window is empty: every entry is left or right of it, hence different from `v`
    have hgt : s'.stop < s'.start := by
      simpa only [bsGuard, hfd, Bool.not_false, Bool.and_true, decide_eq_false_iff_not, Int.not_le] using hg
    refine (decide_eq_false fun hmem => ?_).symm
    obtain ⟨j, hj, rfl⟩ := List.getElem_of_mem hmem
    have hself := lexCmp_self tests[j]
    by_cases hc : (j : Int) < s'.start
    · rw [hlo j hj hc] at hself
      cases hself
    · rw [hhi j hj (Int.lt_of_lt_of_le hgt (Int.not_lt.mp hc))] at hself
      cases hself

theorem isinLoop_encode (tests : List Bytes) (col : List Bytes) (hs : SortedLe tests) :
    ∀ (k i : Nat) (acc : List Bool), i + k = col.length →
      isinLoop tests (encode col).1 (encode col).2 col.length k i acc
        = .ok (acc ++ (col.drop i).map (fun v => decide (v ∈ tests))) := by
  intro k
  induction k with
  | zero =>
    intro i acc h
    rw [Nat.add_zero] at h
    rw [isinLoop, h, List.drop_length, List.map_nil, List.append_nil]
  | succ k ih =>
    intro i acc h
    have hi : i < col.length := lt_of_add_succ_eq h
    obtain ⟨lo, hi', h1, h2, h3, _⟩ := encode_row col i hi
    rw [isinLoop, h1, h2]
    simp only [h3, isinRow_eq tests _ hs, hi, if_true]
    rw [ih (i + 1) _ (succ_add_of_add_succ h), List.drop_eq_getElem_cons hi]
    simp only [List.map_cons, List.append_assoc, List.singleton_append]

theorem isinSpeedup_encode (tests col : List Bytes) (hs : SortedLe tests) :
    isinSpeedup tests (encode col).1 (encode col).2 = .ok (Spec.isin col tests) := by
  unfold isinSpeedup
  rw [encode_rows, isinLoop_encode tests col hs col.length 0 [] (Nat.zero_add _)]
  simp [Spec.isin]

theorem isin_congr {col t₁ t₂ : List Bytes} (h : ∀ x, x ∈ t₁ ↔ x ∈ t₂) : Spec.isin col t₁ = Spec.isin col t₂ :=
  List.map_congr_left fun x _ => by rw [Bool.eq_iff_iff, List.contains_iff_mem, List.contains_iff_mem, h]

theorem isin_nil (col : List Bytes) : Spec.isin col [] = List.replicate col.length false := by
  simp [Spec.isin, List.map_const']

theorem sortedStr_sorted (xs : List Bytes) : SortedLe (sortedStr xs) :=
  List.pairwise_mergeSort bytesLe_trans bytesLe_total xs

theorem mem_sortedStr {xs : List Bytes} {v : Bytes} : v ∈ sortedStr xs ↔ v ∈ xs :=
  (List.mergeSort_perm xs bytesLe).mem_iff

end Exetera.Unique
