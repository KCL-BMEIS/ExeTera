import Exetera.Model.IndexedWriter
import Exetera.Lemmas.Offsets
/-!
  The two indexed readers on a well-formed field (`indices = offsets xs`, `values = xs.flatten`).

  The bytes between the offsets of the entries `a` and `b` are the concatenation of `xs[a:b]`, and the offsets in that
  window are those of `xs[a:b]` counted from the first of them: a window of a well-formed field is a well-formed field
  behind a start index, and that is what `cutFrom` cuts into entries.
-/
namespace Exetera.IndexedWriter

open Exetera Exetera.Spec

/-- bytes before entry `i` -/
def off {β} (xs : List (List β)) (i : Nat) : Nat := (xs.take i).flatten.length

theorem off_add {β} (xs : List (List β)) (a k : Nat) : off xs (a + k) = off xs a + off (xs.drop a) k := by
  unfold off
  rw [List.take_add, List.flatten_append, List.length_append]

theorem off_slice {β} (xs : List (List β)) (a b k : Nat) (hk : k ≤ b - a) :
    off xs (a + k) = off xs a + off (slice xs a b) k := by
  rw [off_add, slice]
  unfold off
  rw [List.take_take, Nat.min_eq_left hk]

theorem drop_flatten_off {β} (xs : List (List β)) (i : Nat) : xs.flatten.drop (off xs i) = (xs.drop i).flatten := by
  have h : xs.flatten = (xs.take i).flatten ++ (xs.drop i).flatten := by rw [← List.flatten_append, List.take_append_drop]
  rw [h, off, List.drop_left' rfl]

theorem take_flatten_off {β} (xs : List (List β)) (i : Nat) : xs.flatten.take (off xs i) = (xs.take i).flatten := by
  have h : xs.flatten = (xs.take i).flatten ++ (xs.drop i).flatten := by rw [← List.flatten_append, List.take_append_drop]
  rw [h, off, List.take_left' rfl]

theorem slice_flatten_off {β} (xs : List (List β)) (a b : Nat) (hab : a ≤ b) :
    slice xs.flatten (off xs a) (off xs b) = (slice xs a b).flatten := by
  have hb : off xs b = off xs a + off (xs.drop a) (b - a) := by rw [← off_add, Nat.add_sub_cancel' hab]
  rw [slice, drop_flatten_off, hb, Nat.add_sub_cancel_left, take_flatten_off]
  rfl

theorem slice_flatten_entry {β} (xs : List (List β)) (i : Nat) (h : i < xs.length) :
    slice xs.flatten (off xs i) (off xs (i + 1)) = xs[i] := by
  rw [slice_flatten_off xs i (i + 1) (Nat.le_succ i), slice, Nat.add_sub_cancel_left, List.drop_eq_getElem_cons h,
    List.take_succ_cons, List.take_zero, List.flatten_cons, List.flatten_nil, List.append_nil]

theorem getE_offsets {β} (xs : List (List β)) (i : Nat) (site : String) (h : i ≤ xs.length) :
    getE (offsets xs) i site = .ok (off xs i) := by
  rw [getE_eq_ok, offsets_getElem? xs i h]; rfl

theorem getE_window {β} (xs : List (List β)) (a b k : Nat) (site : String) (hk : a + k ≤ b) (hb : b ≤ xs.length) :
    getE (slice (offsets xs) a (b + 1)) k site = .ok (off xs (a + k)) := by
  rw [getE_eq_ok, slice_getElem?, if_pos (by omega), offsets_getElem? xs (a + k) (by omega)]; rfl

theorem cutFrom_entries (ys : List Bytes) (index : List Nat) (s : Nat)
    (hidx : ∀ i (site : String), i ≤ ys.length → getE index i site = .ok (s + off ys i)) :
    ∀ (k ir : Nat), ir + k ≤ ys.length → cutFrom index ys.flatten s ir k = .ok ((ys.drop ir).take k)
  | 0, _, _ => by rw [cutFrom, List.take_zero]
  | k + 1, ir, h => by
    have hi : ir < ys.length := by omega
    have hge : ∀ x, decide (s + x < s) = false := fun x => decide_eq_false (Nat.not_lt.mpr (Nat.le_add_right s x))
    simp only [cutFrom, hidx ir _ (Nat.le_of_lt hi), hidx (ir + 1) _ hi, hge, Bool.or_false, Bool.false_eq_true,
      if_false, Nat.add_sub_cancel_left, slice_flatten_entry ys ir hi, cutFrom_entries ys index s hidx k (ir + 1) (by omega)]
    rw [List.drop_eq_getElem_cons hi, List.take_succ_cons]

/-- `data[a:b]` on a well-formed field, either reader -/
theorem getSlice_wellformed (writeable : Bool) (xs : List Bytes) (a b : Nat) (hab : a ≤ b) (hb : b ≤ xs.length) :
    getSlice writeable (offsets xs) xs.flatten a b = .ok ((pySlice xs a b).map some) := by
  have hlen : (slice (offsets xs) a (b + 1)).length = b - a + 1 := by
    rw [slice_length, length_offsets, Nat.min_eq_left (Nat.sub_le_sub_right (Nat.succ_le_succ hb) a), Nat.succ_sub hab]
  have hys : (slice xs a b).length = b - a := by rw [slice_length, Nat.min_eq_left (Nat.sub_le_sub_right hb a)]
  have eL := getE_window xs a b (b - a) "index[-1]" (by omega) hb
  rw [Nat.add_sub_cancel' hab] at eL
  have hcut := cutFrom_entries (slice xs a b) (slice (offsets xs) a (b + 1)) (off xs a)
    (fun i site hi => by rw [getE_window xs a b i site (by omega) hb, off_slice xs a b i (by omega)])
    (b - a) 0 (by omega)
  rw [List.drop_zero, List.take_of_length_le (Nat.le_of_eq hys)] at hcut
  have hne : (b - a + 1 == 0) = false := rfl
  simp only [getSlice, hlen, Nat.add_sub_cancel, hne, Bool.and_false, Bool.false_eq_true, if_false, getE_window xs a b 0 "index[0]" (by omega) hb, Nat.add_zero, eL, getE_offsets xs a "indices[start]" (by omega),
    Nat.min_self, ite_self, slice_flatten_off xs a b hab, hcut, Nat.sub_self, List.replicate_zero, List.append_nil]
  rfl

/-- `data[:]` on a well-formed field, either reader -/
theorem getAll_wellformed (writeable : Bool) (xs : List Bytes) :
    getAll writeable (offsets xs) xs.flatten = .ok (xs.map some) := by
  have h := getSlice_wellformed writeable xs 0 xs.length (Nat.zero_le _) (Nat.le_refl _)
  rw [pySlice, List.drop_zero, Nat.sub_zero, List.take_of_length_le (Nat.le_refl _)] at h
  simp only [getAll, length_offsets, Nat.add_one_ne_zero, beq_iff_eq, if_false, Nat.add_sub_cancel, h]

theorem slice_pair {α} {l : List α} {i : Nat} {x y : α} (h0 : l[i]? = some x) (h1 : l[i + 1]? = some y) :
    slice l i (i + 2) = [x, y] := by
  obtain ⟨hi, rfl⟩ := List.getElem?_eq_some_iff.mp h0
  obtain ⟨hi1, rfl⟩ := List.getElem?_eq_some_iff.mp h1
  rw [slice, Nat.add_sub_cancel_left, List.drop_eq_getElem_cons hi, List.drop_eq_getElem_cons hi1]
  rfl

/-- `data[i]` on a well-formed field -/
theorem getItem_wellformed (xs : List Bytes) (i : Nat) (h : i < xs.length) :
    getItem (offsets xs) xs.flatten i = .ok xs[i] := by
  have hge : ¬ ((i : Int) ≥ ((offsets xs).length : Int) - 1) := by rw [length_offsets]; omega
  simp only [getItem, if_neg hge, slice_pair (offsets_getElem? xs i (Nat.le_of_lt h)) (offsets_getElem? xs (i + 1) h)]
  have hent : slice xs.flatten (off xs i) (off xs (i + 1)) = xs[i] := slice_flatten_entry xs i h
  unfold off at hent
  split
  · rename_i heq
    rw [← hent, eq_of_beq heq, slice, Nat.sub_self, List.take_zero]
  · rw [hent]

end Exetera.IndexedWriter
