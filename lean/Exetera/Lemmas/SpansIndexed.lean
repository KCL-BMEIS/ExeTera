import Exetera.Lemmas.LexOrder
import Exetera.Lemmas.SpansApply
import Exetera.Lemmas.SpansScan
/-! `apply_spans_index_of_min_indexed` / `…_max_indexed` (with fix D18) return, for every span, the first
    lexicographically minimal / maximal row, and never read outside `indices` / `values`.

    Both kernels are the same scan: keep the number of the best row so far and replace it when the current row is
    strictly better.  `firstBest` is that scan on the decoded rows for an arbitrary strict total order (`StrictTotal`, given
    as a Boolean relation so that `max` is `min` for the reversed relation and needs no proofs of its own); the kernels'
    byte loop is the decision procedure of `lexLt`. -/
namespace Exetera.Spans

open Exetera Exetera.Spec

def cmpPrefix : List Nat → List Nat → Cmp
  | c :: cs, m :: ms => if c < m then .curLess else if c > m then .curGreater else cmpPrefix cs ms
  | _, _ => .notFound

/-- entered at position `k`, with `n` positions left until the shorter of `values[cs:ce]`, `values[ms:me]` ends -/
theorem cmpLoop_eq (values : List Nat) (cs ce ms me : Nat) (hc : ce ≤ values.length) (hm : me ≤ values.length) :
    ∀ n k, cs + k + n ≤ ce → ms + k + n ≤ me → (cs + k + n = ce ∨ ms + k + n = me) →
      cmpLoop values cs ms n k = .ok (cmpPrefix (slice values (cs + k) ce) (slice values (ms + k) me))
  | 0, k, _, _, h => by
    rcases h with h | h
    · rw [← h, Nat.add_zero, slice_self]; rfl
    · rw [← h, Nat.add_zero, slice_self]
      cases slice values (cs + k) ce <;> rfl
  | n + 1, k, h1, h2, h => by
    have hck : cs + k < ce := by omega
    have hmk : ms + k < me := by omega
    have hck' : cs + k < values.length := Nat.lt_of_lt_of_le hck hc
    have hmk' : ms + k < values.length := Nat.lt_of_lt_of_le hmk hm
    rw [cmpLoop, getE_of_lt _ hck', getE_of_lt _ hmk']
    simp only []
    rw [slice_cons values (cs + k) ce hck' hck, slice_cons values (ms + k) me hmk' hmk, cmpPrefix]
    split
    · rfl
    · split
      · rfl
      · exact cmpLoop_eq values cs ce ms me hc hm n (k + 1) (by omega) (by omega) (by omega)

theorem cmpLoop_eq_zero (values : List Nat) (cs ce ms me : Nat) (hcs : cs ≤ ce) (hc : ce ≤ values.length) (hms : ms ≤ me)
    (hm : me ≤ values.length) :
    cmpLoop values cs ms (min (ce - cs) (me - ms)) 0 = .ok (cmpPrefix (slice values cs ce) (slice values ms me)) :=
  cmpLoop_eq values cs ce ms me hc hm _ 0 (by omega) (by omega) (by omega)

theorem lexLt_of_cmpPrefix : ∀ (c m : List Nat),
    (lexLt c m = match cmpPrefix c m with
      | .curLess => true
      | .curGreater => false
      | .notFound => decide (c.length < m.length)) ∧
    (lexLt m c = match cmpPrefix c m with
      | .curLess => false
      | .curGreater => true
      | .notFound => decide (m.length < c.length))
  | [], [] => ⟨rfl, rfl⟩
  | [], _ :: _ => by simp [lexLt, cmpPrefix]
  | _ :: _, [] => by simp [lexLt, cmpPrefix]
  | c :: cs, m :: ms => by
    rw [cmpPrefix]
    rcases Nat.lt_trichotomy c m with h | rfl | h
    · have h' : ¬ m < c := by omega
      have h'' : ¬ m = c := by omega
      simp [lexLt, h, h', h'']
    · simpa [lexLt] using lexLt_of_cmpPrefix cs ms
    · have h' : ¬ c < m := by omega
      have h'' : ¬ c = m := by omega
      simp [lexLt, h, h', h'']

theorem getE_getD {α} (xs : List α) (i : Nat) (d : α) (site : String) (h : i < xs.length) :
    getE xs i site = .ok (xs.getD i d) := by
  rw [getE_of_lt site h, List.getD_eq_getElem?_getD, List.getElem?_eq_getElem h, Option.getD_some]

theorem getElem?_eq_some_getD {α} (xs : List α) (i : Nat) (d : α) (h : i < xs.length) : xs[i]? = some (xs.getD i d) := by
  rw [List.getD_eq_getElem?_getD, List.getElem?_eq_getElem h, Option.getD_some]

/-- no bound on `j` is needed: past the end both sides are empty -/
theorem getD_decodeRows (indices values : List Nat) (j : Nat) :
    (decodeRows indices values).getD j [] = slice values (indices.getD j 0) (indices.getD (j + 1) 0) := by
  by_cases hj : j + 1 < indices.length
  · rw [List.getD_eq_getElem?_getD, getElem?_decodeRows indices values j hj, Option.getD_some,
      List.getD_eq_getElem?_getD, List.getD_eq_getElem?_getD, List.getElem?_eq_getElem hj,
      List.getElem?_eq_getElem (by omega : j < indices.length)]
    rfl
  · have h1 : (decodeRows indices values)[j]? = none := by
      rw [List.getElem?_eq_none_iff, decodeRows_length]; omega
    have h2 : indices[j + 1]? = none := by rw [List.getElem?_eq_none_iff]; omega
    simp [List.getD_eq_getElem?_getD, h1, h2, slice]

theorem ValidIndex.le {indices values : List Nat} (hv : ValidIndex indices values) {j : Nat} (hj : j + 1 < indices.length) :
    indices.getD j 0 ≤ indices.getD (j + 1) 0 ∧ indices.getD (j + 1) 0 ≤ values.length := by
  rw [List.getD_eq_getElem?_getD, List.getD_eq_getElem?_getD, List.getElem?_eq_getElem hj,
    List.getElem?_eq_getElem (by omega : j < indices.length)]
  exact ⟨List.pairwise_iff_getElem.1 hv.1 j (j + 1) (by omega) hj (by omega), hv.2 _ (List.getElem_mem hj)⟩

def rowSt (indices : List Nat) (i : Nat) : MinSt :=
  ⟨i, indices.getD i 0, indices.getD (i + 1) 0 - indices.getD i 0⟩

theorem cmpLoop_rows {indices values : List Nat} (hv : ValidIndex indices values) {j i : Nat}
    (hj : j + 1 < indices.length) (hi : i + 1 < indices.length) :
    cmpLoop values (indices.getD j 0) (indices.getD i 0)
        (min (indices.getD (j + 1) 0 - indices.getD j 0) (indices.getD (i + 1) 0 - indices.getD i 0)) 0 =
      .ok (cmpPrefix ((decodeRows indices values).getD j []) ((decodeRows indices values).getD i [])) := by
  rw [getD_decodeRows, getD_decodeRows]
  exact cmpLoop_eq_zero values _ _ _ _ (hv.le hj).1 (hv.le hj).2 (hv.le hi).1 (hv.le hi).2

theorem length_getD_decodeRows {indices values : List Nat} (hv : ValidIndex indices values) {j : Nat}
    (hj : j + 1 < indices.length) :
    ((decodeRows indices values).getD j []).length = indices.getD (j + 1) 0 - indices.getD j 0 := by
  rw [getD_decodeRows, slice_length]
  have := hv.le hj
  omega

def IsFirstBest (lt : List Nat → List Nat → Bool) (rows : List (List Nat)) (a b r : Nat) : Prop :=
  a ≤ r ∧ r < b ∧ ∃ row, rows[r]? = some row ∧
    (∀ t s, a ≤ t → t < b → rows[t]? = some s → lt s row = false) ∧
    (∀ t s, a ≤ t → t < r → rows[t]? = some s → lt row s = true)

theorem isFirstMinIn_iff (rows : List (List Nat)) (a b r : Nat) : IsFirstMinIn rows a b r ↔ IsFirstBest lexLt rows a b r :=
  Iff.rfl

theorem isFirstMaxIn_iff (rows : List (List Nat)) (a b r : Nat) :
    IsFirstMaxIn rows a b r ↔ IsFirstBest (fun x y => lexLt y x) rows a b r := Iff.rfl

def firstBest (lt : List Nat → List Nat → Bool) (rows : List (List Nat)) : (n j mi : Nat) → Nat
  | 0, _, mi => mi
  | n + 1, j, mi => firstBest lt rows n (j + 1) (if lt (rows.getD j []) (rows.getD mi []) then j else mi)

section
variable {lt : List Nat → List Nat → Bool} (hlt : StrictTotal lt) (rows : List (List Nat)) (cur : Nat)
include hlt

theorem isFirstBest_single (h : cur < rows.length) : IsFirstBest lt rows cur (cur + 1) cur := by
  refine ⟨Nat.le_refl _, Nat.lt_succ_self _, _, getElem?_eq_some_getD rows cur [] h, ?_, ?_⟩
  · intro t s h1 h2 hs
    obtain rfl : t = cur := by omega
    rw [getElem?_eq_some_getD rows t [] h] at hs
    injection hs with hs
    rw [← hs]; exact hlt.irrefl _
  · intro t s h1 h2; omega

theorem isFirstBest_step {j mi : Nat} (hcj : cur ≤ j) (hj : j < rows.length) (hinv : IsFirstBest lt rows cur j mi) :
    IsFirstBest lt rows cur (j + 1) (if lt (rows.getD j []) (rows.getD mi []) then j else mi) := by
  obtain ⟨h1, h2, m, hm, hall, hbefore⟩ := hinv
  have hc := getElem?_eq_some_getD rows j [] hj
  rw [getElem?_eq_some_getD rows mi [] (by omega)] at hm
  injection hm with hm
  rw [hm]
  have hprev : ∀ t s, t < j + 1 → rows[t]? = some s → t ≠ j → t < j := fun t s ht _ hne => by omega
  cases hlt' : lt (rows.getD j []) m with
  | true =>
    show IsFirstBest lt rows cur (j + 1) j
    refine ⟨hcj, Nat.lt_succ_self _, _, hc, ?_, ?_⟩
    · intro t s ht1 ht2 hs
      by_cases htj : t = j
      · rw [htj, hc] at hs; injection hs with hs; rw [← hs]; exact hlt.irrefl _
      · exact hlt.asymm (hlt.lt_of_lt_of_not_lt hlt' (hall t s ht1 (hprev t s ht2 hs htj) hs))
    · intro t s ht1 ht2 hs
      exact hlt.lt_of_lt_of_not_lt hlt' (hall t s ht1 ht2 hs)
  | false =>
    show IsFirstBest lt rows cur (j + 1) mi
    refine ⟨h1, by omega, m, by rw [← hm]; exact getElem?_eq_some_getD rows mi [] (by omega), ?_, hbefore⟩
    intro t s ht1 ht2 hs
    by_cases htj : t = j
    · rw [htj, hc] at hs; injection hs with hs; rw [← hs]; exact hlt'
    · exact hall t s ht1 (hprev t s ht2 hs htj) hs

theorem firstBest_spec : ∀ n j mi, j + n ≤ rows.length → cur ≤ j → IsFirstBest lt rows cur j mi →
    IsFirstBest lt rows cur (j + n) (firstBest lt rows n j mi)
  | 0, _, _, _, _, hinv => hinv
  | n + 1, j, mi, hlen, hcj, hinv => by
    rw [firstBest, ← Nat.add_assoc, Nat.add_right_comm]
    exact firstBest_spec n (j + 1) _ (by omega) (by omega) (isFirstBest_step hlt rows cur hcj (by omega) hinv)

theorem firstBest_span {next : Nat} (h1 : cur < next) (h2 : next ≤ rows.length) :
    IsFirstBest lt rows cur next (firstBest lt rows (next - (cur + 1)) (cur + 1) cur) := by
  have := firstBest_spec hlt rows cur (next - (cur + 1)) (cur + 1) cur (by omega) (by omega)
    (isFirstBest_single hlt rows cur (by omega))
  rwa [show cur + 1 + (next - (cur + 1)) = next by omega] at this

end

section
variable {indices values : List Nat} (hv : ValidIndex indices values)
include hv

theorem minIdxLoop_eq : ∀ n j mi, j + n + 1 ≤ indices.length → mi + 1 < indices.length →
    minIdxLoop .repaired indices values n j (rowSt indices mi) =
      .ok (firstBest lexLt (decodeRows indices values) n j mi)
  | 0, _, _, _, _ => rfl
  | n + 1, j, mi, hlen, hmi => by
    have hj : j + 1 < indices.length := by omega
    have ih := fun mi' h => minIdxLoop_eq n (j + 1) mi' (by omega) h
    rw [minIdxLoop, getE_getD _ _ 0 _ (by omega : j < indices.length), getE_getD _ _ 0 _ hj]
    simp only [rowSt, beq_self_eq_true, if_true]
    rw [cmpLoop_rows hv hj hmi, firstBest, (lexLt_of_cmpPrefix _ _).1, length_getD_decodeRows hv hj,
      length_getD_decodeRows hv hmi]
    cases cmpPrefix ((decodeRows indices values).getD j []) ((decodeRows indices values).getD mi []) with
    | curLess => exact ih j hj
    | curGreater => exact ih mi hmi
    | notFound =>
      simp only []
      split
      · rw [decide_eq_true ‹_›]; exact ih j hj
      · rw [decide_eq_false ‹_›]; exact ih mi hmi

theorem maxIdxLoop_eq : ∀ n j mi, j + n + 1 ≤ indices.length → mi + 1 < indices.length →
    maxIdxLoop indices values n j (rowSt indices mi) =
      .ok (firstBest (fun x y => lexLt y x) (decodeRows indices values) n j mi)
  | 0, _, _, _, _ => rfl
  | n + 1, j, mi, hlen, hmi => by
    have hj : j + 1 < indices.length := by omega
    have ih := fun mi' h => maxIdxLoop_eq n (j + 1) mi' (by omega) h
    rw [maxIdxLoop, getE_getD _ _ 0 _ (by omega : j < indices.length), getE_getD _ _ 0 _ hj]
    simp only [rowSt]
    rw [cmpLoop_rows hv hj hmi, firstBest, (lexLt_of_cmpPrefix _ _).2, length_getD_decodeRows hv hj,
      length_getD_decodeRows hv hmi]
    cases cmpPrefix ((decodeRows indices values).getD j []) ((decodeRows indices values).getD mi []) with
    | curLess => exact ih mi hmi
    | curGreater => exact ih j hj
    | notFound =>
      simp only [gt_iff_lt]
      split
      · rw [decide_eq_true ‹_›]; exact ih j hj
      · rw [decide_eq_false ‹_›]; exact ih mi hmi

variable (cur next : Nat) (h1 : cur < next) (h2 : next + 1 ≤ indices.length)
include h1 h2

theorem spanIndexOfMinIndexed_eq :
    spanIndexOfMinIndexed .repaired indices values cur next =
      .ok ((firstBest lexLt (decodeRows indices values) (next - (cur + 1)) (cur + 1) cur : Nat) : Int) := by
  unfold spanIndexOfMinIndexed
  split
  · rw [show next - (cur + 1) = 0 by simp_all]; rfl
  · rw [getE_getD _ _ 0 _ (by omega : cur < indices.length), getE_getD _ _ 0 _ (by omega : cur + 1 < indices.length)]
    have h := minIdxLoop_eq hv (next - (cur + 1)) (cur + 1) cur (by omega) (by omega)
    simp only [rowSt] at h
    simp only [h]

theorem spanIndexOfMaxIndexed_eq :
    spanIndexOfMaxIndexed indices values cur next =
      .ok ((firstBest (fun x y => lexLt y x) (decodeRows indices values) (next - (cur + 1)) (cur + 1) cur : Nat) : Int) := by
  unfold spanIndexOfMaxIndexed
  split
  · rw [show next - (cur + 1) = 0 by simp_all]; rfl
  · rw [getE_getD _ _ 0 _ (by omega : cur < indices.length), getE_getD _ _ 0 _ (by omega : cur + 1 < indices.length)]
    have h := maxIdxLoop_eq hv (next - (cur + 1)) (cur + 1) cur (by omega) (by omega)
    simp only [rowSt] at h
    simp only [h]

omit h1 h2 in
theorem applySpansIndexOfMinIndexed_eq (sp : List Nat) (h : Wellformed sp (indices.length - 1)) :
    applySpansIndexOfMinIndexed .repaired sp indices values = .ok ((pairs sp).map fun p =>
      ((firstBest lexLt (decodeRows indices values) (p.2 - (p.1 + 1)) (p.1 + 1) p.1 : Nat) : Int)) :=
  forSpans_eq_map _ _ sp (wellformed_ne_nil h) fun p hp =>
    have hw := pairs_wellformed h p hp
    spanIndexOfMinIndexed_eq hv p.1 p.2 hw.1 (by omega)

omit h1 h2 in
theorem applySpansIndexOfMaxIndexed_eq (sp : List Nat) (h : Wellformed sp (indices.length - 1)) :
    applySpansIndexOfMaxIndexed sp indices values = .ok ((pairs sp).map fun p =>
      ((firstBest (fun x y => lexLt y x) (decodeRows indices values) (p.2 - (p.1 + 1)) (p.1 + 1) p.1 : Nat) : Int)) :=
  forSpans_eq_map _ _ sp (wellformed_ne_nil h) fun p hp =>
    have hw := pairs_wellformed h p hp
    spanIndexOfMaxIndexed_eq hv p.1 p.2 hw.1 (by omega)

theorem spanIndexOfMinIndexed_spec :
    ∃ v, spanIndexOfMinIndexed .repaired indices values cur next = .ok v ∧
      ∃ k : Nat, v = (k : Int) ∧ IsFirstMinIn (decodeRows indices values) cur next k :=
  ⟨_, spanIndexOfMinIndexed_eq hv cur next h1 h2, _, rfl,
    (isFirstMinIn_iff ..).2 (firstBest_span lexLt_strictTotal _ cur h1 (by rw [decodeRows_length]; omega))⟩

theorem spanIndexOfMaxIndexed_spec :
    ∃ v, spanIndexOfMaxIndexed indices values cur next = .ok v ∧
      ∃ k : Nat, v = (k : Int) ∧ IsFirstMaxIn (decodeRows indices values) cur next k :=
  ⟨_, spanIndexOfMaxIndexed_eq hv cur next h1 h2, _, rfl,
    (isFirstMaxIn_iff ..).2 (firstBest_span lexLt_strictTotal.flip _ cur h1 (by rw [decodeRows_length]; omega))⟩

end

end Exetera.Spans
