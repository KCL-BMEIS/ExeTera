import Exetera.Lemmas.GenKernelsSpansIdxMinIndexed
/-!
  The TRANSLATED `apply_spans_index_of_max_indexed` refines the hand model `Spans.applySpansIndexOfMaxIndexed` for every span
  array, every value array and every offset array that never decreases (see GenKernelsSpansIdxMinIndexed for why the hypothesis
  is needed, and for the plan of the proof).
-/
namespace Exetera.GenK

open Exetera Exetera.PyRt Exetera.Spans Exetera.Gen.Kernels

def maxIdxStep (indices values : List Nat) (j : Nat) (st : MinSt) : Except Err MinSt :=
  bindE (getE indices j "src_indices[j]") fun a =>
  bindE (getE indices (j + 1) "src_indices[j+1]") fun b =>
  bindE (cmpLoop values a st.minstart (min (b - a) st.minlen) 0) fun c =>
  .ok (match c with
    | .curGreater => ⟨j, a, b - a⟩
    | .curLess => st
    | .notFound => if b - a > st.minlen then ⟨j, a, b - a⟩ else st)

theorem maxIdxLoop_succ (indices values : List Nat) (n j : Nat) (st : MinSt) :
    maxIdxLoop indices values (n + 1) j st = bindE (maxIdxStep indices values j st) (maxIdxLoop indices values n (j + 1)) := by
  rw [maxIdxLoop, maxIdxStep]
  cases getE indices j "src_indices[j]" with
  | error e => rfl
  | ok a =>
    cases getE indices (j + 1) "src_indices[j+1]" with
    | error e => rfl
    | ok b =>
      dsimp only [bindE_ok]
      cases cmpLoop values a st.minstart (min (b - a) st.minlen) 0 with
      | error e => rfl
      | ok c =>
        cases c
        · rfl
        · rfl
        · dsimp only [bindE_ok]; split <;> rfl

theorem spanIndexOfMaxIndexed_eq (indices values : List Nat) (cur next : Nat) :
    spanIndexOfMaxIndexed indices values cur next = if next == cur + 1 then .ok (cur : Int) else
      bindE (getE indices cur "src_indices[cur]") fun a =>
      bindE (getE indices (cur + 1) "src_indices[cur+1]") fun b =>
      bindE (maxIdxLoop indices values (next - (cur + 1)) (cur + 1) ⟨cur, a, b - a⟩) fun r => .ok (r : Int) := by
  rw [spanIndexOfMaxIndexed]
  split
  · rfl
  · cases getE indices cur "src_indices[cur]" with
    | error e => rfl
    | ok a =>
      cases getE indices (cur + 1) "src_indices[cur+1]" with
      | error e => rfl
      | ok b => dsimp only [bindE_ok]; cases maxIdxLoop indices values (next - (cur + 1)) (cur + 1) ⟨cur, a, b - a⟩ <;> rfl

namespace MaxIdx

abbrev St := apply_spans_index_of_max_indexed.St

/-- the state after the byte loop `for k in range(shortlen)`, by its outcome; `k'` is where the loop counter stops -/
def after (s : St) (k' : Int) : Cmp → St
  | .curGreater => { s with v3 := s.v7, v4 := s.v8, v6 := s.v9 - s.v8, v12 := true, brk3 := true, v13 := k' }
  | .curLess => { s with v12 := true, brk3 := true, v13 := k' }
  | .notFound => { s with v13 := k' }

theorem body3_sim (values : List Nat) (cs ms k : Nat) :
    ∀ s : St, s.p2 = ints values → s.v8 = (cs : Int) → s.v4 = (ms : Int) →
      Follows (fun s' r => s' = match r with | some b => after s k (Cmp.ofLess b) | none => { s with v13 := k })
        (apply_spans_index_of_max_indexed.body_L3 { s with v13 := k }) (cmpStep values cs ms k) := by
  rintro ⟨⟩ rfl rfl rfl
  simp only [apply_spans_index_of_max_indexed.body_L3, idxE_nat_add, cmpStep]
  refine Follows.getE_ints _ _ _ _ fun c hc => ?_
  refine Follows.getE_ints _ _ _ _ fun m hm => ?_
  simp only [getE_ints _ _ _ hc, getE_ints _ _ _ hm, bindE_ok, Int.ofNat_lt, decide_eq_true_eq, gt_iff_lt]
  rcases Nat.lt_trichotomy c m with h | rfl | h
  · simp only [h, Nat.lt_asymm h, if_true, if_false]; exact .ok rfl rfl
  · simp only [Nat.lt_irrefl, if_false]; exact .ok rfl rfl
  · simp only [h, Nat.lt_asymm h, if_true, if_false]; exact .ok rfl rfl

theorem cmp_sim (values : List Nat) (cs ms : Nat) :
    ∀ (n k : Nat) (s : St), s.p2 = ints values → s.v8 = (cs : Int) → s.v4 = (ms : Int) → s.brk3 = false →
      Follows (fun s' c => ∃ k', s' = after s k' c)
        (forRangeAux (fun s => s.brk3) (fun k s => apply_spans_index_of_max_indexed.body_L3 { s with v13 := k }) n (k : Int) s)
        (cmpLoop values cs ms n k) := by
  intro n
  induction n with
  | zero => intro k s _ _ _ _; exact .ok rfl ⟨s.v13, rfl⟩
  | succ n ih =>
    rintro k ⟨⟩ rfl rfl rfl rfl
    rw [forRangeAux_succ, cmpLoop_succ]
    refine (body3_sim values cs ms k _ rfl rfl rfl).bind fun s' r hs' => ?_
    subst hs'
    cases r with
    | some b => cases b <;> exact .ok rfl ⟨k, rfl⟩
    | none => exact (ih (k + 1) _ rfl rfl rfl rfl).mono fun s' c ⟨k', h⟩ => ⟨k', h.trans (by cases c <;> rfl)⟩

/-- what the row loop `for j in range(cur + 1, next)` keeps (inputs, destination, span number) and how its running maximum
    is held in the kernel's state -/
def Inv (sp indices values : List Nat) (dest : List Int) (k : Nat) (s : St) (st : MinSt) : Prop :=
  s.p0 = ints sp ∧ s.p1 = ints indices ∧ s.p2 = ints values ∧ s.p3 = dest ∧ s.v0 = (k : Int) ∧
    s.v3 = (st.minind : Int) ∧ s.v4 = (st.minstart : Int) ∧ s.v6 = (st.minlen : Int) ∧ s.brk3 = false

theorem body2_sim (sp indices values : List Nat) (hmono : NonDecreasing indices) (dest : List Int) (k : Nat) :
    ∀ (j : Nat) (s : St) (st : MinSt), Inv sp indices values dest k s st →
      Follows (Inv sp indices values dest k) (apply_spans_index_of_max_indexed.body_L2 { s with v7 := j })
        (maxIdxStep indices values j st) := by
  rintro j ⟨⟩ ⟨mi, ms, ml⟩ ⟨rfl, rfl, rfl, rfl, rfl, rfl, rfl, rfl, rfl⟩
  simp only [apply_spans_index_of_max_indexed.body_L2, idxE_nat, idxE_nat_succ, maxIdxStep]
  refine Follows.getE_ints _ _ _ _ fun a ha => ?_
  refine Follows.getE_ints _ _ _ _ fun b hb => ?_
  have hab := hmono j a b ha hb
  simp only [← Int.ofNat_sub hab, natCast_min, forRangeB_zero_nat, bindE_assoc, bindE_ok]
  refine (cmp_sim values a ms (min (b - a) ml) 0 _ rfl rfl rfl rfl).bind fun s' c ⟨k', hs'⟩ => ?_
  subst hs'
  cases c with
  | curLess => exact .ok rfl ⟨rfl, rfl, rfl, rfl, rfl, rfl, rfl, rfl, rfl⟩
  | curGreater => exact .ok rfl ⟨rfl, rfl, rfl, rfl, rfl, rfl, rfl, (Int.ofNat_sub hab).symm, rfl⟩
  | notFound =>
    simp only [after, Bool.not_false, Bool.true_and, decide_eq_true_eq, Int.ofNat_lt, gt_iff_lt, ← Int.ofNat_sub hab]
    split <;> exact .ok rfl ⟨rfl, rfl, rfl, rfl, rfl, rfl, rfl, rfl, rfl⟩

end MaxIdx

theorem apply_spans_index_of_max_indexed_refines (sp indices values : List Nat) (hmono : NonDecreasing indices) :
    Sim (apply_spans_index_of_max_indexed.run (ints sp) (ints indices) (ints values) none)
      (applySpansIndexOfMaxIndexed sp indices values) :=
  forSpans_sim sp (spanIndexOfMaxIndexed indices values)
    (fun k s => apply_spans_index_of_max_indexed.body_L1 { s with v0 := k })
    (fun d => ⟨ints sp, ints indices, ints values, d, 0, 0, 0, 0, 0, 0, 0, 0, 0, 0, 0, 0, false, 0, false⟩)
    (·.p3) (fun d s => s.p0 = ints sp ∧ s.p1 = ints indices ∧ s.p2 = ints values ∧ s.p3 = d ∧ s.brk3 = false)
    (by
      rintro k cur next _ ⟨_, _, _, dest, _, _, _, _, _, _, _, _, _, _, _, _, _, _, _⟩ hc hn ⟨rfl, rfl, rfl, rfl, rfl⟩ hk
      simp only [apply_spans_index_of_max_indexed.body_L1, idxE_ints_succ _ hn, idxE_ints _ hc, bindE_ok, sub_beq_one,
        spanIndexOfMaxIndexed_eq, idxE_nat, idxE_nat_succ]
      refine Follows.ite (fun _ => by rw [setIdxE_of_lt _ _ hk]; exact .ok rfl ⟨rfl, rfl, rfl, rfl, rfl⟩) fun _ => ?_
      refine Follows.getE_ints _ _ _ _ fun a ha => ?_
      refine Follows.getE_ints _ _ _ _ fun b hb => ?_
      rw [forRangeE_succ_nat, ← Int.ofNat_sub (hmono cur a b ha hb)]
      refine (forRange_follows (MaxIdx.Inv sp indices values dest k) _ (maxIdxLoop indices values)
        (maxIdxStep indices values) (·.minind) (fun _ _ => rfl) (maxIdxLoop_succ indices values)
        (MaxIdx.body2_sim sp indices values hmono dest k) _ _ _ ⟨cur, a, b - a⟩
        (by exact ⟨rfl, rfl, rfl, rfl, rfl, rfl, rfl, rfl, rfl⟩)).bind ?_
      rintro ⟨⟩ _ ⟨st, ⟨rfl, rfl, rfl, rfl, rfl, rfl, rfl, rfl, rfl⟩, rfl⟩
      rw [setIdxE_of_lt _ _ hk]
      exact .ok rfl ⟨rfl, rfl, rfl, rfl, rfl⟩)
    (fun _ => ⟨rfl, rfl, rfl, rfl, rfl⟩) (fun _ _ h => h.2.2.2.1)

end Exetera.GenK
