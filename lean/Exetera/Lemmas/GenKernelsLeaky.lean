import Exetera.Gen.Kernels
import Exetera.Model.Transforms
import Exetera.Spec.Transforms
import Exetera.Lemmas.GenKernels
import Exetera.Lemmas.GenKernelsSpans
import Exetera.Lemmas.GenKernelsCategorical
/-!
  The TRANSLATED `leaky_categorical_transform` (the three loops of `categorical_transform`, plus the free-text branch: a slice of
  `column_vals` assigned to a slice of `freetext_values`) against `Transforms.leakyTransform` — transfer form, for chunks whose row
  offsets never decrease (`NonDecreasingBelow c.rows c.inds`: the model computes the length of a free-text cell in `Nat`,
  truncated at 0, the code in signed arithmetic; the reader's chunks — `Encodes` — always satisfy it:
  `encodes_nonDecreasingBelow`).
-/
namespace Exetera.GenK

open Exetera Exetera.PyRt Exetera.Transforms Exetera.Gen.Kernels

/-- consecutive offsets never decrease at the rows below `n` (the rows a transform reads; later entries may be stale) -/
def NonDecreasingBelow (n : Nat) (xs : List Nat) : Prop :=
  ∀ j a b, j < n → xs[j]? = some a → xs[j + 1]? = some b → a ≤ b

namespace Leaky

abbrev St := leaky_categorical_transform.St

abbrev loop3 (n : Nat) (k : Int) (s : St) : Except Err St :=
  forRangeAux (fun s => s.brk3) (fun k s => leaky_categorical_transform.body_L3 { s with v9 := k }) n k s

abbrev loop2 (n : Nat) (k : Int) (s : St) : Except Err St :=
  forRangeAux (fun _ => false) (fun k s => leaky_categorical_transform.body_L2 { s with v6 := k }) n k s

abbrev loop1 (n : Nat) (k : Int) (s : St) : Except Err St :=
  forRangeAux (fun s => s.brk1) (fun k s => leaky_categorical_transform.body_L1 { s with v1 := k }) n k s

/-- the byte loop `for j in range(key_len)` -/
theorem key_sim (vals keys index : List Nat) (i lo P : Nat) (hlo : index[i]? = some lo) (s : St)
    (h5 : s.p5 = ints vals) (h7 : s.p7 = ints keys) (h8 : s.p8 = ints index) (hv6 : s.v6 = (i : Int))
    (hP : s.v0 + s.v2 = (P : Int)) (hb : s.brk3 = false) (r : Bool) (n j : Nat)
    (hr : keyEq vals keys n (P + j) (lo + j) = .ok r) :
    ∃ s', loop3 n (j : Int) s = .ok s' ∧ ∃ k' e', s' =
      if r then { s with v9 := k', v10 := e' } else { s with v8 := -1, brk3 := true, v9 := k', v10 := e' } := by
  refine forRangeAux_rule
    (fun n j t => (∃ k' e', t = { s with v9 := k', v10 := e' }) ∧ keyEq vals keys n (P + j) (lo + j) = .ok r) _ ?_ ?_
    n j s ⟨⟨s.v9, s.v10, rfl⟩, hr⟩
  · rintro j t ⟨⟨k', e', rfl⟩, h⟩
    cases h
    exact ⟨k', e', rfl⟩
  · rintro n j t ⟨⟨k', e', rfl⟩, h⟩
    simp only [keyEq] at h
    split at h
    · cases h
    · rename_i a ha
      split at h
      · cases h
      · rename_i b hb'
        rw [getE_eq_ok] at ha hb'
        simp only [leaky_categorical_transform.body_L3, hP, idxE_at hv6, idxE_nat_add, getE_ofNat h8 hlo, getE_ofNat h5 ha,
          getE_ofNat h7 hb', bindE_ok, natCast_bne]
        split at h
        · rename_i hab
          cases h
          simp only [hab, if_true]
          exact ⟨_, rfl, _, _, rfl⟩
        · rename_i hab
          simp only [hab, hb]
          exact ⟨_, rfl, ⟨_, _, rfl⟩, by simpa only [Nat.add_assoc] using h⟩

/-- what the key loop has stored into `freetext_indices[row + 1]` so far (`f` = `freetext_indices[row]`) -/
def applyIdx (idx : List Int) (row : Nat) (f : Int) : Option Int → List Int
  | none => idx
  | some _ => idx.set (row + 1) f

theorem applyIdx_length (idx : List Int) (row : Nat) (f : Int) (acc : Option Int) : (applyIdx idx row f acc).length = idx.length := by
  cases acc <;> simp [applyIdx]

theorem applyIdx_get (idx : List Int) (row : Nat) (f : Int) (acc : Option Int) (hf : idx[row]? = some f) :
    (applyIdx idx row f acc)[row]? = some f := by
  cases acc with
  | none => exact hf
  | some v => exact (List.getElem?_set_ne (by omega)).trans hf

theorem applyIdx_set (idx : List Int) (row : Nat) (f : Int) (acc : Option Int) (v : Int) :
    (applyIdx idx row f acc).set (row + 1) f = applyIdx idx row f (some v) := by
  cases acc <;> simp [applyIdx]

/-- the key loop `for i in range(len(cat_index) - 1)` -/
theorem scan_sim (bm : ByteMap) (vals : List Nat) (P row : Nat) (f : Int) (s : St) (h5 : s.p5 = ints vals)
    (h7 : s.p7 = ints bm.keys) (h8 : s.p8 = ints bm.index) (h9 : s.p9 = bm.values) (hP : s.v0 + s.v2 = (P : Int))
    (hv1 : s.v1 = (row : Int)) (hb : s.brk3 = false) (hrow : row < s.p0.length)
    (hrow1 : row + 1 < s.p1.length) (hf : s.p1[row]? = some f) (r : Option Int) (n : Nat)
    (hr : scanKeys bm vals P s.v4 n 0 none = .ok r) :
    ∃ s', loop2 n ((0 : Nat) : Int) s = .ok s' ∧ ∃ a b c d e, s' =
      { s with p0 := Cat.applyAcc s.p0 row r, p1 := applyIdx s.p1 row f r, v5 := r.isSome || s.v5, v6 := a, v7 := b, v8 := c,
               v9 := d, v10 := e } := by
  refine forRangeAux_rule
    (fun n i t => ∃ acc, (∃ a b c d e, t =
        { s with p0 := Cat.applyAcc s.p0 row acc, p1 := applyIdx s.p1 row f acc, v5 := acc.isSome || s.v5, v6 := a, v7 := b, v8 := c,
                 v9 := d, v10 := e }) ∧
      scanKeys bm vals P s.v4 n i acc = .ok r) _ ?_ ?_ n 0 s ⟨none, ⟨_, _, _, _, _, rfl⟩, hr⟩
  · rintro i t ⟨acc, ⟨a, b, c, d, e, rfl⟩, h⟩
    cases h
    exact ⟨a, b, c, d, e, rfl⟩
  · rintro n i t ⟨acc, ⟨a, b, c, d, e, rfl⟩, h⟩
    simp only [scanKeys] at h
    split at h
    · cases h
    · rename_i hi hhi
      split at h
      · cases h
      · rename_i lo hlo
        rw [getE_eq_ok] at hhi hlo
        simp only [leaky_categorical_transform.body_L2, idxE_nat, idxE_nat_succ, getE_ofNat h8 hhi, getE_ofNat h8 hlo, bindE_ok]
        split at h
        · rename_i hk
          simp only [hk, if_true]
          exact ⟨_, rfl, acc, ⟨_, _, _, _, _, rfl⟩, h⟩
        · rename_i hk
          simp only [hk, forRangeB_zero]
          cases hke : keyEq vals bm.keys s.v4.toNat P lo with
          | error e => rw [hke] at h; cases h
          | ok m =>
            obtain ⟨s', hrun, k', e', hs'⟩ := key_sim vals bm.keys bm.index i lo P hlo
              { s with p0 := Cat.applyAcc s.p0 row acc, p1 := applyIdx s.p1 row f acc, v5 := acc.isSome || s.v5, v6 := (i : Int),
                       v7 := (hi : Int) - (lo : Int), v8 := (i : Int), v9 := d, v10 := e }
              h5 h7 h8 rfl hP hb m s.v4.toNat 0 hke
            simp only [Bool.false_eq_true, if_false, hrun, bindE_ok]
            rw [hke] at h
            cases m
            · simp only [↓reduceIte, Bool.false_eq_true] at hs'
              subst hs'
              exact ⟨_, rfl, acc, ⟨_, _, _, _, _, by rw [hb]⟩, h⟩
            · simp only [↓reduceIte] at hs'
              subst hs'
              simp only at h
              split at h
              · cases h
              · rename_i v hv
                rw [getE_eq_ok] at hv
                simp only [idxE_nat, idxE_at hv1, setIdxE_at hv1, setIdxE_at (congrArg (· + 1) hv1), h9 ▸ getE_of_some _ hv,
                  bindE_ok, getE_of_some _ (applyIdx_get s.p1 row f acc hf),
                  setE_ok _ _ _ _ (show row < (Cat.applyAcc s.p0 row acc).length by rw [Cat.applyAcc_length]; exact hrow),
                  setE_ok _ _ _ _ (show row + 1 < (applyIdx s.p1 row f acc).length by rw [applyIdx_length]; exact hrow1),
                  Cat.applyAcc_set, applyIdx_set _ _ _ _ v]
                exact ⟨_, rfl, some v, ⟨_, _, _, _, _, by rw [hb]; rfl⟩, h⟩

/-- `dest[f : f + len src] = src` with the slice inside `dest`: numpy's rule (`setSliceE`) and the model's `sliceAssign` agree -/
theorem setSliceE_exact {α} (dest src : List α) (f : Nat) (h : f + src.length ≤ dest.length) :
    PyRt.setSliceE dest (some (f : Int)) (some ((f + src.length : Nat) : Int)) src
      = .ok (dest.take f ++ src ++ dest.drop (f + src.length)) := by
  have h1 : ¬ ((f : Int) < 0) := Int.not_lt.mpr (Int.natCast_nonneg f)
  have h2 : ¬ (((f + src.length : Nat) : Int) < 0) := Int.not_lt.mpr (Int.natCast_nonneg _)
  simp only [PyRt.setSliceE, normBound, h1, h2, if_false, Int.toNat_natCast]
  rw [Nat.min_eq_left (Nat.le_trans (Nat.le_add_right f src.length) h), Nat.min_eq_left h,
    Nat.max_eq_right (Nat.le_add_right f src.length), Nat.add_sub_cancel_left]
  simp only [broadcastTo, if_true]

theorem ints_append (a b : List Nat) : ints (a ++ b) = ints a ++ ints b := by simp [ints]
theorem ints_take (a : List Nat) (n : Nat) : ints (a.take n) = (ints a).take n := by simp [ints, List.map_take]
theorem ints_drop (a : List Nat) (n : Nat) : ints (a.drop n) = (ints a).drop n := by simp [ints, List.map_drop]

theorem natCast_add_sub (f : Nat) {a b : Nat} (h : a ≤ b) : (f : Int) + ((b : Int) - (a : Int)) = ((f + (b - a) : Nat) : Int) := by
  omega

/-- the row loop with its `break` against `leakyRows` (successful runs; row offsets that never decrease) -/
theorem rows_sim (bm : ByteMap) (c : Chunk) (N : Nat) (hmono : NonDecreasingBelow N c.inds) (s : St) (idx fvals : List Nat)
    (h1 : s.p1 = ints idx) (h2 : s.p2 = ints fvals) (h3 : s.p3 = (c.col : Int)) (h4 : s.p4[c.col]? = some (ints c.inds))
    (h5 : s.p5 = ints c.vals) (h7 : s.p7 = ints bm.keys) (h8 : s.p8 = ints bm.index) (h9 : s.p9 = bm.values)
    (hv0 : s.v0 = (c.off : Int)) (hb1 : s.brk1 = false) (hb3 : s.brk3 = false) (hN : s.p0.length ≤ N)
    (hlen : idx.length = s.p0.length + 1) (r : LeakyBuf) (n : Nat) (hr : leakyRows bm c n 0 ⟨s.p0, idx, fvals⟩ = .ok r) :
    ∃ s', loop1 n ((0 : Nat) : Int) s = .ok s' ∧ s'.p0 = r.chunk ∧ s'.p1 = ints r.ftIdx ∧ s'.p2 = ints r.ftVals := by
  refine forRangeAux_rule
    (fun n i t => ∃ st : LeakyBuf, (∃ a1 a2 a3 a4 a5 a6 a7 a8 a9 a10, t =
        { s with p0 := st.chunk, p1 := ints st.ftIdx, p2 := ints st.ftVals, v1 := a1, v2 := a2, v3 := a3, v4 := a4, v5 := a5,
                 v6 := a6, v7 := a7, v8 := a8, v9 := a9, v10 := a10 }) ∧
      st.chunk.length ≤ N ∧ st.ftIdx.length = st.chunk.length + 1 ∧ leakyRows bm c n i st = .ok r) _ ?_ ?_ n 0 s
    ⟨⟨s.p0, idx, fvals⟩, ⟨_, _, _, _, _, _, _, _, _, _, by rw [← h1, ← h2]⟩, hN, hlen, hr⟩
  · rintro i t ⟨st, ⟨a1, a2, a3, a4, a5, a6, a7, a8, a9, a10, rfl⟩, -, -, h⟩
    cases h
    exact ⟨rfl, rfl, rfl⟩
  · rintro n i t ⟨⟨chunk, idx, fvals⟩, ⟨a1, a2, a3, a4, a5, a6, a7, a8, a9, a10, rfl⟩, hN, hlen, h⟩
    simp only at hN hlen
    simp only [leakyRows, ge_iff_le] at h
    simp only [leaky_categorical_transform.body_L1, pyLen, ge_iff_le, Int.ofNat_le]
    split at h
    · rename_i hge
      cases h
      simp only [hge, decide_true, if_true, bindE_ok]
      exact ⟨_, rfl, rfl, rfl, rfl⟩
    · rename_i hge
      have hilt : i < chunk.length := Nat.lt_of_not_le hge
      have hi1 : i + 1 < idx.length := by rw [hlen]; exact Nat.succ_lt_succ hilt
      cases hm : matchRow bm c i with
      | error e => rw [hm] at h; cases h
      | ok x =>
        obtain ⟨s0, e0, m⟩ := x
        rw [hm] at h
        obtain ⟨hs0, he0, hsc⟩ := matchRow_eq_ok.mp hm
        simp only at h
        split at h
        · cases h
        · rename_i f hf
          rw [getE_eq_ok] at hf
          have hto : (((s.p8.length : Nat) : Int) - 1).toNat = bm.index.length - 1 := by
            rw [h8, ints_length]; exact toNat_natCast_sub_one _
          obtain ⟨s', hrun, b6, b7, b8, b9, b10, rfl⟩ := scan_sim bm c.vals (c.off + s0) i (f : Int)
            { s with p0 := chunk, p1 := ints idx, p2 := ints fvals, v1 := (i : Int), v2 := (s0 : Int), v3 := (e0 : Int),
                     v4 := (e0 : Int) - (s0 : Int), v5 := false, v6 := a6, v7 := a7, v8 := a8, v9 := a9, v10 := a10,
                     brk1 := false }
            h5 h7 h8 h9 (by rw [Int.natCast_add]; exact congrArg (· + _) hv0) rfl hb3 hilt
            (by rw [ints_length]; exact hi1) (getElem?_ints hf) m (bm.index.length - 1) hsc
          simp only [hge, decide_false, Bool.false_eq_true, if_false, bindE_ok, hb1, idxE_at h3, getE_of_some _ h4, idxE_nat,
            idxE_nat_succ, getE_map_ofNat _ _ _ hs0, getE_map_ofNat _ _ _ he0, forRangeE_zero, hto, hrun, Bool.or_false]
          cases m
          · simp only [Option.isSome_none, Bool.not_false, if_true, Cat.applyAcc, applyIdx, setIdxE_nat, setIdxE_nat_succ,
              setE_ok _ _ _ _ hilt, bindE_ok, getE_of_some _ (getElem?_ints hf),
              setE_ok _ _ _ _ (show i + 1 < (ints idx).length by rw [ints_length]; exact hi1)]
            have hse : s0 ≤ e0 := hmono i s0 e0 (Nat.lt_of_lt_of_le hilt hN) hs0 he0
            have hd : (f : Int) + ((e0 : Int) - (s0 : Int)) = ((f + (e0 - s0) : Nat) : Int) := natCast_add_sub f hse
            simp only [setE_ok _ _ _ _ hilt, setE_ok _ _ _ _ hi1, sliceE, sliceAssign] at h
            by_cases hsl : c.off + e0 ≤ c.vals.length
            · have hsrc : (slice c.vals (c.off + s0) (c.off + e0)).length = e0 - s0 :=
                (slice_length_of_le _ _ _ hsl).trans (Nat.add_sub_add_left ..)
              simp only [hsl, if_true, hsrc] at h
              by_cases hfit : f + (e0 - s0) ≤ fvals.length
              · simp only [hfit, if_true] at h
                have hss := setSliceE_exact (ints fvals) (ints (slice c.vals (c.off + s0) (c.off + e0))) f
                  (by rw [ints_length, ints_length, hsrc]; exact hfit)
                rw [ints_length, hsrc] at hss
                have e5 : s.v0 + (s0 : Int) = ((c.off + s0 : Nat) : Int) := by rw [hv0, Int.natCast_add]
                have e6 : s.v0 + (e0 : Int) = ((c.off + e0 : Nat) : Int) := by rw [hv0, Int.natCast_add]
                have hps : ∀ a b : Nat, pySlice s.p5 (some (a : Int)) (some (b : Int)) = ints (slice c.vals a b) :=
                  fun a b => by rw [h5, pySlice_nat, slice_ints]
                simp only [hd, ints_set, bindE_ok, e5, e6, hps, hss,
                  getE_of_some _ (getElem?_ints ((List.getElem?_set_ne (show i + 1 ≠ i by omega)).trans hf)),
                  getE_of_some _ (getElem?_ints (List.getElem?_set_self hi1))]
                exact ⟨_, rfl, _, ⟨_, _, _, _, _, _, _, _, _, _, by
                  simp only [ints_append, ints_take, ints_drop]; rfl⟩, by simpa using hN, by simpa using hlen, h⟩
              · simp only [hfit, if_false, reduceCtorEq] at h
            · simp only [hsl, if_false, reduceCtorEq] at h
          · simp only [setE_ok _ _ _ _ hilt, setE_ok _ _ _ _ hi1] at h
            simp only [Option.isSome_some, Bool.not_true, Bool.false_eq_true, if_false]
            exact ⟨_, rfl, _, ⟨_, _, _, _, _, _, _, _, _, _, by rw [← ints_set]; rfl⟩, by simpa using hN, by simpa using hlen, h⟩

end Leaky

/-- every `.ok` run of the model is a run of the translated kernel on the staging arrays that hold the chunk's column, started on
    the zero-filled buffers `LeakyCategoricalImporter.import_part` allocates, ending with the same three buffers -/
theorem leaky_categorical_transform_ok (bm : ByteMap) (c : Chunk) (cinds : List (List Int)) (coffs : List Int)
    (hst : Staged c cinds coffs) (hmono : NonDecreasingBelow c.rows c.inds) (r : LeakyBuf) (h : leakyTransform bm c = .ok r) :
    leaky_categorical_transform.run (List.replicate c.rows 0) (List.replicate (c.rows + 1) 0) (List.replicate c.cap 0)
      (c.col : Int) cinds (ints c.vals) coffs (ints bm.keys) (ints bm.index) bm.values
      = .ok (r.chunk, ints r.ftIdx, ints r.ftVals) := by
  unfold leakyTransform withCol at h
  split at h
  · cases h
  · split at h
    · cases h
    · obtain ⟨s', hrun, hp0, hp1, hp2⟩ := Leaky.rows_sim bm c c.rows hmono
        { p0 := List.replicate c.rows 0, p1 := List.replicate (c.rows + 1) 0, p2 := List.replicate c.cap 0, p3 := c.col,
          p4 := cinds, p5 := ints c.vals, p6 := coffs, p7 := ints bm.keys, p8 := ints bm.index, p9 := bm.values, v0 := c.off,
          v1 := 0, v2 := 0, v3 := 0, v4 := 0, v5 := false, v6 := 0, v7 := 0, v8 := 0, v9 := 0, v10 := 0, brk1 := false,
          brk3 := false }
        (List.replicate (c.rows + 1) 0) (List.replicate c.cap 0) (by simp [ints]) (by simp [ints]) rfl hst.hinds rfl rfl rfl rfl
        rfl rfl rfl (by simp) (by simp) r (c.inds.length - 1) h
      have hto : (pyLen (ints c.inds) - 1).toNat = c.inds.length - 1 := by
        rw [pyLen, ints_length]; exact toNat_natCast_sub_one _
      simp only [leaky_categorical_transform.run, idxE_nat, getE_of_some _ hst.hoff, getE_of_some _ hst.hinds, bindE_ok,
        forRangeB_zero, hto, hrun, hp0, hp1, hp2]

theorem encFrom_head (c : Chunk) (i s : Nat) (cells : List Bytes) (h : Spec.Transforms.EncFrom c i s cells) :
    c.inds[i]? = some s := by
  cases cells with
  | nil => exact h
  | cons cell rest => exact h.1

theorem encFrom_mono (c : Chunk) : ∀ (cells : List Bytes) (i s : Nat), Spec.Transforms.EncFrom c i s cells →
    ∀ j a b, i ≤ j → j < i + cells.length → c.inds[j]? = some a → c.inds[j + 1]? = some b → a ≤ b
  | [], i, s, _, j, a, b, h1, h2, _, _ => by simp at h2; omega
  | cell :: rest, i, s, h, j, a, b, h1, h2, ha, hb => by
    obtain ⟨hi, _, _, hrest⟩ := h
    by_cases hji : j = i
    · subst hji
      have hn := encFrom_head c (j + 1) (s + cell.length) rest hrest
      rw [hi] at ha
      rw [hn] at hb
      simp only [Option.some.injEq] at ha hb
      omega
    · exact encFrom_mono c rest (i + 1) (s + cell.length) hrest j a b (by omega) (by simp at h2; omega) ha hb

/-- a chunk the reader filled has non-decreasing row offsets at the rows it wrote -/
theorem encodes_nonDecreasingBelow (c : Chunk) (cells : List Bytes) (h : Spec.Transforms.Encodes c cells) :
    NonDecreasingBelow c.rows c.inds := by
  obtain ⟨s0, henc, _⟩ := h.enc
  intro j a b hj ha hb
  exact encFrom_mono c cells 0 s0 henc j a b (by omega) (by rw [← h.rows]; omega) ha hb

end Exetera.GenK
