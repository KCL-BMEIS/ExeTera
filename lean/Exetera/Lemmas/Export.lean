import Exetera.Model.Export
import Exetera.Spec.Export
import Exetera.Lemmas.While
import Exetera.Lemmas.JoinFlatDec
/-!
  C18, `to_csv`. Slicing every column at `[a, b)` slices the row list `zip(*cols)` at `[a, b)`, so the chunks the loop
  writes are consecutive pieces of one list of rows: the loop writes exactly `exportRows`, for every chunk size, in exactly
  `n/crs + 1` iterations.
-/
namespace Exetera.Export
open Exetera.Spec.Export

theorem minLen_eq_nRows {α} (cols : List (List α)) : minLen cols = nRows cols := by
  fun_induction minLen cols <;> simp_all [nRows]

theorem rowSelected_eq_keep (flt : Option (List Bool)) (j : Nat) : rowSelected flt j = keep flt j := by
  cases flt with
  | none => rfl
  | some xs =>
    simp only [rowSelected, keep]
    cases h : xs[j]? with
    | none => exact Bool.and_false _
    | some b => rw [decide_eq_true (List.getElem?_eq_some_iff.mp h).1, Bool.true_and]

theorem pyZip_eq {α} (cols : List (List α)) : pyZip cols = (List.range (minLen cols)).map (rowAt cols) := rfl

theorem pyZip_length {α} (cols : List (List α)) : (pyZip cols).length = minLen cols := by
  rw [pyZip_eq, List.length_map, List.length_range]

theorem minLen_cons_cons {α} (c d : List α) (ds : List (List α)) :
    minLen (c :: d :: ds) = min c.length (minLen (d :: ds)) := rfl

theorem minLen_le_head {α} (c : List α) (cs : List (List α)) : minLen (c :: cs) ≤ c.length := by
  cases cs with
  | nil => exact Nat.le_refl _
  | cons d ds => exact Nat.min_le_left _ _

theorem selectRows_nil {α} (flt : Option (List Bool)) (k : Nat) : selectRows flt ([] : List α) k = [] := rfl

section
variable {α : Type _} (flt : Option (List Bool))

theorem selectRows_append (xs ys : List α) (k : Nat) :
    selectRows flt (xs ++ ys) k = selectRows flt xs k ++ selectRows flt ys (k + xs.length) := by
  simp only [selectRows, List.zipIdx_append, List.filter_append, List.map_append]

theorem selectRows_map_range' (f : Nat → α) (n : Nat) :
    ∀ s, selectRows flt ((List.range' s n).map f) s = ((List.range' s n).filter (rowSelected flt)).map f := by
  induction n with
  | zero => intro s; rfl
  | succ n ih =>
    intro s
    have h := ih (s + 1)
    simp only [selectRows] at h
    simp only [List.range'_succ, List.map_cons, selectRows, List.zipIdx_cons, List.filter_cons]
    by_cases hs : rowSelected flt s = true
    · simp only [hs, if_true, List.map_cons, h]
    · simp only [hs]
      exact h

theorem selectRows_pyZip (cols : List (List α)) :
    selectRows flt (pyZip cols) 0 = exportRows cols flt := by
  have hk : rowSelected flt = keep flt := funext (rowSelected_eq_keep flt)
  rw [pyZip_eq, minLen_eq_nRows, List.range_eq_range', selectRows_map_range', exportRows, List.range_eq_range', hk]

theorem selectRows_take_append (R : List α) (a b : Nat) (hab : a ≤ b) :
    selectRows flt (R.take a) 0 ++ selectRows flt (slice R a b) a = selectRows flt (R.take b) 0 := by
  by_cases ha : a ≤ R.length
  · obtain ⟨k, rfl⟩ := Nat.exists_eq_add_of_le hab
    rw [List.take_add, selectRows_append, List.length_take, Nat.min_eq_left ha, Nat.zero_add, slice, Nat.add_sub_cancel_left]
  · have hR : R.length ≤ a := by omega
    rw [List.take_of_length_le hR, List.take_of_length_le (Nat.le_trans hR hab), slice, List.drop_of_length_le hR,
      List.take_nil, selectRows_nil, List.append_nil]

end

/-! ### slicing the columns slices the rows -/

theorem minLen_slice {α} (a b : Nat) : ∀ cols : List (List α),
    minLen (cols.map (fun c => slice c a b)) = min (b - a) (minLen cols - a)
  | [] => by simp only [List.map_nil, minLen, Nat.zero_sub, Nat.min_zero]
  | [c] => slice_length c a b
  | c :: d :: ds => by
    have ih := minLen_slice a b (d :: ds)
    rw [List.map_cons] at ih
    -- `omega` splits on every `min` and every truncated `-`: rewrite `min (min B x) (min B y)` to `min B (min x y)` instead
    rw [List.map_cons, List.map_cons, minLen_cons_cons, ih, minLen_cons_cons, slice_length, ← Nat.sub_min_sub_right,
      Nat.min_assoc, Nat.min_left_comm (c.length - a), ← Nat.min_assoc, Nat.min_self]

theorem rowAt_slice {α} (cols : List (List α)) (a b i : Nat) (h : i < b - a) :
    rowAt (cols.map (fun c => slice c a b)) i = rowAt cols (a + i) := by
  simp only [rowAt, List.filterMap_map, Function.comp_def, slice_getElem?, if_pos h]

theorem slice_map_range {β} (f : Nat → β) (n a b : Nat) :
    slice ((List.range n).map f) a b = (List.range (min (b - a) (n - a))).map (fun i => f (a + i)) := by
  rw [slice, ← List.map_drop, ← List.map_take, List.range_eq_range', List.drop_range', List.range'_eq_map_range,
    ← List.map_take, List.take_range, List.map_map, Nat.mul_one, Nat.zero_add]
  rfl

theorem pyZip_slice {α} (cols : List (List α)) (a b : Nat) :
    pyZip (cols.map (fun c => slice c a b)) = slice (pyZip cols) a b := by
  rw [pyZip_eq, pyZip_eq, slice_map_range, minLen_slice]
  apply List.map_congr_left
  intro i hi
  exact rowAt_slice cols a b i (Nat.lt_of_lt_of_le (List.mem_range.mp hi) (Nat.min_le_left _ _))

section
variable {c0 : List Cell} {rest : List (List Cell)} {flt : Option (List Bool)} {crs : Nat} {s : LoopSt}

theorem loopBody_last (h : c0.length - s.startRow < crs) :
    loopBody (c0 :: rest) flt crs s = .ok ⟨s.startRow,
      s.written ++ selectRows flt (slice (pyZip (c0 :: rest)) s.startRow (s.startRow + crs)) s.startRow, true⟩ := by
  have hlt : (slice c0 s.startRow (s.startRow + crs)).length < crs := by rw [slice_length]; omega
  rw [← pyZip_slice]
  simp only [loopBody, List.map_cons, List.getElem?_cons_zero, if_pos hlt]

theorem loopBody_next (h : crs ≤ c0.length - s.startRow) :
    loopBody (c0 :: rest) flt crs s = .ok ⟨s.startRow + crs,
      s.written ++ selectRows flt (slice (pyZip (c0 :: rest)) s.startRow (s.startRow + crs)) s.startRow, false⟩ := by
  have hlt : ¬ (slice c0 s.startRow (s.startRow + crs)).length < crs := by rw [slice_length]; omega
  rw [← pyZip_slice]
  simp only [loopBody, List.map_cons, List.getElem?_cons_zero, if_neg hlt]

theorem iterations_step {n a crs : Nat} (hcrs : 0 < crs) (h : crs ≤ n - a) : (n - (a + crs)) / crs + 1 = (n - a) / crs := by
  rw [Nat.sub_add_eq, ← Nat.div_eq_sub_div hcrs h]

def LoopInv (cols : List (List Cell)) (flt : Option (List Bool)) (s : LoopSt) : Prop :=
  s.written = selectRows flt (if s.done then pyZip cols else (pyZip cols).take s.startRow) 0

def loopMu (n0 crs : Nat) (s : LoopSt) : Nat := if s.done then 0 else (n0 - s.startRow) / crs + 1

theorem loopBody_step (hcrs : 0 < crs) (hI : LoopInv (c0 :: rest) flt s) (hg : loopGuard s = true) :
    ∃ s', loopBody (c0 :: rest) flt crs s = .ok s' ∧ LoopInv (c0 :: rest) flt s' ∧
      loopMu c0.length crs s' < loopMu c0.length crs s := by
  have hd : s.done = false := (Bool.not_eq_true' _).mp hg
  have hw : s.written ++ selectRows flt (slice (pyZip (c0 :: rest)) s.startRow (s.startRow + crs)) s.startRow
      = selectRows flt ((pyZip (c0 :: rest)).take (s.startRow + crs)) 0 := by
    rw [hI, hd, if_neg Bool.false_ne_true, selectRows_take_append _ _ _ _ (Nat.le_add_right _ _)]
  by_cases h : c0.length - s.startRow < crs
  · refine ⟨_, loopBody_last h, ?_, by simp only [loopMu, hd]; exact Nat.succ_pos _⟩
    have hlen : (pyZip (c0 :: rest)).length ≤ s.startRow + crs := by
      have := minLen_le_head c0 rest
      rw [pyZip_length]; omega
    rw [LoopInv, hw, List.take_of_length_le hlen]
    rfl
  · have h : crs ≤ c0.length - s.startRow := Nat.le_of_not_lt h
    refine ⟨_, loopBody_next h, hw, ?_⟩
    simp only [loopMu, hd, Bool.false_eq_true, if_false, iterations_step hcrs h]
    exact Nat.lt_succ_self _

end

/-- Functional correctness of the chunk loop, with memory safety and termination: for at least one column, every chunk size `crs ≥ 1` and
    any fuel of at least `len(first column)/crs + 1` iterations the loop ends normally having written exactly the
    rows `[row i | i < n, keep i]`. -/
theorem exportLoop_eq (cols : List (List Cell)) (flt : Option (List Bool)) (crs fuel : Nat)
    (hne : cols ≠ []) (hcrs : 0 < crs) (hfuel : loopFuel cols crs ≤ fuel) :
    exportLoop cols flt crs fuel = .ok (exportRows cols flt) := by
  match cols, hne with
  | c0 :: rest, _ =>
    obtain ⟨s', hw, hI', hg'⟩ := whileE_rule loopGuard (loopBody (c0 :: rest) flt crs) (LoopInv (c0 :: rest) flt)
      (loopMu c0.length crs) (fun _ => loopBody_step hcrs) fuel ⟨0, [], false⟩ rfl hfuel
    have hd : s'.done = true := (Bool.not_eq_false' _).mp hg'
    rw [LoopInv, hd, if_pos rfl, selectRows_pyZip] at hI'
    simp only [exportLoop, hw, hI']

/-- The iteration count is exact: with fewer than `len(first column)/crs + 1` iterations the loop has not finished. -/
theorem exportLoop_needs_fuel (c0 : List Cell) (rest : List (List Cell)) (flt : Option (List Bool)) (crs : Nat) (hcrs : 0 < crs) :
    ∀ (fuel : Nat) (s : LoopSt), s.done = false → fuel < (c0.length - s.startRow) / crs + 1 →
      whileE loopGuard (loopBody (c0 :: rest) flt crs) fuel s = .error .outOfFuel := by
  intro fuel
  induction fuel with
  | zero => intro s hd _; simp only [whileE, loopGuard, hd, Bool.not_false, if_true]
  | succ fuel ih =>
    intro s hd hlt
    have hge : crs ≤ c0.length - s.startRow := by
      apply Nat.le_of_not_lt
      intro h
      rw [Nat.div_eq_of_lt h] at hlt
      omega
    rw [← iterations_step hcrs hge] at hlt
    simp only [whileE, loopGuard, hd, Bool.not_false, if_true, loopBody_next hge]
    exact ih _ rfl (Nat.lt_of_succ_lt_succ hlt)

theorem mem_exportRows {cols : List (List Cell)} {flt : Option (List Bool)} {r : List Cell} {x : Cell}
    (hr : r ∈ exportRows cols flt) (hx : x ∈ r) : ∃ col ∈ cols, x ∈ col := by
  simp only [exportRows, List.mem_map, List.mem_filter] at hr
  obtain ⟨i, _, rfl⟩ := hr
  simp only [rowAt, List.mem_filterMap] at hx
  obtain ⟨col, hc, hget⟩ := hx
  exact ⟨col, hc, List.mem_of_getElem? hget⟩

/-- every cell `to_csv` writes, in the header or in a row, is the name or a datum of a column of the frame -/
theorem written_cells {f : Frame} {fields : List Column} {names : List Cell} {flt : Option (List Bool)} {P : Cell → Prop}
    (hnames : fields.map (·.name) = names) (hmem : ∀ c ∈ fields, c ∈ f) (hP : ∀ c ∈ f, P c.name ∧ ∀ x ∈ c.data, P x) :
    ∀ row ∈ names :: exportRows (fields.map (·.data)) flt, ∀ c ∈ row, P c := by
  intro row hrow c hc
  rcases List.mem_cons.mp hrow with rfl | hrow
  · rw [← hnames] at hc
    obtain ⟨col, hcol, rfl⟩ := List.mem_map.mp hc
    exact (hP col (hmem col hcol)).1
  · obtain ⟨col, hcol, hx⟩ := mem_exportRows hrow hc
    obtain ⟨fc, hfc, rfl⟩ := List.mem_map.mp hcol
    exact (hP fc (hmem fc hfc)).2 c hx

theorem map_map_eq_self {α} {r : α → α} {rows : List (List α)} (h : ∀ row ∈ rows, ∀ c ∈ row, r c = c) :
    rows.map (·.map r) = rows := by
  refine (List.map_congr_left fun row hrow => ?_).trans (List.map_id rows)
  exact (List.map_congr_left (h row hrow)).trans (List.map_id row)

/-- `cf` is a valid column selection of frame `f` and selects the names `sel` (in the caller's order, duplicates kept) -/
inductive Selects (f : Frame) : ColFilter → List Cell → Prop where
  | none : Selects f .none f.keys
  | one (n : Cell) : n ∈ f.keys → Selects f (.one n) [n]
  | many (ns : List Cell) : ns ≠ [] → (∀ n ∈ ns, n ∈ f.keys) → Selects f (.many ns) ns

/-- the selected names without the filter's own column (first occurrence), as `to_csv` writes them -/
def dropFilterColumn (rf : RowFilter) (sel : List Cell) : List Cell :=
  match filterColumnName rf with
  | some n => sel.erase n
  | Option.none => sel

theorem Selects.subset {f : Frame} {cf : ColFilter} {sel : List Cell} (h : Selects f cf sel) : ∀ n ∈ sel, n ∈ f.keys := by
  cases h with
  | none => intro n hn; exact hn
  | one n hn => intro m hm; rw [List.mem_singleton.mp hm]; exact hn
  | many ns _ hall => exact hall

theorem dropFilterColumn_subset (rf : RowFilter) (sel : List Cell) : ∀ n ∈ dropFilterColumn rf sel, n ∈ sel := by
  intro n hn
  unfold dropFilterColumn at hn
  split at hn
  · exact List.mem_of_mem_erase hn
  · exact hn

theorem csvNames_ok {f : Frame} {rf : RowFilter} {cf : ColFilter} {sel : List Cell} {flt : Option (List Bool)}
    (hsel : Selects f cf sel) (hflt : validateRowFilter rf = .ok flt) :
    csvNames f rf cf = .ok (dropFilterColumn rf sel) := by
  cases hsel with
  | none =>
    simp only [csvNames, hflt, dropFilterColumn]
    cases filterColumnName rf <;> rfl
  | one n hn =>
    simp only [csvNames, validateSelectedKeys, List.contains_iff_mem.mpr hn, if_true, hflt, dropFilterColumn]
    cases filterColumnName rf <;> rfl
  | many _ hne hall =>
    have hall' : sel.all f.keys.contains = true := List.all_eq_true.mpr fun n hn => List.contains_iff_mem.mpr (hall n hn)
    simp only [csvNames, validateSelectedKeys, List.isEmpty_iff, hne, hall', if_false, if_true, hflt, dropFilterColumn]
    cases filterColumnName rf <;> rfl

theorem get?_some {f : Frame} {n : Cell} {c : Column} (h : f.get? n = some c) : c.name = n ∧ c ∈ f :=
  ⟨by simpa using List.find?_some h, List.mem_of_find?_eq_some h⟩

theorem get?_of_mem_keys (f : Frame) (n : Cell) (h : n ∈ f.keys) : ∃ c, f.get? n = some c := by
  obtain ⟨c, hc, hn⟩ := List.mem_map.mp h
  exact Option.isSome_iff_exists.mp (List.find?_isSome.mpr ⟨c, hc, by simpa using hn⟩)

theorem getAll_ok (f : Frame) : ∀ (names : List Cell), (∀ n ∈ names, n ∈ f.keys) →
    ∃ fields, f.getAll names = .ok fields ∧ fields.map (·.name) = names ∧ ∀ c ∈ fields, c ∈ f
  | [], _ => ⟨[], rfl, rfl, fun _ h => nomatch h⟩
  | n :: ns, h => by
    obtain ⟨c, hc⟩ := get?_of_mem_keys f n (h n List.mem_cons_self)
    obtain ⟨cs, g1, g2, g3⟩ := getAll_ok f ns (fun m hm => h m (List.mem_cons_of_mem _ hm))
    refine ⟨c :: cs, by simp only [Frame.getAll, Frame.getE, hc, g1], by rw [List.map_cons, (get?_some hc).1, g2], ?_⟩
    intro x hx
    rcases List.mem_cons.mp hx with rfl | hx
    · exact (get?_some hc).2
    · exact g3 x hx

/-- `to_csv` for a positive chunk size, read without the loop: validate, fetch the columns, write the header and
    `exportRows`; with no column left to write, the `IndexError` at `chunk_data[0]`. The chunk size does not occur on the right. -/
theorem toCsv_of_pos (writerow : List Cell → List Char) (f : Frame) (rf : RowFilter) (cf : ColFilter) {crs : Int}
    (hcrs : 0 < crs) :
    toCsv writerow f rf cf crs =
      match csvNames f rf cf with
      | .error e => .error e
      | .ok names =>
        match validateRowFilter rf with
        | .error e => .error e
        | .ok flt =>
          match f.getAll names with
          | .error e => .error e
          | .ok fields =>
            if fields = [] then .error (.oob "chunk_data[0]")
            else .ok (writerow names ++ (exportRows (fields.map (·.data)) flt).flatMap writerow) := by
  simp only [toCsv, Int.not_le.mpr hcrs, if_false]
  cases csvNames f rf cf with
  | error e => rfl
  | ok names =>
    dsimp only
    cases validateRowFilter rf with
    | error e => rfl
    | ok flt =>
      dsimp only
      cases f.getAll names with
      | error e => rfl
      | ok fields =>
        dsimp only
        by_cases hf : fields = []
        · subst hf; rfl
        · rw [if_neg hf, exportLoop_eq _ flt _ _ (mt List.map_eq_nil_iff.mp hf) (Int.lt_toNat.mpr hcrs) (Nat.le_refl _)]

end Exetera.Export
