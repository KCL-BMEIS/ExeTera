import Exetera.Lemmas.CsvLines
/-! One iteration of `read_file_using_fast_csv_reader` from any state of the invariant `DI` (fresh window or resumed window,
    any buffers) (C05): it ends in one of the three outcomes of `StepOut`, each of which decreases the measure `mu`. -/
namespace Exetera.Csv
open Exetera Spec

/-- the part of a driver iteration that follows the kernel call (a copy of the text of `driverStep`) -/
def afterKernel (ncols : Nat) (indexMap : List Nat) (s : DS) (content : Bytes) (start : Nat) (o : KOut) : Except Err DS :=
  if o.written < 0 then .error (.valueError "no complete record in window")
  else
    match importAll o.inds o.vals s.offs o.written.toNat indexMap s.imps with
    | .error e => .error e
    | .ok imps =>
      let inds := if o.indsFull then zeros2 ncols (((o.inds.headD []).length - 1) * Gen.Csv.LARGER_FACTOR + 1) else o.inds
      let grow := o.valsFull && o.vfc.isSome
      let c := o.vfc.getD 0
      match (if grow then getE s.offs c "column_offsets[val_full_col_idx]" else .ok 0),
            (if grow then getE s.offs (c + 1) "column_offsets[val_full_col_idx+1]" else .ok 0) with
      | .error e, _ => .error e
      | _, .error e => .error e
      | .ok a, .ok b =>
        let offs := if grow then growOffs s.offs c ((b - a) * (Gen.Csv.LARGER_FACTOR - 1)) else s.offs
        let vals := if grow then List.replicate (offs.getLastD 0) 0 else o.vals
        let full := o.indsFull || o.valsFull
        if !full && o.nextPos == 0 then .error (.valueError "no complete record in window")
        else
          .ok { s with ci := if full then s.ci else s.ci + o.nextPos, hasHeader := false, rows := s.rows + o.written, inds := inds, vals := vals, offs := offs, indsFull := o.indsFull, valsFull := o.valsFull, content := content, start := if full then o.nextPos else start, imps := imps, calls := s.calls ++ [o.written] }

theorem driverStep_eq (file : Bytes) (w ncols : Nat) (im : List Nat) (s : DS) :
    driverStep file w ncols im s =
      (if (!s.indsFull && !s.valsFull) && (slice file s.ci (s.ci + w)).length == 0 then .ok { s with stop := true }
       else
         match fastCsvReader (if !s.indsFull && !s.valsFull then readWindow file s.ci w else s.content)
                 (if !s.indsFull && !s.valsFull then 0 else s.start) s.inds s.vals s.offs s.hasHeader with
         | .error e => .error e
         | .ok o => afterKernel ncols im s (if !s.indsFull && !s.valsFull then readWindow file s.ci w else s.content)
                      (if !s.indsFull && !s.valsFull then 0 else s.start) o) := by
  unfold driverStep afterKernel
  rfl

/-- the file and the import, without any assumption on the staging buffers -/
structure SettingR (file : Bytes) (crs ncols : Nat) (im : List Nat) (hrow : List Cell) (rows : List (List Cell)) :
    Prop where
  isFile : IsFile file (render (hrow :: rows))
  hdr : hrow.length = ncols ∧ ∀ c ∈ hrow, c.WF
  tab : ∀ r ∈ rows, r.length = ncols ∧ ∀ c ∈ r, c.WF
  nc : 0 < ncols
  crsPos : 0 < crs
  reg : ∀ l ∈ hrow :: rows, (renderCells l).length ≤ crs * Gen.Csv.CHUNK_ROW_FACTOR * ncols
  imOk : ∀ c ∈ im, c < ncols

/-- the driver between two kernel calls: the window starts at line `q`, `e ≥ q` lines (header line included) are consumed,
    the index buffer has `maxrow` rows; either the next call reads a fresh window (`e = q`) or it resumes inside the window
    that is held in `content`; importer `c` (the family `F`, see `ImpHom`) has consumed exactly the first `e - 1` records -/
structure DI (F : Nat → List Bytes → Imp) (file : Bytes) (w ncols : Nat) (im : List Nat) (hrow : List Cell) (rows : List (List Cell))
    (s : DS) (q e maxrow : Nat) : Prop where
  qe : q ≤ e
  el : e ≤ rows.length + 1
  ci : s.ci = bnd hrow rows q
  hh : s.hasHeader = (e == 0)
  rows_ : s.rows = ((e - 1 : Nat) : Int)
  stop : s.stop = false
  bud : ∀ c, c < ncols → offAt s.offs c < offAt s.offs (c + 1)
  maxpos : 0 < maxrow
  shape : Shape ncols maxrow s.offs s.inds s.vals
  zero : ∀ c, c < ncols → ∃ r, s.inds[c]? = some r ∧ r[0]? = some 0
  imps : s.imps = im.map (fun c => F c (doneCols rows (e - 1) c))
  win : (s.indsFull = false ∧ s.valsFull = false ∧ e = q) ∨
        ((s.indsFull || s.valsFull) = true ∧ 0 < e ∧ s.content = readWindow file (bnd hrow rows q) w ∧
          s.start = bnd hrow rows e - bnd hrow rows q ∧ bnd hrow rows q < file.length)
  inwin : bnd hrow rows e ≤ bnd hrow rows q + (readWindow file (bnd hrow rows q) w).length

theorem lines_len {ncols : Nat} {hrow : List Cell} {rows : List (List Cell)} (hhdr : hrow.length = ncols)
    (htab : ∀ r ∈ rows, r.length = ncols ∧ ∀ c ∈ r, c.WF) : ∀ r ∈ hrow :: rows, r.length = ncols :=
  List.forall_mem_cons.mpr ⟨hhdr, fun r hr => (htab r hr).1⟩

theorem lines_ne {ncols : Nat} {hrow : List Cell} {rows : List (List Cell)} (hnc : 0 < ncols) (hhdr : hrow.length = ncols)
    (htab : ∀ r ∈ rows, r.length = ncols ∧ ∀ c ∈ r, c.WF) : ∀ r ∈ hrow :: rows, r ≠ [] := by
  intro r hr h
  have := lines_len hhdr htab r hr
  rw [h] at this
  exact Nat.ne_of_gt hnc this.symm

/-- the window read at position `bq` of a file whose text from `bq` on is `pre`, then `H`, then the records `rest`, when
    `pre` lies in the window and `H` fits behind it: `pre`, `H`, complete records, then possibly the beginning of one more -/
theorem window_text {file T : Bytes} (hF : IsFile file T) (hTnl : T.getLast? = some NL) {bq w : Nat}
    (hlt : bq < file.length) {pre H : Bytes} {rest : List (List Cell)} (hdrop : T.drop bq = pre ++ (H ++ render rest))
    (hin : pre.length ≤ (readWindow file bq w).length) (hH : H.length ≤ w - pre.length)
    (hfit : pre = [] → H = [] → ∀ r0 rs, rest = r0 :: rs → (renderCells r0).length ≤ w) :
    ∃ rowsW nxt, readWindow file bq w = pre ++ ((H ++ render rowsW) ++ tailText nxt) ∧
      (∃ k, rowsW ++ tailRows nxt = rest.take k) ∧ rowsW = rest.take rowsW.length ∧
      (∀ r m, nxt = some (r, m) → m < (renderCells r).length ∧ r ∈ rest) ∧ (pre = [] → H = [] → rowsW ≠ []) := by
  have hTlen := isFile_length hF
  have hlen : T.length - bq = pre.length + (H.length + (render rest).length) := by
    have := congrArg List.length hdrop
    simpa using this
  by_cases hend : file.length ≤ bq + w
  · -- the window reaches the end of the file
    refine ⟨rest, none, by rw [readWindow_last hF hTnl hlt hend, hdrop]; simp [tailText],
      ⟨rest.length, by simp [tailRows]⟩, (List.take_length).symm, fun r m h => (by cases h), ?_⟩
    intro hp hh hnil
    rw [hp, hh, hnil] at hlen
    have hr0 : (render ([] : List (List Cell))).length = 0 := rfl
    simp only [List.length_nil, hr0] at hlen
    omega
  · -- the window ends inside the file
    have hwin := readWindow_inside hF (show bq + w < file.length by omega)
    have hwlen : (readWindow file bq w).length = w := by rw [hwin]; simp; omega
    rw [hwlen] at hin
    obtain ⟨w2, hw2⟩ : ∃ w2, w = pre.length + (H.length + w2) := ⟨w - pre.length - H.length, by omega⟩
    obtain ⟨a, r, m, hra, hsplit, hm, _, hpos1⟩ := window_split rest w2 (by omega)
    have hale : a < rest.length := lt_len_of_get hra
    refine ⟨rest.take a, some (r, m), ?_, ⟨a + 1, (take_succ_of_get hra).symm⟩, ?_, ?_, ?_⟩
    · rw [hwin, hdrop, hw2, take_len_add, take_len_add, hsplit]
      simp [tailText]
    · rw [List.length_take, Nat.min_eq_left (Nat.le_of_lt hale)]
    · intro r' m' h
      simp only [Option.some.injEq, Prod.mk.injEq] at h
      obtain ⟨h1, h2⟩ := h
      subst h1; subst h2
      exact ⟨hm, List.mem_of_getElem? hra⟩
    · intro hp hh hnil
      cases hrd : rest with
      | nil => rw [hrd] at hale; simp at hale
      | cons r0 rs =>
        have h0 := hfit hp hh r0 rs hrd
        rw [hp, hh] at hw2
        simp only [List.length_nil, Nat.zero_add] at hw2
        have := hpos1 r0 rs hrd (by omega)
        have hlen0 := congrArg List.length hnil
        rw [List.length_take, Nat.min_eq_left (Nat.le_of_lt hale)] at hlen0
        simp at hlen0
        omega

/-- the text of the window that starts at line `q`, seen from the end of line `e - 1`: the lines `q … e-1`, then (the header
    line,) complete records, then possibly the beginning of one more record -/
theorem window_decomp {file : Bytes} {crs ncols : Nat} {im : List Nat} {hrow : List Cell} {rows : List (List Cell)}
    (st : SettingR file crs ncols im hrow rows) {q e : Nat} (hqe : q ≤ e)
    (hlt : bnd hrow rows q < file.length)
    (hin : bnd hrow rows e ≤ bnd hrow rows q +
      (readWindow file (bnd hrow rows q) (crs * Gen.Csv.CHUNK_ROW_FACTOR * ncols)).length) :
    ∃ rowsW nxt,
      readWindow file (bnd hrow rows q) (crs * Gen.Csv.CHUNK_ROW_FACTOR * ncols) =
        render (((hrow :: rows).drop q).take (e - q)) ++
          (((if e = 0 then renderCells hrow else []) ++ render rowsW) ++ tailText nxt) ∧
      (∃ k, rowsW ++ tailRows nxt = (rows.drop (e - 1)).take k) ∧
      rowsW = (rows.drop (e - 1)).take rowsW.length ∧
      (∀ r m, nxt = some (r, m) → m < (renderCells r).length ∧ r ∈ rows) ∧
      (e = q → e ≠ 0 → rowsW ≠ []) := by
  have hTnl : (render (hrow :: rows)).getLast? = some NL :=
    render_getLast _ (by simp) (lines_ne st.nc st.hdr.1 st.tab)
  have hLsplit : (hrow :: rows).drop q = ((hrow :: rows).drop q).take (e - q) ++ (hrow :: rows).drop e := by
    have h := (List.take_append_drop (e - q) ((hrow :: rows).drop q)).symm
    rwa [List.drop_drop, show q + (e - q) = e by omega] at h
  have hdropq : (render (hrow :: rows)).drop (bnd hrow rows q) =
      render (((hrow :: rows).drop q).take (e - q)) ++
        ((if e = 0 then renderCells hrow else []) ++ render (rows.drop (e - 1))) := by
    rw [render_drop_bnd, hLsplit, render_append', render_lines_drop]
    congr 2
    rw [← hLsplit]
  have hprelen := bnd_sub hrow rows hqe
  have hpre0 : e = q → render (((hrow :: rows).drop q).take (e - q)) = [] := by
    intro heq
    rw [heq]; simp [render]
  have hH0 : e ≠ 0 → (if e = 0 then renderCells hrow else []) = [] := fun h => if_neg h
  obtain ⟨rowsW, nxt, hwin, hk, hW, hnxt, hprog⟩ :=
    window_text st.isFile hTnl hlt hdropq (by rw [hprelen]; omega)
      (by
        by_cases heq : e = q
        · rw [hpre0 heq]
          split
          · exact st.reg hrow (by simp)
          · exact Nat.zero_le _
        · rw [hH0 (by omega)]; exact Nat.zero_le _)
      (fun _ _ r0 rs hrd => st.reg r0 (List.mem_cons_of_mem _ (List.mem_of_mem_drop (by rw [hrd]; simp))))
  exact ⟨rowsW, nxt, hwin, hk, hW, fun r m h => ⟨(hnxt r m h).1, List.mem_of_mem_drop (hnxt r m h).2⟩,
    fun heq he0 => hprog (hpre0 heq) (hH0 he0)⟩

/-- what every successful iteration does to the driver state, whatever the flags of the kernel call -/
structure Stepped (s s' : DS) (o : KOut) (content : Bytes) (imps' : List Imp) : Prop where
  hasHeader : s'.hasHeader = false
  rows : s'.rows = s.rows + o.written
  indsFull : s'.indsFull = o.indsFull
  valsFull : s'.valsFull = o.valsFull
  content : s'.content = content
  imps : s'.imps = imps'
  stop : s'.stop = s.stop

theorem afterKernel_plain {ncols : Nat} {im : List Nat} {s : DS} {content : Bytes} {start : Nat} {o : KOut}
    {imps' : List Imp} (hw : ¬ o.written < 0)
    (himp : importAll o.inds o.vals s.offs o.written.toNat im s.imps = .ok imps')
    (hif : o.indsFull = false) (hvf : o.valsFull = false) (hnp : o.nextPos ≠ 0) :
    ∃ s', afterKernel ncols im s content start o = .ok s' ∧ Stepped s s' o content imps' ∧
      s'.ci = s.ci + o.nextPos ∧ s'.inds = o.inds ∧ s'.vals = o.vals ∧ s'.offs = s.offs := by
  have hnp0 : (o.nextPos == 0) = false := beq_false_of_ne hnp
  refine ⟨{ s with ci := s.ci + o.nextPos, hasHeader := false, rows := s.rows + o.written, inds := o.inds, vals := o.vals, indsFull := false, valsFull := false, content := content, start := start, imps := imps', calls := s.calls ++ [o.written] },
    ?_, ⟨rfl, rfl, hif.symm, hvf.symm, rfl, rfl, rfl⟩, rfl, rfl, rfl, rfl⟩
  simp only [afterKernel, hw, if_false, himp, hif, hvf, Bool.false_and, Bool.false_eq_true, Bool.or_self, Bool.not_false,
    Bool.true_and, hnp0]

theorem afterKernel_inds {ncols : Nat} {im : List Nat} {s : DS} {content : Bytes} {start : Nat} {o : KOut}
    {imps' : List Imp} (hw : ¬ o.written < 0)
    (himp : importAll o.inds o.vals s.offs o.written.toNat im s.imps = .ok imps')
    (hif : o.indsFull = true) (hvf : o.valsFull = false) :
    ∃ s', afterKernel ncols im s content start o = .ok s' ∧ Stepped s s' o content imps' ∧
      s'.ci = s.ci ∧ s'.inds = zeros2 ncols (((o.inds.headD []).length - 1) * Gen.Csv.LARGER_FACTOR + 1) ∧
      s'.vals = o.vals ∧ s'.offs = s.offs ∧ s'.start = o.nextPos := by
  refine ⟨{ s with hasHeader := false, rows := s.rows + o.written, inds := zeros2 ncols (((o.inds.headD []).length - 1) * Gen.Csv.LARGER_FACTOR + 1), vals := o.vals, indsFull := true, valsFull := false, content := content, start := o.nextPos, imps := imps', calls := s.calls ++ [o.written] },
    ?_, ⟨rfl, rfl, hif.symm, hvf.symm, rfl, rfl, rfl⟩, rfl, rfl, rfl, rfl, rfl⟩
  simp only [afterKernel, hw, if_false, himp, hif, hvf, Bool.false_and, Bool.false_eq_true, Bool.or_false, Bool.not_true,
    Bool.false_and, if_true]

theorem afterKernel_vals {ncols : Nat} {im : List Nat} {s : DS} {content : Bytes} {start : Nat} {o : KOut}
    {imps' : List Imp} {j a b : Nat} (hw : ¬ o.written < 0)
    (himp : importAll o.inds o.vals s.offs o.written.toNat im s.imps = .ok imps')
    (hif : o.indsFull = false) (hvf : o.valsFull = true) (hvfc : o.vfc = some j)
    (ha : s.offs[j]? = some a) (hb : s.offs[j + 1]? = some b) :
    ∃ s', afterKernel ncols im s content start o = .ok s' ∧ Stepped s s' o content imps' ∧
      s'.ci = s.ci ∧ s'.inds = o.inds ∧ s'.offs = growOffs s.offs j ((b - a) * (Gen.Csv.LARGER_FACTOR - 1)) ∧
      s'.vals = List.replicate (s'.offs.getLastD 0) 0 ∧ s'.start = o.nextPos := by
  have ha' : getE s.offs j "column_offsets[val_full_col_idx]" = .ok a := getE_eq_ok.mpr ha
  have hb' : getE s.offs (j + 1) "column_offsets[val_full_col_idx+1]" = .ok b := getE_eq_ok.mpr hb
  refine ⟨{ s with hasHeader := false, rows := s.rows + o.written, inds := o.inds, vals := List.replicate ((growOffs s.offs j ((b - a) * (Gen.Csv.LARGER_FACTOR - 1))).getLastD 0) 0, offs := growOffs s.offs j ((b - a) * (Gen.Csv.LARGER_FACTOR - 1)), indsFull := false, valsFull := true, content := content, start := o.nextPos, imps := imps', calls := s.calls ++ [o.written] },
    ?_, ⟨rfl, rfl, hif.symm, hvf.symm, rfl, rfl, rfl⟩, rfl, rfl, rfl, rfl, rfl⟩
  simp only [afterKernel, hw, if_false, himp, hif, hvf, hvfc, Option.isSome_some, Bool.and_self, Option.getD_some, if_true,
    ha', hb', Bool.false_or, Bool.not_true, Bool.false_and, Bool.false_eq_true]

theorem driverStep_call {file : Bytes} {w ncols : Nat} {im : List Nat} {hrow : List Cell} {rows : List (List Cell)}
    {F : Nat → List Bytes → Imp} {s : DS} {q e maxrow : Nat} (hinv : DI F file w ncols im hrow rows s q e maxrow)
    (hlt : bnd hrow rows q < file.length)
    (hw : 0 < w) :
    driverStep file w ncols im s =
      match fastCsvReader (readWindow file (bnd hrow rows q) w) (bnd hrow rows e - bnd hrow rows q) s.inds s.vals s.offs
              (e == 0) with
      | .error err => .error err
      | .ok o => afterKernel ncols im s (readWindow file (bnd hrow rows q) w) (bnd hrow rows e - bnd hrow rows q) o := by
  rw [driverStep_eq]
  rcases hinv.win with ⟨hif, hvf, heq⟩ | ⟨hfull, _, hcontent, hstart, _⟩
  · have hslice : ((slice file (bnd hrow rows q) (bnd hrow rows q + w)).length == 0) = false := by
      apply beq_false_of_ne
      simp [slice]
      omega
    have h0 : bnd hrow rows e - bnd hrow rows q = 0 := by rw [heq]; omega
    simp only [hif, hvf, Bool.not_false, Bool.and_self, if_true, hslice, Bool.false_eq_true, if_false, hinv.ci, hinv.hh, h0,
      Bool.and_false]
  · have hnf : (!s.indsFull && !s.valsFull) = false := by
      cases h1 : s.indsFull <;> cases h2 : s.valsFull <;> simp [h1, h2] at hfull ⊢
    simp only [hnf, Bool.false_and, Bool.false_eq_true, if_false, hcontent, hstart, hinv.hh]

def colBytes (rows : List (List Cell)) (c : Nat) : Nat := (column (values rows) c).flatten.length

/-- the termination measure of the driver loop: lines behind the window start, plus the index-buffer regrowths that may
    still happen, plus the value-buffer regrowths that may still happen per column -/
def mu (rows : List (List Cell)) (ncols : Nat) (offs : List Nat) (q maxrow : Nat) : Nat :=
  (rows.length + 1 - q) + need maxrow rows.length +
    sumTo (fun c => need (offAt offs (c + 1) - offAt offs c) (colBytes rows c)) ncols

theorem part_le (rows : List (List Cell)) (d k j : Nat) :
    (column (values ((rows.drop d).take k)) j).flatten.length ≤ colBytes rows j := by
  have h := column_part_le (rows.take d) ((rows.drop d).take k) ((rows.drop d).drop k) j
  rw [List.append_assoc, List.take_append_drop, List.take_append_drop] at h
  exact h

theorem column_part_subset (rows : List (List Cell)) (d k c : Nat) {cell : Bytes}
    (h : cell ∈ column (values ((rows.drop d).take k)) c) : cell ∈ column (values rows) c := by
  have hsub : ((rows.drop d).take k).Sublist rows := (List.take_sublist _ _).trans (List.drop_sublist _ _)
  have : (column (values ((rows.drop d).take k)) c).Sublist (column (values rows) c) := by
    unfold column values
    exact (hsub.map _).filterMap _
  exact this.subset h

theorem bnd_strict {ncols : Nat} {hrow : List Cell} {rows : List (List Cell)} (hnc : 0 < ncols)
    (hhdr : hrow.length = ncols) (htab : ∀ r ∈ rows, r.length = ncols ∧ ∀ c ∈ r, c.WF) {q e : Nat} (h : q < e)
    (he : e ≤ rows.length + 1) : bnd hrow rows q < bnd hrow rows e := by
  obtain ⟨m, rfl⟩ : ∃ m, e = q + (m + 1) := ⟨e - q - 1, by omega⟩
  rw [bnd_add]
  have hne : ((hrow :: rows).drop q).take (m + 1) ≠ [] := by
    intro hnil
    have := congrArg List.length hnil
    simp at this
    omega
  have := render_ne_nil_of hnc _ hne
    (fun l hl => lines_len hhdr htab l (List.mem_of_mem_drop (List.mem_of_mem_take hl)))
  omega

theorem head_len {ncols maxrow : Nat} {offs : List Nat} {inds : List (List Nat)} {vals : List Nat}
    (h : Shape ncols maxrow offs inds vals) (hnc : 0 < ncols) : (inds.headD []).length - 1 = maxrow := by
  cases hi : inds with
  | nil => have := h.indsLen; rw [hi] at this; simp at this; omega
  | cons r rest =>
    have := h.rowLen 0 r (by rw [hi]; rfl)
    simp [this]

theorem shape_zeros2 {ncols maxrow m : Nat} {offs : List Nat} {inds : List (List Nat)} {vals : List Nat}
    (h : Shape ncols maxrow offs inds vals) : Shape ncols m offs (zeros2 ncols (m + 1)) vals :=
  ⟨by simp [zeros2], fun _ _ => zeros2_rowLen, h.offsLen, h.offs0, h.mono, h.last⟩

theorem length_from {bq be : Nat} {pre X : Bytes} (h1 : pre.length = be - bq) (h2 : bq ≤ be) :
    (pre ++ X).length = be + X.length - bq := by
  rw [List.length_append]; omega

theorem within_window {bq be : Nat} {pre H RA RD T : Bytes} (h1 : pre.length = be - bq) (h2 : bq ≤ be) :
    be + (H ++ RA).length ≤ bq + (pre ++ ((H ++ (RA ++ RD)) ++ T)).length := by
  simp only [List.length_append]; omega

/-- The window that starts at line `q` is entered at the end of line `e - 1`, with any
    staging buffers (`maxrow ≥ 1` index rows, value budgets ≥ 1, stale contents allowed). The call stages a block of `a`
    complete records, the records `e-1 … e-1+a-1` of the file, strictly inside the value budgets, and resumes at the end of the
    last of them, still inside the window; and either no flag is raised and the window is done, or the index buffer is full with
    `a = maxrow` records, or the value budget of a column `j` is used up and is at most the bytes of column `j` in the file -/
theorem window_call {file : Bytes} {crs ncols : Nat} {im : List Nat} {hrow : List Cell} {rows : List (List Cell)}
    (st : SettingR file crs ncols im hrow rows) {q e maxrow : Nat} {offs : List Nat} {inds : List (List Nat)}
    {vals : List Nat} (hqe : q ≤ e) (hel : e ≤ rows.length + 1) (hlt : bnd hrow rows q < file.length)
    (hin : bnd hrow rows e ≤ bnd hrow rows q +
      (readWindow file (bnd hrow rows q) (crs * Gen.Csv.CHUNK_ROW_FACTOR * ncols)).length)
    (hsh : Shape ncols maxrow offs inds vals) (hmax : 0 < maxrow)
    (hz : ∀ c, c < ncols → ∃ r, inds[c]? = some r ∧ r[0]? = some 0)
    (hbud : ∀ c, c < ncols → offAt offs c < offAt offs (c + 1)) :
    ∃ (o : KOut) (a : Nat),
      fastCsvReader (readWindow file (bnd hrow rows q) (crs * Gen.Csv.CHUNK_ROW_FACTOR * ncols))
        (bnd hrow rows e - bnd hrow rows q) inds vals offs (e == 0) = .ok o ∧
      (e - 1) + a ≤ rows.length ∧ o.written = (a : Int) ∧
      o.nextPos = bnd hrow rows (nextE e a) - bnd hrow rows q ∧
      bnd hrow rows (nextE e a) ≤ bnd hrow rows q +
        (readWindow file (bnd hrow rows q) (crs * Gen.Csv.CHUNK_ROW_FACTOR * ncols)).length ∧
      Shape ncols maxrow offs o.inds o.vals ∧
      (∀ c, c < ncols → ColOK offs o.inds o.vals c (column (values ((rows.drop (e - 1)).take a)) c)) ∧
      (∀ c, c < ncols →
        offAt offs c + (column (values ((rows.drop (e - 1)).take a)) c).flatten.length < offAt offs (c + 1)) ∧
      (∀ c, c < ncols → (column (values ((rows.drop (e - 1)).take a)) c).length = a) ∧
      ((o.indsFull = false ∧ o.valsFull = false ∧ o.vfc = none ∧ q < nextE e a) ∨
       (o.indsFull = true ∧ o.valsFull = false ∧ a = maxrow) ∨
       (o.indsFull = false ∧ o.valsFull = true ∧ ∃ j, j < ncols ∧ o.vfc = some j ∧
          offAt offs (j + 1) - offAt offs j ≤ colBytes rows j)) := by
  obtain ⟨rowsW, nxt, hcontent, ⟨kk, hpart⟩, hrowsW, hnxt, hprog⟩ := window_decomp st hqe hlt hin
  generalize crs * Gen.Csv.CHUNK_ROW_FACTOR * ncols = w at hin hcontent ⊢
  have hprelen := bnd_sub hrow rows hqe
  have hH : (if (e == 0) = true then renderCells hrow else []) = (if e = 0 then renderCells hrow else []) := by simp
  have hWlen : (e - 1) + rowsW.length ≤ rows.length := by
    have := congrArg List.length hrowsW
    rw [List.length_take, List.length_drop] at this
    omega
  have htabW : ∀ r ∈ rowsW, r.length = ncols ∧ ∀ c ∈ r, c.WF := by
    intro r hr
    rw [hrowsW] at hr
    exact st.tab r (List.mem_of_mem_drop (List.mem_of_mem_take hr))
  obtain ⟨o, a, hker, hale, hres, hout⟩ :=
    kernel_general (src := readWindow file (bnd hrow rows q) w) (offs := offs) (inds := inds) (vals := vals) (e == 0)
      hrow rowsW nxt (render (((hrow :: rows).drop q).take (e - q))) (by rw [hcontent, hH])
      (fun r m h => ⟨(hnxt r m h).1, st.tab r (hnxt r m h).2⟩) (fun _ => st.hdr) htabW st.nc hsh hmax hz hbud
  rw [hprelen] at hker
  have htakeA : rowsW.take a = (rows.drop (e - 1)).take a := by
    conv => lhs; rw [hrowsW]
    rw [List.take_take, Nat.min_eq_left hale]
  have hE : ∀ c, stageRows (fun _ => []) (rowsW.take a) c = column (values ((rows.drop (e - 1)).take a)) c := by
    intro c
    rw [stageRows_nil, htakeA]
  have hbqe := bnd_mono hrow rows hqe
  have hnp : o.nextPos = bnd hrow rows (nextE e a) - bnd hrow rows q := by
    rw [hres.nextPos, hH, htakeA, bnd_nextE]
    exact length_from hprelen hbqe
  have hbe' : bnd hrow rows (nextE e a) ≤ bnd hrow rows q + (readWindow file (bnd hrow rows q) w).length := by
    rw [hcontent, bnd_nextE, ← htakeA, render_take_drop rowsW a]
    exact within_window hprelen hbqe
  have hlenE : ∀ c, c < ncols → (stageRows (fun _ => []) (rowsW.take a) c).length = a := by
    intro c hc
    rw [stageRows_length (rowsW.take a) (fun r hr => htabW r (List.mem_of_mem_take hr)) c hc, List.length_take]
    omega
  refine ⟨o, a, hker, Nat.le_trans (Nat.add_le_add_left hale _) hWlen, hres.written, hnp, hbe', hres.shape, fun c hc => by rw [← hE]; exact hres.cols c hc,
    fun c hc => by rw [← hE]; exact hres.caps c hc, fun c hc => by rw [← hE]; exact hlenE c hc, ?_⟩
  rcases hout with ⟨hif, hvf, hvfc, haeq⟩ | ⟨hif, hvf, _, haeq⟩ | ⟨hif, hvf, j, hj, hvfc, hbound⟩
  · -- no buffer filled: the window is done
    refine Or.inl ⟨hif, hvf, hvfc, ?_⟩
    rcases Nat.lt_or_ge q e with h | h
    · unfold nextE; split <;> omega
    · have heq : e = q := by omega
      by_cases he0 : e = 0
      · rw [nextE, if_pos he0]; omega
      · have : 0 < rowsW.length := List.length_pos_iff.mpr (hprog heq he0)
        rw [nextE, if_neg he0]; omega
  · exact Or.inr (Or.inl ⟨hif, hvf, haeq⟩)
  · refine Or.inr (Or.inr ⟨hif, hvf, j, hj, hvfc, ?_⟩)
    rw [hpart, List.take_take] at hbound
    have := part_le rows (e - 1) (min (a + 1) kk) j
    omega

/-- what a driver iteration leaves behind, by the flags of its kernel call (`a` records reported): the window is done; or the
    index buffer was enlarged; or the value budget of a column `j` was, which is at most the bytes of column `j` in the file -/
def StepOut (F : Nat → List Bytes → Imp) (file : Bytes) (w ncols : Nat) (im : List Nat) (hrow : List Cell)
    (rows : List (List Cell)) (s s' : DS) (q e a maxrow : Nat) : Prop :=
  (DI F file w ncols im hrow rows s' (nextE e a) (nextE e a) maxrow ∧ s'.offs = s.offs ∧ q < nextE e a) ∨
  (DI F file w ncols im hrow rows s' q (nextE e a) (maxrow * Gen.Csv.LARGER_FACTOR) ∧ s'.offs = s.offs ∧ a = maxrow) ∨
  (∃ j, j < ncols ∧ DI F file w ncols im hrow rows s' q (nextE e a) maxrow ∧
    offAt s.offs (j + 1) - offAt s.offs j ≤ colBytes rows j ∧
    offAt s'.offs (j + 1) - offAt s'.offs j = Gen.Csv.LARGER_FACTOR * (offAt s.offs (j + 1) - offAt s.offs j) ∧
    ∀ c, c < ncols → c ≠ j → offAt s'.offs (c + 1) - offAt s'.offs c = offAt s.offs (c + 1) - offAt s.offs c)

theorem StepOut.mu_lt {F : Nat → List Bytes → Imp} {file : Bytes} {w ncols : Nat} {im : List Nat} {hrow : List Cell}
    {rows : List (List Cell)} {s s' : DS} {q e a maxrow : Nat} (h : StepOut F file w ncols im hrow rows s s' q e a maxrow)
    (hmax : 0 < maxrow) (hle : (e - 1) + a ≤ rows.length) (hbud : ∀ c, c < ncols → offAt s.offs c < offAt s.offs (c + 1)) :
    ∃ q' maxrow', DI F file w ncols im hrow rows s' q' (nextE e a) maxrow' ∧
      mu rows ncols s'.offs q' maxrow' < mu rows ncols s.offs q maxrow := by
  rcases h with ⟨hdi, hoffs, hq⟩ | ⟨hdi, hoffs, ha⟩ | ⟨j, hj, hdi, hble, hself, hothers⟩
  · refine ⟨_, _, hdi, ?_⟩
    have := hdi.el
    rw [hoffs]; unfold mu
    omega
  · refine ⟨_, _, hdi, ?_⟩
    have := need_double hmax (show maxrow ≤ rows.length by omega)
    rw [hoffs, Nat.mul_comm maxrow Gen.Csv.LARGER_FACTOR]; unfold mu
    omega
  · refine ⟨_, _, hdi, ?_⟩
    have hsum := sumTo_update (f := fun c => need (offAt s.offs (c + 1) - offAt s.offs c) (colBytes rows c))
      (g := fun c => need (offAt s'.offs (c + 1) - offAt s'.offs c) (colBytes rows c)) (j := j) ncols hj
      (by
        show need (offAt s'.offs (j + 1) - offAt s'.offs j) (colBytes rows j) + 1 ≤ _
        rw [hself, need_double (Nat.sub_pos_of_lt (hbud j hj)) hble]
        exact Nat.le_refl _)
      (fun c hc hne => by
        show need (offAt s'.offs (c + 1) - offAt s'.offs c) _ = _
        rw [hothers c hc hne])
    unfold mu
    omega

theorem DI.step {F : Nat → List Bytes → Imp} {file : Bytes} {w ncols : Nat} {im : List Nat} {hrow : List Cell}
    {rows : List (List Cell)} {s s' : DS} {q e maxrow q' maxrow' a : Nat} {o : KOut}
    (hinv : DI F file w ncols im hrow rows s q e maxrow)
    (hS : Stepped s s' o (readWindow file (bnd hrow rows q) w) (im.map (fun c => F c (doneCols rows (nextE e a - 1) c))))
    (hwritten : o.written = (a : Int)) (hle : (e - 1) + a ≤ rows.length) (hqe : q' ≤ nextE e a)
    (hci : s'.ci = bnd hrow rows q') (hbud : ∀ c, c < ncols → offAt s'.offs c < offAt s'.offs (c + 1))
    (hmax : 0 < maxrow') (hshape : Shape ncols maxrow' s'.offs s'.inds s'.vals)
    (hzero : ∀ c, c < ncols → ∃ r, s'.inds[c]? = some r ∧ r[0]? = some 0)
    (hwin : (o.indsFull = false ∧ o.valsFull = false ∧ nextE e a = q') ∨
      ((o.indsFull || o.valsFull) = true ∧ q' = q ∧ s'.start = bnd hrow rows (nextE e a) - bnd hrow rows q ∧
        bnd hrow rows q < file.length))
    (hinwin : bnd hrow rows (nextE e a) ≤ bnd hrow rows q' + (readWindow file (bnd hrow rows q') w).length) :
    DI F file w ncols im hrow rows s' q' (nextE e a) maxrow' where
  qe := hqe
  el := nextE_le hle
  ci := hci
  hh := by rw [hS.hasHeader]; exact (beq_false_of_ne (Nat.ne_of_gt (nextE_pos e a))).symm
  rows_ := by rw [hS.rows, hinv.rows_, hwritten, nextE_pred]; omega
  stop := by rw [hS.stop]; exact hinv.stop
  bud := hbud
  maxpos := hmax
  shape := hshape
  zero := hzero
  imps := hS.imps
  win := by
    rw [hS.indsFull, hS.valsFull, hS.content]
    rcases hwin with ⟨h1, h2, h3⟩ | ⟨h1, h2, h3, h4⟩
    · exact Or.inl ⟨h1, h2, h3⟩
    · subst h2
      exact Or.inr ⟨h1, nextE_pos e a, rfl, h3, h4⟩
  inwin := hinwin

/-- One driver iteration, split at the importers. From any state of the invariant the iteration calls the kernel, which
    stages a block of `a` complete records (the records `e-1 … e-1+a-1` of the file), and hands the block to the importers
    (`importAll`). Whatever the importers are: if an importer raises, the iteration raises the same error (nothing else of the
    iteration can fail before it); if the importers end in the states `F c (first e-1+a records)`, the iteration succeeds and
    ends in one of the three outcomes of `StepOut` -/
theorem driver_step_cases {file : Bytes} {crs ncols : Nat} {im : List Nat} {hrow : List Cell} {rows : List (List Cell)}
    (st : SettingR file crs ncols im hrow rows) {F : Nat → List Bytes → Imp} {s : DS} {q e maxrow : Nat}
    (hinv : DI F file (crs * Gen.Csv.CHUNK_ROW_FACTOR * ncols) ncols im hrow rows s q e maxrow)
    (hlt : bnd hrow rows q < file.length) :
    ∃ (o : KOut) (a : Nat), (e - 1) + a ≤ rows.length ∧
      Shape ncols maxrow s.offs o.inds o.vals ∧
      (∀ c, c < ncols → ColOK s.offs o.inds o.vals c (column (values ((rows.drop (e - 1)).take a)) c)) ∧
      (∀ c, c < ncols →
        offAt s.offs c + (column (values ((rows.drop (e - 1)).take a)) c).flatten.length < offAt s.offs (c + 1)) ∧
      (∀ c, c < ncols → (column (values ((rows.drop (e - 1)).take a)) c).length = a) ∧
      (∀ err, importAll o.inds o.vals s.offs a im s.imps = .error err →
        driverStep file (crs * Gen.Csv.CHUNK_ROW_FACTOR * ncols) ncols im s = .error err) ∧
      (importAll o.inds o.vals s.offs a im s.imps = .ok (im.map (fun c => F c (doneCols rows (nextE e a - 1) c))) →
        ∃ s', driverStep file (crs * Gen.Csv.CHUNK_ROW_FACTOR * ncols) ncols im s = .ok s' ∧
          StepOut F file (crs * Gen.Csv.CHUNK_ROW_FACTOR * ncols) ncols im hrow rows s s' q e a maxrow) := by
  have hwpos : 0 < crs * Gen.Csv.CHUNK_ROW_FACTOR * ncols := Nat.mul_pos (Nat.mul_pos st.crsPos (by decide)) st.nc
  obtain ⟨o, a, hker, hle, hwritten, hnp, hbe', hshape, hcols, hcaps, hlenE, hout⟩ :=
    window_call st hinv.qe hinv.el hlt hinv.inwin hinv.shape hinv.maxpos hinv.zero hinv.bud
  have hcall := driverStep_call hinv hlt hwpos
  generalize crs * Gen.Csv.CHUNK_ROW_FACTOR * ncols = w at hinv hcall hker hbe' ⊢
  simp only [hker] at hcall
  have hwneg : ¬ o.written < 0 := by rw [hwritten]; omega
  have hwr : o.written.toNat = a := by rw [hwritten]; simp
  refine ⟨o, a, hle, hshape, hcols, hcaps, hlenE, ?_, ?_⟩
  · intro err herr
    rw [hcall]
    simp only [afterKernel, hwneg, if_false, hwr, herr]
  intro himp0
  have himp : importAll o.inds o.vals s.offs o.written.toNat im s.imps =
      .ok (im.map (fun c => F c (doneCols rows (nextE e a - 1) c))) := by rw [hwr]; exact himp0
  have hqe' : q ≤ nextE e a := Nat.le_trans hinv.qe (le_nextE e a)
  have hzero' : ∀ c, c < ncols → ∃ r, o.inds[c]? = some r ∧ r[0]? = some 0 := by
    intro c hc
    obtain ⟨⟨r, hr, hk⟩, _⟩ := hcols c hc
    exact ⟨r, hr, by simpa [endOf] using hk 0 (Nat.zero_le _)⟩
  have hsh := hinv.shape
  rcases hout with ⟨hif, hvf, hvfc, hq'⟩ | ⟨hif, hvf, haeq⟩ | ⟨hif, hvf, j, hj, hvfc, hbound⟩
  · have hnp0 : o.nextPos ≠ 0 := by
      have := bnd_strict st.nc st.hdr.1 st.tab hq' (nextE_le hle)
      omega
    obtain ⟨s', hstep, hS, hci, hinds, hvals, hoffs⟩ :=
      afterKernel_plain (ncols := ncols) (content := readWindow file (bnd hrow rows q) w)
        (start := bnd hrow rows e - bnd hrow rows q) hwneg himp hif hvf hnp0
    refine ⟨s', by rw [hcall, hstep], Or.inl ⟨?_, hoffs, hq'⟩⟩
    refine hinv.step hS hwritten hle (Nat.le_refl _) ?_ (by rw [hoffs]; exact hinv.bud) hinv.maxpos
      (by rw [hoffs, hinds, hvals]; exact hshape) (by rw [hinds]; exact hzero') (Or.inl ⟨hif, hvf, rfl⟩)
      (Nat.le_add_right _ _)
    rw [hci, hinv.ci, hnp]
    have := bnd_mono hrow rows hqe'
    omega
  · obtain ⟨s', hstep, hS, hci, hinds, hvals, hoffs, hstart⟩ :=
      afterKernel_inds (ncols := ncols) (content := readWindow file (bnd hrow rows q) w)
        (start := bnd hrow rows e - bnd hrow rows q) hwneg himp hif hvf
    rw [head_len hshape st.nc] at hinds
    refine ⟨s', by rw [hcall, hstep], Or.inr (Or.inl ⟨?_, hoffs, haeq⟩)⟩
    refine hinv.step hS hwritten hle hqe' (by rw [hci, hinv.ci]) (by rw [hoffs]; exact hinv.bud)
      (Nat.mul_pos hinv.maxpos (by decide)) (by rw [hoffs, hinds, hvals]; exact shape_zeros2 hshape)
      (by rw [hinds]; exact fun c hc => zeros_first c hc)
      (Or.inr ⟨by rw [hif]; rfl, rfl, by rw [hstart, hnp], hlt⟩) hbe'
  · obtain ⟨s', hstep, hS, hci, hinds, hoffs, hvals, hstart⟩ :=
      afterKernel_vals (ncols := ncols) (content := readWindow file (bnd hrow rows q) w)
        (start := bnd hrow rows e - bnd hrow rows q) hwneg himp hif hvf hvfc (offs_get hsh.offsLen (c := j) (by omega))
        (offs_get hsh.offsLen (c := j + 1) (by omega))
    have hself : offAt s'.offs (j + 1) - offAt s'.offs j =
        Gen.Csv.LARGER_FACTOR * (offAt s.offs (j + 1) - offAt s.offs j) := by
      rw [hoffs, growOffs_width_self hsh.offsLen j _ hj (hsh.mono j hj), grow_width]
    have hothers : ∀ c, c < ncols → c ≠ j →
        offAt s'.offs (c + 1) - offAt s'.offs c = offAt s.offs (c + 1) - offAt s.offs c :=
      fun c hc hne => by rw [hoffs, growOffs_width_ne hsh.offsLen j _ hc hne]
    have hbud' : ∀ c, c < ncols → offAt s'.offs c < offAt s'.offs (c + 1) := by
      intro c hc
      apply Nat.lt_of_sub_pos
      by_cases hcj : c = j
      · rw [hcj, hself]
        exact Nat.mul_pos (by decide) (Nat.sub_pos_of_lt (hinv.bud j hj))
      · rw [hothers c hc hcj]
        exact Nat.sub_pos_of_lt (hinv.bud c hc)
    have hlen' : s'.offs.length = ncols + 1 := by rw [hoffs, growOffs_length]; exact hsh.offsLen
    refine ⟨s', by rw [hcall, hstep], Or.inr (Or.inr ⟨j, hj, ?_, hbound, hself, hothers⟩)⟩
    refine hinv.step hS hwritten hle hqe' (by rw [hci, hinv.ci]) hbud' hinv.maxpos ?_ (by rw [hinds]; exact hzero')
      (Or.inr ⟨by rw [hvf, Bool.or_true], rfl, by rw [hstart, hnp], hlt⟩) hbe'
    refine ⟨by rw [hinds]; exact hshape.indsLen, by rw [hinds]; exact hshape.rowLen, hlen', ?_,
      fun c hc => Nat.le_of_lt (hbud' c hc), ?_⟩
    · rw [hoffs, growOffs_zero hsh.offsLen]; exact hsh.offs0
    · rw [hvals, offAt_last s'.offs ncols hlen']; simp

/-- as `driver_step_cases`, with the outcome summed up as "keeps the invariant with `nextE e a` lines consumed and decreases
    the measure `mu`" -/
theorem driver_step_split {file : Bytes} {crs ncols : Nat} {im : List Nat} {hrow : List Cell} {rows : List (List Cell)}
    (st : SettingR file crs ncols im hrow rows) {F : Nat → List Bytes → Imp} {s : DS} {q e maxrow : Nat}
    (hinv : DI F file (crs * Gen.Csv.CHUNK_ROW_FACTOR * ncols) ncols im hrow rows s q e maxrow)
    (hlt : bnd hrow rows q < file.length) :
    ∃ (o : KOut) (a : Nat), (e - 1) + a ≤ rows.length ∧
      Shape ncols maxrow s.offs o.inds o.vals ∧
      (∀ c, c < ncols → ColOK s.offs o.inds o.vals c (column (values ((rows.drop (e - 1)).take a)) c)) ∧
      (∀ c, c < ncols →
        offAt s.offs c + (column (values ((rows.drop (e - 1)).take a)) c).flatten.length < offAt s.offs (c + 1)) ∧
      (∀ c, c < ncols → (column (values ((rows.drop (e - 1)).take a)) c).length = a) ∧
      (∀ err, importAll o.inds o.vals s.offs a im s.imps = .error err →
        driverStep file (crs * Gen.Csv.CHUNK_ROW_FACTOR * ncols) ncols im s = .error err) ∧
      (importAll o.inds o.vals s.offs a im s.imps = .ok (im.map (fun c => F c (doneCols rows (nextE e a - 1) c))) →
        ∃ s' q' maxrow', driverStep file (crs * Gen.Csv.CHUNK_ROW_FACTOR * ncols) ncols im s = .ok s' ∧
          DI F file (crs * Gen.Csv.CHUNK_ROW_FACTOR * ncols) ncols im hrow rows s' q' (nextE e a) maxrow' ∧
          mu rows ncols s'.offs q' maxrow' < mu rows ncols s.offs q maxrow) := by
  obtain ⟨o, a, hle, hsh, hcols, hcaps, hlenE, herr, hok⟩ := driver_step_cases st hinv hlt
  refine ⟨o, a, hle, hsh, hcols, hcaps, hlenE, herr, fun himp => ?_⟩
  obtain ⟨s', hstep, hout⟩ := hok himp
  obtain ⟨q', maxrow', hdi, hmu⟩ := hout.mu_lt hinv.maxpos hle hinv.bud
  exact ⟨s', q', maxrow', hstep, hdi, hmu⟩

/-- what `import_part` does with the block of a driver iteration, for a family of append homomorphisms -/
theorem importAll_block {ncols : Nat} {im : List Nat} {rows : List (List Cell)} {F : Nat → List Bytes → Imp}
    {good : Nat → Bytes → Prop} (hhom : ImpHom ncols F good) (hgood : ∀ c ∈ im, ∀ cell ∈ column (values rows) c, good c cell)
    (him : ∀ c ∈ im, c < ncols) {offs : List Nat} {inds : List (List Nat)} {vals : List Nat} {maxrow e a : Nat}
    (hsh : Shape ncols maxrow offs inds vals)
    (hcols : ∀ c, c < ncols → ColOK offs inds vals c (column (values ((rows.drop (e - 1)).take a)) c))
    (hcaps : ∀ c, c < ncols →
      offAt offs c + (column (values ((rows.drop (e - 1)).take a)) c).flatten.length < offAt offs (c + 1))
    (hlenE : ∀ c, c < ncols → (column (values ((rows.drop (e - 1)).take a)) c).length = a) :
    importAll inds vals offs a im (im.map (fun c => F c (doneCols rows (e - 1) c))) =
      .ok (im.map (fun c => F c (doneCols rows (nextE e a - 1) c))) := by
  have hsub : ∀ c ∈ im, ∀ cell ∈ column (values ((rows.drop (e - 1)).take a)) c, good c cell :=
    fun c hc cell hcell => hgood c hc cell (column_part_subset rows (e - 1) a c hcell)
  have hdone : ∀ c ∈ im, ∀ cell ∈ doneCols rows (e - 1) c, good c cell := by
    intro c hc cell hcell
    apply hgood c hc
    exact column_part_subset rows 0 (e - 1) c (cell := cell) (by simpa [doneCols] using hcell)
  rw [importAll_hom hhom (D := doneCols rows (e - 1)) hsh hcols hcaps hlenE im him hdone hsub]
  simp only [doneCols_nextE]

/-- one iteration for a family of append homomorphisms on acceptable cells: it succeeds, keeps the invariant and decreases the
    measure -/
theorem driver_step_g {file : Bytes} {crs ncols : Nat} {im : List Nat} {hrow : List Cell} {rows : List (List Cell)}
    (st : SettingR file crs ncols im hrow rows) {F : Nat → List Bytes → Imp} {good : Nat → Bytes → Prop}
    (hhom : ImpHom ncols F good) (hgood : ∀ c ∈ im, ∀ cell ∈ column (values rows) c, good c cell) {s : DS} {q e maxrow : Nat}
    (hinv : DI F file (crs * Gen.Csv.CHUNK_ROW_FACTOR * ncols) ncols im hrow rows s q e maxrow)
    (hlt : bnd hrow rows q < file.length) :
    ∃ s' q' e' maxrow', driverStep file (crs * Gen.Csv.CHUNK_ROW_FACTOR * ncols) ncols im s = .ok s' ∧
      DI F file (crs * Gen.Csv.CHUNK_ROW_FACTOR * ncols) ncols im hrow rows s' q' e' maxrow' ∧
      mu rows ncols s'.offs q' maxrow' < mu rows ncols s.offs q maxrow := by
  obtain ⟨o, a, _, hsh, hcols, hcaps, hlenE, _, hok⟩ := driver_step_split st hinv hlt
  obtain ⟨s', q', maxrow', h1, h2, h3⟩ :=
    hok (by rw [hinv.imps]; exact importAll_block hhom hgood st.imOk hsh hcols hcaps hlenE)
  exact ⟨s', q', _, maxrow', h1, h2, h3⟩

end Exetera.Csv
