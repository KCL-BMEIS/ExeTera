import Exetera.Spec.CsvLine
import Exetera.Lemmas.PrefixSums
/-! Facts about the C16 specification (`Spec.CsvLine`), none of which mentions the model:
    the offsets of an indexed string column, slices, the CSV line of the non-empty entries of a run (as the left-to-right
    recursion `joinRest` the kernel follows, with the length bound the buffer sizing relies on), reading a written
    line back, decoding an (indices, values) pair. -/
set_option linter.unusedSectionVars false
namespace Exetera.Spec.CsvLine

open Exetera

variable {α : Type} [DecidableEq α]

/-! ### offsets -/

/-- `offsetsFrom` leaves out the first offset -/
theorem offsetsFrom_eq_prefixSums (base : Nat) (xs : List (List α)) :
    offsetsFrom base xs = (prefixSums base (xs.map List.length)).tail := by
  induction xs generalizing base with
  | nil => rfl
  | cons e es ih => rw [offsetsFrom, ih, List.map_cons, prefixSums, List.tail_cons, prefixSums.cons_tail]

theorem offsets_eq_prefixSums (xs : List (List α)) : offsets xs = prefixSums 0 (xs.map List.length) := by
  rw [offsets, offsetsFrom_eq_prefixSums, prefixSums.cons_tail]

theorem offsetsFrom_length (base : Nat) (xs : List (List α)) : (offsetsFrom base xs).length = xs.length := by
  rw [offsetsFrom_eq_prefixSums, List.length_tail, prefixSums.length_eq, List.length_map, Nat.add_sub_cancel]

theorem offsets_length (xs : List (List α)) : (offsets xs).length = xs.length + 1 := by
  rw [offsets_eq_prefixSums, prefixSums.length_eq, List.length_map]

theorem offsetsFrom_append (base : Nat) (xs ys : List (List α)) :
    offsetsFrom base (xs ++ ys) = offsetsFrom base xs ++ offsetsFrom (base + xs.flatten.length) ys := by
  simp only [offsetsFrom_eq_prefixSums, prefixSums.append_lengths, List.tail_append_of_ne_nil (prefixSums.ne_nil _ _)]

theorem offsets_append (xs ys : List (List α)) :
    offsets (xs ++ ys) = offsets xs ++ offsetsFrom xs.flatten.length ys := by
  simp [offsets, offsetsFrom_append]

theorem offsetsFrom_drop (base : Nat) (xs : List (List α)) (a : Nat) (h : a ≤ xs.length) :
    (base :: offsetsFrom base xs).drop a
      = (base + (xs.take a).flatten.length) :: offsetsFrom (base + (xs.take a).flatten.length) (xs.drop a) := by
  induction a generalizing base xs with
  | zero => simp
  | succ a ih =>
    cases xs with
    | nil => simp at h
    | cons x xs =>
      have := ih (base + x.length) xs (by simpa using h)
      simp only [offsetsFrom, List.drop_succ_cons, this, List.take_succ_cons, List.flatten_cons, List.length_append,
        Nat.add_assoc]

theorem offsets_drop (xs : List (List α)) (a : Nat) (h : a ≤ xs.length) :
    (offsets xs).drop a = (xs.take a).flatten.length :: offsetsFrom (xs.take a).flatten.length (xs.drop a) := by
  simpa [offsets] using offsetsFrom_drop 0 xs a h

theorem getElem?_of_drop {β} {xs : List β} {i : Nat} {x : β} {r : List β} (h : xs.drop i = x :: r) :
    xs[i]? = some x := by
  have := List.getElem?_drop (xs := xs) (i := i) (j := 0)
  rw [h] at this
  simpa using this.symm

theorem offsets_getElem? (xs : List (List α)) (e : Nat) (he : e ≤ xs.length) :
    (offsets xs)[e]? = some ((xs.take e).flatten.length) :=
  getElem?_of_drop (offsets_drop xs e he)

/-! ### slices -/

theorem drop_eq_slice_append {β} (xs : List β) (a b : Nat) :
    xs.drop a = slice xs a b ++ xs.drop (a + (b - a)) := by
  rw [← List.drop_drop, slice, List.take_append_drop]

/-! ### the non-empty entries of a run -/

theorem nonEmpty_cons_nil (xs : List (List α)) : nonEmpty ([] :: xs) = nonEmpty xs := rfl

theorem nonEmpty_cons_of_ne (x : List α) (xs : List (List α)) (hx : x ≠ []) :
    nonEmpty (x :: xs) = x :: nonEmpty xs := by
  simp [nonEmpty, hx]

theorem flatten_of_nonEmpty_nil (ys : List (List α)) (h : nonEmpty ys = []) : ys.flatten = [] := by
  simp only [nonEmpty, List.filter_eq_nil_iff] at h
  rw [List.flatten_eq_nil_iff]
  intro l hl
  simpa using h l hl

theorem flatten_of_nonEmpty_singleton (ys : List (List α)) (x : List α) (h : nonEmpty ys = [x]) :
    ys.flatten = x := by
  induction ys with
  | nil => simp [nonEmpty] at h
  | cons y ys ih =>
    by_cases hy : y = []
    · subst hy
      exact ih h
    · rw [nonEmpty_cons_of_ne y ys hy] at h
      obtain ⟨rfl, h2⟩ := List.cons.inj h
      simp [flatten_of_nonEmpty_nil ys h2]

section
variable (sep delim : α)

theorem joinCsv_nil : joinCsv sep delim ([] : List (List α)) = [] := rfl

theorem joinCsv_singleton (x : List α) : joinCsv sep delim [x] = field sep delim x := rfl

def sepTail (ys : List (List α)) : List α := ys.flatMap (fun y => sep :: field sep delim y)

theorem sepTail_cons (y : List α) (ys : List (List α)) :
    sepTail sep delim (y :: ys) = sep :: field sep delim y ++ sepTail sep delim ys := by
  simp [sepTail]

theorem joinCsv_cons (x : List α) (ys : List (List α)) :
    joinCsv sep delim (x :: ys) = field sep delim x ++ sepTail sep delim ys := by
  induction ys generalizing x with
  | nil => simp [joinCsv, joinWith, sepTail]
  | cons y ys ih =>
    have := ih y
    simp only [joinCsv, List.map_cons, joinWith, sepTail_cons] at this ⊢
    rw [this, List.cons_append]

theorem field_nil : field sep delim [] = [] := by simp [field, needsQuote]

/-- The line of the non-empty entries of `ys`, written from left to right the way the kernel does it: `first` says that
    nothing has been written yet (the kernel's `prev_empty`); an empty entry writes nothing and leaves `first` alone,
    any other is preceded by a separator unless it is the first one written. -/
def joinRest : Bool → List (List α) → List α
  | _, [] => []
  | first, y :: ys =>
    (if first || y.isEmpty then [] else [sep]) ++ field sep delim y ++ joinRest (first && y.isEmpty) ys

theorem joinRest_eq (ys : List (List α)) (first : Bool) :
    joinRest sep delim first ys
      = if first then joinCsv sep delim (nonEmpty ys) else sepTail sep delim (nonEmpty ys) := by
  induction ys generalizing first with
  | nil => cases first <;> rfl
  | cons y ys ih =>
    cases y with
    | nil => simp [joinRest, ih, nonEmpty_cons_nil, field_nil]
    | cons c x =>
      rw [nonEmpty_cons_of_ne (c :: x) ys (by simp)]
      cases first <;> simp [joinRest, ih, joinCsv_cons, sepTail_cons]

theorem spanOut_eq_joinRest (entries : List (List α)) (a b : Nat) :
    spanOut sep delim entries a b = joinRest sep delim true (slice entries a b) := by
  simp [spanOut, joinRest_eq]

theorem escape_length (x : List α) :
    x.length ≤ (escape delim x).length ∧ (escape delim x).length ≤ 2 * x.length := by
  induction x with
  | nil => simp [escape]
  | cons c x ih => by_cases h : c = delim <;> simp [escape, h] <;> omega

theorem field_length_le (x : List α) : (field sep delim x).length ≤ 2 * x.length + 2 := by
  unfold field
  have := (escape_length delim x).2
  split <;> simp <;> omega

/-- every byte doubled, two quotes and a separator per entry -/
theorem joinRest_length_le (ys : List (List α)) (first : Bool) :
    (joinRest sep delim first ys).length ≤ 2 * ys.flatten.length + 3 * ys.length := by
  induction ys generalizing first with
  | nil => simp [joinRest]
  | cons y ys ih =>
    have h1 := field_length_le sep delim y
    have h2 := ih (first && y.isEmpty)
    have h3 : (if (first || y.isEmpty) = true then [] else [sep]).length ≤ 1 := by split <;> simp
    simp only [joinRest, List.length_append, List.flatten_cons, List.length_cons]
    omega

theorem escape_of_no_delim (x : List α) (h : ∀ c ∈ x, c ≠ delim) : escape delim x = x := by
  induction x with
  | nil => rfl
  | cons c x ih =>
    have hc := h c (by simp)
    simp [escape, hc, ih (fun d hd => h d (by simp [hd]))]

theorem needsQuote_false_iff (x : List α) :
    needsQuote sep delim x = false ↔ ∀ c ∈ x, c ≠ sep ∧ c ≠ delim := by
  simp [needsQuote, List.any_eq_false]

end

theorem parseGo_nil (sep delim : α) (st : PState) (cur : List α) : parseGo sep delim st cur [] = [cur] := by
  cases st <;> simp [parseGo]

section
variable (sep delim : α)

/-- what the reader does after a complete field: the line ends, or a separator starts the next field -/
def tailParse : List α → List (List α)
  | [] => []
  | _ :: more => parseGo sep delim .start [] more

def FieldEnd (rest : List α) : Prop := rest = [] ∨ ∃ more, rest = sep :: more

theorem parseGo_end (hsd : sep ≠ delim) (st : PState) (hst : st ≠ .quoted) (cur rest : List α)
    (h : FieldEnd sep rest) : parseGo sep delim st cur rest = cur :: tailParse sep delim rest := by
  rcases h with rfl | ⟨more, rfl⟩ <;> cases st <;> simp [parseGo, tailParse, hsd] at hst ⊢

theorem parseGo_unquoted_append (x : List α) (hx : ∀ c ∈ x, c ≠ sep) :
    ∀ (cur rest : List α),
      parseGo sep delim .unquoted cur (x ++ rest) = parseGo sep delim .unquoted (cur ++ x) rest := by
  induction x with
  | nil => intro cur rest; simp
  | cons c x ih =>
    intro cur rest
    have hc : c ≠ sep := hx c (by simp)
    have ih' := ih (fun d hd => hx d (by simp [hd])) (cur ++ [c]) rest
    simp [parseGo, hc, ih']

theorem parseGo_quoted_escape (x : List α) :
    ∀ (cur rest : List α),
      parseGo sep delim .quoted cur (escape delim x ++ delim :: rest)
        = parseGo sep delim .afterQuote (cur ++ x) rest := by
  induction x with
  | nil => intro cur rest; simp [escape, parseGo]
  | cons c x ih =>
    intro cur rest
    have := ih (cur ++ [c]) rest
    by_cases hc : c = delim
    · subst hc
      simp [escape, parseGo, this]
    · simp [escape, parseGo, hc, this]

theorem parseGo_field (hsd : sep ≠ delim) (x rest : List α) (h : FieldEnd sep rest) :
    parseGo sep delim .start [] (field sep delim x ++ rest) = x :: tailParse sep delim rest := by
  unfold field
  cases hq : needsQuote sep delim x with
  | true =>
    simp only [if_true]
    have := parseGo_quoted_escape sep delim x [] rest
    simp only [List.nil_append] at this
    simp [parseGo, this, parseGo_end sep delim hsd .afterQuote nofun x rest h]
  | false =>
    simp only [Bool.false_eq_true, if_false]
    rw [needsQuote_false_iff] at hq
    cases x with
    | nil => simpa using parseGo_end sep delim hsd .start nofun [] rest h
    | cons c x =>
      have hc := hq c (by simp)
      have hx : ∀ d ∈ x, d ≠ sep := fun d hd => (hq d (by simp [hd])).1
      have := parseGo_unquoted_append sep delim x hx [c] rest
      simp [parseGo, hc.1, hc.2, this, parseGo_end sep delim hsd .unquoted nofun (c :: x) rest h]

theorem fieldEnd_sepTail (ys : List (List α)) : FieldEnd sep (sepTail sep delim ys) := by
  cases ys with
  | nil => exact Or.inl rfl
  | cons y ys => exact Or.inr ⟨_, sepTail_cons sep delim y ys⟩

theorem tailParse_sepTail (hsd : sep ≠ delim) (ys : List (List α)) :
    tailParse sep delim (sepTail sep delim ys) = ys := by
  induction ys with
  | nil => rfl
  | cons y ys ih =>
    rw [sepTail_cons, List.cons_append, tailParse, parseGo_field sep delim hsd y _ (fieldEnd_sepTail sep delim ys), ih]

theorem parseGo_joinCsv (hsd : sep ≠ delim) (x : List α) (ys : List (List α)) :
    parseGo sep delim .start [] (joinCsv sep delim (x :: ys)) = x :: ys := by
  rw [joinCsv_cons, parseGo_field sep delim hsd x _ (fieldEnd_sepTail sep delim ys), tailParse_sepTail sep delim hsd]

theorem field_ne_nil (x : List α) (hx : x ≠ []) : field sep delim x ≠ [] := by
  unfold field
  split <;> simp [hx]

theorem joinCsv_eq_nil_iff (xs : List (List α)) :
    joinCsv sep delim xs = [] ↔ xs = [] ∨ xs = [[]] := by
  unfold joinCsv
  match xs with
  | [] => simp [joinWith]
  | [x] =>
    by_cases hx : x = []
    · subst hx; simp [joinWith, field, needsQuote]
    · simp [joinWith, hx, field_ne_nil sep delim x hx]
  | x :: y :: r => simp [joinWith]

end

theorem decode_offsets_aux (xs : List (List α)) :
    ∀ (pre : List α) (base : Nat), base = pre.length →
      (((base :: offsetsFrom base xs).zip (offsetsFrom base xs)).map
        (fun p => slice (pre ++ xs.flatten) p.1 p.2)) = xs := by
  induction xs with
  | nil => intro pre base _; simp [offsetsFrom]
  | cons x xs ih =>
    intro pre base hb
    have h1 : slice (pre ++ (x :: xs).flatten) base (base + x.length) = x := by
      subst hb
      simp [slice]
    have h2 := ih (pre ++ x) (base + x.length) (by simp [hb])
    simp only [List.flatten_cons, ← List.append_assoc] at h1 h2 ⊢
    simp only [offsetsFrom, List.zip_cons_cons, List.map_cons, h1]
    rw [h2]

theorem decode_offsets (xs : List (List α)) : decode (offsets xs) xs.flatten = xs := by
  have := decode_offsets_aux xs [] 0 rfl
  simpa [decode, offsets] using this

end Exetera.Spec.CsvLine
