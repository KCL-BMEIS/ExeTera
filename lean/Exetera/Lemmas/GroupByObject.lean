import Exetera.Lemmas.GroupByCols
import Exetera.Lemmas.SpansIndexed
import Exetera.Lemmas.PrefixSums
/-!
  What the group-by object (`HDF5DataFrameGroupBy`) computes from a grouping of a frame (`IsGrouping.outputs`): the key
  columns it writes hold the distinct key tuples in ascending order, and every aggregate is taken over that key's rows in
  original order.  `Session.aggregate_*` on a sorted index is the one-key case.

  An indexed field `(indices, values)` with a well-formed index behaves like the column `decodeRows indices values` of byte
  strings: re-indexing (`apply_indices_to_index_values`) gathers rows, and the span kernels return row numbers.
-/
namespace Exetera.GroupBy
open Exetera Exetera.Spec Exetera.Spans Exetera.SortIndex List

/-- `lexMin?` and `lexMax?` are this one fold, over `lexLt` and over its reverse -/
def bestOf (lt : List Nat → List Nat → Bool) : List (List Nat) → Option (List Nat)
  | [] => none
  | x :: xs => some (xs.foldl (fun m y => if lt y m then y else m) x)

theorem lexMin?_eq : lexMin? = bestOf lexLt := by
  funext l; cases l <;> rfl

theorem lexMax?_eq : lexMax? = bestOf (fun a b => lexLt b a) := by
  funext l; cases l <;> rfl

section
variable {lt : List Nat → List Nat → Bool} (hlt : StrictTotal lt)
include hlt

theorem foldl_best_spec : ∀ (xs : List (List Nat)) (m0 : List Nat),
    (xs.foldl (fun m y => if lt y m then y else m) m0 ∈ m0 :: xs) ∧
    ∀ s ∈ m0 :: xs, lt s (xs.foldl (fun m y => if lt y m then y else m) m0) = false
  | [], m0 => by simp [hlt.irrefl]
  | y :: ys, m0 => by
    rw [foldl_cons]
    obtain ⟨hm, hall⟩ := foldl_best_spec ys (if lt y m0 then y else m0)
    have hstep : ((if lt y m0 then y else m0) = m0 ∨ (if lt y m0 then y else m0) = y) ∧
        lt m0 (if lt y m0 then y else m0) = false ∧ lt y (if lt y m0 then y else m0) = false := by
      cases h : lt y m0 with
      | true => exact ⟨Or.inr rfl, hlt.asymm h, hlt.irrefl y⟩
      | false => exact ⟨Or.inl rfl, hlt.irrefl m0, h⟩
    have hr := hall _ (mem_cons_self ..)
    constructor
    · rcases mem_cons.1 hm with hm | hm
      · rw [hm]
        rcases hstep.1 with h | h
        · rw [h]; exact mem_cons_self ..
        · rw [h]; exact mem_cons_of_mem _ (mem_cons_self ..)
      · exact mem_cons_of_mem _ (mem_cons_of_mem _ hm)
    · intro s hs
      rcases mem_cons.1 hs with rfl | hs
      · exact hlt.not_lt_trans hr hstep.2.1
      · rcases mem_cons.1 hs with rfl | hs
        · exact hlt.not_lt_trans hr hstep.2.2
        · exact hall s (mem_cons_of_mem _ hs)

theorem bestOf_eq_some (l : List (List Nat)) (m : List Nat) (hm : m ∈ l) (hmin : ∀ s ∈ l, lt s m = false) :
    bestOf lt l = some m := by
  cases l with
  | nil => cases hm
  | cons x xs =>
    obtain ⟨h1, h2⟩ := foldl_best_spec hlt xs x
    rw [bestOf, Option.some.injEq]
    rcases hlt.total (xs.foldl (fun m y => if lt y m then y else m) x) m with h | h | h
    · rw [hmin _ h1] at h; cases h
    · exact h
    · rw [h2 m hm] at h; cases h

end

theorem mem_slice_iff {α} {src : List α} {a b : Nat} {s : α} :
    s ∈ slice src a b ↔ ∃ t, a ≤ t ∧ t < b ∧ src[t]? = some s := by
  simp only [mem_iff_getElem?, slice, getElem?_take, getElem?_drop]
  constructor
  · rintro ⟨j, hj⟩
    split at hj
    · exact ⟨a + j, by omega, by omega, hj⟩
    · cases hj
  · rintro ⟨t, h1, h2, h⟩
    exact ⟨t - a, by rw [if_pos (by omega), show a + (t - a) = t by omega]; exact h⟩

theorem bestOf_of_isFirstBest {lt : List Nat → List Nat → Bool} (hlt : StrictTotal lt) {rows : List (List Nat)}
    {a b k : Nat} (h : IsFirstBest lt rows a b k) : bestOf lt (slice rows a b) = rows[k]? := by
  obtain ⟨h1, h2, row, hrow, hmin, _⟩ := h
  rw [hrow]
  apply bestOf_eq_some hlt
  · exact mem_slice_iff.2 ⟨k, h1, h2, hrow⟩
  · intro s hs
    obtain ⟨t, ht1, ht2, ht⟩ := mem_slice_iff.1 hs
    exact hmin t s ht1 ht2 ht

theorem lexMin?_of_isFirstMinIn {rows : List (List Nat)} {a b k : Nat} (h : IsFirstMinIn rows a b k) :
    lexMin? (slice rows a b) = rows[k]? := by
  rw [lexMin?_eq]; exact bestOf_of_isFirstBest lexLt_strictTotal ((isFirstMinIn_iff ..).1 h)

theorem lexMax?_of_isFirstMaxIn {rows : List (List Nat)} {a b k : Nat} (h : IsFirstMaxIn rows a b k) :
    lexMax? (slice rows a b) = rows[k]? := by
  rw [lexMax?_eq]; exact bestOf_of_isFirstBest lexLt_strictTotal.flip ((isFirstMaxIn_iff ..).1 h)

/-- what each aggregate computes on the strings of one group -/
def aggSpecStr : Agg → List (List Nat) → Option (List Nat)
  | .min => lexMin?
  | .max => lexMax?
  | .first => List.head?
  | .last => List.getLast?

theorem pairs_map_fst : ∀ (sp : List Nat), (pairs sp).map (·.1) = sp.dropLast
  | [] => rfl
  | [_] => rfl
  | a :: b :: l => by
    rw [pairs_cons_cons, map_cons, pairs_map_fst (b :: l)]
    simp [dropLast]

theorem dropLast_lt_of_wellformed {sp : List Nat} {n : Nat} (h : Wellformed sp n) : ∀ a ∈ sp.dropLast, a < n := by
  intro a ha
  rw [← pairs_map_fst, mem_map] at ha
  obtain ⟨p, hp, rfl⟩ := ha
  have := pairs_wellformed h p hp
  omega

theorem keyRows_map (l : List Nat) : ∀ (cols : List (List Int)),
    keyRows l.length (cols.map (fun c => l.map (c.getD · 0))) = l.map (keyAt cols)
  | [] => by
    simp only [map_nil, keyRows]
    apply List.ext_getElem <;> simp [keyAt]
  | c :: cs => by
    simp only [map_cons, keyRows, keyRows_map l cs, keyAt_cons]
    apply List.ext_getElem
    · simp
    · intro i h1 h2
      simp [keyAt]

theorem writeKeys_none (sp : List Nat) : ∀ (cols : List (List Int)), (∀ c ∈ cols, ∀ a ∈ sp.dropLast, a < c.length) →
    writeKeys ⟨none, sp⟩ cols = .ok (cols.map (fun c => sp.dropLast.map (c.getD · 0)))
  | [], _ => rfl
  | c :: cs, h => by
    have ih := writeKeys_none sp cs (fun c' hc' => h c' (by simp [hc']))
    simp only [writeKeys, gather_ok c 0 sp.dropLast (h c (by simp)), ih, SortIndex.consE_ok, map_cons]

theorem writeKeys_some (idx sp : List Nat) : ∀ (cols : List (List Int)), (∀ c ∈ cols, ∀ i ∈ idx, i < c.length) →
    (∀ a ∈ sp.dropLast, a < idx.length) →
    writeKeys ⟨some idx, sp⟩ cols = .ok ((colsAlong cols idx).map (fun c => sp.dropLast.map (c.getD · 0)))
  | [], _, _ => rfl
  | c :: cs, h, h2 => by
    have ih := writeKeys_some idx sp cs (fun c' hc' => h c' (by simp [hc'])) h2
    simp only [writeKeys, gather_ok c 0 idx (h c (by simp))]
    rw [gather_ok (idx.map (c.getD · 0)) 0 sp.dropLast (by simpa using h2), ih]
    simp [colsAlong]

theorem frame_core {V} (cs : List (List Int)) (Ts : List V) (n : Nat) (hT : Ts.length = n) :
    keyRows (spans neq (rowsBy cs n)).dropLast.length
        (cs.map (fun c => (spans neq (rowsBy cs n)).dropLast.map (c.getD · 0))) =
      (groupAdj ((rowsBy cs n).zip Ts)).map (·.1) ∧
    (pairs (spans neq (rowsBy cs n))).map (fun p => slice Ts p.1 p.2) = (groupAdj ((rowsBy cs n).zip Ts)).map (·.2) := by
  have hlen : Ts.length = (rowsBy cs n).length := by simp [rowsBy, hT]
  have hB := pairs_spans_eq_groupAdj (rowsBy cs n) Ts hlen
  have hw : Wellformed (spans neq (rowsBy cs n)) n := by
    have := spans_wellformed' neq (rowsBy cs n)
    simpa [rowsBy] using this
  constructor
  · rw [keyRows_map]
    have h1 := congrArg (List.map Prod.fst) hB
    simp only [map_map] at h1
    have h2 : (pairs (spans neq (rowsBy cs n))).map (Prod.fst ∘ fun p => ((rowsBy cs n)[p.1]?, slice Ts p.1 p.2)) =
        ((pairs (spans neq (rowsBy cs n))).map (·.1)).map (fun a => some (keyAt cs a)) := by
      rw [map_map]
      apply map_congr_left
      intro p hp
      have := pairs_wellformed hw p hp
      simp [getElem?_rowsBy cs n p.1 (by omega)]
    rw [h2] at h1
    rw [pairs_map_fst] at h1
    have h3 : (groupAdj ((rowsBy cs n).zip Ts)).map (Prod.fst ∘ fun g => (some g.1, g.2)) =
        ((groupAdj ((rowsBy cs n).zip Ts)).map (·.1)).map some := by
      rw [map_map]; rfl
    rw [h3] at h1
    have h4 : map (fun a => some (keyAt cs a)) (spans neq (rowsBy cs n)).dropLast =
        map some (map (keyAt cs) (spans neq (rowsBy cs n)).dropLast) := by rw [map_map]; rfl
    rw [h4] at h1
    exact (map_inj_right (fun _ _ h => Option.some.inj h)).1 h1
  · have h1 := congrArg (List.map Prod.snd) hB
    rw [map_map, map_map] at h1
    exact h1

theorem plainKernel_spec (agg : Agg) (sp : List Nat) (Ts : List Int) (h : Wellformed sp Ts.length) :
    ∃ r, plainKernel agg sp Ts = .ok r ∧ r.map some = (pairs sp).map (fun p => aggSpec agg (slice Ts p.1 p.2)) := by
  cases agg with
  | min => exact applySpansMin_spec sp Ts h
  | max => exact applySpansMax_spec sp Ts h
  | first => exact applySpansFirst_spec sp Ts h
  | last => exact applySpansLast_spec sp Ts h

theorem applySpans_plain (agg : Agg) (sp : List Nat) (Ts : List Int) (h : Wellformed sp Ts.length) :
    ∃ r, applySpans .repaired agg sp (.plain Ts) = .ok (.ints r) ∧
      r.map some = (pairs sp).map (fun p => aggSpec agg (slice Ts p.1 p.2)) := by
  obtain ⟨r, hr, hm⟩ := plainKernel_spec agg sp Ts h
  refine ⟨r, ?_, hm⟩
  rw [applySpans, fieldApplySpans_eq (plainKernel agg) sp Ts Ts.length h, hr]

theorem rowAt_ok (indices values : List Nat) (i : Nat) (h : i + 1 < indices.length) :
    rowAt indices values i = .ok ((decodeRows indices values).getD i []) := by
  have h1 : i < indices.tail.length := by simp; omega
  have h2 : i < indices.dropLast.length := by simp; omega
  simp only [rowAt, getE_of_lt _ h1, getE_of_lt _ h2]
  rw [List.getD_eq_getElem?_getD, getElem?_decodeRows indices values i h]
  simp [List.getElem_tail, List.getElem_dropLast]

theorem gatherRows_ok (indices values : List Nat) : ∀ (idx : List Nat), (∀ i ∈ idx, i + 1 < indices.length) →
    gatherRows indices values idx = .ok (idx.map ((decodeRows indices values).getD · []))
  | [], _ => rfl
  | i :: is, h => by
    simp only [gatherRows, rowAt_ok indices values i (h i (by simp)),
      gatherRows_ok indices values is (fun j hj => h j (by simp [hj])), SortIndex.consE_ok, map_cons]

theorem offsets_eq_prefixSums (s : Nat) (rows : List (List Nat)) : offsets s rows = prefixSums s (rows.map List.length) := by
  induction rows generalizing s with
  | nil => rfl
  | cons r rs ih => simp [offsets, prefixSums, ih]

theorem offsets_length (rows : List (List Nat)) (s : Nat) : (offsets s rows).length = rows.length + 1 := by
  rw [offsets_eq_prefixSums, prefixSums.length_eq, length_map]

theorem offsets_head (rows : List (List Nat)) (s : Nat) : ∃ t, offsets s rows = s :: t := by
  cases rows <;> simp [offsets]

theorem decodeRows_cons_cons (a b : Nat) (t values : List Nat) :
    decodeRows (a :: b :: t) values = slice values a b :: decodeRows (b :: t) values := by
  simp [decodeRows, dropLast]

theorem decodeRows_offsets : ∀ (rows : List (List Nat)) (pre post : List Nat),
    decodeRows (offsets pre.length rows) (pre ++ rows.flatten ++ post) = rows
  | [], pre, post => by simp [offsets, decodeRows]
  | r :: rs, pre, post => by
    have ih := decodeRows_offsets rs (pre ++ r) post
    obtain ⟨t, ht⟩ := offsets_head rs (pre.length + r.length)
    simp only [length_append] at ih
    simp only [offsets]
    rw [ht, decodeRows_cons_cons, ← ht]
    have e : pre ++ (r :: rs).flatten ++ post = pre ++ r ++ rs.flatten ++ post := by simp
    rw [e, ih]
    congr 1
    simp [slice]

theorem offsets_bounds (rows : List (List Nat)) (s : Nat) :
    (offsets s rows).Pairwise (· ≤ ·) ∧ ∀ x ∈ offsets s rows, s ≤ x ∧ x ≤ s + rows.flatten.length := by
  rw [offsets_eq_prefixSums]
  exact ⟨prefixSums.pairwise s _, prefixSums.bounds_lengths s rows⟩

theorem validIndex_encodeRows (rows : List (List Nat)) : ValidIndex (encodeRows rows).1 (encodeRows rows).2 := by
  obtain ⟨h1, h2⟩ := offsets_bounds rows 0
  refine ⟨h1, ?_⟩
  intro x hx
  have := h2 x hx
  simp only [encodeRows] at *
  omega

theorem decodeRows_encodeRows (rows : List (List Nat)) : decodeRows (encodeRows rows).1 (encodeRows rows).2 = rows := by
  have := decodeRows_offsets rows [] []
  simpa [encodeRows] using this

theorem toRows_natCast : ∀ (ks : List Nat), toRows (ks.map (fun (k : Nat) => (k : Int))) = .ok ks
  | [] => rfl
  | k :: ks => by
    simp only [map_cons, toRows, toRow, toRows_natCast ks, SortIndex.consE_ok]
    simp

/-- the row each aggregate picks from the rows `[p.1, p.2)` of a string column -/
def pickRow (rows : List (List Nat)) : Agg → Nat × Nat → Nat
  | .min, p => firstBest lexLt rows (p.2 - (p.1 + 1)) (p.1 + 1) p.1
  | .max, p => firstBest (fun x y => lexLt y x) rows (p.2 - (p.1 + 1)) (p.1 + 1) p.1
  | .first, p => p.1
  | .last, p => p.2 - 1

theorem pickRow_spec (agg : Agg) (rows : List (List Nat)) (p : Nat × Nat) (h1 : p.1 < p.2) (h2 : p.2 ≤ rows.length) :
    pickRow rows agg p < p.2 ∧ aggSpecStr agg (slice rows p.1 p.2) = rows[pickRow rows agg p]? := by
  cases agg with
  | min =>
    have := (isFirstMinIn_iff ..).2 (firstBest_span lexLt_strictTotal rows p.1 h1 h2)
    exact ⟨this.2.1, lexMin?_of_isFirstMinIn this⟩
  | max =>
    have := (isFirstMaxIn_iff ..).2 (firstBest_span lexLt_strictTotal.flip rows p.1 h1 h2)
    exact ⟨this.2.1, lexMax?_of_isFirstMaxIn this⟩
  | first => exact ⟨h1, slice_head? _ _ _ h1⟩
  | last => exact ⟨by show p.2 - 1 < p.2; omega, slice_getLast? _ _ _ h1 h2⟩

theorem indexedKernel_eq (agg : Agg) (sp indices values : List Nat) (hv : ValidIndex indices values)
    (hw : Wellformed sp (indices.length - 1)) :
    indexedKernel .repaired indices values agg sp =
      .ok (((pairs sp).map (pickRow (decodeRows indices values) agg)).map (fun (k : Nat) => (k : Int))) := by
  rw [map_map]
  cases agg with
  | min => exact applySpansIndexOfMinIndexed_eq hv sp hw
  | max => exact applySpansIndexOfMaxIndexed_eq hv sp hw
  | first => exact forSpans_eq_map _ _ sp (wellformed_ne_nil hw) (fun _ _ => rfl)
  | last =>
    refine forSpans_eq_map _ _ sp (wellformed_ne_nil hw) (fun p hp => ?_)
    have := (pairs_wellformed hw p hp).1
    show Except.ok ((p.2 : Int) - 1) = Except.ok (((p.2 - 1 : Nat) : Nat) : Int)
    rw [Int.natCast_sub (by omega)]; rfl

theorem applySpans_indexed (agg : Agg) (sp indices values : List Nat) (hv : ValidIndex indices values)
    (hw : Wellformed sp (indices.length - 1)) :
    ∃ out, applySpans .repaired agg sp (.indexed indices values) = .ok (.strs out) ∧
      out.map some = (pairs sp).map (fun p => aggSpecStr agg (slice (decodeRows indices values) p.1 p.2)) := by
  have hpick : ∀ p ∈ pairs sp, pickRow (decodeRows indices values) agg p < p.2 ∧
      aggSpecStr agg (slice (decodeRows indices values) p.1 p.2) =
        (decodeRows indices values)[pickRow (decodeRows indices values) agg p]? := fun p hp =>
    have h := pairs_wellformed hw p hp
    pickRow_spec agg _ p h.1 (by rw [decodeRows_length]; exact h.2)
  have hlt : ∀ k ∈ (pairs sp).map (pickRow (decodeRows indices values) agg), k + 1 < indices.length := by
    intro k hk
    obtain ⟨p, hp, rfl⟩ := mem_map.1 hk
    have := (hpick p hp).1
    have := (pairs_wellformed hw p hp).2
    omega
  refine ⟨((pairs sp).map (pickRow (decodeRows indices values) agg)).map ((decodeRows indices values).getD · []), ?_, ?_⟩
  · rw [applySpans, fieldApplySpansIndexed_eq _ sp _ hw, indexedKernel_eq agg sp _ _ hv hw]
    simp only [toRows_natCast, gatherRows_ok indices values _ hlt]
  · rw [map_map, map_map]
    refine map_congr_left (fun p hp => ?_)
    have hk : pickRow (decodeRows indices values) agg p < (decodeRows indices values).length := by
      rw [decodeRows_length]; have := (hpick p hp).1; have := (pairs_wellformed hw p hp).2; omega
    rw [(hpick p hp).2, Function.comp, Function.comp, getElem?_eq_some_getD _ _ [] hk]

theorem pairs_sum : ∀ (sp : List Nat) (a : Nat),
    ((pairs (a :: sp)).map (fun p => (p.2 : Int) - p.1)).sum = (((a :: sp).getLast (by simp) : Nat) : Int) - a
  | [], a => by simp [pairs]
  | b :: sp, a => by
    rw [pairs_cons_cons, map_cons, sum_cons, pairs_sum sp b]
    simp only [getLast_cons (cons_ne_nil b sp)]
    omega

theorem frame_along {V} (cols : List (List Int)) (T : List V) (d : V) (n : Nat) (idx : List Nat) (hlen : idx.length = n) :
    Wellformed (spans neq (rowsBy (colsAlong cols idx) n)) n ∧
    keyRows (spans neq (rowsBy (colsAlong cols idx) n)).dropLast.length
        ((colsAlong cols idx).map (fun c => (spans neq (rowsBy (colsAlong cols idx) n)).dropLast.map (c.getD · 0))) =
      (groupAdj (frameAlong cols T d idx)).map (·.1) ∧
    (pairs (spans neq (rowsBy (colsAlong cols idx) n))).map (fun p => slice (idx.map (T.getD · d)) p.1 p.2) =
      (groupAdj (frameAlong cols T d idx)).map (·.2) := by
  have hw : Wellformed (spans neq (rowsBy (colsAlong cols idx) n)) n := by
    have := spans_wellformed' neq (rowsBy (colsAlong cols idx) n)
    rwa [show (rowsBy (colsAlong cols idx) n).length = n by simp [rowsBy]] at this
  have hframe : (rowsBy (colsAlong cols idx) n).zip (idx.map (T.getD · d)) = frameAlong cols T d idx := by
    rw [← hlen, rowsBy_colsAlong, frameAlong, zip_map']
  have := frame_core (colsAlong cols idx) (idx.map (T.getD · d)) n (by rw [length_map, hlen])
  rw [hframe] at this
  exact ⟨hw, this⟩

section
variable (cols : List (List Int)) (n : Nat) (idx : List Nat) (si : Option (List Nat))
  (hperm : idx.Perm (List.range n)) (hsi : (si = none ∧ idx = List.range n) ∨ si = some idx)
include hperm hsi

theorem writeKeys_along {V} (T : List V) (d : V) (hrect : Rect n cols) :
    ∃ kcols, writeKeys ⟨si, spans neq (rowsBy (colsAlong cols idx) n)⟩ cols = .ok kcols ∧
      ColumnsOf kcols ((groupAdj (frameAlong cols T d idx)).map (·.1)) := by
  have hlen := perm_range_length hperm
  have hlt := perm_range_lt hperm
  obtain ⟨hw, hc1, hc2⟩ := frame_along cols T d n idx hlen
  have hstarts := dropLast_lt_of_wellformed hw
  have hcount : (spans neq (rowsBy (colsAlong cols idx) n)).dropLast.length =
      (groupAdj (frameAlong cols T d idx)).length := by
    have := congrArg List.length hc2
    simp only [length_map] at this
    rw [← this, ← pairs_map_fst, length_map]
  refine ⟨(colsAlong cols idx).map (fun c => (spans neq (rowsBy (colsAlong cols idx) n)).dropLast.map (c.getD · 0)),
    ?_, ?_, ?_⟩
  · rcases hsi with ⟨rfl, hi⟩ | rfl
    · rw [writeKeys_none _ cols (fun c hc a ha => by rw [hrect c hc]; exact hstarts a ha), hi, colsAlong_range cols n hrect]
    · exact writeKeys_some idx _ cols (fun c hc i hi => by rw [hrect c hc]; exact hlt i hi)
        (fun a ha => by rw [hlen]; exact hstarts a ha)
  · intro c hc
    obtain ⟨c', _, rfl⟩ := mem_map.1 hc
    rw [length_map, length_map]; exact hcount
  · rw [length_map, ← hcount]; exact hc1

theorem aggTarget_plain_along (agg : Agg) (T : List Int) (hT : T.length = n) :
    ∃ r, aggTarget .repaired agg ⟨si, spans neq (rowsBy (colsAlong cols idx) n)⟩ (.plain T) = .ok (.ints r) ∧
      r.map some = ((groupAdj (frameAlong cols T 0 idx)).map (·.2)).map (aggSpec agg) := by
  have hlen := perm_range_length hperm
  obtain ⟨hw, _, hc2⟩ := frame_along cols T 0 n idx hlen
  obtain ⟨r, hr, hrm⟩ := applySpans_plain agg _ (idx.map (T.getD · 0)) (by rw [length_map, hlen]; exact hw)
  refine ⟨r, ?_, by rw [hrm, ← hc2, map_map]; rfl⟩
  rcases hsi with ⟨rfl, hi⟩ | rfl
  · rw [show idx.map (T.getD · 0) = T by rw [hi, ← hT]; exact map_getD_range T 0] at hr
    exact hr
  · simp only [aggTarget, applyIndex, gather_ok T 0 idx (fun i hi => by rw [hT]; exact perm_range_lt hperm i hi)]
    exact hr

theorem aggTarget_indexed_along (agg : Agg) (indices values : List Nat) (hv : ValidIndex indices values)
    (hlen : indices.length = n + 1) :
    ∃ out, aggTarget .repaired agg ⟨si, spans neq (rowsBy (colsAlong cols idx) n)⟩ (.indexed indices values) = .ok (.strs out) ∧
      out.map some =
        ((groupAdj (frameAlong cols (decodeRows indices values) [] idx)).map (·.2)).map (aggSpecStr agg) := by
  have hidxlen := perm_range_length hperm
  have hD : (decodeRows indices values).length = n := by rw [decodeRows_length, hlen]; rfl
  obtain ⟨hw, _, hc2⟩ := frame_along cols (decodeRows indices values) [] n idx hidxlen
  refine (?_ : ∃ out, _ ∧ out.map some = (pairs (spans neq (rowsBy (colsAlong cols idx) n))).map
      (fun p => aggSpecStr agg (slice (idx.map ((decodeRows indices values).getD · [])) p.1 p.2))).imp
    (fun out h => ⟨h.1, by rw [h.2, ← hc2, map_map]; rfl⟩)
  rcases hsi with ⟨rfl, hi⟩ | rfl
  · obtain ⟨out, h1, h2⟩ := applySpans_indexed agg _ indices values hv (by rw [hlen]; exact hw)
    refine ⟨out, h1, ?_⟩
    rw [show idx.map ((decodeRows indices values).getD · []) = decodeRows indices values by
      rw [hi, ← hD]; exact map_getD_range _ []]
    exact h2
  · have hg := gatherRows_ok indices values idx (fun i hi => by rw [hlen]; have := perm_range_lt hperm i hi; omega)
    obtain ⟨out, h1, h2⟩ := applySpans_indexed agg (spans neq (rowsBy (colsAlong cols idx) n))
      (encodeRows (idx.map ((decodeRows indices values).getD · []))).1
      (encodeRows (idx.map ((decodeRows indices values).getD · []))).2 (validIndex_encodeRows _)
      (by simpa [encodeRows, offsets_length, hidxlen] using hw)
    rw [decodeRows_encodeRows] at h2
    refine ⟨out, ?_, h2⟩
    simp only [aggTarget, applyIndex, hg]
    exact h1

omit hsi in
theorem count_along (T : List Int) (d : Int) :
    ∃ c, applySpansCount (spans neq (rowsBy (colsAlong cols idx) n)) = .ok c ∧
      c = ((groupAdj (frameAlong cols T d idx)).map (·.2)).map (fun vs => (vs.length : Int)) ∧ c.sum = n := by
  have hlen := perm_range_length hperm
  obtain ⟨hw, _, hc2⟩ := frame_along cols T d n idx hlen
  have hTs : (idx.map (T.getD · d)).length = n := by rw [length_map, hlen]
  have hpw := pairs_wellformed hw
  have hmap : (pairs (spans neq (rowsBy (colsAlong cols idx) n))).map (fun p => ((rowsOf (idx.map (T.getD · d)) p).length : Int)) =
      (pairs (spans neq (rowsBy (colsAlong cols idx) n))).map (fun p => (p.2 : Int) - p.1) := by
    apply map_congr_left
    intro p hp
    have := hpw p hp
    rw [rowsOf, slice_length_of_le _ _ _ (by rw [hTs]; exact this.2)]
    omega
  refine ⟨_, applySpansCount_eq _ (idx.map (T.getD · d)) (by rw [hTs]; exact hw),
    by rw [← hc2, map_map]; rfl, ?_⟩
  rw [hmap]
  -- telescoping sum from `0` to `n`
  obtain ⟨a, rest, hsp⟩ : ∃ a rest, spans neq (rowsBy (colsAlong cols idx) n) = a :: rest := by
    cases h : spans neq (rowsBy (colsAlong cols idx) n) with
    | nil => have := wellformed_ne_nil hw; simp [h] at this
    | cons a rest => exact ⟨a, rest, rfl⟩
  have h0 : a = 0 := by have := hw.2.1; rw [hsp] at this; simpa using this
  have hl : (a :: rest).getLast (by simp) = n := by
    have := hw.2.2; rw [hsp, getLast?_eq_some_getLast (by simp)] at this; exact Option.some.inj this
  have hs := pairs_sum rest a
  rw [hl, h0] at hs
  rw [hsp, h0, hs]; simp

end

theorem IsGrouping.outputs {cols : List (List Int)} {n : Nat} {g : Grouping} (hg : IsGrouping cols n g) (hrect : Rect n cols) :
    ∃ kcols outKeys, writeKeys g cols = .ok kcols ∧ ColumnsOf kcols outKeys ∧ DistinctAscending (rowsBy cols n) outKeys ∧
      (∀ agg (T : List Int), T.length = n → ∃ vals, aggTarget .repaired agg g (.plain T) = .ok (.ints vals) ∧
        vals.map some = outKeys.map (fun k => aggSpec agg (select (rowsBy cols n) T k))) ∧
      (∀ agg indices values, ValidIndex indices values → indices.length = n + 1 →
        ∃ out, aggTarget .repaired agg g (.indexed indices values) = .ok (.strs out) ∧
          out.map some = outKeys.map (fun k => aggSpecStr agg (select (rowsBy cols n) (decodeRows indices values) k))) ∧
      ∃ counts, count g = .ok counts ∧ counts = outKeys.map (fun k => (((rowsBy cols n).count k : Nat) : Int)) ∧
        counts.sum = n := by
  obtain ⟨si, sp⟩ := g
  obtain ⟨idx, hperm, hs, hsi, hsp⟩ := hg
  simp only at hsi hsp
  subst hsp
  -- the keys are those of the adjacent groups of the frame with any target column: take a constant one
  obtain ⟨kcols, hwk, hcols⟩ := writeKeys_along cols n idx si hperm hsi (List.replicate n (0 : Int)) 0 hrect
  obtain ⟨hda0, _⟩ := groups_along_index cols (List.replicate n (0 : Int)) 0 n idx hperm hs length_replicate
  have hgr : ∀ {V} (T : List V) (d : V), T.length = n →
      (groupAdj (frameAlong cols T d idx)).map (·.2) =
        ((groupAdj (frameAlong cols (List.replicate n (0 : Int)) 0 idx)).map (·.1)).map (select (rowsBy cols n) T) := by
    intro V T d hT
    obtain ⟨hda, hsel⟩ := groups_along_index cols T d n idx hperm hs hT
    rw [hsel, distinctAscending_unique hda hda0]
  refine ⟨kcols, _, hwk, hcols, hda0, ?_, ?_, ?_⟩
  · intro agg T hT
    obtain ⟨r, hr, hrm⟩ := aggTarget_plain_along cols n idx si hperm hsi agg T hT
    exact ⟨r, hr, by rw [hrm, hgr T 0 hT, map_map]; rfl⟩
  · intro agg indices values hv hlen
    obtain ⟨out, ho, hom⟩ := aggTarget_indexed_along cols n idx si hperm hsi agg indices values hv hlen
    exact ⟨out, ho, by rw [hom, hgr _ [] (by rw [decodeRows_length, hlen]; rfl), map_map]; rfl⟩
  · obtain ⟨c, hc, hceq, hsum⟩ := count_along cols n idx hperm (List.replicate n (0 : Int)) 0
    refine ⟨c, hc, ?_, hsum⟩
    rw [hceq, hgr _ 0 length_replicate, map_map]
    apply map_congr_left
    intro k _
    simp only [Function.comp]
    rw [select_length _ _ _ (by simp [rowsBy])]

section
variable (k0 : KeyCol) (ks : List KeyCol) (hint : Bool) (n : Nat) (hrect : Rect n ((k0 :: ks).map (·.data)))
  (hhint : hint = true → SortedRows ((k0 :: ks).map (·.data)) n)
include hrect hhint

theorem groupbyAgg_spec (agg : Agg) (T : List Int) (hT : T.length = n) :
    ∃ kcols vals outKeys, groupbyAgg .repaired agg (k0 :: ks) hint [.plain T] = .ok ⟨kcols, [.ints vals]⟩ ∧
      ColumnsOf kcols outKeys ∧ IsGroupBy (rowsBy ((k0 :: ks).map (·.data)) n) T (aggSpec agg) outKeys vals := by
  obtain ⟨g, hg, hgr⟩ := groupbyCols_grouping k0 ks hint n hrect hhint
  obtain ⟨kcols, outKeys, hwk, hcols, hda, hplain, _, _⟩ := hgr.outputs hrect
  obtain ⟨vals, hag, hvals⟩ := hplain agg T hT
  exact ⟨kcols, vals, outKeys, by simp only [groupbyAgg, groupby, hg, aggOf, hwk, aggTargets, hag, SortIndex.consE_ok],
    hcols, hda, hvals⟩

theorem groupbyAgg_indexed_spec (agg : Agg) (indices values : List Nat) (hv : ValidIndex indices values)
    (hlen : indices.length = n + 1) :
    ∃ kcols out outKeys, groupbyAgg .repaired agg (k0 :: ks) hint [.indexed indices values] = .ok ⟨kcols, [.strs out]⟩ ∧
      ColumnsOf kcols outKeys ∧
      IsGroupBy (rowsBy ((k0 :: ks).map (·.data)) n) (decodeRows indices values) (aggSpecStr agg) outKeys out := by
  obtain ⟨g, hg, hgr⟩ := groupbyCols_grouping k0 ks hint n hrect hhint
  obtain ⟨kcols, outKeys, hwk, hcols, hda, _, hindexed, _⟩ := hgr.outputs hrect
  obtain ⟨out, hag, hout⟩ := hindexed agg indices values hv hlen
  exact ⟨kcols, out, outKeys, by simp only [groupbyAgg, groupby, hg, aggOf, hwk, aggTargets, hag, SortIndex.consE_ok],
    hcols, hda, hout⟩

theorem groupbyCount_spec :
    ∃ kcols counts outKeys, groupbyCount .repaired (k0 :: ks) hint = .ok ⟨kcols, [.ints counts]⟩ ∧
      ColumnsOf kcols outKeys ∧ IsGroupCount (rowsBy ((k0 :: ks).map (·.data)) n) outKeys counts ∧
      counts.sum = n := by
  obtain ⟨g, hg, hgr⟩ := groupbyCols_grouping k0 ks hint n hrect hhint
  obtain ⟨kcols, outKeys, hwk, hcols, hda, _, _, counts, hc, hceq, hsum⟩ := hgr.outputs hrect
  exact ⟨kcols, counts, outKeys, by simp only [groupbyCount, groupby, hg, countOf, hwk, hc], hcols, ⟨hda, hceq⟩, hsum⟩

theorem groupbyDistinct_spec :
    ∃ kcols outKeys, groupbyDistinct .repaired (k0 :: ks) hint = .ok ⟨kcols, []⟩ ∧
      ColumnsOf kcols outKeys ∧ DistinctAscending (rowsBy ((k0 :: ks).map (·.data)) n) outKeys := by
  obtain ⟨g, hg, hgr⟩ := groupbyCols_grouping k0 ks hint n hrect hhint
  obtain ⟨kcols, outKeys, hwk, hcols, hda, _⟩ := hgr.outputs hrect
  exact ⟨kcols, outKeys, by simp only [groupbyDistinct, groupby, hg, distinctOf, hwk], hcols, hda⟩

end

theorem keyRows_eq_rowsBy (cols : List (List Int)) (n : Nat) (h : Rect n cols) : keyRows n cols = rowsBy cols n := by
  have := keyRows_map (List.range n) cols
  rw [length_range] at this
  have e : cols.map (fun c => (List.range n).map (c.getD · 0)) = cols := colsAlong_range cols n h
  rw [e] at this
  exact this

theorem sortedRows_of_rowsSorted (cols : List (List Int)) (n : Nat) (h : Rect n cols) (hs : RowsSorted (keyRows n cols)) :
    SortedRows cols n := by
  rw [keyRows_eq_rowsBy cols n h] at hs
  unfold RowsSorted rowsBy at hs
  rw [pairwise_map, pairwise_iff_getElem] at hs
  intro i j hij hj
  have := hs i j (by simp; omega) (by simpa using hj) hij
  simpa using this

theorem keyAt_single (index : List Int) (i : Nat) : keyAt [index] i = [index.getD i 0] := rfl

theorem spans_single (index : List Int) :
    getSpansForField (fun (a b : Int) => a != b) index = spans neq (rowsBy [index] index.length) := by
  rw [getSpansForField_eq_spec]
  apply spans_congr
  · simp [rowsBy]
  · refine isBoundary_congr_rows _ _ _ _ (by simp [rowsBy]) ?_
    intro i h0 hi
    simp only [rowsBy, getElem_map, getElem_range, keyAt_single, neq]
    have h1 : i - 1 < index.length := by omega
    simp only [List.getD_eq_getElem?_getD, List.getElem?_eq_getElem hi, List.getElem?_eq_getElem h1, Option.getD_some]
    by_cases he : index[i - 1] = index[i]
    · rw [he]; simp
    · have : ¬ [index[i - 1]] = [index[i]] := by simpa using he
      rw [bne_iff_ne.2 he, bne_iff_ne.2 this]

theorem sortedRows_single (index : List Int) (hsorted : index.Pairwise (· ≤ ·)) : SortedRows [index] index.length := by
  intro i j hij hj
  rw [pairwise_iff_getElem] at hsorted
  have := hsorted i j (by omega) hj hij
  simp only [keyAt_single, tupleLt_cons, List.getD_eq_getElem?_getD, List.getElem?_eq_getElem hj,
    List.getElem?_eq_getElem (show i < index.length by omega), Option.getD_some, tupleLt, Bool.and_false,
    Bool.or_false, decide_eq_false_iff_not]
  omega

theorem rowsSorted_of_sortedRows (cols : List (List Int)) (n : Nat) (h : Rect n cols) (hs : SortedRows cols n) :
    RowsSorted (keyRows n cols) := by
  rw [keyRows_eq_rowsBy cols n h]
  unfold RowsSorted rowsBy
  rw [pairwise_map, pairwise_iff_getElem]
  intro i j hi hj hij
  simp only [length_range] at hi hj
  simpa using hs i j hij hj

/-- on a sorted `index`, what `Session.aggregate_*` works with is what `groupby` on that one key would hand to the group-by object -/
theorem isGrouping_single (index : List Int) (hsorted : index.Pairwise (· ≤ ·)) :
    IsGrouping [index] index.length ⟨none, getSpansForField (fun (a b : Int) => a != b) index⟩ :=
  ⟨List.range index.length, Perm.refl _, range_sorted_index _ _ (sortedRows_single index hsorted), Or.inl ⟨rfl, rfl⟩, by
    rw [colsAlong_range [index] _ (by intro c hc; simp at hc; subst hc; rfl)]; exact spans_single index⟩

theorem aggregateCount_spec (index : List Int) (hsorted : index.Pairwise (· ≤ ·)) :
    ∃ counts outKeys, aggregateCount .repaired (.numeric index) = .ok counts ∧
      IsGroupCount (rowsBy [index] index.length) outKeys counts := by
  obtain ⟨_, outKeys, _, _, hda, _, _, counts, hc, hceq, _⟩ :=
    (isGrouping_single index hsorted).outputs (by intro c hc; simp at hc; subst hc; rfl)
  exact ⟨counts, outKeys, hc, hda, hceq⟩

theorem aggregate_spec (agg : Agg) (index T : List Int) (hT : T.length = index.length)
    (hsorted : index.Pairwise (· ≤ ·)) :
    ∃ vals outKeys, aggregate .repaired agg (.numeric index) (some T) = .ok vals ∧
      IsGroupBy (rowsBy [index] index.length) T (aggSpec agg) outKeys vals := by
  obtain ⟨_, outKeys, _, _, hda, hplain, _, _⟩ :=
    (isGrouping_single index hsorted).outputs (by intro c hc; simp at hc; subst hc; rfl)
  obtain ⟨vals, hag, hvals⟩ := hplain agg T hT
  refine ⟨vals, outKeys, ?_, hda, hvals⟩
  have hw : Wellformed (getSpansForField (fun (a b : Int) => a != b) index) T.length := by
    rw [getSpansForField_eq_spec, hT]; exact spans_wellformed' _ index
  -- the Session wrapper and the Field wrapper both pass the spans on to the same kernel
  simp only [aggTarget, applySpans, fieldApplySpans_eq _ _ T _ hw] at hag
  simp only [aggregate, columnSpans, sessionApplySpansSrc_eq _ _ _ hw]
  cases hk : plainKernel agg (getSpansForField (fun (a b : Int) => a != b) index) T with
  | error e => rw [hk] at hag; cases hag
  | ok r => rw [hk] at hag; injection hag with h; injection h with h; rw [h]

end Exetera.GroupBy
