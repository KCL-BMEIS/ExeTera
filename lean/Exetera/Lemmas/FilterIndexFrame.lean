import Exetera.Lemmas.FilterIndexKernel
/-!
  Frame level of filter / re-index (C09): the column loops of `DataFrame.apply_filter` / `apply_index` against
  `Spec.mapCols`. The loops know a per-field operation only through `OpSpec op g` (it implements the row operation `g` in
  both calling conventions); `OpSpec.of_stores` produces that from `ComputesThenStores` and the payload-level spec, for
  filter and re-index alike.
-/
namespace Exetera.FilterIndex
open Exetera Exetera.Spec

def Holds : Frame → List (ColSpec Meta) → Prop
  | [], [] => True
  | (n, f) :: fr, c :: cs => n = c.name ∧ f.info = c.info ∧ Encodes f.payload c.content ∧ Holds fr cs
  | _, _ => False

def AllWriteable (fr : Frame) : Prop := ∀ p ∈ fr, p.2.writeEnabled = true

/-- `Nodup`: the columns of a `DataFrame` are the keys of a dictionary -/
def Fresh (sf df : Frame) : Prop := (sf.map (·.1)).Nodup ∧ ∀ p ∈ sf, df.has p.1 = false

@[elab_as_elim]
theorem Holds.induction {motive : ∀ fr cols, Holds fr cols → Prop} (nil : motive [] [] trivial)
    (cons : ∀ n f fr c cs (hn : n = c.name) (hi : f.info = c.info) (he : Encodes f.payload c.content) (h : Holds fr cs),
      motive fr cs h → motive ((n, f) :: fr) (c :: cs) ⟨hn, hi, he, h⟩)
    {fr : Frame} {cols : List (ColSpec Meta)} (h : Holds fr cols) : motive fr cols h := by
  induction fr generalizing cols with
  | nil =>
    cases cols with
    | nil => exact nil
    | cons c cs => exact False.elim h
  | cons p fr ih =>
    cases cols with
    | nil => exact False.elim h
    | cons c cs => exact cons p.1 p.2 fr c cs h.1 h.2.1 h.2.2.1 h.2.2.2 (ih h.2.2.2)

theorem mapCols_cons {μ} (g : Column → Option Column) (c : ColSpec μ) (cs : List (ColSpec μ)) :
    mapCols g (c :: cs) = (g c.content).bind fun x => (mapCols g cs).map ({ c with content := x } :: ·) := by
  simp only [mapCols]
  cases g c.content with
  | none => rfl
  | some x => cases mapCols g cs <;> rfl

theorem mapCols_cons_eq_some {μ} {g : Column → Option Column} {c : ColSpec μ} {cs cols' : List (ColSpec μ)} :
    mapCols g (c :: cs) = some cols' ↔
      ∃ x r, g c.content = some x ∧ mapCols g cs = some r ∧ { c with content := x } :: r = cols' := by
  simp only [mapCols_cons, Option.bind_eq_some_iff, Option.map_eq_some_iff]
  exact ⟨fun ⟨x, hx, r, hr, h⟩ => ⟨x, r, hx, hr, h⟩, fun ⟨x, r, hx, hr, h⟩ => ⟨x, hx, r, hr, h⟩⟩

theorem mapCols_cons_eq_none {μ} {g : Column → Option Column} {c : ColSpec μ} {cs : List (ColSpec μ)} :
    mapCols g (c :: cs) = none ↔ g c.content = none ∨ mapCols g cs = none := by
  rw [mapCols_cons]
  cases g c.content <;> simp

/-- the frame loops call `op` either as `op f None True` (in place) or as `op f target False` -/
structure OpSpec (op : Field → Option Field → Bool → Except Err Field) (g : Column → Option Column) : Prop where
  ok : ∀ f c c', Encodes f.payload c → g c = some c' →
    ∃ res, Encodes res c' ∧ (f.writeEnabled = true → op f none true = .ok { f with payload := res }) ∧
      (∀ t, op f (some t) false = .ok { t with payload := res })
  err : ∀ f c, Encodes f.payload c → g c = none →
    ∃ e, op f none true = .error e ∧ ∀ t, op f (some t) false = .error e

theorem OpSpec.of_stores {op compute g} (h : ComputesThenStores op compute)
    (hok : ∀ p c c', Encodes p c → g c = some c' → ∃ p', compute p = .ok p' ∧ Encodes p' c')
    (herr : ∀ p c, Encodes p c → g c = none → ∃ site, compute p = .error (.oob site)) : OpSpec op g where
  ok f c c' he hc := by
    obtain ⟨res, hr, henc⟩ := hok f.payload c c' he hc
    obtain ⟨h1, h2, _⟩ := (h.modes_agree f).1 res hr
    exact ⟨res, henc, h1, h2⟩
  err f c he hc := by
    obtain ⟨site, hs⟩ := herr f.payload c he hc
    obtain ⟨h1, h2, _⟩ := (h.modes_agree f).2 _ hs
    exact ⟨_, h1, h2⟩

theorem opSpec_filter (bs : List Bool) :
    OpSpec (fun f t ip => applyFilterField .repaired f (.bool bs) t ip) (Column.filter bs) :=
  .of_stores (applyFilterField_stores .repaired bs) (fun p c c' => filterPayload_spec .repaired p c c' bs)
    (fun p c => filterPayload_err p c bs)

theorem opSpec_index (idx : List Int) :
    OpSpec (fun f t ip => applyIndexField .repaired f idx t ip) (Column.gather idx) :=
  .of_stores (applyIndexField_stores .repaired idx) (fun p c c' => indexPayload_spec .repaired p c c' idx)
    (fun p c => indexPayload_err p c idx)

theorem colsInPlace_holds {op g} (hop : OpSpec op g) (sf : Frame) (cols cols' : List (ColSpec Meta))
    (hh : Holds sf cols) (hw : AllWriteable sf) (hm : mapCols g cols = some cols') :
    ∃ rf, colsInPlace op sf = .ok rf ∧ Holds rf cols' ∧ AllWriteable rf := by
  induction hh using Holds.induction generalizing cols' with
  | nil => cases hm; exact ⟨[], rfl, trivial, fun _ hp => nomatch hp⟩
  | cons n f fr c cs hn hi he _ ih =>
    obtain ⟨x, r, hx, hr, rfl⟩ := mapCols_cons_eq_some.mp hm
    obtain ⟨res, henc, hin, _⟩ := hop.ok f c.content x he hx
    have hwf : f.writeEnabled = true := hw (n, f) (by simp)
    obtain ⟨rf, hrf, hholds, hwr⟩ := ih r (fun q hq => hw q (by simp [hq])) hr
    refine ⟨(n, { f with payload := res }) :: rf, by simp only [colsInPlace, hin hwf, hrf], ⟨hn, hi, henc, hholds⟩, ?_⟩
    intro q hq
    rcases List.mem_cons.mp hq with rfl | hq
    · exact hwf
    · exact hwr q hq

theorem has_append (df : Frame) (q : String × Field) (name : String) :
    Frame.has (df ++ [q]) name = (df.has name || q.1 == name) := by
  simp [Frame.has, List.any_append]

theorem colsTo_holds {op g} (hop : OpSpec op g) (sf df : Frame) (cols cols' : List (ColSpec Meta))
    (hh : Holds sf cols) (hf : Fresh sf df) (hm : mapCols g cols = some cols') :
    ∃ rf, colsTo op sf df = .ok (df ++ rf) ∧ Holds rf cols' ∧ AllWriteable rf := by
  induction hh using Holds.induction generalizing df cols' with
  | nil => cases hm; exact ⟨[], by simp [colsTo], trivial, fun _ hp => nomatch hp⟩
  | cons n f fr c cs hn hi he _ ih =>
    obtain ⟨x, r, hx, hr, rfl⟩ := mapCols_cons_eq_some.mp hm
    obtain ⟨res, henc, _, hto⟩ := hop.ok f c.content x he hx
    obtain ⟨hnd, hfresh⟩ := hf
    obtain ⟨hn', hnd'⟩ := List.nodup_cons.mp hnd
    have hcl : createLike df n f = .ok (emptyLike f) := by simp [createLike, hfresh (n, f) (by simp)]
    -- the column just written is in the destination from now on: the remaining names must differ from it
    have hf' : Fresh fr (df ++ [(n, { emptyLike f with payload := res })]) := by
      refine ⟨hnd', fun q hq => ?_⟩
      have hne : n ≠ q.1 := fun h => hn' (by rw [h]; exact List.mem_map.mpr ⟨q, hq, rfl⟩)
      simp [has_append, hfresh q (by simp [hq]), hne]
    obtain ⟨rf, hrf, hholds, hwr⟩ := ih _ r hf' hr
    refine ⟨(n, { emptyLike f with payload := res }) :: rf, ?_, ⟨hn, hi, henc, hholds⟩, ?_⟩
    · simp only [colsTo, hcl, hto (emptyLike f), hrf, List.append_assoc, List.singleton_append]
    · intro q hq
      rcases List.mem_cons.mp hq with rfl | hq
      · rfl
      · exact hwr q hq

theorem colsInPlace_reject {op g} (hop : OpSpec op g) (sf : Frame) (cols : List (ColSpec Meta))
    (hh : Holds sf cols) (hm : mapCols g cols = none) : ∃ e, colsInPlace op sf = .error e := by
  induction hh using Holds.induction with
  | nil => cases hm
  | cons n f fr c cs _ _ he _ ih =>
    cases h1 : op f none true with
    | error e' => exact ⟨e', by simp only [colsInPlace, h1]⟩
    | ok w =>
      -- the first column went through, so `g` is defined on it and the failure is further on
      obtain ⟨e, h2⟩ := ih ((mapCols_cons_eq_none.mp hm).resolve_left fun hx => by
        obtain ⟨_, h, _⟩ := hop.err f c.content he hx
        rw [h1] at h; cases h)
      exact ⟨e, by simp only [colsInPlace, h1, h2]⟩

theorem colsTo_reject {op g} (hop : OpSpec op g) (sf df : Frame) (cols : List (ColSpec Meta))
    (hh : Holds sf cols) (hm : mapCols g cols = none) : ∃ e, colsTo op sf df = .error e := by
  induction hh using Holds.induction generalizing df with
  | nil => cases hm
  | cons n f fr c cs _ _ he _ ih =>
    cases hcl : createLike df n f with
    | error e' => exact ⟨e', by simp only [colsTo, hcl]⟩
    | ok nf =>
      cases h1 : op f (some nf) false with
      | error e' => exact ⟨e', by simp only [colsTo, hcl, h1]⟩
      | ok w =>
        obtain ⟨e, h2⟩ := ih (df ++ [(n, w)]) ((mapCols_cons_eq_none.mp hm).resolve_left fun hx => by
          obtain ⟨_, _, h⟩ := hop.err f c.content he hx
          rw [h nf] at h1; cases h1)
        exact ⟨e, by simp only [colsTo, hcl, h1, h2]⟩

theorem Holds_nrows {sf : Frame} {cols : List (ColSpec Meta)} (hh : Holds sf cols) {n : Nat}
    (hrect : ∀ c ∈ cols, c.content.length = n) : ∀ p ∈ sf, p.2.payload.nrows = n := by
  induction hh using Holds.induction with
  | nil => exact fun _ hp => nomatch hp
  | cons m f fr c cs _ _ he _ ih =>
    intro p hp
    rcases List.mem_cons.mp hp with rfl | hp
    · rw [Encodes_nrows _ _ he]; exact hrect c (by simp)
    · exact ih (fun c' hc' => hrect c' (by simp [hc'])) p hp

theorem allSameLength_of_rect (sf : Frame) (cols : List (ColSpec Meta)) (hh : Holds sf cols) (n : Nat)
    (hrect : ∀ c ∈ cols, c.content.length = n) : allSameLength sf = true := by
  have hall := Holds_nrows hh hrect
  cases sf with
  | nil => rfl
  | cons q sf =>
    simp only [allSameLength, List.all_eq_true, beq_iff_eq]
    intro p hp
    rw [hall p (by simp [hp]), hall q (by simp)]

theorem put_cons (p : String × Frame) (st : Store) (k : String) (f : Frame) :
    Store.put (p :: st) k f = (if p.1 == k then (k, f) else p) :: Store.put st k f := rfl

theorem lookup_put_ne (st : Store) (k k' : String) (f : Frame) (h : k' ≠ k) :
    (st.put k f).lookup k' = st.lookup k' := by
  induction st with
  | nil => rfl
  | cons p st ih =>
    rw [put_cons, List.lookup_cons, List.lookup_cons, ih]
    by_cases hp : p.1 = k
    · have h1 : (k' == k) = false := beq_eq_false_iff_ne.mpr h
      rw [if_pos (beq_iff_eq.mpr hp), ← hp] at *
      rw [h1]
    · rw [if_neg (mt beq_iff_eq.mp hp)]

theorem lookup_put_same (st : Store) (k : String) (f x : Frame) (h : st.lookup k = some x) :
    (st.put k f).lookup k = some f := by
  induction st with
  | nil => cases h
  | cons p st ih =>
    rw [put_cons, List.lookup_cons]
    rw [List.lookup_cons] at h
    by_cases hp : p.1 = k
    · rw [if_pos (beq_iff_eq.mpr hp), beq_self_eq_true]
    · have h1 : (k == p.1) = false := beq_eq_false_iff_ne.mpr (Ne.symm hp)
      rw [h1] at h
      rw [if_neg (mt beq_iff_eq.mp hp), h1]
      exact ih h

theorem Store.frame_eq (st : Store) (k : String) (f : Frame) (h : st.lookup k = some f) : st.frame k = .ok f := by
  simp [Store.frame, h]

theorem bind_eq_ok {ε α β} {x : Except ε α} {f : α → Except ε β} {b : β} (h : x >>= f = .ok b) :
    ∃ a, x = .ok a ∧ f a = .ok b := by
  cases x with
  | error e => cases h
  | ok a => exact ⟨a, rfl, h⟩

theorem guard_eq_ok {ε β} {c : Prop} [Decidable c] {e : ε} {rest : PUnit → Except ε β} {b : β}
    (h : (if c then throw e >>= rest else rest ()) = .ok b) : rest () = .ok b := by
  split at h
  · cases h
  · exact h

theorem frameOp_untouched (st st' : Store) (src : String) (ddf : Option String) op
    (h : frameOp st src ddf op = .ok st') (k : String) (hk : k ≠ ddf.getD src) : st'.lookup k = st.lookup k := by
  obtain ⟨sf, _, h⟩ := bind_eq_ok h
  cases ddf with
  | none =>
    obtain ⟨r, _, h⟩ := bind_eq_ok h
    cases h; exact lookup_put_ne st src k r hk
  | some d =>
    obtain ⟨df, _, h⟩ := bind_eq_ok h
    obtain ⟨r, _, h⟩ := bind_eq_ok h
    cases h; exact lookup_put_ne st d k r hk

theorem frameOp_inPlace {op g} (hop : OpSpec op g) (st : Store) (src : String) (sf : Frame)
    (cols cols' : List (ColSpec Meta)) (hs : st.lookup src = some sf)
    (hh : Holds sf cols) (hw : AllWriteable sf) (hm : mapCols g cols = some cols') :
    ∃ rf, frameOp st src none op = .ok (st.put src rf) ∧ Holds rf cols' ∧ AllWriteable rf := by
  obtain ⟨rf, hrf, hr⟩ := colsInPlace_holds hop sf cols cols' hh hw hm
  exact ⟨rf, by simp [frameOp, Store.frame_eq st src sf hs, hrf, bind, Except.bind, pure, Except.pure], hr⟩

theorem frameOp_into {op g} (hop : OpSpec op g) (st : Store) (src d : String) (sf df : Frame)
    (cols cols' : List (ColSpec Meta)) (hs : st.lookup src = some sf) (hd : st.lookup d = some df)
    (hh : Holds sf cols) (hf : Fresh sf df) (hm : mapCols g cols = some cols') :
    ∃ rf, frameOp st src (some d) op = .ok (st.put d (df ++ rf)) ∧ Holds rf cols' ∧ AllWriteable rf := by
  obtain ⟨rf, hrf, hr⟩ := colsTo_holds hop sf df cols cols' hh hf hm
  exact ⟨rf, by simp [frameOp, Store.frame_eq st src sf hs, Store.frame_eq st d df hd, hrf, bind, Except.bind,
    pure, Except.pure], hr⟩

theorem frameOp_reject {op g} (hop : OpSpec op g) (st : Store) (src : String) (ddf : Option String) (sf : Frame)
    (cols : List (ColSpec Meta)) (hs : st.lookup src = some sf) (hh : Holds sf cols) (hm : mapCols g cols = none) :
    ∃ e, frameOp st src ddf op = .error e := by
  cases ddf with
  | none =>
    obtain ⟨e, he⟩ := colsInPlace_reject hop sf cols hh hm
    exact ⟨e, by simp [frameOp, Store.frame_eq st src sf hs, he, bind, Except.bind]⟩
  | some d =>
    cases hd : st.frame d with
    | error e => exact ⟨e, by simp [frameOp, Store.frame_eq st src sf hs, hd, bind, Except.bind]⟩
    | ok df =>
      obtain ⟨e, he⟩ := colsTo_reject hop sf df cols hh hm
      exact ⟨e, by simp [frameOp, Store.frame_eq st src sf hs, hd, he, bind, Except.bind]⟩

theorem dfApplyFilter_eq (v : Variant) (st : Store) (src : String) (ddf : Option String) {flt : Filter} {bs : List Bool}
    (hv : validateFilter flt = .ok bs) :
    dfApplyFilter v st src flt ddf = frameOp st src ddf (fun f t ip => applyFilterField v f (.bool bs) t ip) := by
  simp only [dfApplyFilter, hv, bind, Except.bind]

/-- `apply_index` checks the lengths only when it works in place -/
theorem dfApplyIndex_eq (v : Variant) (st : Store) (src : String) (idx : List Int) (ddf : Option String) {sf : Frame}
    (hs : st.lookup src = some sf) (h : ddf.isNone = true → allSameLength sf = true) :
    dfApplyIndex v st src idx ddf = frameOp st src ddf (fun f t ip => applyIndexField v f idx t ip) := by
  have hg : ¬ (ddf.isNone = true ∧ (!allSameLength sf) = true) := fun ⟨h1, h2⟩ => by simp [h h1] at h2
  simp only [dfApplyIndex, Store.frame_eq st src sf hs, bind, Except.bind, hg, if_false]

end Exetera.FilterIndex
