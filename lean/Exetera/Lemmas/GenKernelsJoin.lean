import Exetera.Gen.Kernels
import Exetera.Model.Join
import Exetera.Lemmas.GenKernels
import Exetera.Lemmas.GenKernelsSpans
/-!
  The TRANSLATED join kernels (C03) against the guard/body models of `Model/Join.lean`:

    generate_ordered_map_to_left_both_unique_partial          ~  runPartial .leftBU
    generate_ordered_map_to_left_remaining                    ~  runRemaining            (both result buffers)
    generate_ordered_map_to_left_right_unique_remaining       ~  runRemaining            (r_result only)

  The model represents the two chunk-sized result buffers by the lists of values written so far (`lb`, `rb`, `r = rb.length`);
  the translated kernels, like the code, write position `r` of fixed-size arrays.  The simulation relation is
  "`buffer[:r]` = the model's list, `len(buffer)` = the capacity (`Buf`), loop variables equal"; `whileE_sim` lifts the
  one-iteration lemmas to the loops (same fuel on both sides), so every `.ok` result of the model is a result of the
  translated kernel.

  The file also holds what every join kernel's proof uses: the translated run-counting loop against `runCount` for any
  generated state type (`whileG_runCount`, as an `OkFollows` rule `OkFollows.runCount`) and the guard facts of `partialGuard`.
-/
namespace Exetera.GenK

open Exetera Exetera.PyRt Exetera.Gen.Kernels Exetera.Join

/-- every `_partial` loop runs only while the result buffer has room -/
theorem partialGuard_room {v : Variant} {p : P} {k : K} (h : partialGuard v p k = true) : k.rb.length < p.cap := by
  cases v <;> exact of_decide_eq_true (Bool.and_eq_true_iff.mp h).2

theorem le_partialFuel (p : P) : p.iMax ≤ partialFuel p ∧ p.jMax ≤ partialFuel p := by
  simp only [partialFuel]; omega

/-! ### the run-counting loop -/

/-- The translated `while k + 1 < lim and xs[k+1] == xs[k]: c += 1; k += 1` against the model's `runCount`, for any generated
    state type: `st k c` is the state whose loop variables are `k` and `c` (a kernel that keeps no counter ignores `c`), `hg` and
    `hb` say that guard and body are that loop's (both hold by `rfl` for a state given field by field). The translated loop
    runs on the kernel's fuel `F`, the model's recursion on the fuel `lim`; either suffices, since it covers the rest of the column. -/
theorem whileG_runCount {σ} (guard : σ → Except Err Bool) (body : σ → Except Err σ) (xs : List Int) (lim : Nat)
    (s1 s2 : String) (st : Nat → Nat → σ)
    (hg : ∀ k c, guard (st k c) = if decide ((k : Int) + 1 < (lim : Int)) then
        bindE (idxE xs ((k : Int) + 1) s1) fun a => bindE (idxE xs (k : Int) s2) fun b => .ok (a == b) else .ok false)
    (hb : ∀ k c, body (st k c) = .ok (st (k + 1) (c + 1))) (F k c c' : Nat) (hF : lim ≤ F)
    (h : runCount xs lim lim k c = .ok c') :
    c ≤ c' ∧ whileG guard body F (st k c) = .ok (st (k + (c' - c)) c') := by
  suffices H : ∀ (f F k c c' : Nat), lim - (k + 1) ≤ f → lim - (k + 1) ≤ F → runCount xs lim f k c = .ok c' →
      c ≤ c' ∧ whileG guard body F (st k c) = .ok (st (k + (c' - c)) c') from
    H lim F k c c' (Nat.sub_le _ _) (Nat.le_trans (Nat.sub_le _ _) hF) h
  clear h hF F k c c'
  have stop : ∀ F k c, guard (st k c) = .ok false → c ≤ c ∧ whileG guard body F (st k c) = .ok (st (k + (c - c)) c) :=
    fun F k c h => ⟨Nat.le_refl c, by rw [Nat.sub_self, Nat.add_zero]; exact whileG_done h F⟩
  intro f
  induction f with
  | zero =>
    intro F k c c' hf _ h
    simp only [runCount, Except.ok.injEq] at h
    subst h
    exact stop F k c (by rw [hg, if_neg]; simp only [decide_eq_true_eq]; omega)
  | succ f ih =>
    intro F k c c' hf hF h
    simp only [runCount] at h
    by_cases hk : k + 1 < lim
    · have hlt : decide ((k : Int) + 1 < (lim : Int)) = true := decide_eq_true (by omega)
      have hG := hg k c
      rw [hlt, if_pos rfl, show (k : Int) + 1 = ((k + 1 : Nat) : Int) from rfl, idxE_nat, idxE_nat] at hG
      rw [if_pos hk] at h
      cases ha : getE xs (k + 1) "run[k+1]" with
      | error e => simp [ha] at h
      | ok a =>
        cases hb' : getE xs k "run[k]" with
        | error e => simp [ha, hb'] at h
        | ok b =>
          rw [getE_site s1 ha, getE_site s2 hb', bindE_ok, bindE_ok] at hG
          simp only [ha, hb'] at h
          cases hab : a == b with
          | false =>
            simp only [hab, Bool.false_eq_true, if_false, Except.ok.injEq] at h
            subst h
            exact stop F k c (by rw [hG, hab])
          | true =>
            simp only [hab, if_true] at h
            obtain ⟨F', rfl⟩ : ∃ F', F = F' + 1 := ⟨F - 1, by omega⟩
            obtain ⟨hle, hw⟩ := ih F' (k + 1) (c + 1) c' (by omega) (by omega) h
            refine ⟨by omega, ?_⟩
            rw [whileG_step (by rw [hG, hab]) (hb k c), hw, show k + 1 + (c' - (c + 1)) = k + (c' - c) by omega]
    · rw [if_neg hk] at h
      simp only [Except.ok.injEq] at h
      subst h
      exact stop F k c (by rw [hg, if_neg]; simp only [decide_eq_true_eq]; omega)

/-- `whileG_runCount` as a rule: the translated run-counting loop, started at `k` with count `c`, follows the model's `runCount` -/
theorem OkFollows.runCount {σ β γ} {Q : β → γ → Prop} (guard : σ → Except Err Bool) (body : σ → Except Err σ) (xs : List Int)
    (lim : Nat) (s1 s2 : String) (st : Nat → Nat → σ)
    (hg : ∀ k c, guard (st k c) = if decide ((k : Int) + 1 < (lim : Int)) then
        bindE (idxE xs ((k : Int) + 1) s1) fun a => bindE (idxE xs (k : Int) s2) fun b => .ok (a == b) else .ok false)
    (hb : ∀ k c, body (st k c) = .ok (st (k + 1) (c + 1))) (F k c : Nat) (hF : lim ≤ F)
    {f : σ → Except Err β} {g : Nat → Except Err γ} (h : ∀ c', c ≤ c' → OkFollows Q (f (st (k + (c' - c)) c')) (g c')) :
    OkFollows Q (bindE (whileG guard body F (st k c)) f) (bindE (Join.runCount xs lim lim k c) g) := by
  intro y hy
  obtain ⟨c', hc, hy'⟩ := bindE_eq_ok.mp hy
  obtain ⟨hle, hw⟩ := whileG_runCount guard body xs lim s1 s2 st hg hb F k c c' hF hc
  rw [hw, bindE_ok]
  exact h c' hle y hy'

/-! ### generate_ordered_map_to_left_remaining / …_right_unique_remaining -/

/-- the `_remaining` loops run only while the result buffer has room -/
theorem remainingGuard_room {p : P} {k : K} (h : (decide (k.i < p.iMax) && decide (k.r < p.cap)) = true) : k.rb.length < p.cap :=
  of_decide_eq_true (Bool.and_eq_true_iff.mp h).2

namespace Rem

abbrev St := generate_ordered_map_to_left_remaining.St

def R (p : P) (s : St) (k : K) : Prop :=
  ∃ l1 l2 r, s = ⟨p.iMax, l1, l2, p.iOff, k.i, (r : Nat), p.inv⟩ ∧ Buf p.cap r l1 k.lb ∧ Buf p.cap r l2 k.rb

theorem guard_eq (p : P) (s : St) (k : K) (h : R p s k) :
    generate_ordered_map_to_left_remaining.guard_L1 s = (decide (k.i < p.iMax) && decide (k.r < p.cap)) := by
  obtain ⟨l1, l2, r, rfl, h1, h2⟩ := h
  simp only [generate_ordered_map_to_left_remaining.guard_L1, pyLen, decide_cast_lt, h1.1, K.r, h2.2.1]

theorem body_sim (p : P) (s : St) (k k' : K) (h : R p s k) (hg : (decide (k.i < p.iMax) && decide (k.r < p.cap)) = true)
    (hb : remainingBody p k = .ok k') :
    ∃ s', generate_ordered_map_to_left_remaining.body_L1 s = .ok s' ∧ R p s' k' := by
  obtain ⟨l1, l2, r, rfl, h1, h2⟩ := h
  have hcap : r < p.cap := h2.2.1 ▸ remainingGuard_room hg
  simp only [remainingBody, bind, Except.bind, pure, Except.pure, push, h2.2.1, hcap, if_true, Except.ok.injEq] at hb
  subst hb
  simp only [generate_ordered_map_to_left_remaining.body_L1, setIdxE_of_lt _ _ (h1.lt hcap), setIdxE_of_lt _ _ (h2.lt hcap), bindE_ok]
  exact ⟨_, rfl, _, _, r + 1, rfl, h1.push hcap _, h2.push hcap _⟩

end Rem

/-- every `.ok` run of the model's `remaining` loop is a run of the translated kernel on buffers whose written prefixes are
    the model's lists; the returned buffers extend those prefixes accordingly -/
theorem left_remaining_ok (p : P) (k k' : K) (lbuf rbuf : List Int)
    (hl : Buf p.cap k.rb.length lbuf k.lb) (hr : Buf p.cap k.rb.length rbuf k.rb) (h : runRemaining p k = .ok k') :
    ∃ lbuf' rbuf', generate_ordered_map_to_left_remaining.run p.iMax lbuf rbuf p.iOff k.i k.rb.length p.inv (p.iMax + 1)
        = .ok ((k'.i : Int), (k'.rb.length : Int), lbuf', rbuf') ∧
      Buf p.cap k'.rb.length lbuf' k'.lb ∧ Buf p.cap k'.rb.length rbuf' k'.rb := by
  obtain ⟨_, hw, l1, l2, r, rfl, h1, h2⟩ := whileE_sim (Rem.R p) generate_ordered_map_to_left_remaining.guard_L1
    generate_ordered_map_to_left_remaining.body_L1 _ (remainingBody p) (Rem.guard_eq p) (Rem.body_sim p) (p.iMax + 1)
    ⟨p.iMax, lbuf, rbuf, p.iOff, k.i, k.rb.length, p.inv⟩ k k' ⟨lbuf, rbuf, _, rfl, hl, hr⟩ h
  obtain rfl := h2.2.1
  exact ⟨l1, l2, by simp only [generate_ordered_map_to_left_remaining.run, hw, bindE_ok], h1, h2⟩

namespace RemRU

abbrev St := generate_ordered_map_to_left_right_unique_remaining.St

def R (p : P) (s : St) (k : K) : Prop :=
  ∃ l1 r, s = ⟨p.iMax, l1, k.i, (r : Nat), p.inv⟩ ∧ Buf p.cap r l1 k.rb

theorem guard_eq (p : P) (s : St) (k : K) (h : R p s k) :
    generate_ordered_map_to_left_right_unique_remaining.guard_L1 s = (decide (k.i < p.iMax) && decide (k.r < p.cap)) := by
  obtain ⟨l1, r, rfl, h1⟩ := h
  simp only [generate_ordered_map_to_left_right_unique_remaining.guard_L1, pyLen, decide_cast_lt, h1.1, K.r, h1.2.1]

theorem body_sim (p : P) (s : St) (k k' : K) (h : R p s k) (hg : (decide (k.i < p.iMax) && decide (k.r < p.cap)) = true)
    (hb : remainingBody p k = .ok k') :
    ∃ s', generate_ordered_map_to_left_right_unique_remaining.body_L1 s = .ok s' ∧ R p s' k' := by
  obtain ⟨l1, r, rfl, h1⟩ := h
  have hcap : r < p.cap := h1.2.1 ▸ remainingGuard_room hg
  simp only [remainingBody, bind, Except.bind, pure, Except.pure, push, h1.2.1, hcap, if_true, Except.ok.injEq] at hb
  subst hb
  simp only [generate_ordered_map_to_left_right_unique_remaining.body_L1, setIdxE_of_lt _ _ (h1.lt hcap), bindE_ok]
  exact ⟨_, rfl, _, r + 1, rfl, h1.push hcap _⟩

end RemRU

theorem right_unique_remaining_ok (p : P) (k k' : K) (rbuf : List Int)
    (hr : Buf p.cap k.rb.length rbuf k.rb) (h : runRemaining p k = .ok k') :
    ∃ rbuf', generate_ordered_map_to_left_right_unique_remaining.run p.iMax rbuf k.i k.rb.length p.inv (p.iMax + 1)
        = .ok ((k'.i : Int), (k'.rb.length : Int), rbuf') ∧ Buf p.cap k'.rb.length rbuf' k'.rb := by
  obtain ⟨_, hw, l1, r, rfl, h1⟩ := whileE_sim (RemRU.R p) generate_ordered_map_to_left_right_unique_remaining.guard_L1
    generate_ordered_map_to_left_right_unique_remaining.body_L1 _ (remainingBody p) (RemRU.guard_eq p) (RemRU.body_sim p)
    (p.iMax + 1) ⟨p.iMax, rbuf, k.i, k.rb.length, p.inv⟩ k k' ⟨rbuf, _, rfl, hr⟩ h
  obtain rfl := h1.2.1
  exact ⟨l1, by simp only [generate_ordered_map_to_left_right_unique_remaining.run, hw, bindE_ok], h1⟩

/-! ### generate_ordered_map_to_left_both_unique_partial -/

namespace BU

abbrev St := generate_ordered_map_to_left_both_unique_partial.St

def R (p : P) (s : St) (k : K) : Prop :=
  ∃ buf r, s = ⟨p.left, p.right, buf, p.inv, p.jOff, k.i, k.j, (r : Nat), p.left.length, p.right.length, p.cap⟩ ∧
    Buf p.cap r buf k.rb

theorem guard_eq (p : P) (s : St) (k : K) (h : R p s k) :
    generate_ordered_map_to_left_both_unique_partial.guard_L1 s = partialGuard .leftBU p k := by
  obtain ⟨buf, r, rfl, h1⟩ := h
  simp only [generate_ordered_map_to_left_both_unique_partial.guard_L1, partialGuard, decide_cast_lt, K.r, h1.2.1, Bool.and_assoc]

theorem body_sim (p : P) (s : St) (k k' : K) (h : R p s k) (hg : partialGuard .leftBU p k = true)
    (hb : partialBody .leftBU p k = .ok k') :
    ∃ s', generate_ordered_map_to_left_both_unique_partial.body_L1 s = .ok s' ∧ R p s' k' := by
  obtain ⟨buf, r, rfl, h1⟩ := h
  have hcap : r < p.cap := h1.2.1 ▸ partialGuard_room hg
  refine (?_ : OkFollows (R p) _ _) k' hb
  simp only [partialBody, uniqueBody, Except.bind_eq_bindE, pure, Except.pure, Variant.isLeft, push, h1.2.1, hcap, if_true,
    Int.natCast_add, generate_ordered_map_to_left_both_unique_partial.body_L1, setIdxE_of_lt _ _ (h1.lt hcap), bindE_ok, idxE_nat]
  refine .getE _ _ _ _ fun a ha => .getE _ _ _ _ fun b hbb => ?_
  simp only [getE_of_some _ ha, getE_of_some _ hbb, bindE_ok]
  refine .ite_decide rfl (fun _ => .ok ⟨_, r + 1, rfl, h1.push hcap _⟩) fun _ => ?_
  exact .ite_decide rfl (fun _ => .ok ⟨buf, r, rfl, h1⟩) fun _ => .ok ⟨_, r + 1, rfl, h1.push hcap _⟩

end BU

/-- every `.ok` run of the model's both-unique `_partial` kernel (with its own fuel `partialFuel p`) is a run of the translated
    kernel on a buffer whose written prefix is the model's list; indices, `r` and the written prefix agree afterwards -/
theorem both_unique_partial_ok (p : P) (k k' : K) (rbuf : List Int)
    (hr : Buf p.cap k.rb.length rbuf k.rb) (h : runPartial .leftBU p k = .ok k') :
    ∃ rbuf', generate_ordered_map_to_left_both_unique_partial.run p.left p.right rbuf p.inv p.jOff k.i k.j k.rb.length
        (partialFuel p) = .ok ((k'.i : Int), (k'.j : Int), (k'.rb.length : Int), rbuf') ∧ Buf p.cap k'.rb.length rbuf' k'.rb := by
  obtain ⟨_, hw, buf, r, rfl, h1⟩ := whileE_sim (BU.R p) generate_ordered_map_to_left_both_unique_partial.guard_L1
    generate_ordered_map_to_left_both_unique_partial.body_L1 _ (partialBody .leftBU p) (BU.guard_eq p) (BU.body_sim p)
    (partialFuel p) ⟨p.left, p.right, rbuf, p.inv, p.jOff, k.i, k.j, k.rb.length, p.left.length, p.right.length, rbuf.length⟩
    k k' ⟨rbuf, _, by rw [hr.1], hr⟩ h
  obtain rfl := h1.2.1
  exact ⟨buf, by simp only [generate_ordered_map_to_left_both_unique_partial.run, pyLen, hw, bindE_ok], h1⟩

end Exetera.GenK
