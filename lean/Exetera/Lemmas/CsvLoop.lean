import Exetera.Lemmas.CsvDriver
/-! `read_file_using_fast_csv_reader` over any number of windows (C05): with any number of buffer regrowths (`readFile_hom`),
    within `records + 2` kernel calls when no buffer fills (`readFile_fit`), and in one call when the file fits one window. -/
namespace Exetera.Csv
open Exetera Spec

/-- upper bound on the number of regrowths: doublings of the index buffer until it holds more rows than the file has records,
    plus, per column, doublings of its value budget until it exceeds the bytes of the column -/
def regrowthBound (rows : List (List Cell)) (ncols : Nat) (offs : List Nat) (maxrow : Nat) : Nat :=
  need maxrow rows.length + sumTo (fun c => need (offAt offs (c + 1) - offAt offs c) (colBytes rows c)) ncols

theorem mu_eq (rows : List (List Cell)) (ncols : Nat) (offs : List Nat) (q maxrow : Nat) :
    mu rows ncols offs q maxrow = (rows.length + 1 - q) + regrowthBound rows ncols offs maxrow := by
  unfold mu regrowthBound; omega

theorem all_consumed {file : Bytes} {crs ncols : Nat} {im : List Nat} {hrow : List Cell} {rows : List (List Cell)}
    (st : SettingR file crs ncols im hrow rows) (hfile : file ≠ []) {e : Nat} (he : e ≤ rows.length + 1)
    (hge : ¬ bnd hrow rows e < file.length) : e = rows.length + 1 := by
  rcases Nat.lt_or_ge e (rows.length + 1) with hlt | hge'
  · exfalso
    have hallne := lines_ne st.nc st.hdr.1 st.tab
    have h1 := bnd_strict st.nc st.hdr.1 st.tab (show e < e + 1 by omega) (by omega)
    have h2 := bnd_le_total hrow rows (e + 1)
    have hfpos : 0 < file.length := List.length_pos_iff.mpr hfile
    rcases st.isFile with h | ⟨h, hn⟩
    · rw [h] at hge; omega
    · have hlen : file.length + 1 = (render (hrow :: rows)).length := by rw [← h]; simp
      have hbe : bnd hrow rows e = file.length := by omega
      have hT := render_take_drop (hrow :: rows) e
      have hfile' : file = render ((hrow :: rows).take e) := by
        have h3 : (file ++ [NL]).take file.length = file := by simp
        rw [h, hT, ← hbe] at h3
        unfold bnd at h3
        rw [List.take_left] at h3
        rw [h3]
      have he0 : e ≠ 0 := by
        intro h0
        rw [h0] at hbe
        rw [bnd_zero] at hbe
        omega
      have hne : (hrow :: rows).take e ≠ [] := by
        intro hnil
        have := congrArg List.length hnil
        simp at this
        omega
      have := render_getLast ((hrow :: rows).take e) hne (fun r hr => hallne r (List.mem_of_mem_take hr))
      rw [← hfile'] at this
      exact hn this
  · omega

theorem DI.guard {F : Nat → List Bytes → Imp} {file : Bytes} {w ncols : Nat} {im : List Nat} {hrow : List Cell}
    {rows : List (List Cell)} {s : DS} {q e maxrow : Nat} (hinv : DI F file w ncols im hrow rows s q e maxrow) :
    dguard file s = decide (bnd hrow rows q < file.length) := by
  simp [dguard, hinv.ci, hinv.stop]

/-- the window start has reached the end of the file: no window is being resumed and every line is consumed -/
theorem DI.consumed {file : Bytes} {crs ncols : Nat} {im : List Nat} {hrow : List Cell} {rows : List (List Cell)}
    {F : Nat → List Bytes → Imp} {w : Nat} {s : DS} {q e maxrow : Nat} (hinv : DI F file w ncols im hrow rows s q e maxrow)
    (st : SettingR file crs ncols im hrow rows) (hfile : file ≠ []) (hlt : ¬ bnd hrow rows q < file.length) :
    e = rows.length + 1 := by
  have hfresh : e = q := by
    rcases hinv.win with ⟨_, _, h⟩ | ⟨_, _, _, _, h⟩
    · exact h
    · exact absurd h hlt
  exact all_consumed st hfile hinv.el (by rw [hfresh]; exact hlt)

theorem di_final {file : Bytes} {crs ncols : Nat} {im : List Nat} {hrow : List Cell} {rows : List (List Cell)}
    (st : SettingR file crs ncols im hrow rows) (hfile : file ≠ []) {F : Nat → List Bytes → Imp} {w : Nat} {s : DS}
    {q e maxrow : Nat} (hinv : DI F file w ncols im hrow rows s q e maxrow) (hg : dguard file s = false) :
    s.rows = (rows.length : Int) ∧ s.imps = im.map (fun c => F c (column (values rows) c)) := by
  have hall := hinv.consumed st hfile (of_decide_eq_false (hinv.guard ▸ hg))
  refine ⟨by rw [hinv.rows_, hall]; simp, ?_⟩
  rw [hinv.imps, hall]
  apply List.map_congr_left
  intro c _
  simp [doneCols]

theorem loop_g {file : Bytes} {crs ncols : Nat} {im : List Nat} {hrow : List Cell} {rows : List (List Cell)}
    (st : SettingR file crs ncols im hrow rows) (hfile : file ≠ []) {F : Nat → List Bytes → Imp} {good : Nat → Bytes → Prop}
    (hhom : ImpHom ncols F good) (hgood : ∀ c ∈ im, ∀ cell ∈ column (values rows) c, good c cell) :
    ∀ (n : Nat) (s : DS) (q e maxrow : Nat),
      DI F file (crs * Gen.Csv.CHUNK_ROW_FACTOR * ncols) ncols im hrow rows s q e maxrow →
      mu rows ncols s.offs q maxrow ≤ n →
      ∀ fuel, n + 1 ≤ fuel →
        ∃ s', whileE (dguard file) (driverStep file (crs * Gen.Csv.CHUNK_ROW_FACTOR * ncols) ncols im) fuel s = .ok s' ∧
          s'.rows = (rows.length : Int) ∧ s'.imps = im.map (fun c => F c (column (values rows) c)) := by
  intro n s q e maxrow hinv hmu fuel hfuel
  obtain ⟨s', _, hw, ⟨q', e', maxrow', hinv', _⟩, hg⟩ :=
    whileE_measured (dguard file) (driverStep file (crs * Gen.Csv.CHUNK_ROW_FACTOR * ncols) ncols im)
      (fun s m => ∃ q e maxrow, DI F file (crs * Gen.Csv.CHUNK_ROW_FACTOR * ncols) ncols im hrow rows s q e maxrow ∧
        mu rows ncols s.offs q maxrow = m)
      (by
        rintro s m ⟨q, e, maxrow, hinv, rfl⟩ hg
        have hlt : bnd hrow rows q < file.length := of_decide_eq_true (hinv.guard ▸ hg)
        obtain ⟨s', q', e', maxrow', hstep, hinv', hdec⟩ := driver_step_g st hhom hgood hinv hlt
        exact ⟨s', _, hstep, ⟨q', e', maxrow', hinv', rfl⟩, hdec⟩)
      n s _ ⟨q, e, maxrow, hinv, rfl⟩ hmu
  exact ⟨s', whileE_mono _ _ n s s' hw fuel (by omega), di_final st hfile hinv' hg⟩

theorem di_init {file : Bytes} {crs ncols : Nat} {offs im : List Nat} {hrow : List Cell} {rows : List (List Cell)}
    (st : SettingR file crs ncols im hrow rows) (F : Nat → List Bytes → Imp)
    (hlen : offs.length = ncols + 1) (h0 : offAt offs 0 = 0) (hbud : ∀ c, c < ncols → offAt offs c < offAt offs (c + 1)) :
    DI F file (crs * Gen.Csv.CHUNK_ROW_FACTOR * ncols) ncols im hrow rows
      ({ ci := 0, hasHeader := true, rows := 0, inds := zeros2 ncols (crs * Gen.Csv.CHUNK_ROW_FACTOR + 1), vals := List.replicate (offs.getLastD 0) 0, offs := offs, indsFull := false, valsFull := false, content := [], start := 0, imps := im.map (fun c => F c []), calls := [], stop := false } : DS)
      0 0 (crs * Gen.Csv.CHUNK_ROW_FACTOR) := {
  qe := Nat.le_refl _
  el := Nat.zero_le _
  ci := rfl
  hh := rfl
  rows_ := rfl
  stop := rfl
  bud := hbud
  maxpos := Nat.mul_pos st.crsPos (by decide)
  shape := shape_zeros hlen h0 (fun c hc => Nat.le_of_lt (hbud c hc))
  zero := fun c hc => zeros_first c hc
  imps := by
    apply List.map_congr_left
    intro c _
    simp [doneCols, values, column]
  win := Or.inl ⟨rfl, rfl, rfl⟩
  inwin := Nat.le_add_right _ _ }

theorem readFile_of_loop {file : Bytes} {crs ncols : Nat} {offs im : List Nat} {imps : List Imp} {fuel : Nat} {s' : DS}
    (h : whileE (dguard file) (driverStep file (crs * Gen.Csv.CHUNK_ROW_FACTOR * ncols) ncols im) fuel
      ({ ci := 0, hasHeader := true, rows := 0, inds := zeros2 ncols (crs * Gen.Csv.CHUNK_ROW_FACTOR + 1), vals := List.replicate (offs.getLastD 0) 0, offs := offs, indsFull := false, valsFull := false, content := [], start := 0, imps := imps, calls := [], stop := false } : DS) = .ok s') :
    readFile file crs ncols offs im imps fuel = .ok ⟨s'.rows, s'.imps, s'.calls⟩ := by
  unfold readFile
  dsimp only
  rw [h]

/-- The driver with regrowth, for any importers: `F` is a family of append homomorphisms (`ImpHom`: the indexed string
    importer, or any schema-typed importer of C06) and every cell of every imported column is acceptable to its importer.
    For every `chunk_row_size` of the supported regime and every starting budgets ≥ 1, whatever number of times the index
    buffer and the value buffers have to be enlarged, importer `c` ends in the state `F c (whole column c)`: what one
    `import_part` call on the whole column would leave. At most `records + 2 + regrowthBound` kernel calls. -/
theorem readFile_hom {file : Bytes} {crs ncols : Nat} {offs im : List Nat} {hrow : List Cell} {rows : List (List Cell)}
    (st : SettingR file crs ncols im hrow rows) (hfile : file ≠ []) {F : Nat → List Bytes → Imp} {good : Nat → Bytes → Prop}
    (hhom : ImpHom ncols F good) (hgood : ∀ c ∈ im, ∀ cell ∈ column (values rows) c, good c cell)
    (hlen : offs.length = ncols + 1) (h0 : offAt offs 0 = 0) (hbud : ∀ c, c < ncols → offAt offs c < offAt offs (c + 1))
    (fuel : Nat) (hfuel : rows.length + 2 + regrowthBound rows ncols offs (crs * Gen.Csv.CHUNK_ROW_FACTOR) ≤ fuel) :
    ∃ calls, readFile file crs ncols offs im (im.map (fun c => F c [])) fuel =
      .ok ⟨rows.length, im.map (fun c => F c (column (values rows) c)), calls⟩ := by
  obtain ⟨s', hloop, hr, hi⟩ :=
    loop_g st hfile hhom hgood (rows.length + 1 + regrowthBound rows ncols offs (crs * Gen.Csv.CHUNK_ROW_FACTOR)) _ 0 0
      (crs * Gen.Csv.CHUNK_ROW_FACTOR) (di_init st F hlen h0 hbud) (by rw [mu_eq]; exact Nat.le_refl _) fuel (by omega)
  exact ⟨s'.calls, by rw [readFile_of_loop hloop, hr, hi]⟩

/-- The driver with regrowth: for every `chunk_row_size` of the supported regime and every starting budgets ≥ 1, whatever
    number of times the index buffer and the value buffers have to be enlarged, the destination fields are exactly the
    file's columns. The number of kernel calls is at most `records + 2 + regrowthBound`. -/
theorem readFile_regrowth {file : Bytes} {crs ncols : Nat} {offs im : List Nat} {hrow : List Cell} {rows : List (List Cell)}
    (st : SettingR file crs ncols im hrow rows) (hfile : file ≠ [])
    (hlen : offs.length = ncols + 1) (h0 : offAt offs 0 = 0) (hbud : ∀ c, c < ncols → offAt offs c < offAt offs (c + 1))
    (fuel : Nat) (hfuel : rows.length + 2 + regrowthBound rows ncols offs (crs * Gen.Csv.CHUNK_ROW_FACTOR) ≤ fuel) :
    ∃ calls, readFile file crs ncols offs im (im.map (fun _ => ({ kind := .indexed } : Imp))) fuel =
      .ok ⟨rows.length, im.map (fun c => fieldOf (column (values rows) c)), calls⟩ :=
  readFile_hom st hfile (impHom_indexed ncols) (fun _ _ _ _ => trivial) hlen h0 hbud fuel hfuel

/-- the window holds at most one byte more than its size (the line break appended at the end of the file) -/
theorem readWindow_length_le (file : Bytes) (ci w : Nat) : (readWindow file ci w).length ≤ w + 1 := by
  have : (slice file ci (ci + w)).length ≤ w := by simp [slice]; omega
  unfold readWindow
  dsimp only
  split <;> simp <;> omega

/-- an iteration in a run in which no buffer fills: no line of the file consists of empty cells only (so a window never holds
    as many records as the index buffer has rows) and every column fits its value budget. The next window is fresh. -/
theorem driver_step_fit {file : Bytes} {crs ncols : Nat} {im : List Nat} {hrow : List Cell} {rows : List (List Cell)}
    (st : SettingR file crs ncols im hrow rows) {F : Nat → List Bytes → Imp} {good : Nat → Bytes → Prop}
    (hhom : ImpHom ncols F good) (hgood : ∀ c ∈ im, ∀ cell ∈ column (values rows) c, good c cell)
    (hmin : ∀ l ∈ hrow :: rows, ncols < (renderCells l).length) {s : DS} {q : Nat}
    (hinv : DI F file (crs * Gen.Csv.CHUNK_ROW_FACTOR * ncols) ncols im hrow rows s q q (crs * Gen.Csv.CHUNK_ROW_FACTOR))
    (hfit : ∀ c, c < ncols → offAt s.offs c + colBytes rows c < offAt s.offs (c + 1))
    (hlt : bnd hrow rows q < file.length) :
    ∃ s' q', driverStep file (crs * Gen.Csv.CHUNK_ROW_FACTOR * ncols) ncols im s = .ok s' ∧ q < q' ∧ s'.offs = s.offs ∧
      DI F file (crs * Gen.Csv.CHUNK_ROW_FACTOR * ncols) ncols im hrow rows s' q' q' (crs * Gen.Csv.CHUNK_ROW_FACTOR) := by
  obtain ⟨o, a, hle, hsh, hcols, hcaps, hlenE, _, hok⟩ := driver_step_cases st hinv hlt
  obtain ⟨s', hstep, hout⟩ := hok (by rw [hinv.imps]; exact importAll_block hhom hgood st.imOk hsh hcols hcaps hlenE)
  rcases hout with ⟨hdi, hoffs, hq⟩ | ⟨hdi, _, ha⟩ | ⟨j, hj, _, hble, _⟩
  · exact ⟨s', _, hstep, hq, hoffs, hdi⟩
  · -- `maxrow` records, more than `ncols` bytes each, do not fit into a window of `maxrow * ncols (+ 1)` bytes
    exfalso
    have hin := hdi.inwin
    rw [bnd_nextE, List.length_append] at hin
    have hwl := readWindow_length_le file (bnd hrow rows q) (crs * Gen.Csv.CHUNK_ROW_FACTOR * ncols)
    have h1 := render_length_ge ncols ((rows.drop (q - 1)).take a)
      (fun l hl => hmin l (by simp [List.mem_of_mem_drop (List.mem_of_mem_take hl)]))
    rw [List.length_take, List.length_drop, Nat.min_eq_left (by omega)] at h1
    have := count_lt_of_bytes (c := crs * Gen.Csv.CHUNK_ROW_FACTOR)
      (by have := st.crsPos; show 2 ≤ crs * 2; omega) h1 (by omega)
    omega
  · have := hfit j hj
    omega

/-- the driver over any number of windows when no buffer fills: `records + 2` kernel calls suffice -/
theorem readFile_fit {file : Bytes} {crs ncols : Nat} {offs im : List Nat} {hrow : List Cell} {rows : List (List Cell)}
    (st : SettingR file crs ncols im hrow rows) (hfile : file ≠ []) {F : Nat → List Bytes → Imp} {good : Nat → Bytes → Prop}
    (hhom : ImpHom ncols F good) (hgood : ∀ c ∈ im, ∀ cell ∈ column (values rows) c, good c cell)
    (hmin : ∀ l ∈ hrow :: rows, ncols < (renderCells l).length)
    (hlen : offs.length = ncols + 1) (h0 : offAt offs 0 = 0)
    (hfit : ∀ c, c < ncols → offAt offs c + colBytes rows c < offAt offs (c + 1))
    (fuel : Nat) (hfuel : rows.length + 2 ≤ fuel) :
    ∃ calls, readFile file crs ncols offs im (im.map (fun c => F c [])) fuel =
      .ok ⟨rows.length, im.map (fun c => F c (column (values rows) c)), calls⟩ := by
  obtain ⟨s', _, hw, ⟨q', hinv', _, _⟩, hg⟩ :=
    whileE_measured (dguard file) (driverStep file (crs * Gen.Csv.CHUNK_ROW_FACTOR * ncols) ncols im)
      (fun s m => ∃ q, DI F file (crs * Gen.Csv.CHUNK_ROW_FACTOR * ncols) ncols im hrow rows s q q
        (crs * Gen.Csv.CHUNK_ROW_FACTOR) ∧ s.offs = offs ∧ rows.length + 1 - q = m)
      (by
        rintro s m ⟨q, hinv, hoffs, rfl⟩ hg
        have hlt : bnd hrow rows q < file.length := of_decide_eq_true (hinv.guard ▸ hg)
        obtain ⟨s', q', hstep, hq, hoffs', hinv'⟩ := driver_step_fit st hhom hgood hmin hinv (by rw [hoffs]; exact hfit) hlt
        have := hinv'.el
        exact ⟨s', _, hstep, ⟨q', hinv', by rw [hoffs', hoffs], rfl⟩, by omega⟩)
      (rows.length + 1) _ _ ⟨0, di_init st F hlen h0 (fun c hc => by have := hfit c hc; omega), rfl, rfl⟩ (Nat.le_refl _)
  have hloop := whileE_mono _ _ _ _ s' hw fuel (by omega)
  obtain ⟨hr, hi⟩ := di_final st hfile hinv' hg
  exact ⟨s'.calls, by rw [readFile_of_loop hloop, hr, hi]⟩

theorem readFile_single_window {file : Bytes} {crs ncols : Nat} {offs : List Nat} (hrow : List Cell)
    (rows : List (List Cell)) (im : List Nat) (fuel : Nat)
    (hT : file = render (hrow :: rows) ∨ (file ++ [NL] = render (hrow :: rows) ∧ file.getLast? ≠ some NL))
    (hfile : file ≠ [])
    (hhdr : hrow.length = ncols ∧ ∀ c ∈ hrow, c.WF)
    (htab : ∀ r ∈ rows, r.length = ncols ∧ ∀ c ∈ r, c.WF) (hnc : 0 < ncols) (hcrs : 0 < crs)
    (hw : file.length ≤ crs * Gen.Csv.CHUNK_ROW_FACTOR * ncols)
    (hl : offs.length = ncols + 1) (h0 : offAt offs 0 = 0) (hm : ∀ c, c < ncols → offAt offs c ≤ offAt offs (c + 1))
    (hcap : ∀ c, c < ncols → offAt offs c + (column (values rows) c).flatten.length < offAt offs (c + 1))
    (hrows : rows.length < crs * Gen.Csv.CHUNK_ROW_FACTOR) (him : ∀ c ∈ im, c < ncols) (hfuel : 0 < fuel) :
    readFile file crs ncols offs im (im.map (fun _ => ({ kind := .indexed } : Imp))) fuel =
      .ok ⟨rows.length, im.map (fun c => fieldOf (column (values rows) c)), [(rows.length : Int)]⟩ := by
  have hTnl : (render (hrow :: rows)).getLast? = some NL :=
    render_getLast _ (by simp) (lines_ne hnc hhdr.1 htab)
  have hwin := readWindow_whole hw hT hTnl
  have hTlen : file.length ≤ (render (hrow :: rows)).length := isFile_length hT
  have hg0 : 0 < file.length := List.length_pos_iff.mpr hfile
  have hmaxpos : 0 < crs * Gen.Csv.CHUNK_ROW_FACTOR := Nat.mul_pos hcrs (by decide)
  have hsh := shape_zeros (maxrow := crs * Gen.Csv.CHUNK_ROW_FACTOR) hl h0 hm
  obtain ⟨o, hker, hok⟩ :=
    kernel_fits (src := render (hrow :: rows)) (offs := offs) true hrow rows none [] (by simp [render, tailText])
      (fun _ _ h => by cases h) (fun _ => hhdr) htab hnc hsh hmaxpos (fun c hc => zeros_first c hc)
      (by simpa [tailRows] using hcap) hrows
  have hnpT : o.nextPos = (render (hrow :: rows)).length := by rw [hok.nextPos]; simp [render]
  simp only [List.length_nil] at hker
  have himp : importAll o.inds o.vals offs rows.length im (im.map (fun _ => ({ kind := .indexed } : Imp))) =
      .ok (im.map (fun c => fieldOf (column (values rows) c))) := by
    have h := importAll_hom (impHom_indexed ncols) (D := fun _ => []) hok.shape hok.cols
      (fun c hc => by rw [stageRows_nil]; exact hcap c hc) (fun c hc => stageRows_length rows htab c hc) im him
      (fun _ _ _ _ => trivial) (fun _ _ _ _ => trivial)
    simp only [stageRows_nil, List.nil_append] at h
    exact h
  have hslice : ((slice file 0 (0 + crs * Gen.Csv.CHUNK_ROW_FACTOR * ncols)).length == 0) = false := by
    have : slice file 0 (0 + crs * Gen.Csv.CHUNK_ROW_FACTOR * ncols) = file := by
      simp [slice, List.take_of_length_le hw]
    rw [this]
    simp; omega
  have hwr : o.written.toNat = rows.length := by rw [hok.written]; simp
  have hwneg : ¬ o.written < 0 := by rw [hok.written]; omega
  have hnp0 : (o.nextPos == 0) = false := by rw [hnpT]; exact beq_false_of_ne (by omega)
  obtain ⟨f, rfl⟩ : ∃ f, fuel = f + 1 := ⟨fuel - 1, by omega⟩
  unfold readFile
  simp only [whileE, hg0, decide_true, Bool.not_false, Bool.and_self, if_true]
  simp only [driverStep, Bool.not_false, Bool.and_self, if_true, hwin, hslice, Bool.false_eq_true, if_false, hker,
    hwneg, hwr, himp, hok.indsFull, hok.valsFull, hok.vfc, Option.isSome_none, Bool.and_false, Bool.or_self, hnp0,
    Bool.not_false, Bool.true_and]
  have hdone : ¬ (o.nextPos < file.length) := by rw [hnpT]; omega
  cases f <;> simp [whileE, hdone, hok.written, fieldOf]

end Exetera.Csv
