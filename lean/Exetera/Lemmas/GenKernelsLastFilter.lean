import Exetera.Gen.Kernels
import Exetera.Lemmas.GenKernels
/-!
  The TRANSLATED kernel `ordered_get_last_as_filter(field)` (`result[i] = field[i] != field[i+1]`, `result[-1] = True`).

  The kernel has NO caller in the library (only tests/ call it) and no hand model: the theorems below are NOT obligations of
  any property (an edit to dead code must not raise a semantic alarm); they document what the translated definition computes
  and are re-checked by `lake build Exetera` only. The translation itself is validated differentially under C10
  (checks/harness/genkernels.py).

  On a non-empty column flag `i` is set iff row `i` is the last row of the column or differs from row `i + 1` (the last row of
  every run of equal values), and no subscript is out of range or negative; on the empty column `result[-1]` raises IndexError.
-/
namespace Exetera.GenK

open Exetera Exetera.PyRt Exetera.Gen.Kernels

def lastFilterSpec (f : List Int) : List Bool :=
  (List.range f.length).map (fun i => if i + 1 < f.length then f[i]? != f[i + 1]? else true)

namespace LastFilter

abbrev St := ordered_get_last_as_filter.St

def Inv (f : List Int) (k : Nat) (s : St) : Prop :=
  s.p0 = f ∧ s.v0.length = f.length ∧ ∀ j < k, s.v0[j]? = some (f[j]? != f[j + 1]?)

theorem loop (f : List Int) (hpos : 0 < f.length) (s : St) (h : Inv f 0 s) :
    ∃ s', forRangeAux (fun _ => false) (fun j s => ordered_get_last_as_filter.body_L1 { s with v1 := j }) (f.length - 1)
      ((0 : Nat) : Int) s = .ok s' ∧ Inv f (f.length - 1) s' := by
  refine forRangeAux_rule (fun n i s => i + n + 1 = f.length ∧ Inv f i s) (Inv f (f.length - 1))
    (fun i s h => by
      have h1 : i + 0 + 1 = f.length := h.1
      have : i = f.length - 1 := by omega
      exact this ▸ h.2) ?_ (f.length - 1) 0 s ⟨by omega, h⟩
  rintro n i ⟨p0, buf, _⟩ ⟨hi, h0, hlen, hpre⟩
  obtain rfl : f = p0 := h0.symm
  have hi0 : i < f.length := by omega
  have hi1 : i + 1 < f.length := by omega
  have hib : i < buf.length := hlen ▸ hi0
  refine ⟨⟨f, buf.set i (f[i] != f[i + 1]), i⟩, ?_, by omega, rfl, by rw [List.length_set]; exact hlen, fun j hj => ?_⟩
  · simp only [ordered_get_last_as_filter.body_L1, idxE_nat, idxE_nat_succ, getE_of_lt _ hi0, getE_of_lt _ hi1, bindE_ok,
      setIdxE_of_lt _ _ hib]
  · show (buf.set i (f[i] != f[i + 1]))[j]? = _
    rw [List.getElem?_set]
    split
    · subst_vars
      rw [List.getElem?_eq_getElem hi0, List.getElem?_eq_getElem hi1]
      rfl
    · exact hpre j (by omega)

end LastFilter

theorem last_as_filter_eq (f : List Int) (hne : f ≠ []) : ordered_get_last_as_filter.run f = .ok (lastFilterSpec f) := by
  have hpos : 0 < f.length := List.length_pos_iff.mpr hne
  obtain ⟨⟨p0, buf, _⟩, hl, h0, hlen, hpre⟩ := LastFilter.loop f hpos ⟨f, List.replicate f.length false, 0⟩
    ⟨rfl, List.length_replicate, fun _ h => absurd h (Nat.not_lt_zero _)⟩
  obtain rfl : f = p0 := h0.symm
  replace hlen : buf.length = f.length := hlen
  unfold ordered_get_last_as_filter.run
  have hz : npZerosB (f.length : Int) = .ok (List.replicate f.length false) := by
    unfold npZerosB
    rw [if_neg (Int.not_lt.mpr (Int.natCast_nonneg _)), Int.toNat_natCast]
  simp only [pyLen, hz, bindE_ok, forRangeE_zero, toNat_natCast_sub_one]
  erw [hl]
  simp only [bindE_ok, setIdxNegE, setE, hlen, show 1 ≤ f.length from hpos, if_true, Nat.sub_lt hpos Nat.one_pos]
  replace hpre : ∀ j, j < f.length - 1 → buf[j]? = some (f[j]? != f[j + 1]?) := hpre
  refine congrArg _ (List.ext_getElem? fun i => ?_)
  unfold lastFilterSpec
  by_cases hi : i < f.length
  · rw [List.getElem?_set, List.getElem?_map, List.getElem?_range hi, Option.map_some]
    split
    · subst_vars
      rw [if_pos (hlen ▸ hi), if_neg (by omega)]
    · rw [hpre i (by omega), if_pos (by omega)]
  · rw [List.getElem?_eq_none (by rw [List.length_set, hlen]; omega),
      List.getElem?_eq_none (by rw [List.length_map, List.length_range]; omega)]

theorem last_as_filter_empty : ordered_get_last_as_filter.run [] = .error (.oob "v0[-1]") := rfl

example : ordered_get_last_as_filter.run [1, 1, 2, 3, 3, 3] = .ok [false, true, true, false, false, true] := rfl
example : lastFilterSpec [1, 1, 2, 3, 3, 3] = [false, true, true, false, false, true] := by decide

end Exetera.GenK
