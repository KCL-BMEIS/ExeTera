import Exetera.Lemmas.JoinFlatSession
import Exetera.Lemmas.MapValidIndexedFlat
/-!
  C19, `Session.merge_left / merge_right / merge_inner`: `pandas.merge` is a parameter; whatever row pairs it returns (in
  range), the payload columns — numeric or indexed-string — are mapped through exactly those rows
  (`safe_map_values` / `safe_map_indexed_values` with the filter "row has a partner").
-/
namespace Exetera.JoinOld
open Exetera Exetera.Spec Exetera.MapValid

def PayloadOK (n : Nat) : Payload → Prop
  | .numeric xs => xs.length = n
  | .indexed indices values => IndexedOK indices values ∧ (entries indices values).length = n

/-- the mapped payload: `Spec.mapSpec` (numeric, empty value 0) resp. `Spec.mapIndexedSpec` (indexed string, empty
    string) through the map `m` with marker `inv` -/
def MappedPayload (m : List Int) (inv : Int) : Payload → POut → Prop
  | .numeric xs, .numeric col => mapSpec xs inv 0 m = some col
  | .indexed indices values, .indexed oi ov => mapIndexedSpec indices values inv m = some (oi, ov)
  | _, _ => False

def MappedPayloads (m : List Int) (inv : Int) : List Payload → List POut → Prop
  | [], [] => True
  | p :: ps, o :: os => MappedPayload m inv p o ∧ MappedPayloads m inv ps os
  | _, _ => False

theorem mapM_safeMap (m : List Int) (inv : Int) (n : Nat) (hr : InRange n m inv) :
    ∀ (ps : List Payload), (∀ p ∈ ps, PayloadOK n p) →
      ∃ outs, mapM' (safeMapPayload m (m.map (fun k => k != inv))) ps = .ok outs ∧
        MappedPayloads m inv ps outs
  | [], _ => ⟨[], rfl, trivial⟩
  | p :: rest, h => by
    obtain ⟨outs, h1, h2⟩ := mapM_safeMap m inv n hr rest (fun q hq => h q (by simp [hq]))
    have hp := h p (by simp)
    cases p with
    | numeric xs =>
      simp only [PayloadOK] at hp
      obtain ⟨col, c1, c2⟩ := safeMapValues_mapSpec xs m inv none (0 : Int) (by rw [hp]; exact hr)
      refine ⟨.numeric col :: outs, ?_, ⟨by simpa [MappedPayload] using c2, h2⟩⟩
      simp only [mapM', safeMapPayload, c1, h1]
    | indexed indices values =>
      simp only [PayloadOK] at hp
      obtain ⟨o, c1, c2⟩ := safeMapIndexedValues_mapSpec indices values m inv hp.1 (by rw [hp.2]; exact hr)
      refine ⟨.indexed o.1 o.2 :: outs, ?_, ⟨by simpa [MappedPayload] using c2, h2⟩⟩
      simp only [mapM', safeMapPayload, c1, h1]

/-- **`merge_left`**: the right payloads mapped through the rows `pandas.merge(how='left')` returned -/
theorem mergeLeft_rows (pd : List Int → List Int → List (Nat × Option Nat)) (L R : List Int) (ps : List Payload)
    (hrows : ∀ p ∈ pd L R, ∀ j, p.2 = some j → j < R.length) (hps : ∀ p ∈ ps, PayloadOK R.length p) :
    ∃ outs, mergeLeft pd L R ps = .ok outs ∧
      MappedPayloads (encR NAN_AS_INT (pd L R)) NAN_AS_INT ps outs := by
  have hfilt : (pd L R).map (fun p => p.2.isSome) = (encR NAN_AS_INT (pd L R)).map (fun k => k != NAN_AS_INT) := by
    simp only [encR, List.map_map]
    apply List.map_congr_left
    intro p _
    cases h : p.2 with
    | none => simp [encCell, h]
    | some j =>
      have : (j : Int) ≠ NAN_AS_INT := by simp only [NAN_AS_INT]; omega
      simp [encCell, h, this]
  have hr := inRange_encR_of (pd L R) R.length NAN_AS_INT hrows
  obtain ⟨outs, h1, h2⟩ := mapM_safeMap _ NAN_AS_INT R.length hr ps hps
  refine ⟨outs, ?_, h2⟩
  simp only [mergeLeft, hfilt]
  exact h1

/-- a row number is never the marker `-1`: the filter of `merge_inner` is constantly true -/
theorem all_rows_valid {α} (rows : List α) (f : α → Nat) :
    rows.map (fun _ => true) = (rows.map (fun p => (f p : Int))).map (fun k => k != -1) := by
  rw [List.map_map]
  exact List.map_congr_left fun p _ => by
    have : (f p : Int) ≠ -1 := by omega
    simp [this]

/-- **`merge_inner`**: both tables' payloads mapped through the row pairs `pandas.merge(how='inner')` returned (no row
    is a marker: `-1` never occurs in the maps) -/
theorem mergeInner_rows (pdi : List Int → List Int → List (Nat × Nat)) (L R : List Int) (lps rps : List Payload)
    (hrows : ∀ p ∈ pdi L R, p.1 < L.length ∧ p.2 < R.length)
    (hl : ∀ p ∈ lps, PayloadOK L.length p) (hr : ∀ p ∈ rps, PayloadOK R.length p) :
    ∃ louts routs, mergeInner pdi L R lps rps = .ok (louts, routs) ∧
      MappedPayloads ((pdi L R).map (fun p => (p.1 : Int))) (-1) lps louts ∧
      MappedPayloads ((pdi L R).map (fun p => (p.2 : Int))) (-1) rps routs := by
  have hr1 := inRange_map (pdi L R) (fun p => (p.1 : Int)) L.length (-1) fun p hp _ =>
    ⟨Int.natCast_nonneg _, Int.ofNat_lt.mpr (hrows p hp).1⟩
  have hr2 := inRange_map (pdi L R) (fun p => (p.2 : Int)) R.length (-1) fun p hp _ =>
    ⟨Int.natCast_nonneg _, Int.ofNat_lt.mpr (hrows p hp).2⟩
  obtain ⟨louts, a1, a2⟩ := mapM_safeMap _ (-1) L.length hr1 lps hl
  obtain ⟨routs, b1, b2⟩ := mapM_safeMap _ (-1) R.length hr2 rps hr
  refine ⟨louts, routs, ?_, a2, b2⟩
  rw [← all_rows_valid] at a1 b1
  simp only [mergeInner, a1, b1]

end Exetera.JoinOld
