import Exetera.Lemmas.MapValidBasic
/-! The non-indexed stream `ordered_map_valid_stream` against `Spec.mapSpec`. `mapSpec` is reached pointwise
    (`mapSpec_of_pointwise`) and chunk by chunk (`mapSpec_append`); a loop that writes position `i` of a buffer at step `i`
    is handled once (`forE_write_each`); a sub-chunk is correct because the splitter makes its valid entries
    non-decreasing, so that the source window `[first, last]` holds all of them (`extents_window`). Also the facts about
    Python subscripts and slices that the indexed stream uses as well. -/
namespace Exetera.MapValid

open Exetera Exetera.Spec

theorem mapSpec_cons {α} {src : List α} {inv : Int} {empty : α} {k : Int} {ks : List Int} {out : List α}
    (h : mapSpec src inv empty (k :: ks) = some out) :
    ∃ v vs, lookup src inv empty k = some v ∧ mapSpec src inv empty ks = some vs ∧ out = v :: vs := by
  simp only [mapSpec] at h
  split at h
  · rename_i v vs h1 h2
    exact ⟨v, vs, h1, h2, (Option.some.inj h).symm⟩
  · cases h

theorem mapSpec_of_pointwise {α} (src : List α) (inv : Int) (empty : α) :
    ∀ (l : List Int) (out : List α), out.length = l.length →
      (∀ (p : Nat) (k : Int), l[p]? = some k → ∃ v, lookup src inv empty k = some v ∧ out[p]? = some v) →
      mapSpec src inv empty l = some out
  | [], out, hlen, _ => by rw [List.length_eq_zero_iff.mp hlen]; rfl
  | k :: ks, [], hlen, _ => by cases hlen
  | k :: ks, v :: vs, hlen, hp => by
    obtain ⟨v', hv1, hv2⟩ := hp 0 k rfl
    cases hv2
    have htail := mapSpec_of_pointwise src inv empty ks vs (Nat.succ.inj hlen) (fun p k' hk' => hp (p + 1) k' hk')
    simp only [mapSpec, hv1, htail]

theorem mapSpec_append {α} (src : List α) (inv : Int) (empty : α) :
    ∀ (a b : List Int) (x y : List α), mapSpec src inv empty a = some x → mapSpec src inv empty b = some y →
      mapSpec src inv empty (a ++ b) = some (x ++ y)
  | [], b, x, y, ha, hb => by cases ha; exact hb
  | k :: ks, b, x, y, ha, hb => by
    obtain ⟨v, vs, h1, h2, rfl⟩ := mapSpec_cons ha
    simp only [List.cons_append, mapSpec, h1, mapSpec_append src inv empty ks b vs y h2 hb]

theorem mapSpec_length {α} (src : List α) (inv : Int) (empty : α) :
    ∀ (l : List Int) (out : List α), mapSpec src inv empty l = some out → out.length = l.length
  | [], out, h => by cases h; rfl
  | k :: ks, out, h => by
    obtain ⟨v, vs, _, h2, rfl⟩ := mapSpec_cons h
    rw [List.length_cons, List.length_cons, mapSpec_length src inv empty ks vs h2]

theorem mapSpec_getElem? {α} (src : List α) (inv : Int) (empty : α) :
    ∀ (l : List Int) (out : List α), mapSpec src inv empty l = some out →
      ∀ (r : Nat) (k : Int), l[r]? = some k → out[r]? = lookup src inv empty k
  | [], _, _, r, k, hk => by cases hk
  | k0 :: ks, out, h, r, k, hk => by
    obtain ⟨v, vs, h1, h2, rfl⟩ := mapSpec_cons h
    cases r with
    | zero => cases hk; exact h1.symm
    | succ r => exact mapSpec_getElem? src inv empty ks vs h2 r k hk

/-! ### Python indexing helpers -/

theorem getI_nonneg {α} (xs : List α) (i : Int) (site : String) (v : α) (h0 : 0 ≤ i) (hv : xs[i.toNat]? = some v) :
    getI xs i site = .ok v := by
  simp only [getI, h0, if_true, getE, hv]

theorem normIdx_nonneg (len : Nat) (i : Int) (h : 0 ≤ i) : normIdx len i = min i.toNat len := by
  simp [normIdx, h]

theorem pySlice_nonneg {α} (xs : List α) (a b : Int) (ha : 0 ≤ a) (hb : 0 ≤ b) (hbl : b ≤ xs.length) (hab : a ≤ b) :
    pySlice xs a b = slice xs a.toNat b.toNat := by
  simp only [pySlice, normIdx_nonneg _ _ ha, normIdx_nonneg _ _ hb]
  rw [Nat.min_eq_left (Int.toNat_le.mpr (Int.le_trans hab hbl)), Nat.min_eq_left (Int.toNat_le.mpr hbl)]

theorem getI_window {α} (src : List α) (f l k : Int) (site : String) (hf : 0 ≤ f) (hfk : f ≤ k) (hkl : k ≤ l)
    (hl : l < src.length) :
    ∃ v, src[k.toNat]? = some v ∧ getI (pySlice src f (l + 1)) (k - f) site = .ok v := by
  -- with the three indices as naturals the `toNat`s compute
  obtain ⟨f, rfl⟩ := Int.eq_ofNat_of_zero_le hf
  obtain ⟨k, rfl⟩ := Int.eq_ofNat_of_zero_le (Int.le_trans hf hfk)
  obtain ⟨l, rfl⟩ := Int.eq_ofNat_of_zero_le (Int.le_trans (Int.le_trans hf hfk) hkl)
  have hfk' : f ≤ k := Int.ofNat_le.mp hfk
  have hkl' : k ≤ l := Int.ofNat_le.mp hkl
  have hl' : l < src.length := Int.ofNat_lt.mp hl
  obtain ⟨v, hv⟩ := exists_getElem? src (Nat.lt_of_le_of_lt hkl' hl')
  refine ⟨v, hv, getI_nonneg _ _ _ _ (Int.sub_nonneg_of_le hfk) ?_⟩
  rw [pySlice_nonneg src f (l + 1) hf (by omega) (by omega) (by omega), slice_getElem?]
  simp only [Int.toNat_natCast, ← Int.natCast_sub hfk', show ((l : Int) + 1) = ((l + 1 : Nat) : Int) from rfl]
  rw [if_pos (by omega), Nat.add_sub_cancel' hfk', hv]

theorem setE_at {α} (b : List α) (i : Nat) (v : α) (site : String) (h : i < b.length) :
    ∃ b', setE b i v site = .ok b' ∧ b'.length = b.length ∧ (∀ q, q ≠ i → b'[q]? = b[q]?) ∧ b'[i]? = some v :=
  ⟨b.set i v, by simp [setE, h], by simp, fun q hq => List.getElem?_set_ne (Ne.symm hq), by simp [h]⟩

/-- a counted loop over `[s, e)` whose step `i` touches position `i` of the buffer only and leaves a value satisfying
    `Post i` there: afterwards every position of `[s, e)` satisfies its `Post` and the rest of the buffer is as it was.
    (Step `i` finds at `i` what the buffer held at the start.) -/
theorem forE_write_each {α} (step : Nat → List α → Except Err (List α)) (Post : Nat → Option α → Prop) (s e : Nat)
    (buf : List α)
    (hstep : ∀ i b, s ≤ i → i < e → b.length = buf.length → b[i]? = buf[i]? →
      ∃ b', step i b = .ok b' ∧ b'.length = b.length ∧ (∀ q, q ≠ i → b'[q]? = b[q]?) ∧ Post i b'[i]?) :
    ∃ buf', forE step s (e - s) buf = .ok buf' ∧ buf'.length = buf.length ∧
      (∀ q, q < s ∨ e ≤ q → buf'[q]? = buf[q]?) ∧ ∀ p, s ≤ p → p < e → Post p buf'[p]? := by
  by_cases hse : s ≤ e
  · obtain ⟨buf', hrun, hlen, hout, hin⟩ := forE_rule step
      (fun i b => b.length = buf.length ∧ (∀ q, q < s ∨ i ≤ q → b[q]? = buf[q]?) ∧ ∀ p, s ≤ p → p < i → Post p b[p]?)
      (e - s) s buf ⟨rfl, fun _ _ => rfl, fun p h1 h2 => by omega⟩
      (by
        intro i b hi1 hi2 ⟨hlen, hout, hin⟩
        obtain ⟨b', hrun, hlen', hother, hat⟩ := hstep i b hi1 (by omega) hlen (hout i (Or.inr (Nat.le_refl _)))
        refine ⟨b', hrun, hlen'.trans hlen, fun q hq => ?_, fun p hp1 hp2 => ?_⟩
        · rw [hother q (by omega)]; exact hout q (by omega)
        · by_cases hpi : p = i
          · exact hpi ▸ hat
          · rw [hother p hpi]; exact hin p hp1 (by omega))
    rw [Nat.add_sub_cancel' hse] at hout hin
    exact ⟨buf', hrun, hlen, hout, hin⟩
  · exact ⟨buf, by rw [show e - s = 0 by omega]; rfl, rfl, fun _ _ => rfl, fun p h1 h2 => by omega⟩

/-- the partial kernel writes exactly positions `[s, e)` of the buffer, each with the specified row, provided every
    valid entry of the sub-chunk lies in the source window `[f, l]` -/
theorem partial_spec {α} (src : List α) (m : List Int) (inv : Int) (empty : α) (f l : Int) (s e : Nat) (buf : List α)
    (_hse : s ≤ e) (he : e ≤ m.length) (hb : e ≤ buf.length) (hf : 0 ≤ f) (hl : l < src.length)
    (hwin : ∀ p k, s ≤ p → p < e → m[p]? = some k → k ≠ inv → f ≤ k ∧ k ≤ l) :
    ∃ buf', orderedMapValidPartial (pySlice src f (l + 1)) m s e f buf inv empty = .ok buf' ∧
      buf'.length = buf.length ∧
      (∀ q, q < s ∨ e ≤ q → buf'[q]? = buf[q]?) ∧
      (∀ p k, s ≤ p → p < e → m[p]? = some k → ∃ v, lookup src inv empty k = some v ∧ buf'[p]? = some v) := by
  obtain ⟨buf', h1, h2, h3, h4⟩ := forE_write_each (mapPartialStep (pySlice src f (l + 1)) m f inv empty)
    (fun p o => ∀ k, m[p]? = some k → ∃ v, lookup src inv empty k = some v ∧ o = some v) s e buf
    (by
      intro i b hi1 hi2 hlen _
      obtain ⟨k, hk⟩ := exists_getElem? m (Nat.lt_of_lt_of_le hi2 he)
      have hib : i < b.length := by omega
      by_cases hki : k = inv
      · obtain ⟨b', g1, g2, g3, g4⟩ := setE_at b i empty "result_data[sm]" hib
        refine ⟨b', by simp only [mapPartialStep, hk, hki, beq_self_eq_true, if_true]; exact g1, g2, g3, ?_⟩
        intro k' hk'
        rw [hk] at hk'; cases hk'
        exact ⟨empty, by simp [lookup, hki], g4⟩
      · obtain ⟨hfk, hkl⟩ := hwin i k hi1 hi2 hk hki
        obtain ⟨v, hv1, hv2⟩ := getI_window src f l k "values[map_values[sm]-d_start]" hf hfk hkl hl
        obtain ⟨b', g1, g2, g3, g4⟩ := setE_at b i v "result_data[sm]" hib
        refine ⟨b', ?_, g2, g3, ?_⟩
        · simp only [mapPartialStep, hk, show (k == inv) = false by simpa using hki, hv2]; exact g1
        · intro k' hk'
          rw [hk] at hk'; cases hk'
          exact ⟨v, by simp [lookup, hki, Int.le_trans hf hfk, hv1], g4⟩)
  exact ⟨buf', h1, h2, h3, fun p k a b c => h4 p a b k c⟩

theorem fillRange_getElem? {α} (buf : List α) (s e : Nat) (v : α) (q : Nat) :
    (fillRange buf s e v)[q]? = (buf[q]?).map (fun x => if s ≤ q ∧ q < e then v else x) := by
  simp [fillRange, List.getElem?_mapIdx]

/-- what one sub-chunk `[s, e)` of a map chunk does to the result buffer -/
def SubPost {α} (src : List α) (map_ : List Int) (inv : Int) (empty : α) (s e : Nat) (buf buf' : List α) : Prop :=
  buf'.length = buf.length ∧
  (∀ q, q < s ∨ e ≤ q → buf'[q]? = buf[q]?) ∧
  (∀ (p : Nat) (k : Int), s ≤ p → p < e → map_[p]? = some k → ∃ v, lookup src inv empty k = some v ∧ buf'[p]? = some v)

theorem subBody_spec {α} (src : List α) (map_ : List Int) (inv : Int) (empty : α) (s e : Nat) (buf : List α)
    (hse : s < e) (he : e ≤ map_.length) (hb : e ≤ buf.length)
    (hr : InRange src.length map_ inv) (hm : MonoOn map_ inv s e) :
    ∃ buf', subBody src map_ inv empty (s, e) buf = .ok buf' ∧ SubPost src map_ inv empty s e buf buf' := by
  obtain ⟨d, hd, hcase⟩ := extents_window map_ s e inv _ hse he hr hm
  rcases hcase with ⟨hinv, hall⟩ | ⟨hne, hf0, _, hln, hbetween⟩
  · -- every entry is the marker: the slice is cleared
    refine ⟨fillRange buf s e empty, ?_, by simp [fillRange], ?_, ?_⟩
    · simp only [subBody, hd, hinv, beq_self_eq_true, if_true]
    · intro q hq
      rw [fillRange_getElem?]
      have : ¬ (s ≤ q ∧ q < e) := by omega
      simp [this]
    · intro p k hp1 hp2 hpk
      have hk : k = inv := by
        have := hall p hp1 hp2
        rw [hpk] at this
        exact Option.some.inj this
      subst hk
      refine ⟨empty, by simp [lookup], ?_⟩
      rw [fillRange_getElem?]
      have hpb : p < buf.length := by omega
      simp [List.getElem?_eq_getElem hpb, hp1, hp2]
  · have hne' : (d.1 == inv) = false := by simpa using hne
    obtain ⟨buf', hrun, hpost⟩ :=
      partial_spec src map_ inv empty d.1 d.2 s e buf (Nat.le_of_lt hse) he hb hf0 hln hbetween
    exact ⟨buf', by simp only [subBody, hd, hne']; exact hrun, hpost⟩

theorem inRange_slice {n : Nat} {m : List Int} {inv : Int} (h : InRange n m inv) (a b : Nat) :
    InRange n (slice m a b) inv := by
  intro i k hik hk
  rw [slice_getElem?] at hik
  split at hik
  · exact h _ k hik hk
  · simp at hik

theorem validMonotone_slice {m : List Int} {inv : Int} (h : ValidMonotone m inv) (a b : Nat) :
    ValidMonotone (slice m a b) inv := by
  intro i j x y hij hi hj hx hy
  rw [slice_getElem?] at hi hj
  split at hi
  · split at hj
    · exact h (a + i) (a + j) x y (by omega) hi hj hx hy
    · simp at hj
  · simp at hi

/-- all sub-chunks of one map chunk: every position of the chunk holds the specified row afterwards — for any in-range
    map (the splitter makes every sub-chunk non-decreasing) -/
theorem chunk_fold_spec {α} (src : List α) (map_ : List Int) (inv : Int) (cs : Nat) (empty : α) (buf : List α)
    (hcs : 1 ≤ cs) (hb : map_.length ≤ buf.length)
    (hr : InRange src.length map_ inv) :
    ∃ subs buf', subchunks map_ inv cs = .ok subs ∧ foldE (subBody src map_ inv empty) subs buf = .ok buf' ∧
      buf'.length = buf.length ∧
      (∀ (p : Nat) (k : Int), map_[p]? = some k → ∃ v, lookup src inv empty k = some v ∧ buf'[p]? = some v) := by
  obtain ⟨subs, hsubs, htiles, hmono⟩ := subchunks_mono map_ inv cs hcs
  have h := foldE_tiles_mem (subBody src map_ inv empty)
    (fun x b => b.length = buf.length ∧
      (∀ (p : Nat) (k : Int), p < x → map_[p]? = some k → ∃ v, lookup src inv empty k = some v ∧ b[p]? = some v))
    map_.length subs 0 buf htiles ⟨rfl, fun p k hp => by omega⟩
    (by
      intro x y b hmem _ hxy hy ⟨hlen, hdone⟩
      obtain ⟨b', hrun, hlen', hout, hin⟩ := subBody_spec src map_ inv empty x y b hxy hy (by omega) hr (hmono (x, y) hmem)
      refine ⟨b', hrun, by omega, ?_⟩
      intro p k hp hpk
      by_cases hpx : p < x
      · obtain ⟨v, hv1, hv2⟩ := hdone p k hpx hpk
        exact ⟨v, hv1, by rw [hout p (Or.inl hpx)]; exact hv2⟩
      · exact hin p k (by omega) hp hpk)
  obtain ⟨buf', hrun, hlen, hdone⟩ := h
  refine ⟨subs, buf', hsubs, hrun, hlen, ?_⟩
  intro p k hpk
  exact hdone p k (List.getElem?_eq_some_iff.mp hpk).1 hpk

def ChunkInv {α} (src : List α) (m : List Int) (inv : Int) (cs : Nat) (empty : α) (s : St α) : Prop :=
  s.lo ≤ m.length ∧ s.hi = min (s.lo + cs) m.length ∧ s.buf.length = cs ∧
  mapSpec src inv empty (m.take s.lo) = some s.out

theorem nextChunk_eq (cur len d : Nat) : Join.nextChunk cur len d = (cur, min (cur + d) len) := by
  unfold Join.nextChunk
  split
  · have : min (cur + d) len = cur + d := by omega
    rw [this]
  · have : min (cur + d) len = len := by omega
    rw [this]

theorem chunk_bounds {lo hi cs n : Nat} (hcs : 1 ≤ cs) (hlo : lo < n) (hhi : hi = min (lo + cs) n) :
    lo < hi ∧ hi ≤ n ∧ hi - lo ≤ cs := by omega

theorem chunkBody_spec {α} (src : List α) (m : List Int) (inv : Int) (cs : Nat) (empty : α) (s : St α)
    (hcs : 1 ≤ cs) (hr : InRange src.length m inv)
    (hI : ChunkInv src m inv cs empty s) (hg : s.lo < m.length) :
    ∃ s', chunkBody src m inv cs empty s = .ok s' ∧ ChunkInv src m inv cs empty s' ∧
      m.length - s'.lo < m.length - s.lo := by
  obtain ⟨hlo, hhi, hbuf, hout⟩ := hI
  obtain ⟨h1, h2, h3⟩ := chunk_bounds hcs hg hhi
  have hlen : (slice m s.lo s.hi).length = s.hi - s.lo := slice_length_of_le _ _ _ h2
  obtain ⟨subs, buf', hsubs, hfold, hlen', hrows⟩ :=
    chunk_fold_spec src (slice m s.lo s.hi) inv cs empty s.buf hcs (by rw [hlen, hbuf]; exact h3) (inRange_slice hr _ _)
  refine ⟨⟨s.hi, min (s.hi + cs) m.length, buf', s.out ++ buf'.take (s.hi - s.lo)⟩,
    by simp only [chunkBody, hsubs, hfold, nextChunk_eq], ⟨h2, rfl, hlen'.trans hbuf, ?_⟩, Nat.sub_lt_sub_left hg h1⟩
  show mapSpec src inv empty (m.take s.hi) = some (s.out ++ buf'.take (s.hi - s.lo))
  rw [take_append_slice m s.lo s.hi (Nat.le_of_lt h1)]
  refine mapSpec_append _ _ _ _ _ _ _ hout (mapSpec_of_pointwise _ _ _ _ _ ?_ ?_)
  · rw [List.length_take, hlen, hlen', hbuf]; exact Nat.min_eq_left h3
  · intro p k hpk
    obtain ⟨v, hv1, hv2⟩ := hrows p k hpk
    have hp : p < s.hi - s.lo := hlen ▸ (List.getElem?_eq_some_iff.mp hpk).1
    exact ⟨v, hv1, by rw [List.getElem?_take, if_pos hp]; exact hv2⟩

/-- `ordered_map_valid_stream` = `mapSpec`, for every chunk size ≥ 1, every marker and EVERY in-range map — ordered or
    not (NC02a: the map of the non-driving side of a join with duplicate keys on both sides is not ordered) -/
theorem stream_spec_any {α} (src : List α) (m : List Int) (inv : Int) (cs : Nat) (empty : α)
    (hcs : 1 ≤ cs) (hr : InRange src.length m inv) :
    ∃ out, orderedMapValidStream src m inv cs empty = .ok out ∧ mapSpec src inv empty m = some out := by
  have h := whileE_rule (fun s : St α => decide (s.lo < m.length)) (chunkBody src m inv cs empty)
    (ChunkInv src m inv cs empty) (fun s => m.length - s.lo)
    (by
      intro s hI hg
      have hg' : s.lo < m.length := by simpa using hg
      exact chunkBody_spec src m inv cs empty s hcs hr hI hg')
    m.length ⟨0, min (0 + cs) m.length, List.replicate cs empty, []⟩
    ⟨by simp, rfl, by simp, by simp [mapSpec]⟩ (by simp)
  obtain ⟨s', hrun, ⟨hlo, _, _, hout⟩, hg⟩ := h
  have hge : m.length ≤ s'.lo := by simpa using hg
  have heq : s'.lo = m.length := by omega
  refine ⟨s'.out, ?_, ?_⟩
  · simp only [orderedMapValidStream, nextChunk_eq, hrun]
  · rw [heq, List.take_length] at hout
    exact hout

end Exetera.MapValid
