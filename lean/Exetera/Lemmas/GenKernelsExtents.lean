import Exetera.Gen.Kernels
import Exetera.Model.MapValid
import Exetera.Lemmas.GenKernels
/-!
  The TRANSLATED `get_valid_value_extents` (a `for` with `break`, then a `while` with `break` whose guard reads the loop
  variable `i` of the first loop — unbound in Python when `end ≤ start`) refines the hand-written model
  `MapValid.getValidValueExtents` on every input, error branches included, for every fuel ≥ end − start.
-/
namespace Exetera.GenK

open Exetera Exetera.PyRt Exetera.Gen.Kernels
open Exetera.MapValid (firstValidFrom lastValidDown getValidValueExtents)

namespace Ext

abbrev St := get_valid_value_extents.St

abbrev loop1K (n : Nat) (i : Int) (s : St) : Except Err St :=
  forRangeAux (fun s => s.brk1) (fun k s => get_valid_value_extents.body_L1 { s with v1 := k, v1_def := true }) n i s

/-- the first loop: `for i in range(i, i + n): if chunk[i] != invalid: first = chunk[i]; break`. It leaves `i` at the break
    position, or at the last index when it ran to completion (and untouched when it did not run). -/
theorem loop1 (s : St) (hb : s.brk1 = false) (n i : Nat) :
    match firstValidFrom s.p0 s.p3 i n with
    | .ok none => ∃ w d, loop1K n i s = .ok { s with v1 := w, v1_def := d } ∧ (0 < n → w = ((i + n - 1 : Nat) : Int) ∧ d = true)
    | .ok (some (pos, x)) => loop1K n i s = .ok { s with v0 := x, v1 := (pos : Int), v1_def := true, brk1 := true } ∧
        i ≤ pos ∧ pos < i + n
    | .error e => ∃ e', loop1K n i s = .error e' ∧ e'.tag = e.tag := by
  generalize hR : firstValidFrom s.p0 s.p3 i n = R
  refine forRangeAux_outcome
    (fun k j t => ∃ w d, t = { s with v1 := w, v1_def := d } ∧ (i < j → w = ((j - 1 : Nat) : Int) ∧ d = true) ∧ i ≤ j ∧
      j + k = i + n ∧ firstValidFrom s.p0 s.p3 j k = R)
    (fun o => match R with
      | .ok none => ∃ w d, o = .ok { s with v1 := w, v1_def := d } ∧ (0 < n → w = ((i + n - 1 : Nat) : Int) ∧ d = true)
      | .ok (some (pos, x)) => o = .ok { s with v0 := x, v1 := (pos : Int), v1_def := true, brk1 := true } ∧ i ≤ pos ∧ pos < i + n
      | .error e => ∃ e', o = .error e' ∧ e'.tag = e.tag) ?_ ?_ n i s
    ⟨s.v1, s.v1_def, rfl, fun h => absurd h (Nat.lt_irrefl i), Nat.le_refl i, rfl, hR⟩
  · rintro j t ⟨w, d, rfl, hw, hij, hjn, hR⟩
    rw [firstValidFrom] at hR
    subst hR
    exact ⟨w, d, rfl, fun hn => by rw [show i + n - 1 = j - 1 by omega]; exact hw (by omega)⟩
  · rintro k j t ⟨w, d, rfl, -, hij, hjn, hR⟩
    rw [firstValidFrom] at hR
    simp only [get_valid_value_extents.body_L1, idxE_nat]
    split at hR
    · rename_i hm
      subst hR
      simp only [getE_of_none _ hm, bindE_error]
      exact ⟨_, rfl, rfl⟩
    · rename_i x hm
      simp only [getE_of_some _ hm, bindE_ok]
      split at hR
      · rename_i hne
        subst hR
        simp only [hne, if_true]
        exact ⟨trivial, hij, by omega⟩
      · rename_i hne
        simp only [hne, Bool.false_eq_true, if_false, hb]
        exact ⟨j, true, rfl, fun _ => ⟨rfl, rfl⟩, by omega, by omega, hR⟩

/-- the second loop: `while j >= i: if chunk[j] != invalid: last = chunk[j]; break; j -= 1`, with `j = i + n - 1`; after the
    `break` the flag is up and the next evaluation of the guard ends the loop -/
theorem loop2 (i n fuel : Nat) (s : St) (hb : s.brk2 = false)
    (hv1 : s.v1 = (i : Int)) (hd : s.v1_def = true) (hv3 : s.v3 = ((i + n : Nat) : Int) - 1) (hf : n ≤ fuel) :
    match lastValidDown s.p0 s.p3 i n with
    | .ok r => ∃ s', whileG get_valid_value_extents.guardE_L2 get_valid_value_extents.body_L2 fuel s = .ok s' ∧
        s'.v2 = r.getD s.v2 ∧ s'.v0 = s.v0
    | .error e => ∃ e', whileG get_valid_value_extents.guardE_L2 get_valid_value_extents.body_L2 fuel s = .error e' ∧
        e'.tag = e.tag := by
  generalize hR : lastValidDown s.p0 s.p3 i n = R
  refine whileG_rule
    (fun n t => (t.brk2 = true ∧ ∃ x, R = .ok (some x) ∧ t.v2 = x ∧ t.v0 = s.v0) ∨
      (t = { s with v3 := ((i + n : Nat) : Int) - 1 } ∧ lastValidDown s.p0 s.p3 i n = R))
    (fun o => match R with
      | .ok r => ∃ s', o = .ok s' ∧ s'.v2 = r.getD s.v2 ∧ s'.v0 = s.v0
      | .error e => ∃ e', o = .error e' ∧ e'.tag = e.tag) ?_ fuel n s (.inr ⟨by rw [← hv3], hR⟩) hf
  rintro n t (⟨hbk, x, rfl, h2, h0⟩ | ⟨rfl, hR⟩)
  · simp only [get_valid_value_extents.guardE_L2, hbk, if_true]
    exact ⟨t, rfl, h2, h0⟩
  · simp only [get_valid_value_extents.guardE_L2, hb, Bool.false_eq_true, if_false, hd, readDefE, if_true, bindE_ok, hv1]
    cases n with
    | zero =>
      rw [lastValidDown] at hR
      subst hR
      rw [decide_eq_false (by omega)]
      exact ⟨_, rfl, rfl, rfl⟩
    | succ n =>
      rw [lastValidDown] at hR
      rw [decide_eq_true (by omega)]
      refine ⟨Nat.succ_pos n, ?_⟩
      have e3 : ((i + (n + 1) : Nat) : Int) - 1 = ((i + n : Nat) : Int) := by omega
      simp only [get_valid_value_extents.body_L2, idxE_at e3]
      split at hR
      · rename_i hm
        subst hR
        simp only [getE_of_none _ hm, bindE_error]
        exact ⟨_, rfl, rfl⟩
      · rename_i x hm
        simp only [getE_of_some _ hm, bindE_ok]
        split at hR
        · rename_i hne
          simp only [hne, if_true, bindE_ok]
          exact .inl ⟨trivial, x, hR.symm, rfl, trivial⟩
        · rename_i hne
          simp only [hne, if_false, bindE_ok, Bool.false_eq_true]
          exact .inr ⟨by rw [e3]; rfl, hR⟩

theorem tail (s : St) (pos end_ fuel : Nat) (hb : s.brk2 = false) (hv1 : s.v1 = (pos : Int)) (hd : s.v1_def = true)
    (hp2 : s.p2 = (end_ : Int)) (hle : pos < end_) (hf : end_ - pos ≤ fuel) :
    Sim (bindE (bindE (whileG get_valid_value_extents.guardE_L2 get_valid_value_extents.body_L2 fuel
            { s with brk1 := false, v2 := s.p3, v3 := s.p2 - 1 }) fun s => .ok { s with brk2 := false }) fun s => .ok (s.v0, s.v2))
      (match lastValidDown s.p0 s.p3 pos (end_ - pos) with
        | .error e => .error e
        | .ok l => .ok (s.v0, l.getD s.p3)) := by
  have h2 := loop2 pos (end_ - pos) fuel { s with brk1 := false, v2 := s.p3, v3 := s.p2 - 1 } hb hv1 hd
    (by show s.p2 - 1 = _; rw [hp2]; omega) hf
  cases hl : lastValidDown s.p0 s.p3 pos (end_ - pos) with
  | error e =>
    rw [hl] at h2
    obtain ⟨e', hw, ht⟩ := h2
    simp only [hw, bindE_error, Sim, ht]
  | ok l =>
    rw [hl] at h2
    obtain ⟨s2, hw, hv2, hv0⟩ := h2
    simp only [hw, bindE_ok, Sim, hv2, hv0]

end Ext

theorem get_valid_value_extents_refines (m : List Int) (start end_ : Nat) (inv : Int) (fuel : Nat)
    (hf : end_ - start ≤ fuel) :
    Sim (get_valid_value_extents.run m start end_ inv fuel) (getValidValueExtents m start end_ inv) := by
  unfold get_valid_value_extents.run getValidValueExtents
  simp only [forRangeB]
  by_cases hse : end_ ≤ start
  · -- the `for` does not run: `i` stays unbound and the `while` condition raises
    have hn : ((end_ : Int) - (start : Int)).toNat = 0 := by omega
    simp only [hse, if_true, hn, forRangeAux, bindE_ok]
    cases fuel <;> simp [whileG, get_valid_value_extents.guardE_L2, readDefE, Sim, Err.tag]
  · simp only [hse, if_false, toNat_natCast_sub]
    have h1 := Ext.loop1 (⟨m, start, end_, inv, inv, 0, false, 0, 0, false, false⟩ : Ext.St) rfl (end_ - start) start
    cases hfv : firstValidFrom m inv start (end_ - start) with
    | error e =>
      rw [show firstValidFrom m inv start (end_ - start) = .error e from hfv] at h1
      obtain ⟨e', hrun, ht⟩ := h1
      simp only [show Ext.loop1K _ _ _ = _ from hrun, bindE_error, Sim, ht]
    | ok r =>
      rw [show firstValidFrom m inv start (end_ - start) = .ok r from hfv] at h1
      cases r with
      | none =>
        obtain ⟨w, d, hrun, hpos⟩ := h1
        obtain ⟨rfl, rfl⟩ := hpos (by omega)
        simp only [show Ext.loop1K _ _ _ = _ from hrun, bindE_ok]
        exact Ext.tail ⟨m, start, end_, inv, inv, ((start + (end_ - start) - 1 : Nat) : Int), true, 0, 0, false, false⟩ (end_ - 1) end_ fuel rfl
          (congrArg Int.ofNat (show start + (end_ - start) - 1 = end_ - 1 by omega)) rfl rfl (by omega) (by omega)
      | some px =>
        obtain ⟨pos, x⟩ := px
        obtain ⟨hrun, hlo, hhi⟩ := h1
        simp only [show Ext.loop1K _ _ _ = _ from hrun, bindE_ok]
        exact Ext.tail ⟨m, start, end_, inv, x, pos, true, 0, 0, true, false⟩ pos end_ fuel rfl rfl rfl rfl (by omega) (by omega)

end Exetera.GenK
