import Exetera.Lemmas.Merge
import Exetera.Lemmas.JoinCalls
import Exetera.Lemmas.JoinFlatSession
/-! C02, the specification `Spec.relJoin` alone (no model code): row numbers are in range, a side whose partner has unique
    keys is selected row by row (`idSel`), and with sorted key columns the rows of the left, right and inner join come in
    key order. Everything is read off `leftJoinFrom` / `innerJoinFrom`: the right join is the mirrored left join, and a
    matched pair carries equal keys. -/
namespace Exetera.Merge

open Exetera Exetera.Spec

theorem relJoin_left (l r : List Int) : relJoin "left" l r = leftRel l r := if_pos rfl

theorem relJoin_right (l r : List Int) : relJoin "right" l r = (leftRel r l).map (fun p => (p.2, p.1)) := by
  simp [relJoin]

theorem relJoin_inner (l r : List Int) : relJoin "inner" l r = (innerJoin l r).map (fun p => (some p.1, some p.2)) := by
  simp [relJoin]

theorem leftRel_in_range (l r : List Int) : ∀ p ∈ leftRel l r,
    (∀ i, p.1 = some i → i < l.length) ∧ (∀ j, p.2 = some j → j < r.length) := by
  intro p hp
  obtain ⟨q, hq, rfl⟩ := List.mem_map.mp hp
  have := leftJoinFrom_bounds r l 0 q hq
  exact ⟨fun i hi => by cases hi; omega, this.2.2⟩

theorem unmatchedRight_in_range (l r : List Int) : ∀ p ∈ unmatchedRight l r,
    p.1 = none ∧ (∀ j, p.2 = some j → j < r.length) := by
  intro p hp
  simp only [unmatchedRight, List.mem_filterMap] at hp
  obtain ⟨q, hq, hqp⟩ := hp
  have := leftJoinFrom_bounds l r 0 q hq
  cases h2 : q.2 with
  | some _ => simp [h2] at hqp
  | none =>
    simp only [h2, Option.some.injEq] at hqp
    subst hqp
    exact ⟨rfl, fun j hj => by cases hj; omega⟩

/-- **every row of the relational join names existing rows of both frames** (all modes) -/
theorem relJoin_in_range (how : String) (l r : List Int) : ∀ p ∈ relJoin how l r,
    (∀ i, p.1 = some i → i < l.length) ∧ (∀ j, p.2 = some j → j < r.length) := by
  intro p hp
  rw [relJoin] at hp
  by_cases h1 : how = "left"
  · rw [if_pos h1] at hp
    exact leftRel_in_range l r p hp
  by_cases h2 : how = "inner"
  · rw [if_neg h1, if_pos h2] at hp
    obtain ⟨q, hq, rfl⟩ := List.mem_map.mp hp
    have := JoinOld.innerJoinFrom_bound r l 0 q hq
    exact ⟨fun i hi => by cases hi; omega, fun j hj => by cases hj; omega⟩
  by_cases h3 : how = "right"
  · rw [if_neg h1, if_neg h2, if_pos h3] at hp
    obtain ⟨q, hq, rfl⟩ := List.mem_map.mp hp
    exact (leftRel_in_range r l q hq).symm
  by_cases h4 : how = "outer"
  · rw [if_neg h1, if_neg h2, if_neg h3, if_pos h4] at hp
    rcases List.mem_append.mp hp with h | h
    · exact leftRel_in_range l r p h
    · obtain ⟨h1, h2⟩ := unmatchedRight_in_range l r p h
      exact ⟨fun i hi => (by rw [h1] at hi; cases hi), h2⟩
  · rw [if_neg h1, if_neg h2, if_neg h3, if_neg h4] at hp
    cases hp

/-! ### a side joined against unique keys is selected row by row -/

theorem leftRow_fst (base : Nat) (ms : List Nat) (h : ms.length ≤ 1) : (leftRow base ms).map (·.1) = [base] := by
  match ms, h with
  | [], _ => rfl
  | [_], _ => rfl

theorem leftJoinFrom_fst_of_nodup {r : List Int} (hr : r.Nodup) : ∀ (l : List Int) (base : Nat),
    (leftJoinFrom r l base).map (·.1) = List.range' base l.length
  | [], _ => rfl
  | a :: as, base => by
    simp only [leftJoinFrom, List.map_append, List.length_cons, List.range'_succ]
    rw [leftRow_fst base _ (matchRows_nodup_length hr), leftJoinFrom_fst_of_nodup hr as (base + 1)]
    rfl

theorem leftJoin_sel_of_nodup {l r : List Int} (hr : r.Nodup) :
    (leftJoin l r).map (fun p => some p.1) = idSel l.length := by
  have := leftJoinFrom_fst_of_nodup hr l 0
  have h2 : (leftJoin l r).map (fun p => some p.1) = ((leftJoinFrom r l 0).map (·.1)).map some := by
    simp [leftJoin, List.map_map, Function.comp_def]
  rw [h2, this, idSel, List.range_eq_range']

theorem nodup_of_strict {xs : List Int} (h : xs.Pairwise (· < ·)) : xs.Nodup :=
  h.imp (fun hab => Int.ne_of_lt hab)

theorem strict_of_sorted_nodup {xs : List Int} (hs : Sorted xs) (hn : xs.Nodup) : xs.Pairwise (· < ·) :=
  (hs.and hn).imp (fun h => Int.lt_iff_le_and_ne.mpr h)

/-! ### order of the rows -/

theorem leftJoinFrom_fst_sorted (r : List Int) : ∀ (l : List Int) (base : Nat),
    ((leftJoinFrom r l base).map (·.1)).Pairwise (· ≤ ·)
  | [], _ => by simp [leftJoinFrom]
  | a :: as, base => by
    simp only [leftJoinFrom, List.map_append]
    refine List.pairwise_append.mpr ⟨?_, leftJoinFrom_fst_sorted r as (base + 1), ?_⟩
    · refine List.pairwise_map.mpr (List.Pairwise.imp_of_mem (R := fun _ _ => True) ?_ (List.pairwise_of_forall (fun _ _ => trivial)))
      intro p q hp hq _
      rw [(mem_leftRow hp).1, (mem_leftRow hq).1]
      exact Nat.le_refl _
    · intro x hx y hy
      obtain ⟨p, hp, rfl⟩ := List.mem_map.mp hx
      obtain ⟨q, hq, rfl⟩ := List.mem_map.mp hy
      have := leftJoinFrom_bounds r as (base + 1) q hq
      rw [(mem_leftRow hp).1]
      omega

theorem innerJoinFrom_fst_sorted (r : List Int) : ∀ (l : List Int) (base : Nat),
    ((innerJoinFrom r l base).map (·.1)).Pairwise (· ≤ ·)
  | [], _ => by simp [innerJoinFrom]
  | a :: as, base => by
    simp only [innerJoinFrom, List.map_append, List.map_map]
    refine List.pairwise_append.mpr ⟨?_, innerJoinFrom_fst_sorted r as (base + 1), ?_⟩
    · exact List.pairwise_map.mpr (List.pairwise_of_forall (fun _ _ => Nat.le_refl _))
    · intro x hx y hy
      obtain ⟨_, _, rfl⟩ := List.mem_map.mp hx
      obtain ⟨q, hq, rfl⟩ := List.mem_map.mp hy
      have := JoinOld.innerJoinFrom_bound r as (base + 1) q hq
      simp only [Function.comp]
      omega

/-- rows that read a sorted column at non-decreasing in-range positions have sorted keys -/
theorem sorted_pick {γ} {l : List Int} (hl : Sorted l) (rows : List γ) (pos : γ → Nat)
    (hpos : (rows.map pos).Pairwise (· ≤ ·)) (hin : ∀ p ∈ rows, pos p < l.length) :
    ∃ ks, rows.map (fun p => l[pos p]?) = ks.map some ∧ Sorted ks := by
  refine ⟨rows.map (fun p => l.getD (pos p) 0), ?_, ?_⟩
  · rw [List.map_map]
    apply List.map_congr_left
    intro p hp
    simp [List.getD, List.getElem?_eq_getElem (hin p hp)]
  · refine List.pairwise_map.mpr (List.Pairwise.imp_of_mem ?_ (List.pairwise_map.mp hpos))
    intro a b ha hb hab
    have h1 := hin a ha
    have h2 := hin b hb
    have := hl.le_of_lt hab h2
    simpa [List.getD, List.getElem?_eq_getElem h1, List.getElem?_eq_getElem h2] using this

/-! ### matched rows carry equal keys -/

theorem leftJoinFrom_key (r : List Int) : ∀ (l : List Int) (base : Nat), ∀ p ∈ leftJoinFrom r l base,
    base ≤ p.1 ∧ ∃ a, l[p.1 - base]? = some a ∧ ∀ j, p.2 = some j → r[j]? = some a
  | [], _ => by simp [leftJoinFrom]
  | a :: as, base => by
    intro p hp
    rcases List.mem_append.mp hp with hp | hp
    · obtain ⟨h1, h2⟩ := mem_leftRow hp
      rw [h1, Nat.sub_self]
      exact ⟨Nat.le_refl _, a, rfl, fun j hj => (matchRows_key r 0 j (h2 j hj)).2⟩
    · obtain ⟨h1, a', h2, h3⟩ := leftJoinFrom_key r as (base + 1) p hp
      rw [← Nat.sub_add_cancel (Nat.le_sub_of_add_le' h1), List.getElem?_cons_succ, Nat.sub_sub]
      exact ⟨Nat.le_of_succ_le h1, a', h2, h3⟩

/-- the key of a row of the right join is the key of its right row: the left row, when there is one, carries the same -/
theorem rowKey_mirrored (l r : List Int) : ∀ p ∈ leftJoin r l, rowKey l r (p.2, some p.1) = r[p.1]? := by
  intro p hp
  obtain ⟨_, a, h2, h3⟩ := leftJoinFrom_key l r 0 p hp
  cases h : p.2 with
  | none => rfl
  | some j => simpa [rowKey, h3 j h] using h2.symm

/-- **key order of the ordered path**: with sorted key columns every row of the left, right or inner relational join
    has a key and the keys are non-decreasing in row order -/
theorem relJoin_keys_sorted (how : String) (hhow : how = "left" ∨ how = "right" ∨ how = "inner") {l r : List Int}
    (hl : Sorted l) (hr : Sorted r) :
    ∃ ks, (relJoin how l r).map (rowKey l r) = ks.map some ∧ Sorted ks := by
  rcases hhow with rfl | rfl | rfl
  · rw [relJoin_left, leftRel, List.map_map]
    exact sorted_pick hl (leftJoin l r) (·.1) (leftJoinFrom_fst_sorted r l 0)
      (fun p hp => by have := leftJoinFrom_bounds r l 0 p hp; omega)
  · have e : (relJoin "right" l r).map (rowKey l r) = (leftJoin r l).map (fun p => r[p.1]?) := by
      rw [relJoin_right, leftRel, List.map_map, List.map_map]
      exact List.map_congr_left (rowKey_mirrored l r)
    rw [e]
    exact sorted_pick hr (leftJoin r l) (·.1) (leftJoinFrom_fst_sorted l r 0)
      (fun p hp => by have := leftJoinFrom_bounds l r 0 p hp; omega)
  · rw [relJoin_inner, List.map_map]
    exact sorted_pick hl (innerJoin l r) (·.1) (innerJoinFrom_fst_sorted r l 0)
      (fun p hp => by have := JoinOld.innerJoinFrom_bound r l 0 p hp; omega)

end Exetera.Merge
