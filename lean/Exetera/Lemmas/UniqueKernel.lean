import Exetera.Lemmas.UniqueIsin
import Exetera.Lemmas.UniqueSort
/-!
`unique` on an indexed string column (C14). The kernel `get_indexed_string_unique` walks the rows once; after the rows `p`
its four lists are `discOut … p`: the distinct values in order of first occurrence (`disc p`), their first rows, the
row → discovery position map and the counts. Appending a row changes `discOut` in exactly the two ways the kernel's
branches do (`discOut_snoc_new`, `discOut_snoc_seen`), so the loop invariant is an equation. `unique_for_indexed_string`
then sorts: composing with the order-generic facts of `UniqueSort` gives the Spec.
-/
namespace Exetera.Unique
open Exetera Exetera.Spec

def disc (p : List Bytes) : List Bytes := p.foldl (fun acc v => if v ∈ acc then acc else acc ++ [v]) []

theorem disc_snoc (p : List Bytes) (v : Bytes) :
    disc (p ++ [v]) = if v ∈ disc p then disc p else disc p ++ [v] := by
  simp only [disc, List.foldl_append, List.foldl_cons, List.foldl_nil]
  split <;> simp_all

theorem snoc_induction {α} {P : List α → Prop} (nil : P []) (snoc : ∀ p v, P p → P (p ++ [v])) : ∀ l, P l := by
  intro l
  rw [← List.reverse_reverse l]
  induction l.reverse with
  | nil => exact nil
  | cons x xs ih => rw [List.reverse_cons]; exact snoc _ _ ih

theorem mem_disc {p : List Bytes} {x : Bytes} : x ∈ disc p ↔ x ∈ p := by
  induction p using snoc_induction with
  | nil => simp [disc]
  | snoc p v ih =>
    rw [disc_snoc]
    by_cases h : v ∈ disc p
    · rw [if_pos h, List.mem_append, List.mem_singleton, ih]
      exact ⟨Or.inl, fun h' => h'.elim id fun e => ih.mp (e ▸ h)⟩
    · rw [if_neg h, List.mem_append, List.mem_append, ih]

theorem disc_nodup (p : List Bytes) : (disc p).Nodup := by
  induction p using snoc_induction with
  | nil => simp [disc]
  | snoc p v ih =>
    rw [disc_snoc]
    by_cases h : v ∈ disc p
    · rwa [if_pos h]
    · rw [if_neg h, List.nodup_append]
      exact ⟨ih, List.pairwise_singleton _ v, fun a ha b hb hab => h (List.mem_singleton.mp hb ▸ hab ▸ ha)⟩

theorem scanEq_eq (v : Bytes) : ∀ (us : List Bytes) (j : Nat),
    scanEq v us j = if v ∈ us then some (j + us.idxOf v) else none := by
  intro us
  induction us with
  | nil => intro j; rfl
  | cons u us ih =>
    intro j
    rw [scanEq]
    by_cases h : v = u
    · subst h
      rw [if_pos (beq_self_eq_true v), if_pos List.mem_cons_self, List.idxOf_cons_self, Nat.add_zero]
    · rw [if_neg (mt eq_of_beq h), ih, List.idxOf_cons, beq_false_of_ne (Ne.symm h), cond_false, Nat.add_assoc,
        Nat.add_comm 1]
      simp only [List.mem_cons, h, false_or]

def discOut (ri rv rc : Bool) (col : List Bytes) : UOut :=
  { result := disc col
    index := if ri then some ((disc col).map (fun u => col.idxOf u)) else none
    inverse := if rv then some (col.map (fun x => (disc col).idxOf x)) else none
    counts := if rc then some ((disc col).map (fun u => col.count u)) else none }

theorem map_ite_some {α β : Type} (b : Bool) (x : α) (f : α → β) :
    (if b then some x else none).map f = if b then some (f x) else none := by
  cases b <;> rfl

theorem isSome_ite_some {α : Type} (b : Bool) (x : α) : (if b then some x else none).isSome = b := by
  cases b <;> rfl

theorem eq_of_ite_some {α : Type} {b : Bool} {x y : α} (h : (if b then some x else none) = some y) : x = y := by
  cases b
  · cases h
  · exact Option.some.inj h

theorem discOut_snoc_new (ri rv rc : Bool) {p : List Bytes} {v : Bytes} (hv : v ∉ p) :
    (discOut ri rv rc p).addNew v p.length = discOut ri rv rc (p ++ [v]) := by
  have hd : v ∉ disc p := mt mem_disc.mp hv
  simp only [discOut, UOut.addNew, map_ite_some, disc_snoc, if_neg hd, List.map_append, List.map_cons, List.map_nil,
    map_idxOf_snoc v (fun u hu => mem_disc.mp hu), idxOf_snoc_self hv, idxOf_snoc_self hd,
    map_idxOf_snoc (p := disc p) v (fun x hx => mem_disc.mpr hx), map_count_snoc_of_ne hd, count_snoc_self hv]

theorem discOut_snoc_seen (ri rv rc : Bool) {p : List Bytes} {v : Bytes} (hv : v ∈ p) :
    discOut ri rv rc (p ++ [v]) =
      { discOut ri rv rc p with
        inverse := (discOut ri rv rc p).inverse.map (· ++ [(disc p).idxOf v])
        counts := if rc then some ((disc p).map (fun u => (p ++ [v]).count u)) else none } := by
  simp only [discOut, map_ite_some, disc_snoc, if_pos (mem_disc.mpr hv), List.map_append, List.map_cons, List.map_nil,
    map_idxOf_snoc v (fun u hu => mem_disc.mp hu)]

/-- the second conjunct makes the length pre-filter sound: a row whose length has not been seen holds a new value -/
def KInv (ri rv rc : Bool) (p : List Bytes) (s : UState) : Prop :=
  s.out = discOut ri rv rc p ∧ ∀ u ∈ p, (u.length : Int) ∈ s.lengthsSeen

theorem uniqueStep_row {indices : List Nat} {values : Bytes} {lo hi : Nat} {v : Bytes} (ri rv rc : Bool)
    {p : List Bytes} (h1 : ∀ site, getE indices p.length site = .ok lo)
    (h2 : ∀ site, getE indices (p.length + 1) site = .ok hi) (h3 : slice values lo hi = v) (h4 : hi = lo + v.length)
    {s : UState} (hI : KInv ri rv rc p s) :
    ∃ s', uniqueStep indices values s p.length = .ok s' ∧ KInv ri rv rc (p ++ [v]) s' := by
  obtain ⟨ls, out⟩ := s
  obtain ⟨hout, hlen⟩ := hI
  dsimp only at hout hlen
  subst hout
  have hlenv : ((hi : Int) - (lo : Int)) = (v.length : Int) := by rw [h4, Int.natCast_add, Int.add_comm, Int.add_sub_cancel]
  have hmem : ∀ ls' : List Int, (∀ l ∈ ls, l ∈ ls') → (v.length : Int) ∈ ls' → ∀ u ∈ p ++ [v], (u.length : Int) ∈ ls' :=
    fun ls' hs hvl u hu => (List.mem_append.mp hu).elim (fun hu => hs _ (hlen u hu))
      (fun hu => List.mem_singleton.mp hu ▸ hvl)
  simp only [uniqueStep, h1, h2, h3, hlenv]
  by_cases hc : ls.contains (v.length : Int) = true
  · -- the length has been seen: scan the known values
    simp only [hc, Bool.not_true, Bool.false_eq_true, if_false]
    rw [show (discOut ri rv rc p).result = disc p from rfl, scanEq_eq, Nat.zero_add]
    by_cases hv : v ∈ p
    · have hd := mem_disc.mpr hv
      have hj : (disc p).idxOf v < ((disc p).map (fun u => p.count u)).length := by
        rw [List.length_map]; exact List.idxOf_lt_length_iff.mpr hd
      rw [if_pos hd]
      cases rc with
      | false => exact ⟨_, rfl, discOut_snoc_seen ri rv false hv ▸ rfl, hmem ls (fun _ h => h) (hlen v hv)⟩
      | true =>
        simp only [discOut, if_true, getE_of_lt _ hj]
        exact ⟨_, rfl, by rw [discOut_snoc_seen ri rv true hv, ← map_count_snoc_of_mem (disc_nodup p) hd hj]; rfl,
          hmem ls (fun _ h => h) (hlen v hv)⟩
    · rw [if_neg (mt mem_disc.mp hv)]
      exact ⟨_, rfl, discOut_snoc_new ri rv rc hv, hmem ls (fun _ h => h) (List.contains_iff_mem.mp hc)⟩
  · -- a length not seen before: the value is new
    simp only [hc, Bool.not_false, if_true]
    exact ⟨_, rfl, discOut_snoc_new ri rv rc fun hv => hc (List.contains_iff_mem.mpr (hlen v hv)),
      hmem _ (fun _ h => List.mem_cons_of_mem _ h) List.mem_cons_self⟩

theorem uniqueStep_encode (ri rv rc : Bool) (col : List Bytes) (i : Nat) (h : i < col.length) (s : UState)
    (hI : KInv ri rv rc (col.take i) s) :
    ∃ s', uniqueStep (encode col).1 (encode col).2 s i = .ok s' ∧ KInv ri rv rc (col.take (i + 1)) s' := by
  obtain ⟨lo, hi, h1, h2, h3, h4⟩ := encode_row col i h
  have hp : (col.take i).length = i := List.length_take_of_le (Nat.le_of_lt h)
  rw [← List.take_append_getElem h]
  rw [← hp] at h1 h2
  have := uniqueStep_row ri rv rc h1 h2 h3 h4 hI
  rwa [hp] at this

theorem uniqueLoop_encode (ri rv rc : Bool) (col : List Bytes) : ∀ (k i : Nat) (s : UState), i + k = col.length →
    KInv ri rv rc (col.take i) s →
    ∃ s', uniqueLoop (encode col).1 (encode col).2 k i s = .ok s' ∧ KInv ri rv rc col s' := by
  intro k
  induction k with
  | zero =>
    intro i s h hI
    refine ⟨s, rfl, ?_⟩
    rwa [List.take_of_length_le (Nat.le_of_eq h.symm : col.length ≤ i)] at hI
  | succ k ih =>
    intro i s h hI
    obtain ⟨s1, hs1, hI1⟩ := uniqueStep_encode ri rv rc col i (lt_of_add_succ_eq h) s hI
    obtain ⟨s2, hs2, hI2⟩ := ih (i + 1) s1 (succ_add_of_add_succ h) hI1
    exact ⟨s2, by simp only [uniqueLoop, hs1, hs2], hI2⟩

theorem getIndexedStringUnique_encode (ri rv rc : Bool) (col : List Bytes) :
    getIndexedStringUnique (encode col).1 (encode col).2 ri rv rc = .ok (discOut ri rv rc col) := by
  obtain ⟨s', hs', hout, _⟩ := uniqueLoop_encode ri rv rc col col.length 0
    { lengthsSeen := [-1], out := discOut ri rv rc [] } (Nat.zero_add _) ⟨rfl, fun _ h => nomatch h⟩
  -- `discOut … []` is the kernel's initial state by computation
  have hs'' : uniqueLoop (encode col).1 (encode col).2 col.length 0
      { lengthsSeen := [-1]
        out := { result := [], index := if ri then some [] else none, inverse := if rv then some [] else none,
                 counts := if rc then some [] else none } } = .ok s' := hs'
  simp only [getIndexedStringUnique, encode_rows, hs'', hout]

theorem bytesLe_isOrder : IsOrder bytesLe :=
  ⟨bytesLe_trans, bytesLe_total, fun _ _ => bytesLe_antisymm⟩

section
variable (col : List Bytes) (hn : NoTrailingNul col)
include hn

theorem disc_strip : (disc col).map stripNul = disc col :=
  map_stripNul_eq (fun x hx => hn x (mem_disc.mp hx))

theorem npSortStr_disc : npSortStr (disc col) = uniques bytesLe col := by
  unfold npSortStr
  rw [disc_strip col hn]
  exact mergeSort_eq_uniques bytesLe_isOrder col (disc col) (disc_nodup col) (fun _ => mem_disc)

theorem npArgsortStr_disc :
    npArgsortStr (disc col) = (uniques bytesLe col).map (fun u => (disc col).idxOf u) := by
  unfold npArgsortStr
  rw [disc_strip col hn, argsort_eq bytesLe_isOrder (disc col) (disc_nodup col),
    mergeSort_eq_uniques bytesLe_isOrder col (disc col) (disc_nodup col) (fun _ => mem_disc)]

end

theorem gatherOpt_ite (b : Bool) {l r perm : List Nat} {site : String} (h : gather l site perm = .ok r) :
    gatherOpt (if b then some l else none) site perm = .ok (if b then some r else none) := by
  cases b
  · rfl
  · simp only [gatherOpt, h, if_true]

theorem remapInverse_ite (b : Bool) {perm inv r : List Nat}
    (h : gather (npArgsortNat perm) "unique:sorted_position[unique_inverse[i]]" inv = .ok r) :
    remapInverse perm (if b then some inv else none) = .ok (if b then some r else none) := by
  cases b
  · rfl
  · simp only [remapInverse, h, if_true]

/-- `unique_for_indexed_string` with fix D21, for every flag combination -/
theorem uniqueForIndexedString_encode (col : List Bytes) (hn : NoTrailingNul col) (ri rv rc : Bool) :
    uniqueForIndexedString (encode col).1 (encode col).2 ri rv rc = .ok (refNpUnique bytesLe col ri rv rc) := by
  have hm : ∀ x, x ∈ disc col ↔ x ∈ col := fun _ => mem_disc
  have h1 := gather_through_perm (le := bytesLe) hm "unique:unique_index[indices_sort]" (fun u => col.idxOf u)
  have h2 := gather_inverse bytesLe_isOrder (disc_nodup col) hm "unique:sorted_position[unique_inverse[i]]"
  have h3 := gather_through_perm (le := bytesLe) hm "unique:unique_counts[indices_sort]" (fun u => col.count u)
  simp only [uniqueForIndexedString, getIndexedStringUnique_encode, discOut, npSortStr_disc col hn,
    npArgsortStr_disc col hn, gatherOpt_ite _ h1, remapInverse_ite _ h2, gatherOpt_ite _ h3]
  -- without any flag both branches of the code return the bare uniques
  cases ri <;> cases rv <;> cases rc <;> rfl

end Exetera.Unique
