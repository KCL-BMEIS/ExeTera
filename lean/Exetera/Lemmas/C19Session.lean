import Exetera.Lemmas.C19MapStreamDriver
/-!
  C19, `Session.ordered_merge_left` and `ordered_merge_inner` in ALL their forms: the map of a left join against a
  duplicate-free right column has non-decreasing valid entries, so the legacy streamed mapper applies;
  `_streaming_map_fields` and `_map_fields` with zero-initialised ndarray sinks write the same columns as `_map_fields`
  without sinks; composition with the map kernels.
-/
namespace Exetera.JoinOld
open Exetera Exetera.Spec Exetera.Join Exetera.JoinFlat Exetera.MapValid

/-- against a duplicate-free right column every left row gives exactly one row of the join: its partner, if any -/
theorem encR_leftJoinFrom_eq_map {R : List Int} (hR : R.Pairwise (· < ·)) (inv : Int) : ∀ (l : List Int) (base : Nat),
    encR inv (leftJoinFrom R l base) = l.map (fun a => encCell inv (matchRows a R 0).head?)
  | [], _ => rfl
  | a :: as, base => by
    rw [leftJoinFrom, encR, List.map_append, ← encR, ← encR, encR_leftJoinFrom_eq_map hR inv as (base + 1), List.map_cons]
    congr 1
    match matchRows a R 0, matchRows_nodup_length (k := a) (base := 0) (hR.imp Int.ne_of_lt) with
    | [], _ => rfl
    | [_], _ => rfl
    | _ :: _ :: _, h => simp at h

theorem encR_leftJoin_length {L R : List Int} (inv : Int) (hR : R.Pairwise (· < ·)) :
    (encR inv (leftJoin L R)).length = L.length := by
  rw [leftJoin, encR_leftJoinFrom_eq_map hR, List.length_map]

/-- the right map column of a left join of a sorted column against a duplicate-free sorted column: its valid entries
    never decrease (a later left key is not smaller, and the rows of `R` are ordered like their keys) -/
theorem validMonotone_encR_leftJoin {L R : List Int} (inv : Int) (hL : Sorted L) (hR : R.Pairwise (· < ·)) :
    ValidMonotone (encR inv (leftJoin L R)) inv := by
  intro i j a b hij ha hb hai hbi
  rw [leftJoin, encR_leftJoinFrom_eq_map hR, List.getElem?_map, Option.map_eq_some_iff] at ha hb
  obtain ⟨x, hx, rfl⟩ := ha
  obtain ⟨y, hy, rfl⟩ := hb
  have hxy : x ≤ y := Sorted.le_get? hL hij hx hy
  cases hmx : matchRows x R 0 with
  | nil => simp [hmx, encCell] at hai
  | cons ja _ =>
    cases hmy : matchRows y R 0 with
    | nil => simp [hmy, encCell] at hbi
    | cons jb _ =>
      have h1 := (matchRows_key R 0 ja (by rw [hmx]; exact List.mem_cons_self)).2
      have h2 := (matchRows_key R 0 jb (by rw [hmy]; exact List.mem_cons_self)).2
      simp only [List.head?_cons, encCell]
      by_cases hlt : jb < ja
      · have := Strict.lt_get? hR hlt h2 h1
        omega
      · omega

/-- `_streaming_map_fields` writes what `_map_fields` returns -/
theorem mapM_stream (m : List Int) (inv : Int) (n : Nat) {cs : Nat} (hcs : 1 ≤ cs) (hr : InRange n m inv)
    (hmono : ValidMonotone m inv) (hinv : inv < 0 ∨ (n : Int) ≤ inv) :
    ∀ (xss : List (List Int)), (∀ xs ∈ xss, xs.length = n) →
      mapM' (streamPayload m inv cs) (xss.map Payload.numeric) =
        mapM' (mapValidPayload m none inv) (xss.map Payload.numeric)
  | [], _ => rfl
  | xs :: rest, h => by
    have hx := h xs (by simp)
    have e := mapValidStreamOld_eq_mapValid xs m inv (0 : Int) hcs (by rw [hx]; exact hr) hmono (by rw [hx]; exact hinv)
    have ih := mapM_stream m inv n hcs hr hmono hinv rest (fun x hx => h x (by simp [hx]))
    simp only [List.map_cons, mapM', streamPayload, mapValidPayload, numericOf, e, ih]

/-- `_map_fields` with zero-initialised ndarray sinks (`np.zeros(len(map))`) writes what it returns without sinks:
    `map_valid` leaves the rows of marker entries as they are -/
theorem mapM_arrays (m : List Int) (inv : Int) :
    ∀ (xss : List (List Int)),
      mapM' (fun (p : Payload × List Int) => mapValidPayload m (some p.2) inv p.1)
          ((xss.map Payload.numeric).zip (List.replicate xss.length (List.replicate m.length 0))) =
        mapM' (mapValidPayload m none inv) (xss.map Payload.numeric)
  | [] => rfl
  | xs :: rest => by
    have ih := mapM_arrays m inv rest
    have e : mapValidPayload m (some (List.replicate m.length 0)) inv (Payload.numeric xs) =
        mapValidPayload m none inv (Payload.numeric xs) := rfl
    simp only [List.map_cons, List.length_cons, List.replicate_succ, List.zip_cons_cons, mapM', e, ih]

/-- one zero-initialised ndarray of `rows` entries per payload (`np.zeros(len(map))`) -/
def zeroArrays (rows cols : Nat) : Sinks := .arrays (List.replicate cols (List.replicate rows 0))

theorem isEmpty_numeric {xss : List (List Int)} (hne : xss ≠ []) : (xss.map Payload.numeric).isEmpty = false := by
  cases xss with
  | nil => exact absurd rfl hne
  | cons x xs => rfl

/-- **`ordered_merge_left`, every form**: the same columns `cols` whatever the form of the arguments -/
theorem orderedMergeLeft_all (lu : Bool) {L R : List Int} (xss : List (List Int))
    (hL : Sorted L) (hR : R.Pairwise (· < ·)) (hlu : lu = true → L.Pairwise (· < ·))
    (hne : xss ≠ []) (hlen : ∀ xs ∈ xss, xs.length = R.length) :
    ∃ cols, MappedCols (encR INVALID_INDEX (leftJoin L R)) INVALID_INDEX xss cols ∧
      ∀ (cs : Nat) (c : Cfg),
        (c.sinks = .none → orderedMergeLeft cs c lu true L R (xss.map .numeric) = .ok ⟨some cols, [], none⟩) ∧
        (c.sinks = .fields → streamable c = false →
          orderedMergeLeft cs c lu true L R (xss.map .numeric) = .ok ⟨none, cols, none⟩) ∧
        (c.sinks = zeroArrays L.length xss.length →
          orderedMergeLeft cs c lu true L R (xss.map .numeric) = .ok ⟨none, cols, none⟩) ∧
        (streamable c = true → 1 ≤ cs → (R.length : Int) ≤ INVALID_INDEX →
          orderedMergeLeft cs c lu true L R (xss.map .numeric) =
            .ok ⟨none, cols, some (encR INVALID_INDEX (leftJoin L R))⟩) := by
  -- every form that is not the streamed one computes the map with the flat kernel on zeros
  obtain ⟨u, hmap⟩ := generateLeft_eq lu (List.replicate L.length 0) INVALID_INDEX hL hR hlu (by simp)
  obtain ⟨cols, h1, h2⟩ := mapM_mapValid (encR INVALID_INDEX (leftJoin L R)) INVALID_INDEX R.length
    (inRange_encR L R INVALID_INDEX) xss hlen
  have hemp := isEmpty_numeric hne
  refine ⟨cols, h2, fun cs c => ⟨fun hs => ?_, fun hs hst => ?_, fun hs => ?_, fun hst hcs hsz => ?_⟩⟩
  · have hst : streamable c = false := by simp [streamable, hs]
    simp only [orderedMergeLeft, hs, Sinks.count, Option.any_none, hemp, hst, Bool.not_true, Bool.and_false,
      Bool.false_eq_true, if_false, hmap, mapFields, h1]
  · simp only [orderedMergeLeft, hs, Sinks.count, Option.any_none, hemp, hst, Bool.not_true, Bool.and_false,
      Bool.false_eq_true, if_false, hmap, mapFields, h1]
  · have hst : streamable c = false := by simp [streamable, hs, zeroArrays]
    have harr := mapM_arrays (encR INVALID_INDEX (leftJoin L R)) INVALID_INDEX xss
    rw [encR_leftJoin_length INVALID_INDEX hR, h1] at harr
    simp only [orderedMergeLeft, hs, zeroArrays, Sinks.count, Option.any_some, List.length_replicate, List.length_map,
      bne_self_eq_false, hemp, hst, Bool.not_true, Bool.and_false, Bool.false_eq_true, if_false, hmap, mapFields, harr]
  · have hs : c.sinks = .fields := by
      simp only [streamable, Bool.and_eq_true, beq_iff_eq] at hst
      exact hst.1.2
    have hstream := mapM_stream (encR INVALID_INDEX (leftJoin L R)) INVALID_INDEX R.length hcs
      (inRange_encR L R INVALID_INDEX) (validMonotone_encR_leftJoin INVALID_INDEX hL hR) (Or.inr hsz) xss hlen
    rw [h1] at hstream
    obtain ⟨u', hsm⟩ := streamedOld_eq INVALID_INDEX hcs hL hR
    cases lu with
    | false =>
      simp only [orderedMergeLeft, hs, Sinks.count, Option.any_none, hemp, hst, Bool.not_true, Bool.not_false,
        Bool.and_self, Bool.false_eq_true, if_false, if_true, hsm, streamingMapFields, hstream]
    | true =>
      simp only [orderedMergeLeft, hs, Sinks.count, Option.any_none, hemp, hst, Bool.not_true, Bool.false_and,
        Bool.false_eq_true, if_false, if_true, hmap, streamingMapFields, hstream]

/-- **`ordered_merge_inner`, every form of the sinks**: the payloads of both tables mapped through the two columns of
    the inner join, returned, written to Field sinks or to zero-initialised ndarray sinks of the join's length -/
theorem orderedMergeInner_all (lu ru : Bool) {L R : List Int} (lxs rxs : List (List Int)) (hL : Sorted L) (hR : Sorted R)
    (hlu : lu = true → L.Pairwise (· < ·)) (hru : ru = true → R.Pairwise (· < ·))
    (hl : ∀ xs ∈ lxs, xs.length = L.length) (hr : ∀ xs ∈ rxs, xs.length = R.length) (hln : lxs ≠ []) (hrn : rxs ≠ []) :
    ∃ lcols rcols,
      MappedCols (encodeInner (innerJoin L R)).1 INVALID_INDEX lxs lcols ∧
      MappedCols (encodeInner (innerJoin L R)).2 INVALID_INDEX rxs rcols ∧
      orderedMergeInner lu ru L R (lxs.map .numeric) .none (rxs.map .numeric) .none =
        .ok ⟨⟨some lcols, [], none⟩, ⟨some rcols, [], none⟩⟩ ∧
      orderedMergeInner lu ru L R (lxs.map .numeric) .fields (rxs.map .numeric) .fields =
        .ok ⟨⟨none, lcols, none⟩, ⟨none, rcols, none⟩⟩ ∧
      orderedMergeInner lu ru L R (lxs.map .numeric) (zeroArrays (innerJoin L R).length lxs.length)
          (rxs.map .numeric) (zeroArrays (innerJoin L R).length rxs.length) =
        .ok ⟨⟨none, lcols, none⟩, ⟨none, rcols, none⟩⟩ := by
  have hm := innerMaps_eq lu ru hL hR hlu hru
  obtain ⟨lcols, h1, h2⟩ := mapM_mapValid (encodeInner (innerJoin L R)).1 INVALID_INDEX L.length
    (inRange_inner_left L R INVALID_INDEX) lxs hl
  obtain ⟨rcols, h3, h4⟩ := mapM_mapValid (encodeInner (innerJoin L R)).2 INVALID_INDEX R.length
    (inRange_inner_right L R INVALID_INDEX) rxs hr
  have e1 := isEmpty_numeric hln
  have e2 := isEmpty_numeric hrn
  have a1 := mapM_arrays (encodeInner (innerJoin L R)).1 INVALID_INDEX lxs
  have a2 := mapM_arrays (encodeInner (innerJoin L R)).2 INVALID_INDEX rxs
  rw [show (encodeInner (innerJoin L R)).1.length = (innerJoin L R).length from List.length_map _, h1] at a1
  rw [show (encodeInner (innerJoin L R)).2.length = (innerJoin L R).length from List.length_map _, h3] at a2
  refine ⟨lcols, rcols, h2, h4, ?_, ?_, ?_⟩
  · simp only [orderedMergeInner, Sinks.count, Option.any_none, Bool.false_eq_true, if_false, e1, e2, hm, mapFields, h1, h3]
  · simp only [orderedMergeInner, Sinks.count, Option.any_none, Bool.false_eq_true, if_false, e1, e2, hm, mapFields, h1, h3]
  · simp only [orderedMergeInner, zeroArrays, Sinks.count, Option.any_some, List.length_replicate, List.length_map,
      bne_self_eq_false, Bool.false_eq_true, if_false, e1, e2, hm, mapFields, a1, a2]

/-- the forms of an `ordered_merge_left` call the theorems cover (all the code has): no sinks, Field sinks, or one
    zero-initialised ndarray of `rows` entries per payload; ndarray or Field keys and sources; with or without the map
    field. When the call is the streamed one the chunk size is at least 1 and the source table has at most
    `INVALID_INDEX = 2^62` rows (the marker is not a row number). -/
def FormOK (cs : Nat) (c : Cfg) (rows npayloads srcRows : Nat) : Prop :=
  (c.sinks = .none ∨ c.sinks = .fields ∨ c.sinks = zeroArrays rows npayloads) ∧
  (streamable c = true → 1 ≤ cs ∧ (srcRows : Int) ≤ INVALID_INDEX)

/-- every covered form succeeds and delivers the same columns (returned, or written to the sinks); the streamed form
    also leaves the join map in the map field -/
theorem orderedMergeLeft_any (lu : Bool) {L R : List Int} (xss : List (List Int))
    (hL : Sorted L) (hR : R.Pairwise (· < ·)) (hlu : lu = true → L.Pairwise (· < ·))
    (hne : xss ≠ []) (hlen : ∀ xs ∈ xss, xs.length = R.length) :
    ∃ cols, MappedCols (encR INVALID_INDEX (leftJoin L R)) INVALID_INDEX xss cols ∧
      ∀ (cs : Nat) (c : Cfg), FormOK cs c L.length xss.length R.length →
        ∃ o, orderedMergeLeft cs c lu true L R (xss.map .numeric) = .ok o ∧ o.returned.getD o.sinks = cols ∧
          (streamable c = true → o.map = some (encR INVALID_INDEX (leftJoin L R))) := by
  obtain ⟨cols, h1, h2⟩ := orderedMergeLeft_all lu xss hL hR hlu hne hlen
  refine ⟨cols, h1, fun cs c hf => ?_⟩
  obtain ⟨a, b, d, e⟩ := h2 cs c
  cases hst : streamable c with
  | true =>
    obtain ⟨g1, g2⟩ := hf.2 hst
    exact ⟨_, e hst g1 g2, rfl, fun _ => rfl⟩
  | false =>
    rcases hf.1 with hs | hs | hs
    · exact ⟨_, a hs, rfl, fun h => by cases h⟩
    · exact ⟨_, b hs hst, rfl, fun h => by cases h⟩
    · exact ⟨_, d hs, rfl, fun h => by cases h⟩

end Exetera.JoinOld
