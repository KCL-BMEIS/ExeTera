import Exetera.Lemmas.JoinSpec
import Exetera.Lemmas.Chunks
import Exetera.Lemmas.While
/-! What all join kernels share: sortedness in `getElem?` form, reading a chunk, runs of equal keys and where a trimmed
    chunk cuts them, the rows a join kind selects, and the merge position with the spec rows that follow from it. -/
namespace Exetera.Join
open Exetera Exetera.Spec

theorem Sorted.le_get? {xs : List Int} (h : Sorted xs) {i j : Nat} {a b : Int} (hij : i ≤ j)
    (ha : xs[i]? = some a) (hb : xs[j]? = some b) : a ≤ b := by
  obtain ⟨hi, rfl⟩ := List.getElem?_eq_some_iff.mp ha
  obtain ⟨hj, rfl⟩ := List.getElem?_eq_some_iff.mp hb
  exact h.le_of_lt hij hj

theorem get?_some_of_lt {xs : List Int} {i : Nat} (h : i < xs.length) : xs[i]? = some xs[i] :=
  List.getElem?_eq_getElem h

theorem Strict.sorted {xs : List Int} (h : xs.Pairwise (· < ·)) : Sorted xs :=
  List.Pairwise.imp (fun h => Int.le_of_lt h) h

theorem Strict.lt_get? {xs : List Int} (h : xs.Pairwise (· < ·)) {i j : Nat} {a b : Int} (hij : i < j)
    (ha : xs[i]? = some a) (hb : xs[j]? = some b) : a < b := by
  obtain ⟨hi, rfl⟩ := List.getElem?_eq_some_iff.mp ha
  obtain ⟨hj, rfl⟩ := List.getElem?_eq_some_iff.mp hb
  exact (List.pairwise_iff_getElem.mp h) i j hi hj hij

theorem chunk_access {xs : List Int} {c : Chunk} (hc : ChunkOK xs c) {i : Nat} (hi : i < c.hi - c.lo) (site : String) :
    ∃ a, xs[c.lo + i]? = some a ∧ getE c.data i site = .ok a := by
  have h2 : c.lo + i < xs.length := by have := hc.hi_le; omega
  exact ⟨xs[c.lo + i], get?_some_of_lt h2, by rw [getE_eq_ok, hc.get i hi, get?_some_of_lt h2]⟩

theorem ChunkOK.len_ge {xs : List Int} {c : Chunk} (hc : ChunkOK xs c) : c.hi - c.lo ≤ c.data.length := by
  by_cases h : c.hi - c.lo = 0
  · omega
  · obtain ⟨a, h1, h2⟩ := chunk_access hc (i := c.hi - c.lo - 1) (by omega) ""
    have := (List.getElem?_eq_some_iff.mp (getE_eq_ok.mp h2)).1
    omega

/-- `runCount` from position `k` (count so far `c`): counts the maximal run inside `[k, lim)` -/
theorem runCount_spec (xs : List Int) (lim : Nat) (hlim : lim ≤ xs.length) :
    ∀ (f k c : Nat), k < lim → lim ≤ k + 1 + f →
      ∃ e, runCount xs lim f k c = .ok (c + e) ∧ k + e < lim ∧
        (∀ t, t ≤ e → xs[k + t]? = xs[k]?) ∧ (k + e + 1 < lim → xs[k + e + 1]? ≠ xs[k]?)
  | 0, k, c, hk, hf => ⟨0, rfl, hk, fun t ht => by rw [Nat.le_zero.mp ht]; rfl, fun h => by omega⟩
  | f + 1, k, c, hk, hf => by
    have stop : (k + 0 + 1 < lim → xs[k + 0 + 1]? ≠ xs[k]?) → ∃ e, (.ok c : Except Err Nat) = .ok (c + e) ∧ k + e < lim ∧
        (∀ t, t ≤ e → xs[k + t]? = xs[k]?) ∧ (k + e + 1 < lim → xs[k + e + 1]? ≠ xs[k]?) :=
      fun h => ⟨0, rfl, hk, fun t ht => by rw [Nat.le_zero.mp ht]; rfl, h⟩
    rw [runCount]
    by_cases hk1 : k + 1 < lim
    · have h1 : k + 1 < xs.length := by omega
      have h0 : k < xs.length := by omega
      rw [if_pos hk1, getE_of_lt "run[k+1]" h1, getE_of_lt "run[k]" h0]
      simp only
      by_cases heq : xs[k + 1] = xs[k]
      · have hk' : xs[k + 1]? = xs[k]? := by rw [get?_some_of_lt h1, get?_some_of_lt h0, heq]
        obtain ⟨e, e1, e2, e3, e4⟩ := runCount_spec xs lim hlim f (k + 1) (c + 1) hk1 (by omega)
        rw [if_pos (by simpa using heq), e1]
        refine ⟨e + 1, by rw [Nat.add_assoc, Nat.add_comm 1], by omega, fun t ht => ?_, fun hlt => ?_⟩
        · cases t with
          | zero => rfl
          | succ t => rw [show k + (t + 1) = k + 1 + t by omega, e3 t (by omega), hk']
        · rw [show k + (e + 1) + 1 = k + 1 + e + 1 by omega, ← hk']; exact e4 (by omega)
      · rw [if_neg (by simpa using heq)]
        exact stop fun _ => by rw [get?_some_of_lt h1, get?_some_of_lt h0]; simpa using heq
    · rw [if_neg hk1]
      exact stop fun h => absurd h hk1

theorem boundary_gt {xs : List Int} (hs : Sorted xs) {c : Chunk} (hb : Boundary xs c) {I : Nat} (hI : I + 1 = c.hi)
    {a a' : Int} (ha : xs[I]? = some a) (ha' : xs[I + 1]? = some a') : a < a' := by
  have hle := Sorted.le_get? hs (Nat.le_succ I) ha ha'
  rcases hb with hb | hb
  · have := (List.getElem?_eq_some_iff.mp ha').1
    omega
  · rw [show c.hi - 1 = I by omega, ← hI, ha, ha'] at hb
    have : a ≠ a' := fun h => hb (by rw [h])
    omega

/-- the maximal run of the key at window position `i`, as `runCount` finds it inside the logical chunk, is the
    maximal run in the whole column (because a trimmed chunk ends at a run boundary) -/
theorem run_global {xs : List Int} (hs : Sorted xs) {c : Chunk} (hc : ChunkOK xs c) (hb : Boundary xs c)
    {i : Nat} (hi : i < c.hi - c.lo) {a : Int} (ha : xs[c.lo + i]? = some a) :
    ∃ n, runCount c.data (c.hi - c.lo) (c.hi - c.lo) i 1 = .ok n ∧ 0 < n ∧ i + n ≤ c.hi - c.lo ∧
      (∀ t, t < n → xs[c.lo + i + t]? = some a) ∧ (∀ b, xs[c.lo + i + n]? = some b → a < b) := by
  obtain ⟨e, h1, h2, h3, h4⟩ := runCount_spec c.data (c.hi - c.lo) hc.len_ge (c.hi - c.lo) i 1 hi (by omega)
  have hrun : ∀ t, t ≤ e → xs[c.lo + i + t]? = some a := by
    intro t ht
    have := h3 t ht
    rwa [hc.get (i + t) (by omega), hc.get i hi, ha, ← Nat.add_assoc] at this
  refine ⟨1 + e, h1, by omega, by omega, fun t ht => hrun t (by omega), ?_⟩
  intro b hb'
  rw [show c.lo + i + (1 + e) = c.lo + i + e + 1 by omega] at hb'
  by_cases hin : i + e + 1 < c.hi - c.lo
  · have hne := h4 hin
    rw [hc.get (i + e + 1) hin, hc.get i hi, ha, show c.lo + (i + e + 1) = c.lo + i + e + 1 by omega, hb'] at hne
    have hle := Sorted.le_get? hs (Nat.le_succ _) (hrun e (Nat.le_refl e)) hb'
    have : b ≠ a := fun h => hne (by rw [h])
    omega
  · exact boundary_gt hs hb (by have := hc.lo_le; omega) (hrun e (Nat.le_refl e)) hb'

/-- rows selected by the join kind: a left join keeps everything, an inner join only matched rows -/
def sel (emit : Bool) (rows : List (Nat × Option Nat)) : List (Nat × Option Nat) :=
  if emit then rows else rows.filter (fun p => p.2.isSome)

theorem sel_nil (emit : Bool) : sel emit [] = [] := by cases emit <;> rfl

theorem sel_append (emit : Bool) (a b : List (Nat × Option Nat)) : sel emit (a ++ b) = sel emit a ++ sel emit b := by
  cases emit <;> simp [sel]

theorem sel_cons_none (emit : Bool) (I : Nat) (rows : List (Nat × Option Nat)) :
    sel emit ((I, none) :: rows) = if emit then (I, none) :: sel emit rows else sel emit rows := by
  cases emit <;> simp [sel]

theorem sel_cons_some (emit : Bool) (I j : Nat) (rows : List (Nat × Option Nat)) :
    sel emit ((I, some j) :: rows) = (I, some j) :: sel emit rows := by
  cases emit <;> simp [sel]

theorem sel_blockRow (emit : Bool) (I J m : Nat) : sel emit (blockRow I J m) = blockRow I J m := by
  cases emit
  · simp only [sel, blockRow, Bool.false_eq_true, if_false, List.filter_eq_self, List.mem_map]
    rintro _ ⟨x, _, rfl⟩; rfl
  · rfl

theorem sel_blockRows (emit : Bool) (J m : Nat) : ∀ n I, sel emit (blockRows I J m n) = blockRows I J m n
  | 0, _ => sel_nil emit
  | n + 1, I => by rw [blockRows, sel_append, sel_blockRow, sel_blockRows emit J m n (I + 1)]

@[simp] theorem encL_cons (p : Nat × Option Nat) (rows) : encL (p :: rows) = (p.1 : Int) :: encL rows := rfl
@[simp] theorem encR_cons (inv : Int) (p : Nat × Option Nat) (rows) : encR inv (p :: rows) = encCell inv p.2 :: encR inv rows := rfl
@[simp] theorem encL_length (rows : List (Nat × Option Nat)) : (encL rows).length = rows.length := by simp [encL]
@[simp] theorem encR_length (inv : Int) (rows : List (Nat × Option Nat)) : (encR inv rows).length = rows.length := by simp [encR]

/-- rows of a cartesian block still to be emitted when the FSM is at `(ii, jj)` -/
def pendInner (I J ii jj n m : Nat) : List (Nat × Option Nat) :=
  (List.range' (J + jj) (m - jj)).map (fun j => (I + ii, some j)) ++ blockRows (I + ii + 1) J m (n - ii - 1)

theorem sel_pendInner (emit : Bool) (I J ii jj n m : Nat) : sel emit (pendInner I J ii jj n m) = pendInner I J ii jj n m := by
  unfold pendInner
  rw [sel_append, sel_blockRows]
  exact congrArg (· ++ _) (sel_blockRow emit (I + ii) (J + jj) (m - jj))

theorem pendInner_zero (I J ii n m : Nat) (h : ii < n) : pendInner I J ii 0 n m = blockRows (I + ii) J m (n - ii) := by
  rw [show n - ii = (n - ii - 1) + 1 by omega]
  simp [pendInner, blockRows, blockRow]

theorem pendInner_step (I J ii jj n m : Nat) (h : jj < m) :
    pendInner I J ii jj n m = (I + ii, some (J + jj)) :: pendInner I J ii (jj + 1) n m := by
  simp only [pendInner]
  rw [show m - jj = (m - (jj + 1)) + 1 by omega, List.range'_succ]
  simp [Nat.add_assoc]

theorem pendInner_rowend (I J ii n m : Nat) (h : ii + 1 < n) :
    pendInner I J ii m n m = pendInner I J (ii + 1) 0 n m := by
  rw [pendInner_zero _ _ _ _ _ h]
  simp [pendInner, show n - (ii + 1) = n - ii - 1 by omega, Nat.add_assoc]

theorem pendInner_end (I J ii n m : Nat) (h : ii + 1 = n) : pendInner I J ii m n m = [] := by
  simp [pendInner, show n - ii - 1 = 0 by omega, blockRows]

def D.I (d : D) : Nat := d.lch.lo + d.k.i
def D.J (d : D) : Nat := d.rch.lo + d.k.j

/-- every right row before `J` is below the key of left row `I`: row `I` has no match before `J` -/
def BelowAt (L R : List Int) (I J : Nat) : Prop := ∀ j b a, j < J → R[j]? = some b → L[I]? = some a → b < a

def AllBelow (L R : List Int) (I : Nat) : Prop := ∀ j b a, j < R.length → R[j]? = some b → L[I]? = some a → b < a

section below
variable {L R : List Int} {I J : Nat} {a b : Int}

theorem BelowAt.zero : BelowAt L R I 0 := fun _ _ _ h => absurd h (Nat.not_lt_zero _)

theorem BelowAt.left_succ (hL : Sorted L) (h : BelowAt L R I J) : BelowAt L R (I + 1) J := by
  intro j b a' hj hb ha'
  have hI := (List.getElem?_eq_some_iff.mp ha').1
  have ha := get?_some_of_lt (Nat.lt_of_succ_lt hI)
  exact Int.lt_of_lt_of_le (h j b _ hj hb ha) (Sorted.le_get? hL (Nat.le_succ I) ha ha')

theorem BelowAt.right_succ (h : BelowAt L R I J) (ha : L[I]? = some a) (hb : R[J]? = some b) (hba : b < a) :
    BelowAt L R I (J + 1) := by
  intro j b' a' hj hb' ha'
  rw [ha] at ha'; cases ha'
  rcases Nat.lt_succ_iff_lt_or_eq.mp hj with hj | rfl
  · exact h j b' a hj hb' ha
  · rw [hb] at hb'; cases hb'; exact hba

theorem BelowAt.of_le {I' : Nat} (hR : Sorted R) (hb : R[J]? = some a) (hnext : ∀ a', L[I']? = some a' → a < a') :
    BelowAt L R I' (J + 1) :=
  fun _ _ a' hj hb' ha' => Int.lt_of_le_of_lt (Sorted.le_get? hR (Nat.le_of_lt_succ hj) hb' hb) (hnext a' ha')

theorem BelowAt.rest_none (hR : Sorted R) (h : BelowAt L R I J) (ha : L[I]? = some a) (hgt : ∀ b, R[J]? = some b → a < b) :
    rest L R I = (I, none) :: rest L R (I + 1) := by
  obtain ⟨hI, rfl⟩ := List.getElem?_eq_some_iff.mp ha
  by_cases hJ : J ≤ R.length
  · exact rest_lt hR hI hJ (fun j hj => h j _ _ hj (get?_some_of_lt (by omega)) ha)
      (fun hlt => hgt _ (get?_some_of_lt hlt))
  · exact rest_lt hR hI (Nat.le_refl _) (fun j hj => h j _ _ (by omega) (get?_some_of_lt hj) ha)
      (fun hlt => absurd hlt (Nat.lt_irrefl _))

theorem AllBelow.succ (hL : Sorted L) (h : AllBelow L R I) : AllBelow L R (I + 1) := BelowAt.left_succ hL h

theorem rest_allBelow (hR : Sorted R) (hI : I < L.length) (h : AllBelow L R I) :
    rest L R I = (I, none) :: rest L R (I + 1) :=
  BelowAt.rest_none (J := R.length) hR h (get?_some_of_lt hI) (fun b hb => by simp at hb)

/-- equal keys `a` at a fresh merge position, with runs of `n` left and `m` right rows: the spec rows from `I` on start
    with the cartesian block of the two runs -/
theorem BelowAt.rest_runs (hR : Sorted R) (h : BelowAt L R I J) {n m : Nat} (hn : 0 < n) (hm : 0 < m)
    (hLn : ∀ t, t < n → L[I + t]? = some a) (hRm : ∀ t, t < m → R[J + t]? = some a)
    (hRe : ∀ b, R[J + m]? = some b → a < b) :
    rest L R I = pendInner I J 0 0 n m ++ rest L R (I + n) := by
  have hget : ∀ {xs : List Int} {k : Nat}, xs[k]? = some a → ∃ hk : k < xs.length, xs[k] = a :=
    fun hx => List.getElem?_eq_some_iff.mp hx
  have hIn : I + n ≤ L.length := by have := (hget (hLn (n - 1) (by omega))).1; omega
  have hJm : J + m ≤ R.length := by have := (hget (hRm (m - 1) (by omega))).1; omega
  rw [pendInner_zero _ _ _ _ _ hn]
  exact rest_block hR hm hJm (fun j hj => h j _ a hj (get?_some_of_lt (by omega)) (hLn 0 hn))
    (fun t ht => (hget (hRm t ht)).2) (fun hlt => hRe _ (get?_some_of_lt hlt)) n I hIn fun t ht => (hget (hLn t ht)).2

/-- matched left row against a duplicate-free right column: exactly one output row (a block of one cell) -/
theorem RU.rest_eq1 {l r : List Int} (hr : r.Pairwise (· < ·)) {I J : Nat} {a : Int}
    (ha : l[I]? = some a) (hb : r[J]? = some a)
    (hlt : ∀ j b, j < J → r[j]? = some b → b < a) :
    rest l r I = (I, some J) :: rest l r (I + 1) := by
  have h := BelowAt.rest_runs (L := l) (n := 1) (m := 1) (Strict.sorted hr)
    (fun j b a' hj hb' ha' => by rw [ha] at ha'; cases ha'; exact hlt j b hj hb') Nat.one_pos Nat.one_pos
    (fun t ht => by rw [Nat.lt_one_iff.mp ht]; exact ha) (fun t ht => by rw [Nat.lt_one_iff.mp ht]; exact hb)
    (fun b hb' => Strict.lt_get? hr (Nat.lt_succ_self J) hb hb')
  simpa [pendInner, blockRows] using h

end below
end Exetera.Join
