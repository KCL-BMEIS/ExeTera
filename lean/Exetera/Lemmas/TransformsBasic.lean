import Exetera.Spec.Transforms
import Exetera.Lemmas.PrefixSums
/-! What several of the C06 kernels share: `slice`, writes into the unwritten part of an in-place buffer, `offsets`, the
specification's `lookup` and `numericColumn`, and reading a row of an encoded chunk (`EncFrom`). Core Lean only. -/
namespace Exetera.Transforms
open Exetera Exetera.Spec.Transforms

theorem slice_succ {α} (xs : List α) (p n : Nat) (h : p < xs.length) :
    slice xs p (p + (n + 1)) = xs[p] :: slice xs (p + 1) (p + 1 + n) := by
  rw [slice_cons xs p _ h (by omega), Nat.add_right_comm p 1 n]; rfl

theorem slice_length_of_le {α} (xs : List α) (a n : Nat) (h : a + n ≤ xs.length) : (slice xs a (a + n)).length = n := by
  rw [Exetera.slice_length_of_le xs a (a + n) h, Nat.add_sub_cancel_left]

theorem slice_append_mid {α} (pre mid post : List α) :
    slice (pre ++ mid ++ post) pre.length (pre.length + mid.length) = mid := by
  simp [slice, List.append_assoc]

theorem slice_append_right {α} (pre xs : List α) (a b : Nat) :
    slice (pre ++ xs) (pre.length + a) (pre.length + b) = slice xs a b := by
  simp only [slice, List.drop_append, List.drop_of_length_le (Nat.le_add_right _ _), Nat.add_sub_cancel_left,
    List.nil_append, Nat.add_sub_add_left]

theorem getE_append_left {α} (xs ys : List α) (i : Nat) (site : String) (h : i < xs.length) :
    getE (xs ++ ys) i site = .ok xs[i] := by
  rw [getE_of_lt site (by simp; omega)]; simp [List.getElem_append_left h]

theorem dropWhile_of_all {p : Nat → Bool} {l : Bytes} (h : l.all p = true) : l.dropWhile p = [] := by
  induction l with
  | nil => rfl
  | cons a l ih =>
    simp only [List.all_cons, Bool.and_eq_true] at h
    simp [List.dropWhile, h.1, ih h.2]

theorem setE_prefix {α} (d : List α) (k : Nat) (z v : α) (site : String) :
    setE (d ++ List.replicate (k + 1) z) d.length v site = .ok ((d ++ [v]) ++ List.replicate k z) := by
  simp [setE, List.replicate_succ]

theorem setE_prefix_next {α} (pre : List α) (f : α) (k : Nat) (z v : α) (site : String) :
    setE (pre ++ f :: List.replicate (k + 1) z) (pre.length + 1) v site = .ok ((pre ++ [f]) ++ v :: List.replicate k z) := by
  have : pre ++ f :: List.replicate (k + 1) z = (pre ++ [f]) ++ List.replicate (k + 1) z := by simp
  rw [this]
  have h := setE_prefix (pre ++ [f]) k z v site
  simp only [List.length_append, List.length_cons, List.length_nil] at h
  rw [h]; simp

/-! ### offsets -/

theorem offsets_eq_prefixSums (b : Nat) (ls : List Nat) : offsets b ls = prefixSums b ls := by
  induction ls generalizing b with
  | nil => rfl
  | cons l ls ih => simp [offsets, prefixSums, ih]

theorem offsets_length (b : Nat) (ls : List Nat) : (offsets b ls).length = ls.length + 1 := by
  rw [offsets_eq_prefixSums, prefixSums.length_eq]

theorem offsets_getElem? (b : Nat) (ls : List Nat) (i : Nat) (h : i ≤ ls.length) :
    (offsets b ls)[i]? = some (b + (ls.take i).sum) := by
  rw [offsets_eq_prefixSums, prefixSums.getElem? b ls i h]

theorem offsets_append (b : Nat) (xs ys : List Nat) :
    offsets b (xs ++ ys) = offsets b xs ++ (offsets (b + xs.sum) ys).tail := by
  simp only [offsets_eq_prefixSums, prefixSums.append]

theorem offsets_map_add (b a : Nat) (ls : List Nat) : (offsets b ls).map (· + a) = offsets (b + a) ls := by
  simp only [offsets_eq_prefixSums, prefixSums.map_add]

theorem offsets_getLast (b : Nat) (ls : List Nat) : (offsets b ls)[ls.length]? = some (b + ls.sum) := by
  rw [offsets_getElem? b ls ls.length (Nat.le_refl _), List.take_length]

theorem mem_of_lookup_eq_some {l : List (Bytes × Int)} {cell : Bytes} {v : Int} (h : lookup l cell = some v) :
    (cell, v) ∈ l := by
  simp only [lookup, Option.map_eq_some_iff] at h
  obtain ⟨kv, hf, rfl⟩ := h
  have hk : kv.1 = cell := by simpa using List.find?_some hf
  exact hk ▸ List.mem_of_find?_eq_some hf

theorem lookup_of_mem {l : List (Bytes × Int)} (hnd : (l.map (·.1)).Nodup) {cell : Bytes} {v : Int} (hm : (cell, v) ∈ l) :
    lookup l cell = some v := by
  induction l with
  | nil => cases hm
  | cons kv l ih =>
    simp only [List.map_cons, List.nodup_cons] at hnd
    rw [lookup, List.find?_cons]
    rcases List.mem_cons.mp hm with rfl | hm
    · simp
    · have hne : kv.1 ≠ cell := fun e => hnd.1 (e ▸ List.mem_map_of_mem (f := (·.1)) hm)
      simp only [beq_eq_false_iff_ne.mpr hne]
      exact ih hnd.2 hm

theorem lookup_eq_some_iff {l : List (Bytes × Int)} (hnd : (l.map (·.1)).Nodup) (cell : Bytes) (v : Int) :
    lookup l cell = some v ↔ (cell, v) ∈ l := ⟨mem_of_lookup_eq_some, lookup_of_mem hnd⟩

theorem lookup_eq_none_iff (l : List (Bytes × Int)) (cell : Bytes) :
    lookup l cell = none ↔ ∀ kv ∈ l, kv.1 ≠ cell := by
  simp [lookup, List.find?_eq_none]

theorem lookup_isSome_iff (l : List (Bytes × Int)) (cell : Bytes) : (lookup l cell).isSome ↔ cell ∈ l.map (·.1) := by
  simp [lookup]

theorem mem_catCode {l : List (Bytes × Int)} {cell : Bytes} (h : (lookup l cell).isSome) : (cell, catCode l cell) ∈ l := by
  obtain ⟨v, hv⟩ := Option.isSome_iff_exists.mp h
  simpa [catCode, hv] using mem_of_lookup_eq_some hv

theorem lookup_congr {l₁ l₂ : List (Bytes × Int)} (h12 : ∀ p ∈ l₁, lookup l₂ p.1 = some p.2)
    (h21 : ∀ p ∈ l₂, lookup l₁ p.1 = some p.2) (cell : Bytes) : lookup l₁ cell = lookup l₂ cell := by
  cases h : lookup l₁ cell with
  | some v => exact (h12 _ (mem_of_lookup_eq_some h)).symm
  | none =>
    cases h' : lookup l₂ cell with
    | none => rfl
    | some v => rw [h21 _ (mem_of_lookup_eq_some h')] at h; cases h

theorem lookup_perm {l₁ l₂ : List (Bytes × Int)} (hp : l₁.Perm l₂) (hnd : (l₁.map (·.1)).Nodup) (cell : Bytes) :
    lookup l₁ cell = lookup l₂ cell :=
  lookup_congr (fun _ h => lookup_of_mem ((hp.map _).nodup_iff.mp hnd) (hp.mem_iff.mp h))
    (fun _ h => lookup_of_mem hnd (hp.mem_iff.mpr h)) cell

theorem lookup_append (A B : List (Bytes × Int)) (val : Bytes) :
    lookup (A ++ B) val = match lookup A val with | some v => some v | none => lookup B val := by
  simp only [lookup, List.find?_append]
  cases List.find? (fun kv => kv.1 == val) A <;> simp

theorem lookup_map_const (L : List Bytes) (v : Int) (val : Bytes) :
    lookup (L.map (fun x => (x, v))) val = if val ∈ L then some v else none := by
  induction L with
  | nil => simp [lookup]
  | cons x L ih =>
    simp only [lookup, List.map_cons, List.find?_cons] at ih ⊢
    by_cases hx : x = val
    · subst hx; simp
    · have : (x == val) = false := by simp [hx]
      simp only [this, ih, List.mem_cons]
      have : ¬ val = x := fun h => hx h.symm
      simp [this]

theorem numericColumn_cons {V} (mode : Mode) (inv : V) (k : CellClass V) (ks : List (CellClass V)) :
    numericColumn mode inv (k :: ks) = consCell (numericCell mode inv k) (numericColumn mode inv ks) := rfl

end Exetera.Transforms

namespace Exetera.Spec.Transforms
open Exetera Exetera.Transforms

theorem EncFrom.start {c : Chunk} {i s : Nat} {cells : List Bytes} (h : EncFrom c i s cells) : c.inds[i]? = some s := by
  cases cells with
  | nil => exact h
  | cons _ _ => exact h.1

theorem EncFrom.next {c : Chunk} {i s : Nat} {cell : Bytes} {rest : List Bytes} (h : EncFrom c i s (cell :: rest)) :
    c.inds[i + 1]? = some (s + cell.length) := h.2.2.2.start

theorem EncFrom.lt_inds {c : Chunk} {i s : Nat} {cells : List Bytes} (h : EncFrom c i s cells) :
    i + cells.length < c.inds.length := by
  induction cells generalizing i s with
  | nil =>
    have := h.start
    simp only [List.length_nil, Nat.add_zero]
    exact (List.getElem?_eq_some_iff.mp this).1
  | cons cell rest ih => have := ih h.2.2.2; simp only [List.length_cons]; omega

theorem EncFrom.sliceE_cell {c : Chunk} {i s : Nat} {cell : Bytes} {rest : List Bytes} (h : EncFrom c i s (cell :: rest))
    (site : String) : sliceE c.vals (c.off + s) (c.off + (s + cell.length)) site = .ok cell := by
  simp only [sliceE, ← Nat.add_assoc, h.2.1, if_true, h.2.2.1]

theorem EncFrom.byte {c : Chunk} {i s : Nat} {cell : Bytes} {rest : List Bytes} (h : EncFrom c i s (cell :: rest))
    (j : Nat) (hj : j < cell.length) : c.vals[c.off + s + j]? = cell[j]? := by
  obtain ⟨_, hlen, hsl, _⟩ := h
  have : cell[j]? = (slice c.vals (c.off + s) (c.off + s + cell.length))[j]? := by rw [hsl]
  rw [this]
  simp only [slice, List.getElem?_take, List.getElem?_drop]
  have : j < c.off + s + cell.length - (c.off + s) := by omega
  simp only [this, if_true]

theorem withCol_ok {α} (c : Chunk) (b : Bool) (site : String) (k : Except Err α) (h : c.col < c.ncols) :
    withCol c b site k = k := by
  unfold withCol
  have h1 : ¬ c.ncols < c.col := by omega
  have h2 : ¬ c.ncols ≤ c.col := by omega
  simp [h1, h2]


end Exetera.Spec.Transforms
