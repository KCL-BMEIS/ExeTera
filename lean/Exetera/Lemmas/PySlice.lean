import Exetera.Spec.PySlice
import Exetera.Spec.Storage
/-!
  Python's `slice.indices` / `range` (Spec/PySlice.lean).

  `slice.indices(n)` puts both bounds into `[lowerB st, upperB n st]` and leaves non-negative bounds already there alone;
  `range(a, b, st)` is the progression `a, a + st, …` that stops short of `b`. Together: the positions a slice visits are
  rows, a unit-step slice is `drop`/`take`, and a descending range is an ascending one reversed.
-/
namespace Exetera.Spec

open Exetera

theorem lowerB_upperB (n : Nat) (st : Int) : lowerB st ≤ 0 ∧ lowerB st ≤ upperB n st ∧ (n : Int) - 1 ≤ upperB n st := by
  unfold lowerB upperB; split <;> omega

theorem adjBound_mem (n : Nat) (st b : Int) : lowerB st ≤ adjBound n st b ∧ adjBound n st b ≤ upperB n st := by
  have := lowerB_upperB n st
  have : upperB n st ≤ n := by unfold upperB; split <;> omega
  unfold adjBound
  generalize lowerB st = L at *
  generalize upperB n st = U at *
  split
  · exact ⟨Int.le_max_right _ _, Int.max_le.mpr ⟨by omega, by omega⟩⟩
  · exact ⟨Int.le_min.mpr ⟨by omega, by omega⟩, Int.min_le_right _ _⟩

theorem startOf_mem (n : Nat) (st : Int) (s : Option Int) : lowerB st ≤ startOf n st s ∧ startOf n st s ≤ upperB n st := by
  have := lowerB_upperB n st
  cases s with
  | some b => exact adjBound_mem n st b
  | none => simp only [startOf]; split <;> omega

theorem stopOf_mem (n : Nat) (st : Int) (s : Option Int) : lowerB st ≤ stopOf n st s ∧ stopOf n st s ≤ upperB n st := by
  have := lowerB_upperB n st
  cases s with
  | some b => exact adjBound_mem n st b
  | none => simp only [stopOf]; split <;> omega

theorem sliceIndices_ok {n : Nat} {start stop step : Option Int} {a b st : Int}
    (h : sliceIndices n start stop step = .ok (a, b, st)) :
    st = stepOf step ∧ st ≠ 0 ∧ a = startOf n st start ∧ b = stopOf n st stop := by
  unfold sliceIndices at h
  split at h
  · cases h
  · rename_i hst
    injection h with h
    injection h with ha h
    injection h with hb hs
    subst hs
    exact ⟨rfl, hst, ha.symm, hb.symm⟩

theorem sliceIndices_bounds {n : Nat} {start stop step : Option Int} {a b st : Int}
    (h : sliceIndices n start stop step = .ok (a, b, st)) :
    st ≠ 0 ∧ (0 < st → 0 ≤ a ∧ a ≤ n ∧ 0 ≤ b ∧ b ≤ n) ∧ (st < 0 → -1 ≤ a ∧ a ≤ (n : Int) - 1 ∧ -1 ≤ b ∧ b ≤ (n : Int) - 1) := by
  obtain ⟨_, hst, rfl, rfl⟩ := sliceIndices_ok h
  have ha := startOf_mem n st start
  have hb := stopOf_mem n st stop
  refine ⟨hst, fun hpos => ?_, fun hneg => ?_⟩
  · rw [lowerB, upperB, if_neg (by omega), if_neg (by omega)] at ha hb
    omega
  · rw [lowerB, upperB, if_pos hneg, if_pos hneg] at ha hb
    omega

theorem sliceIndices_nonneg (n : Nat) {x y : Int} (step : Option Int) (hx : 0 ≤ x) (hy : 0 ≤ y) (hst : 0 < stepOf step) :
    sliceIndices n (some x) (some y) step = .ok (min x n, min y n, stepOf step) := by
  simp only [sliceIndices, startOf, stopOf, adjBound, upperB, if_neg (Int.ne_of_gt hst), if_neg (Int.not_lt.mpr hx),
    if_neg (Int.not_lt.mpr hy), if_neg (Int.not_lt.mpr (Int.le_of_lt hst))]

theorem mem_pyRange {a b st r : Int} : r ∈ pyRange a b st ↔ ∃ k : Nat, k < rangeLen a b st ∧ r = a + (k : Int) * st := by
  simp only [pyRange, List.mem_map, List.mem_range]
  exact ⟨fun ⟨k, hk, h⟩ => ⟨k, hk, h.symm⟩, fun ⟨k, hk, h⟩ => ⟨k, hk, h.symm⟩⟩

@[simp] theorem length_pyRange (a b st : Int) : (pyRange a b st).length = rangeLen a b st := by simp [pyRange]

theorem pyRange_lt_stop {a b st : Int} (hst : 0 < st) {k : Nat} (hk : k < rangeLen a b st) : a + (k : Int) * st < b := by
  unfold rangeLen at hk
  simp only [hst, if_true] at hk
  split at hk
  · have h1 : (k : Int) ≤ (b - a - 1) / st := by omega
    have h2 := (Int.le_ediv_iff_mul_le hst).mp h1
    omega
  · omega

theorem pyRange_gt_stop {a b st : Int} (hst : st < 0) {k : Nat} (hk : k < rangeLen a b st) : b < a + (k : Int) * st := by
  unfold rangeLen at hk
  have hn : ¬ (0 < st) := by omega
  simp only [hn, if_false, hst, if_true] at hk
  split at hk
  · have h1 : (k : Int) ≤ (a - b - 1) / (-st) := by omega
    have h2 := (Int.le_ediv_iff_mul_le (by omega : 0 < -st)).mp h1
    have h3 : (k : Int) * -st = -((k : Int) * st) := Int.mul_neg _ _
    omega
  · omega

theorem pyRange_rows {n : Nat} {start stop step : Option Int} {a b st : Int}
    (h : sliceIndices n start stop step = .ok (a, b, st)) {r : Int} (hr : r ∈ pyRange a b st) : 0 ≤ r ∧ r < n := by
  obtain ⟨hne, hp, hn⟩ := sliceIndices_bounds h
  obtain ⟨k, hk, rfl⟩ := mem_pyRange.mp hr
  rcases Int.lt_or_gt_of_ne hne with hneg | hpos
  · have := hn hneg
    have h1 := pyRange_gt_stop hneg hk
    have h2 : (k : Int) * st ≤ 0 := Int.mul_nonpos_of_nonneg_of_nonpos (by omega) (by omega)
    omega
  · have := hp hpos
    have h1 := pyRange_lt_stop hpos hk
    have h2 : 0 ≤ (k : Int) * st := Int.mul_nonneg (by omega) (by omega)
    omega

theorem rowOf_of_row {α} (xs : List α) {r : Int} (h0 : 0 ≤ r) (h1 : r < xs.length) :
    rowOf xs r = some (xs[r.toNat]'(by omega)) := by
  unfold rowOf
  rw [if_pos h0, List.getElem?_eq_getElem]

/-- `pySliceG` drops no position: none of them is outside the rows -/
theorem pySliceG_length {α} (xs : List α) (start stop step : Option Int) {a b st : Int}
    (h : sliceIndices xs.length start stop step = .ok (a, b, st)) :
    ∃ ys, pySliceG xs start stop step = .ok ys ∧ ys.length = rangeLen a b st := by
  refine ⟨(pyRange a b st).filterMap (rowOf xs), by simp [pySliceG, h], ?_⟩
  rw [List.filterMap_length_eq_length.mpr, length_pyRange]
  intro r hr
  obtain ⟨h0, h1⟩ := pyRange_rows h hr
  rw [rowOf_of_row xs h0 h1]; rfl

theorem pySliceG_error_iff {α} (xs : List α) (start stop step : Option Int) :
    (∃ e, pySliceG xs start stop step = .error e) ↔ step = some 0 := by
  rcases step with _ | s
  · simp [pySliceG, sliceIndices, stepOf]
  · by_cases hs : s = 0 <;> simp [pySliceG, sliceIndices, stepOf, hs]

theorem rangeLen_one (a b : Int) : rangeLen a b 1 = (b - a).toNat := by
  unfold rangeLen
  simp only [show (0 : Int) < 1 by omega, if_true, Int.ediv_one]
  split <;> omega

theorem filterMap_rowAt_consecutive {α} (xs : List α) (m len : Nat) :
    ((List.range len).map (fun (k : Nat) => (m : Int) + (k : Int) * 1)).filterMap (rowOf xs) = (xs.drop m).take len := by
  induction len with
  | zero => rfl
  | succ len ih =>
    have hrow : rowOf xs ((m : Int) + (len : Int) * 1) = xs[m + len]? := by
      rw [Int.mul_one, ← Int.natCast_add, rowOf, if_pos (Int.natCast_nonneg _), Int.toNat_natCast]
    rw [List.range_succ, List.map_append, List.filterMap_append, ih, List.take_add_one, List.getElem?_drop]
    simp only [List.map_cons, List.map_nil, List.filterMap_cons, List.filterMap_nil, hrow]
    cases xs[m + len]? <;> rfl

theorem pySliceG_unit {α} (xs : List α) (start stop step : Option Int) {a b : Int}
    (h : sliceIndices xs.length start stop step = .ok (a, b, 1)) :
    pySliceG xs start stop step = .ok (pySlice xs a.toNat b.toNat) := by
  obtain ⟨m, rfl⟩ := Int.eq_ofNat_of_zero_le ((sliceIndices_bounds h).2.1 Int.one_pos).1
  simp only [pySliceG, h, pyRange, rangeLen_one, filterMap_rowAt_consecutive xs m, pySlice, Int.toNat_natCast,
    Int.toNat_sub']

theorem slice_clamp {α} (xs : List α) (a b : Nat) : slice xs (min a xs.length) (min b xs.length) = slice xs a b := by
  unfold slice
  rcases Nat.le_total a xs.length with ha | ha
  · rw [Nat.min_eq_left ha]
    rcases Nat.le_total b xs.length with hb | hb
    · rw [Nat.min_eq_left hb]
    · rw [Nat.min_eq_right hb, List.take_of_length_le (by rw [List.length_drop]; exact Nat.le_refl _),
        List.take_of_length_le (by rw [List.length_drop]; exact Nat.sub_le_sub_right hb a)]
  · rw [Nat.min_eq_right ha, List.drop_eq_nil_of_le (Nat.le_refl _), List.drop_eq_nil_of_le ha, List.take_nil,
      List.take_nil]

theorem toNat_min_natCast (a n : Nat) : (min (a : Int) n).toNat = min a n := by
  rcases Nat.le_total a n with h | h
  · rw [Nat.min_eq_left h, Int.min_eq_left (Int.ofNat_le.mpr h), Int.toNat_natCast]
  · rw [Nat.min_eq_right h, Int.min_eq_right (Int.ofNat_le.mpr h), Int.toNat_natCast]

theorem pySliceG_nat {α} (xs : List α) (a b : Nat) :
    pySliceG xs (some (a : Int)) (some (b : Int)) none = .ok (pySlice xs a b) := by
  rw [pySliceG_unit xs _ _ _ (sliceIndices_nonneg xs.length none (Int.natCast_nonneg a) (Int.natCast_nonneg b) (by decide))]
  rw [toNat_min_natCast, toNat_min_natCast]
  exact congrArg Except.ok (slice_clamp xs a b)

theorem pyRange_head? (a b st : Int) : (pyRange a b st).head? = if rangeLen a b st = 0 then none else some a := by
  unfold pyRange
  cases h : rangeLen a b st with
  | zero => simp
  | succ m => simp [List.range_succ_eq_map]

theorem pyRange_getLast? (a b st : Int) :
    (pyRange a b st).getLast? = if rangeLen a b st = 0 then none else some (a + ((rangeLen a b st - 1 : Nat) : Int) * st) := by
  unfold pyRange
  cases h : rangeLen a b st with
  | zero => simp
  | succ m => simp [List.range_succ]

theorem progression_between (a st : Int) {k L : Nat} (hk : k ≤ L) :
    min a (a + (L : Int) * st) ≤ a + (k : Int) * st ∧ a + (k : Int) * st ≤ max a (a + (L : Int) * st) := by
  have hkL : (k : Int) ≤ L := Int.ofNat_le.mpr hk
  rcases Int.le_total 0 st with h | h
  · have h1 := Int.mul_le_mul_of_nonneg_right hkL h
    have h2 := Int.mul_nonneg (Int.natCast_nonneg k) h
    rw [Int.min_eq_left (by omega), Int.max_eq_right (by omega)]
    omega
  · have h1 := Int.mul_le_mul_of_nonpos_right hkL h
    have h2 := Int.mul_nonpos_of_nonneg_of_nonpos (Int.natCast_nonneg k) h
    rw [Int.min_eq_right (by omega), Int.max_eq_left (by omega)]
    omega

theorem pyRange_between {a b st r0 rl : Int} (h0 : (pyRange a b st).head? = some r0)
    (hl : (pyRange a b st).getLast? = some rl) {r : Int} (hr : r ∈ pyRange a b st) :
    min r0 rl ≤ r ∧ r ≤ max r0 rl := by
  rw [pyRange_head?] at h0
  rw [pyRange_getLast?] at hl
  obtain ⟨k, hk, rfl⟩ := mem_pyRange.mp hr
  have hne : ¬ rangeLen a b st = 0 := by omega
  simp only [hne, if_false, Option.some.injEq] at h0 hl
  subst h0 hl
  exact progression_between a st (by omega)

theorem rangeLen_tight (x : Int) {st : Int} (hst : 0 < st) (L : Nat) : rangeLen x (x + (L : Int) * st + 1) st = L + 1 := by
  have h2 : 0 ≤ (L : Int) * st := Int.mul_nonneg (Int.natCast_nonneg L) (Int.le_of_lt hst)
  have e : x + (L : Int) * st + 1 - x - 1 = (L : Int) * st := by omega
  rw [rangeLen, if_pos hst, if_pos (by omega), e, Int.mul_ediv_cancel _ (Int.ne_of_gt hst)]
  omega

theorem pyRange_reverse {a b st : Int} (hst : st < 0) (hne : rangeLen a b st ≠ 0) :
    pyRange (a + ((rangeLen a b st - 1 : Nat) : Int) * st) (a + 1) (-st) = (pyRange a b st).reverse := by
  generalize hL : rangeLen a b st - 1 = L
  have hlen : rangeLen a b st = L + 1 := by omega
  have hlen' : rangeLen (a + (L : Int) * st) (a + 1) (-st) = L + 1 := by
    have := rangeLen_tight (a + (L : Int) * st) (Int.neg_pos_of_neg hst) L
    rwa [Int.mul_neg, Int.add_neg_cancel_right] at this
  apply List.ext_getElem
  · simp [hlen, hlen']
  · intro k h1 _
    simp only [length_pyRange, hlen'] at h1
    simp only [pyRange, hlen, hlen', List.getElem_reverse, List.getElem_map, List.getElem_range, List.length_map,
      List.length_range, Nat.add_sub_cancel]
    have e1 : ((L - k : Nat) : Int) = (L : Int) - (k : Int) := by omega
    rw [e1, Int.sub_mul, Int.mul_neg]
    omega

end Exetera.Spec
