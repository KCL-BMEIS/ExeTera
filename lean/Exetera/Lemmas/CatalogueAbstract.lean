import Exetera.Lemmas.CatalogueCalls
/-! The client calls against the abstract catalogue `dataset ↦ frame ↦ column ↦ (type, data)`: in a consistent state a call
    returns exactly when the abstract pre-condition `specOk` holds, and then the file catalogue changes by `specStep`
    (`step_decides`). The guards and effects of the building blocks are stated on the tables (`CatalogueOps`); what is added
    here is their reading on `absH5`: a frame look-up against `absH5 s d fn`, a field reference against `refPos`/`srcLive`. -/
namespace Exetera.Catalogue

theorem getFrame_ok {s : State} (hI : Inv s) {d : Nat} {fn : Name} {g : Nat} (h : getFrame s d fn = .ok g) :
    ((d, fn), g) ∈ s.dfs ∧ ((d, fn), g) ∈ s.file := by
  unfold getFrame at h
  split at h
  · next g' hl => cases h; exact ⟨look_mem hl, (hI.sameFrames _).1 (look_mem hl)⟩
  · cases h

theorem getFrame_err {s : State} {d : Nat} {fn : Name} {e : Err} (h : getFrame s d fn = .error e) : (d, fn) ∉ keys s.dfs := by
  unfold getFrame at h
  split at h
  · cases h
  · next hl => exact look_eq_none.1 hl

theorem reg {s : State} {k : Key} {g : Nat} (h : (k, g) ∈ s.file) : g ∈ s.file.map (·.2) := List.mem_map.2 ⟨_, h, rfl⟩

theorem withFrame_decides {α} {s : State} (hI : Inv s) {ok : Prop} {Q : α → State → Prop} {k : Nat → Res α} (d : Nat) (fn : Name)
    (hnone : absH5 s d fn = none → ¬ ok)
    (hsome : ∀ g, ((d, fn), g) ∈ s.dfs → ((d, fn), g) ∈ s.file → absH5 s d fn = some (frameH5 s g) → (k g).Decides s ok Q) :
    (withFrame s d fn k).Decides s ok Q := by
  unfold withFrame
  split
  · next e hg => exact ⟨hnone (absH5_noframe fun h => getFrame_err hg ((dfs_file_keys hI _).2 h)), rfl⟩
  · next g hg => exact hsome g (getFrame_ok hI hg).1 (getFrame_ok hI hg).2 (absH5_frame hI.toInvCore (getFrame_ok hI hg).2)

theorem withField_ok {α} {s : State} {r : FRef} {h : Nat} (hr : getField s r = .ok h) (k : Nat → Res α) :
    withField s r k = k h := by
  simp only [withField, hr]

theorem getField_byHandle {s : State} {a b : Nat} (h : getField s (.byHandle a) = .ok b) : b = a ∧ a < s.handles.length := by
  simp only [getField] at h
  split at h
  · next hlt => cases h; exact ⟨rfl, hlt⟩
  · cases h

theorem getField_byName {s : State} {d : Nat} {fn c : Name} {h : Nat} (hr : getField s (.byName d fn c) = .ok h) :
    ∃ g, getFrame s d fn = .ok g ∧ look s.cols (g, c) = some h := by
  simp only [getField] at hr
  split at hr
  · cases hr
  · next g hg =>
    split at hr
    · next hl => cases hr; exact ⟨g, hg, hl⟩
    · cases hr

inductive Resolved (s : State) (r : FRef) : Prop where
  /-- it cannot be used: the look-up fails, or the object is closed / invalid — and abstractly there is no such field -/
  | dead (hlive : srcLive (refPos s r) (absH5 s) = false) (h : ∀ h, getField s r = .ok h → ∃ e, ensureValid s h = .error e)
  /-- it wraps the group linked as column `k` of frame `(d, fn)` = group `g` -/
  | live (h : Nat) (hd : Handle) (k : Name) (d : Nat) (fn : Name) (g : Nat) (hr : getField s r = .ok h)
         (hv : ensureValid s h = .ok hd) (hn : fieldName s h = .ok k) (hpos : refPos s r = some ⟨d, fn, k⟩)
         (hf : ((d, fn), g) ∈ s.file) (ho : hd.owner = some g) (hl : ((g, k), hd.oid) ∈ s.links)
         (hcol : (absH5 s).col ⟨d, fn, k⟩ = s.objs[hd.oid]?) (hlive : srcLive (refPos s r) (absH5 s) = true)

theorem resolve {s : State} (hI : Inv s) (r : FRef) (hz : ∀ h, getField s r = .ok h → Linked s h) : Resolved s r := by
  have hC := hI.toInvCore
  cases hr : getField s r with
  | error e =>
    refine .dead ?_ fun h hh => by rw [hr] at hh; cases hh
    cases r with
    | byHandle h =>
      simp only [getField] at hr
      split at hr
      · cases hr
      · next hlt => simp only [refPos, List.getElem?_eq_none (Nat.le_of_not_lt hlt), Option.bind_none, srcLive]
    | byName d fn c =>
      simp only [refPos, srcLive, Cat.col]
      simp only [getField] at hr
      split at hr
      · next e' hg => rw [absH5_noframe fun h => getFrame_err hg ((dfs_file_keys hI _).2 h)]; rfl
      · next g hg =>
        split at hr
        · cases hr
        · next hl =>
          rw [absH5_frame hC (getFrame_ok hI hg).2, Option.bind_some, frameH5_isSome hC]
          simpa using look_eq_none.1 hl
  | ok h =>
    cases hv : ensureValid s h with
    | error e =>
      refine .dead ?_ fun h' hh => by rw [hr] at hh; cases hh; exact ⟨e, hv⟩
      cases r with
      | byName d fn c =>
        obtain ⟨_, _, hl0⟩ := getField_byName hr
        obtain ⟨hd0, h1, h2, h3, _⟩ := hI.sameObj _ _ (look_mem hl0)
        rw [ensureValid_ok.2 ⟨h1, h3, h2⟩] at hv; cases hv
      | byHandle h' =>
        cases (getField_byHandle hr).1
        cases hh : s.handles[h]? with
        | none => simp only [refPos, hh, Option.bind_none, srcLive]
        | some hd =>
          simp only [refPos, hh, Option.bind_some]
          cases hc : hd.closed with
          | true => simp only [if_true, srcLive]
          | false =>
            -- open and refused, hence invalid, hence its group is not linked any more
            have hinv : hd.valid = false := by
              cases hval : hd.valid with
              | false => rfl
              | true => rw [ensureValid_ok.2 ⟨hh, hc, hval⟩] at hv; cases hv
            have : keyOfVal s.links hd.oid = none := by
              cases hk : keyOfVal s.links hd.oid with
              | none => rfl
              | some k =>
                have := (hI.handleLink h hd hh hc k ((keyOfVal_eq_some hI.oidInj).1 hk)).1
                rw [hinv] at this; cases this
            simp only [Bool.false_eq_true, if_false, posOfOid, this, Option.bind_none, srcLive]
    | ok hd =>
      obtain ⟨k, hn⟩ := hz h hr hd hv
      obtain ⟨g, ho, hl⟩ := (fieldName_ok hC hv).1 hn
      obtain ⟨⟨⟨d, fn⟩, g'⟩, he, hee⟩ := List.mem_map.1 (hI.linkFrame _ _ hl)
      have hee' : g = g' := hee.symm
      subst hee'
      have hcol : (absH5 s).col ⟨d, fn, k⟩ = s.objs[hd.oid]? := by
        simp only [Cat.col, absH5_frame hC he, Option.bind_some, frameH5_linked hC hl]
      have hpos : refPos s r = some ⟨d, fn, k⟩ := by
        cases r with
        | byHandle h' =>
          cases (getField_byHandle hr).1
          simp only [refPos, (ensureValid_ok.1 hv).1, Option.bind_some, (ensureValid_ok.1 hv).2.1, Bool.false_eq_true, if_false,
            posOfOid, (keyOfVal_eq_some hI.oidInj).2 hl, (keyOfVal_eq_some hI.frameInj).2 he, Option.map_some]
        | byName d' fn' c =>
          obtain ⟨g0, hg0, hl0⟩ := getField_byName hr
          obtain ⟨hd0, h1, _, _, _, _, h6⟩ := hI.sameObj _ _ (look_mem hl0)
          rw [(ensureValid_ok.1 hv).1] at h1; cases h1
          obtain ⟨rfl, rfl⟩ := Prod.mk.inj (injective hI.oidInj h6 hl)
          obtain ⟨rfl, rfl⟩ := Prod.mk.inj (injective hI.frameInj (getFrame_ok hI hg0).2 he)
          rfl
      refine .live h hd k d fn g hr hv hn hpos he ho hl hcol ?_
      rw [hpos, srcLive, hcol, List.getElem?_eq_getElem (hC.handleOidLt h hd (ensureValid_ok.1 hv).1)]; rfl

theorem renOf_of_mem {dict : List (Name × Name)} (hkn : (dict.map (·.1)).Nodup) {p : Name × Name} (hp : p ∈ dict) :
    renOf dict p.1 = p.2 := by
  simp only [renOf, lookN_of_mem hkn (show (p.1, p.2) ∈ dict from hp), Option.getD_some]

theorem renOf_not_key {dict : List (Name × Name)} {n : Name} (h : n ∉ dict.map (·.1)) : renOf dict n = n := by
  simp only [renOf, lookN_eq_none.2 h, Option.getD_none]

theorem renOf_key_is_val {dict : List (Name × Name)} {n : Name} (h : n ∈ dict.map (·.1)) : renOf dict n ∈ dict.map (·.2) := by
  cases hl : lookN dict n with
  | none => exact absurd h (lookN_eq_none.1 hl)
  | some t =>
    simp only [renOf, hl, Option.getD_some]
    exact List.mem_map.2 ⟨(n, t), lookN_mem hl, rfl⟩

theorem renamed_eq_renFrame {dict : List (Name × Name)} {F F' : Frame} (hkn : (dict.map (·.1)).Nodup)
    (hpres : ∀ k ∈ dict.map (·.1), ∃ c, F k = some c) (hr : Renamed dict F F') : F' = renFrame dict F := by
  funext n'
  unfold renFrame
  cases hfind : dict.find? (fun p => p.2 == n') with
  | some p =>
    have hp : p ∈ dict := List.mem_of_find?_eq_some hfind
    have hp2 : p.2 = n' := by simpa using List.find?_some hfind
    obtain ⟨c, hc⟩ := hpres p.1 (List.mem_map.2 ⟨p, hp, rfl⟩)
    have := hr.fwd p.1 c hc
    rw [renOf_of_mem hkn hp, hp2] at this
    simp only [this, hc]
  | none =>
    have hnv : n' ∉ dict.map (·.2) := by
      intro hm
      obtain ⟨p, hp, hp2⟩ := List.mem_map.1 hm
      have := List.find?_eq_none.1 hfind p hp
      simp [hp2] at this
    simp only
    have honly : ∀ n c, F n = some c → renOf dict n = n' → n = n' ∧ n' ∉ dict.map (·.1) := by
      intro n c _ hren
      by_cases hk : n ∈ dict.map (·.1)
      · exact absurd (hren ▸ renOf_key_is_val hk) hnv
      · rw [renOf_not_key hk] at hren; subst hren; exact ⟨rfl, hk⟩
    split
    · next hk =>
      cases hF' : F' n' with
      | none => rfl
      | some c =>
        obtain ⟨n, hn, hren⟩ := hr.bwd n' c hF'
        exact absurd hk (honly n c hn hren).2
    · next hk =>
      cases hF : F n' with
      | some c =>
        have := hr.fwd n' c hF
        rw [renOf_not_key hk] at this; exact this
      | none =>
        cases hF' : F' n' with
        | none => rfl
        | some c =>
          obtain ⟨n, hn, hren⟩ := hr.bwd n' c hF'
          have := (honly n c hn hren).1
          subst this
          rw [hF] at hn; cases hn

theorem renameOkF_iff {s : State} (hI : InvCore s) (g : Nat) (dict : List (Name × Name)) :
    renameOkF dict (frameH5 s g) = true ↔ RenameOk dict ((ownedBy s.cols g).map (·.1)) := by
  have hsome : ∀ n, (frameH5 s g n).isSome = true ↔ n ∈ (ownedBy s.cols g).map (·.1) := by
    intro n; rw [frameH5_isSome hI, decide_eq_true_eq, mem_cur]
  simp only [renameOkF, Bool.and_eq_true, decide_eq_true_eq, List.all_eq_true, Bool.or_eq_true, Bool.not_eq_true']
  constructor
  · rintro ⟨⟨⟨h1, h2⟩, h3⟩, h4⟩
    refine ⟨h1, ?_, h3, ?_⟩
    · intro k hk
      obtain ⟨p, hp, rfl⟩ := List.mem_map.1 hk
      exact (hsome _).1 (h2 p hp)
    · intro t ht htc
      obtain ⟨p, hp, rfl⟩ := List.mem_map.1 ht
      rcases h4 p hp with h | h
      · have := (hsome _).2 htc; rw [h] at this; cases this
      · exact h
  · intro h
    refine ⟨⟨⟨h.keysNodup, ?_⟩, h.valsNodup⟩, ?_⟩
    · intro p hp
      exact (hsome _).2 (h.keysPresent _ (List.mem_map.2 ⟨p, hp, rfl⟩))
    · intro p hp
      by_cases hc : (frameH5 s g p.2).isSome = true
      · right; exact h.noClash _ (List.mem_map.2 ⟨p, hp, rfl⟩) ((hsome _).1 hc)
      · left; simpa using hc

theorem renameFields_abs {s : State} (hI : Inv s) {d : Nat} {fn : Name} {g : Nat} (hf : ((d, fn), g) ∈ s.file)
    (dict : List (Name × Name)) (hkn : (dict.map (·.1)).Nodup) :
    (renameFields .repaired s g dict).Decides s (renameOkF dict (frameH5 s g) = true)
      fun _ s' => Inv s' ∧ absH5 s' = (absH5 s).setFrame d fn (some (renFrame dict (frameH5 s g))) := by
  have hC := hI.toInvCore
  refine (renameFields_decides hC g dict hkn).mono (renameOkF_iff hC g dict).symm fun _ s' hok hq => ?_
  obtain ⟨hren, hoth⟩ := renamedState_refines hC g dict hok
  have hpres : ∀ k ∈ dict.map (·.1), ∃ c, frameH5 s g k = some c := fun k hk =>
    Option.isSome_iff_exists.1 (by rw [frameH5_isSome hC, decide_eq_true_eq]; exact mem_cur.1 (hok.keysPresent k hk))
  rw [hq, ← renamed_eq_renFrame hok.keysNodup hpres hren]
  exact ⟨hI.field_level (renamedState_core hC g dict hok) ⟨rfl, rfl, rfl, rfl⟩,
    absH5_setFrame_same (s' := renamedState s g dict) hC rfl hf hoth⟩

theorem isSome_absH5 {s : State} (hI : Inv s) (d : Nat) (fn : Name) : (absH5 s d fn).isSome = decide ((d, fn) ∈ keys s.dfs) := by
  by_cases hk : (d, fn) ∈ keys s.dfs
  · obtain ⟨g, hg⟩ := mem_keys.1 ((dfs_file_keys hI _).1 hk)
    simp [absH5_frame hI.toInvCore hg, hk]
  · simp [absH5_noframe fun h => hk ((dfs_file_keys hI _).2 h), hk]

theorem specOk_dead {src : Option Src} {A : Cat} (hlive : srcLive src A = false) {op : Op} (hop : op.ref.isSome = true) :
    specOk src A op = false := by
  cases op with
  | setItem d fn n r => simp [specOk, hlive]
  | copyField r d fn n => simp [specOk, hlive]
  | add d fn r => cases src <;> simp [specOk, hlive]
  | deleteField d fn r => cases src <;> simp [specOk, hlive]
  | moveField r d fn n => cases src <;> simp [specOk, hlive]
  | _ => cases hop

theorem dead_raises {s : State} {r : FRef} {d : Nat} {fn : Name} {k : Nat → Nat → Res Unit}
    (hlive : srcLive (refPos s r) (absH5 s) = false) (hdead : ∀ h, getField s r = .ok h → ∃ e, ensureValid s h = .error e)
    {op : Op} (hop : op.ref.isSome = true) (hk : ∀ h g e, ensureValid s h = .error e → ∃ e', k h g = .err e' s)
    (Q : Unit → State → Prop) :
    (withField s r fun h => withFrame s d fn fun g => k h g).Decides s (specOk (refPos s r) (absH5 s) op = true) Q := by
  have hno : ¬ specOk (refPos s r) (absH5 s) op = true := by rw [specOk_dead hlive hop]; exact Bool.false_ne_true
  unfold withField
  split
  · exact ⟨hno, rfl⟩
  · next h hr =>
    unfold withFrame
    split
    · exact ⟨hno, rfl⟩
    · next g _ =>
      obtain ⟨e, hv⟩ := hdead h hr
      obtain ⟨e', he'⟩ := hk h g e hv
      show Res.Decides s _ Q (k h g)
      rw [he']; exact ⟨hno, rfl⟩

/-- a copy of the field at `r` into column `n` of frame `(d, fn)`, whichever call asks for it (`df[n] = f`, `dataframe.copy`) -/
theorem copyInto_decides {s : State} (hI : Inv s) (r : FRef) (d : Nat) (fn n : Name) (op : Op)
    (hz : ∀ h, getField s r = .ok h → Linked s h) (hop : op.ref = some r)
    (hOk : ∀ src, specOk src (absH5 s) op = (srcLive src (absH5 s) && (absH5 s).hasFrame d fn && !(absH5 s).hasCol d fn n))
    (hStep : ∀ p, specStep (some p) (absH5 s) op = (absH5 s).setCol d fn n ((absH5 s).col p)) :
    (withField s r fun h => withFrame s d fn fun g => (copyField .repaired s h g n).void).Decides s
      (specOk (refPos s r) (absH5 s) op = true) fun _ s' => Inv s' ∧ absH5 s' = specStep (refPos s r) (absH5 s) op := by
  have hC := hI.toInvCore
  cases resolve hI r hz with
  | dead hlive hdead =>
    exact dead_raises hlive hdead (by rw [hop]; rfl) (fun h g e hv => ⟨e, by simp [copyField, (invalid_field hv).2, Res.void]⟩) _
  | live h hd k d' fn' g' hr hv hn hpos hf' ho hl hcol hlive =>
    rw [withField_ok hr]
    refine withFrame_decides hI d fn (fun hA => by simp [hOk, Cat.hasFrame, hA]) fun g _ hf hA => ?_
    refine ((copyField_decides hC _ h g n).mono ?_ ?_).void
    · simp [hOk, hlive, Cat.hasFrame, Cat.hasCol, Cat.col, hA, frameH5_isSome hC, hv]
    · rintro _ s' hok ⟨hd', c, hv', hc, rfl⟩
      cases hv.symm.trans hv'
      have CS := added_colSet hC c (reg hf) hok.2
      exact ⟨CS.inv hI, by rw [CS.abs hC hf, hpos, hStep, hcol, hc]⟩

/-- THE refinement, one call at a time: in a consistent state a call (other than `writeable()`, whose outcome hangs on the
    object's `_valid_reference` alone) returns exactly when the abstract pre-condition holds, then in a consistent state
    whose file catalogue shows the abstract effect, and otherwise nothing has changed. Proviso: the field object handed
    in, if any, is not the left-over of a deleted column. -/
theorem step_decides {s : State} (hI : Inv s) (op : Op) (hz : op.refsLinked s) (hnv : op.isView = false) :
    (step .repaired s op).Decides s (specOk (srcOf s op) (absH5 s) op = true)
      fun _ s' => Inv s' ∧ absH5 s' = specStep (srcOf s op) (absH5 s) op := by
  have hC := hI.toInvCore
  have hfile : ∀ {d fn}, (d, fn) ∉ keys s.dfs → (d, fn) ∉ keys s.file := fun h h' => h ((dfs_file_keys hI _).2 h')
  cases op with
  | create d fn n c =>
    refine withFrame_decides hI d fn (fun hA => by simp [specOk, Cat.hasFrame, hA]) fun g _ hf hA => ?_
    refine ((addField_decides hC g n c _).mono ?_ fun _ s' hok hq => ?_).void
    · simp [specOk, Cat.hasFrame, Cat.hasCol, Cat.col, hA, frameH5_isSome hC]
    · rw [hq.2]; exact (added_colSet hC c (reg hf) hok).inv_abs hI hf
  | setItem d fn n r | copyField r d fn n => exact copyInto_decides hI r d fn n _ hz rfl (fun _ => rfl) (fun _ => rfl)
  | add d fn r =>
    simp only [step, srcOf, Op.ref, Option.bind_some]
    cases resolve hI r hz with
    | dead hlive hdead =>
      exact dead_raises hlive hdead rfl (fun h g e hv => ⟨e, by simp [addCopy, (invalid_field hv).1, Res.void]⟩) _
    | live h hd k d' fn' g' hr hv hn hpos hf' ho hl hcol hlive =>
      rw [withField_ok hr]
      rw [hpos] at hlive ⊢
      refine withFrame_decides hI d fn (fun hA => by simp [specOk, Cat.hasFrame, hA]) fun g _ hf hA => ?_
      refine ((addCopy_decides hC _ g h).mono ?_ ?_).void
      · simp [specOk, hlive, Cat.hasFrame, Cat.hasCol, Cat.col, hA, frameH5_isSome hC, hn]
      · rintro _ s' _ ⟨k', hd', c, hn', hnot, hv', hc, rfl⟩
        cases hn.symm.trans hn'
        cases hv.symm.trans hv'
        refine ⟨(added_colSet hC c (reg hf) hnot).inv hI, ?_⟩
        show _ = (absH5 s).setCol d fn k ((absH5 s).col ⟨d', fn', k⟩)
        rw [(added_colSet hC c (reg hf) hnot).abs hC hf, hcol, hc]
  | delItem d fn n =>
    refine withFrame_decides hI d fn (fun hA => by simp [specOk, Cat.hasCol, Cat.col, hA]) fun g _ hf hA => ?_
    refine (delItem_decides hC g n).mono ?_ fun _ s' _ hq => hq ▸ (removed_colSet hC g n).inv_abs hI hf
    simp [specOk, Cat.hasCol, Cat.col, hA, frameH5_isSome hC]
  | drop d fn n =>
    refine withFrame_decides hI d fn (fun hA => by simp [specOk, Cat.hasCol, Cat.col, hA]) fun g _ hf hA => ?_
    refine (dropField_decides hC g n).mono ?_ fun _ s' _ hq => hq ▸ (removed_colSet hC g n).inv_abs hI hf
    simp [specOk, Cat.hasCol, Cat.col, hA, frameH5_isSome hC]
  | deleteField d fn r =>
    simp only [step, srcOf, Op.ref, Option.bind_some]
    cases resolve hI r hz with
    | dead hlive hdead =>
      exact dead_raises hlive hdead rfl (fun h g e hv => ⟨e, by simp [deleteField, hv]⟩) _
    | live h hd k d' fn' g' hr hv hn hpos hf' ho hl hcol hlive =>
      rw [withField_ok hr]
      rw [hpos] at hlive ⊢
      refine withFrame_decides hI d fn (fun hA => ?_) fun g _ hf hA => ?_
      · simp only [specOk, hlive, Bool.true_and, decide_eq_true_eq]
        intro e; obtain ⟨rfl, rfl⟩ := Prod.mk.inj e
        rw [absH5_frame hC hf'] at hA; cases hA
      · refine (deleteField_decides hC g h).mono ⟨?_, fun hok => ?_⟩ ?_
        · rintro ⟨hd', k', hv', ho', _⟩
          cases hv.symm.trans hv'
          cases ho.symm.trans ho'
          simp [specOk, hlive, injective hI.frameInj hf' hf]
        · simp only [specOk, hlive, Bool.true_and, decide_eq_true_eq] at hok
          rw [hok] at hf'
          cases functional hI.fileNodup hf' hf
          exact ⟨hd, k, hv, ho, hn⟩
        · rintro _ s' _ ⟨k', hn', rfl⟩
          cases hn.symm.trans hn'
          exact ⟨(removed_colSet hC g k).inv hI, by rw [(removed_colSet hC g k).abs hC hf]; rfl⟩
  | rename d fn dict =>
    simp only [step, srcOf, Op.ref, Option.bind_none]
    by_cases hkn : (dict.map (·.1)).Nodup
    · rw [if_neg (not_not_intro hkn)]
      refine withFrame_decides hI d fn (fun hA => by simp [specOk, hA]) fun g _ hf hA => ?_
      exact (renameFields_abs hI hf dict hkn).mono (by simp [specOk, hA]) fun _ s' _ hq => by
        simp only [specStep, hA, Option.map_some]; exact hq
    · rw [if_pos hkn]
      refine ⟨?_, rfl⟩
      cases hA : absH5 s d fn <;> simp [specOk, hA, renameOkF, hkn]
  | moveField r d fn n =>
    simp only [step, srcOf, Op.ref, Option.bind_some]
    cases resolve hI r hz with
    | dead hlive hdead =>
      exact dead_raises hlive hdead rfl (fun h g e hv => ⟨e, by simp [moveField, hv]⟩) _
    | live h hd k d' fn' g' hr hv hn hpos hf' ho hl hcol hlive =>
      rw [withField_ok hr]
      rw [hpos] at hlive ⊢
      refine withFrame_decides hI d fn (fun hA => by simp [specOk, hlive, hA]) fun g _ hf hA => ?_
      by_cases hgg : g' = g
      · -- inside one frame: a rename
        subst hgg
        have hkey : (d', fn') = (d, fn) := injective hI.frameInj hf' hf
        simp only [moveField, hv, ho, if_true, hn]
        exact (renameFields_abs hI hf [(k, n)] (by simp)).mono (by simp [specOk, hlive, hA, hkey]) fun _ s' _ hq => by
          simp only [specStep, hkey, if_true, hA, Option.map_some]; exact hq
      · -- across frames: copy, then drop
        have hkey : ¬ (d', fn') = (d, fn) := fun e => hgg (functional hI.fileNodup (e ▸ hf') hf)
        have hown : hd.owner ≠ some g := fun e => hgg (Option.some.inj (ho.symm.trans e))
        have hcore := moveField_core hC h g n (reg hf)
        refine ((moveField_cross_decides hC n (reg hf) hv hown hn).and_state (hI.field_level hcore.1 hcore.2)).mono ?_ ?_
        · simp [specOk, hlive, hA, hkey, frameH5_isSome hC]
        · rintro _ s' hok ⟨⟨c, og, hc, ho', rfl⟩, hInv⟩
          cases Option.some.inj (ho.symm.trans ho')
          have CS := added_colSet hC c (reg hf) hok
          refine ⟨hInv, ?_⟩
          show absH5 (removed (added .repaired s g n c) (g', k)) = _
          rw [(removed_colSet CS.core g' k).abs CS.core (show ((d', fn'), g') ∈ (added .repaired s g n c).file from hf'),
            CS.abs hC hf]
          simp only [specStep, hkey, if_false, hcol, hc]
  | createFrame d fn src =>
    cases src with
    | none =>
      refine ((createFrame_decides hI d fn none fun _ h => nomatch h).mono ?_ fun _ s' hok hq => ?_).void
      · simp [specOk, Cat.hasFrame, isSome_absH5 hI]
      · exact ⟨hq.2.inv, hq.2.abs hI (hfile hok)⟩
    | some sr =>
      obtain ⟨sd, sfn⟩ := sr
      refine withFrame_decides hI sd sfn (fun hA => by simp [specOk, Cat.hasFrame, hA]) fun sg _ hf hA => ?_
      refine ((createFrame_decides hI d fn (some sg) fun _ h => by cases h; exact reg hf).mono ?_ fun _ s' hok hq => ?_).void
      · simp [specOk, Cat.hasFrame, hA, isSome_absH5 hI]
      · exact ⟨hq.2.inv, by rw [hq.2.abs hI (hfile hok)]; simp only [specStep, hA]; rfl⟩
  | requireFrame d fn =>
    simp only [step, srcOf, Op.ref, Option.bind_none]
    by_cases hk : (d, fn) ∈ keys s.dfs
    · rw [if_pos hk]; exact ⟨rfl, hI, by simp [specStep, isSome_absH5 hI, hk]⟩
    · rw [if_neg hk]
      refine ((createFrame_decides hI d fn none fun _ h => nomatch h).mono ⟨fun _ => rfl, fun _ => hk⟩ fun _ s' hok hq => ?_).void
      exact ⟨hq.2.inv, by rw [hq.2.abs hI (hfile hok)]; simp [specStep, isSome_absH5 hI, hk]; rfl⟩
  | copyFrame sd sfn d fn =>
    refine withFrame_decides hI sd sfn (fun hA => by simp [specOk, Cat.hasFrame, hA]) fun sg _ hf hA => ?_
    refine (copyFrame_decides hI sg d fn (reg hf)).mono ?_ fun _ s' hok hq => ?_
    · simp [specOk, Cat.hasFrame, hA, isSome_absH5 hI]
    · exact ⟨hq.inv, by rw [hq.abs hI (hfile hok)]; simp only [specStep, hA]⟩
  | setFrame d fn sd sfn =>
    refine withFrame_decides hI sd sfn (fun hA => by simp [specOk, Cat.hasFrame, hA]) fun sg hd _ hA => ?_
    exact (setFrame_decides hI hd d fn).mono (by simp [specOk, Cat.hasFrame, hA, isSome_absH5 hI]) fun _ _ _ hq => hq
  | delFrame d fn | dropFrame d fn =>
    exact (unlink_decides hI d fn _).mono (by simp [specOk, Cat.hasFrame, isSome_absH5 hI])
      fun _ s' _ ⟨g, hg, hq⟩ => hq ▸ ⟨unframed_inv hI hg, absH5_unframed hI hg⟩
  | deleteFrame d sd sfn =>
    refine withFrame_decides hI sd sfn (fun hA => by simp [specOk, Cat.hasFrame, hA]) fun sg _ hf hA => ?_
    simp only [hI.frameName _ _ hf]
    exact (unlink_decides hI d sfn _).mono (by simp [specOk, Cat.hasFrame, hA, isSome_absH5 hI])
      fun _ s' _ ⟨g, hg, hq⟩ => hq ▸ ⟨unframed_inv hI hg, absH5_unframed hI hg⟩
  | moveFrame sd sfn d fn =>
    refine withFrame_decides hI sd sfn (fun hA => by simp [specOk, Cat.hasFrame, hA]) fun sg hd _ hA => ?_
    exact (moveFrame_decides hI hd d fn).mono (by simp [specOk, Cat.hasFrame, hA, isSome_absH5 hI]) fun _ _ _ hq => hq
  | reopen d => exact ⟨rfl, reopen_inv hI d, rfl⟩
  | view r => cases hnv

theorem withFrame_atomic {α} {s : State} (hI : Inv s) {P : State → Prop} {d : Nat} {fn : Name} {k : Nat → Res α}
    (hk : ∀ g, ((d, fn), g) ∈ s.dfs → ((d, fn), g) ∈ s.file → (k g).Atomic s P) : (withFrame s d fn k).Atomic s P := by
  unfold withFrame
  split
  · rfl
  · next g hg => exact hk g (getFrame_ok hI hg).1 (getFrame_ok hI hg).2

theorem withField_atomic {α} {s : State} {P : State → Prop} {r : FRef} {k : Nat → Res α}
    (hk : ∀ h, getField s r = .ok h → (k h).Atomic s P) : (withField s r k).Atomic s P := by
  unfold withField
  split
  · rfl
  · next h hh => exact hk h hh

/-- Every call either raises and leaves the state as it was, or returns in a consistent state. The proviso concerns
    `dataframe.move` only (`Op.srcLinked`); the calls that copy or delete by field object need none, so they are taken from
    the building blocks, the others from `step_decides`. -/
theorem step_atomic {s : State} (hI : Inv s) (op : Op) (hz : op.srcLinked s) : (step .repaired s op).Atomic s Inv := by
  have hC := hI.toInvCore
  have copy : ∀ h g n, g ∈ s.file.map (·.2) → (copyField .repaired s h g n).Atomic s Inv := fun h g n hg =>
    (copyField_decides hC _ h g n).atomic fun _ s' hok ⟨_, c, _, _, hq⟩ => hq ▸ (added_colSet hC c hg hok.2).inv hI
  have main : op.refsLinked s → op.isView = false → (step .repaired s op).Atomic s Inv := fun h1 h2 =>
    (step_decides hI op h1 h2).atomic fun _ _ _ hq => hq.1
  cases op with
  | setItem d fn n r | copyField r d fn n =>
    exact withField_atomic fun h _ => withFrame_atomic hI fun g _ hf => (copy h g n (reg hf)).void
  | add d fn r =>
    exact withField_atomic fun h _ => withFrame_atomic hI fun g _ hf =>
      ((addCopy_decides hC _ g h).atomic fun _ s' _ ⟨_, _, c, _, hn, _, _, hq⟩ => hq ▸ (added_colSet hC c (reg hf) hn).inv hI).void
  | deleteField d fn r =>
    exact withField_atomic fun h _ => withFrame_atomic hI fun g _ _ =>
      (deleteField_decides hC g h).atomic fun _ _ _ ⟨k, _, hq⟩ => hq ▸ (removed_colSet hC g k).inv hI
  | view r =>
    exact withField_atomic fun h _ =>
      ((viewField_decides s h).atomic fun _ _ _ ⟨_, hv, hq⟩ => hq ▸ hI.lift (viewed_core hC hv) rfl rfl).void
  | moveField r d fn n => exact main hz rfl
  | _ => exact main trivial rfl

/-- Every client call — create_*, df[n]=f, add, del, drop, delete_field, rename, dataframe.copy/move, writeable(), create/
    require/copy/setitem/del/drop/delete/move of dataframes, closing and reopening a file — keeps the invariant, whether it
    returns or raises. -/
theorem step_inv {s : State} (hI : Inv s) (op : Op) : Inv (step .repaired s op).state := by
  by_cases hz : op.srcLinked s
  · exact (step_atomic hI op hz).state hI
  · -- only `dataframe.move` has a proviso: handed the left-over of a deleted column it may stop after the copy
    cases op with
    | moveField r d fn n =>
      simp only [step, withField, withFrame]
      split
      · exact hI
      · next h _ =>
        split
        · exact hI
        · next g hg =>
          have := moveField_core hI.toInvCore h g n (reg (getFrame_ok hI hg).2)
          exact hI.field_level this.1 this.2
    | _ => exact absurd trivial hz

theorem refsLinked_srcLinked {s : State} {op : Op} (h : op.refsLinked s) : op.srcLinked s := by
  cases op with
  | moveField r d fn n => exact h
  | _ => trivial

theorem step_refines_ok {s : State} (hI : Inv s) (op : Op) (hz : op.refsLinked s) {u : Unit} {s' : State}
    (hok : step .repaired s op = .ok u s') : absH5 s' = specStep (srcOf s op) (absH5 s) op := by
  cases hv : op.isView with
  | false => exact ((step_decides hI op hz hv).of_ok hok).2.2
  | true =>
    -- a second wrapper object is not a change of the catalogue
    cases op with
    | view r =>
      simp only [step, withField] at hok
      split at hok
      · cases hok
      · next h _ =>
        have hd := viewField_decides s h
        cases hvf : viewField .repaired s h with
        | err e s1 => rw [hvf] at hok; cases hok
        | ok a s1 =>
          rw [hvf] at hok hd
          cases hok
          obtain ⟨_, _, _, rfl⟩ := hd
          rfl
    | _ => cases hv

theorem step_isOk {s : State} (hI : Inv s) (op : Op) (hz : op.refsLinked s) (hnv : op.isView = false) :
    (step .repaired s op).isOk = specOk (srcOf s op) (absH5 s) op := by
  rw [(step_decides hI op hz hnv).isOk, Bool.decide_eq_true]

theorem step_refines {s : State} (hI : Inv s) (op : Op) (hz : op.refsLinked s) :
    absH5 (step .repaired s op).state = specCall (absH5 s) (callOf .repaired s op) := by
  unfold specCall callOf
  cases hr : step .repaired s op with
  | ok u s' => exact step_refines_ok hI op hz hr
  | err e s' => rw [(step_atomic hI op (refsLinked_srcLinked hz)).errKeeps e s' hr]; rfl

theorem specRun_cons (A : Cat) (c : Call) (cs : List Call) : specRun A (c :: cs) = specRun (specCall A c) cs := rfl

theorem run_refines (ops : List Op) {s : State} (hI : Inv s) (hz : HistLinked .repaired s ops) :
    absH5 (run .repaired s ops) = specRun (absH5 s) (callLog .repaired s ops) := by
  induction ops generalizing s with
  | nil => rfl
  | cons op ops ih =>
    simp only [run, callLog, specRun_cons]
    rw [ih (step_inv hI op) hz.2, step_refines hI op hz.1]

theorem step_refines_total {s : State} (hI : Inv s) (op : Op) (hz : op.refsLinked s) :
    absH5 (step .repaired s op).state = specNext (absH5 s) (op, srcOf s op) := by
  rw [step_refines hI op hz]
  unfold specCall callOf specNext
  cases hv : op.isView with
  | false => simp only [step_isOk hI op hz hv]
  | true =>
    cases op with
    | view r => exact (ite_self _).trans (ite_self _).symm
    | _ => cases hv

theorem specExec_cons (A : Cat) (c : Op × Option Src) (cs : List (Op × Option Src)) :
    specExec A (c :: cs) = specExec (specNext A c) cs := rfl

theorem run_refines_total (ops : List Op) {s : State} (hI : Inv s) (hz : HistLinked .repaired s ops) :
    absH5 (run .repaired s ops) = specExec (absH5 s) (srcLog .repaired s ops) := by
  induction ops generalizing s with
  | nil => rfl
  | cons op ops ih =>
    simp only [run, srcLog, specExec_cons]
    rw [ih (step_inv hI op) hz.2, step_refines_total hI op hz.1]

end Exetera.Catalogue
