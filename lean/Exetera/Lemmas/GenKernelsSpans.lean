import Exetera.Gen.Kernels
import Exetera.Lemmas.GenKernels
import Exetera.Lemmas.GenKernelsLoops
/-!
  The TRANSLATED span kernels (`Gen/Kernels.lean`, regenerated from operations.py on every run) refine the hand-written
  models of `Model/Spans.lean`:  for every span array of naturals and every source column,

      Sim (Gen.Kernels.apply_spans_X.run spans src none) (Spans.applySpansX spans src)

  i.e. both return the same array, or both fail with the same error class.  Every theorem of Props/C08 about the hand
  model therefore transfers to the code as translated (Props/C08Gen.lean).

  This file holds what the proofs about translated kernels share.  A kernel is compared with its model read by read: `Follows R a b`
  says that the kernel side `a` does what the model side `b` does (related results, or the same error class), `OkFollows` says so
  only where the model succeeds (for the kernels whose error branches differ from the model's on purpose).  The fixed models are
  written with nested `match`es or in `do` notation; an equation in `bindE` form puts them into the vocabulary of the translation
  first.  An `apply_spans_*` kernel takes one of two shapes: a loop over the spans into a fresh buffer, or one slice assignment.
-/
namespace Exetera.GenK

open Exetera Exetera.PyRt Exetera.Spans Exetera.Gen.Kernels

/-- the span array as the kernel receives it -/
abbrev ints (sp : List Nat) : List Int := sp.map Int.ofNat

@[simp] theorem ints_length (sp : List Nat) : (ints sp).length = sp.length := by simp [ints]

theorem getE_ints (sp : List Nat) (i : Nat) (site : String) {x : Nat} (h : sp[i]? = some x) :
    getE (ints sp) i site = .ok (x : Int) := getE_map_ofNat sp i site h

theorem idxE_ints {sp : List Nat} {i x : Nat} (site : String) (h : sp[i]? = some x) :
    idxE (ints sp) (i : Int) site = .ok (x : Int) := by
  rw [idxE_nat]; exact getE_ints sp i site h

theorem idxE_ints_succ {sp : List Nat} {i x : Nat} (site : String) (h : sp[i + 1]? = some x) :
    idxE (ints sp) ((i : Int) + 1) site = .ok (x : Int) := idxE_ints site h

/-- the site of a subscript only names the error -/
theorem getE_sim {α} (xs : List α) (i : Nat) (site site' : String) : Sim (getE xs i site) (getE xs i site') := by
  unfold getE; cases xs[i]? <;> rfl

theorem natCast_min (a b : Nat) : min (a : Int) (b : Int) = ((min a b : Nat) : Int) := by omega

theorem slice_ints (xs : List Nat) (a b : Nat) : slice (ints xs) a b = ints (slice xs a b) := by
  unfold slice ints
  rw [List.map_take, List.map_drop]

theorem ints_set (xs : List Nat) (i v : Nat) : (ints xs).set i (v : Int) = ints (xs.set i v) := List.map_set.symm

/-- a destination buffer as the models see it, the written entries followed by the untouched fill: a store at the cursor -/
theorem set_append_replicate {α} (b : List α) (cap : Nat) (v fill : α) (h : b.length < cap) :
    (b ++ List.replicate (cap - b.length) fill).set b.length v
      = (b ++ [v]) ++ List.replicate (cap - (b ++ [v]).length) fill := by
  rw [List.set_append_right _ _ (Nat.le_refl _), Nat.sub_self, List.length_append, List.length_singleton,
    show cap - b.length = (cap - (b.length + 1)) + 1 by omega, List.replicate_succ, List.set_cons_zero, List.append_assoc]
  rfl

theorem ints_dropLast (sp : List Nat) : (ints sp).dropLast = ints sp.dropLast := List.map_dropLast.symm

theorem ints_tail (sp : List Nat) : (ints sp).tail = ints sp.tail := List.map_tail.symm

theorem ints_replicate_zero (n : Nat) : ints (List.replicate n 0) = List.replicate n 0 := List.map_replicate

theorem ints_drop_one (xs : List Nat) : (ints xs).tail = ints (xs.drop 1) := by
  rw [ints_tail, ← List.drop_one]

theorem getElem?_ints {sp : List Nat} {i x : Nat} (h : sp[i]? = some x) : (ints sp)[i]? = some (x : Int) := by
  rw [List.getElem?_map, h]; rfl

theorem ints_injective {x y : List Nat} : ints x = ints y ↔ x = y :=
  ⟨fun h => List.map_inj_right (fun _ _ h => Int.ofNat.inj h) |>.mp h, fun h => h ▸ rfl⟩

theorem ints_beq (x y : List Nat) : (ints x == ints y) = (x == y) := by
  rw [Bool.eq_iff_iff, beq_iff_eq, beq_iff_eq, ints_injective]

/-- the kernels test `next - cur == 1` in signed arithmetic, the models `next == cur + 1` on naturals -/
theorem sub_beq_one (a b : Nat) : ((b : Int) - (a : Int) == 1) = (b == a + 1) := natCast_sub_beq_one a b

theorem sub_beq_zero (a b : Nat) : ((b : Int) - (a : Int) == 0) = (b == a) := by
  rw [Bool.eq_iff_iff, beq_iff_eq, beq_iff_eq]; omega

theorem normBound_nat (n a d : Nat) : normBound n (some (a : Int)) d = min a n := by
  have h : ¬ ((a : Int) < 0) := by omega
  simp only [normBound, h, if_false, Int.toNat_natCast]

/-- clamping both bounds of a slice to the length of the list changes nothing -/
theorem slice_min {α} (l : List α) (a b : Nat) : slice l (min a l.length) (min b l.length) = slice l a b := by
  unfold slice
  by_cases ha : a ≤ l.length
  · rw [Nat.min_eq_left ha]
    by_cases hb : b ≤ l.length
    · rw [Nat.min_eq_left hb]
    · have hl : (l.drop a).length = l.length - a := List.length_drop
      rw [Nat.min_eq_right (Nat.le_of_not_le hb), List.take_of_length_le (Nat.le_of_eq hl),
        List.take_of_length_le (by rw [hl]; omega)]
  · have ha := Nat.le_of_not_le ha
    rw [Nat.min_eq_right ha, List.drop_eq_nil_of_le (Nat.le_refl _), List.drop_eq_nil_of_le ha, List.take_nil, List.take_nil]

/-- a slice with natural bounds is the model's `slice` -/
theorem pySlice_nat {α} (xs : List α) (a b : Nat) : pySlice xs (some (a : Int)) (some (b : Int)) = slice xs a b := by
  unfold pySlice
  rw [normBound_nat, normBound_nat, slice_min]

/-- `xs[:m]` -/
theorem pySlice_take {α} (xs : List α) (m : Nat) : pySlice xs none (some (m : Int)) = xs.take m := by
  unfold pySlice
  rw [normBound_nat]
  show slice xs 0 (min m xs.length) = xs.take m
  unfold slice
  rw [List.drop_zero, Nat.sub_zero, List.take_eq_take_iff]
  omega

/-- `xs[j:]` -/
theorem pySlice_drop {α} (xs : List α) (j : Nat) : pySlice xs (some (j : Int)) none = xs.drop j := by
  have h := slice_min xs j xs.length
  rw [Nat.min_self] at h
  unfold pySlice
  rw [normBound_nat]
  exact h.trans (List.take_of_length_le (by rw [List.length_drop]; exact Nat.le_refl _))

theorem forRangeAux_succ {σ} (stop : σ → Bool) (body : Int → σ → Except Err σ) (n : Nat) (k : Int) (s : σ) :
    forRangeAux stop body (n + 1) k s
      = bindE (body k s) (fun s' => if stop s' = true then .ok s' else forRangeAux stop body n (k + 1) s') := by
  simp only [forRangeAux]
  cases body k s <;> rfl

theorem forEachAux_cons {α σ} (stop : σ → Bool) (body : α → σ → Except Err σ) (x : α) (xs : List α) (s : σ) :
    forEachAux stop body (x :: xs) s
      = bindE (body x s) fun s' => if stop s' = true then .ok s' else forEachAux stop body xs s' := by
  rw [forEachAux]
  cases body x s <;> rfl

/-! ### following a model computation -/

/-- a model written in `do` notation, in the vocabulary of the translation -/
theorem Except.bind_eq_bindE {α β} (x : Except Err α) (f : α → Except Err β) : x >>= f = bindE x f := by
  cases x <;> rfl

theorem bindE_assoc {α β γ} (a : Except Err α) (f : α → Except Err β) (g : β → Except Err γ) :
    bindE (bindE a f) g = bindE a fun x => bindE (f x) g := by
  cases a <;> rfl

theorem bindE_pure {α} (x : Except Err α) : bindE x .ok = x := by
  cases x <;> rfl

/-- the kernel side `a` follows the model side `b`: where `b` succeeds so does `a`, with results related by `R`; where `b`
    fails, `a` fails with the same error class -/
def Follows {α β} (R : α → β → Prop) (a : Except Err α) (b : Except Err β) : Prop :=
  match b with
  | .ok y => ∃ x, a = .ok x ∧ R x y
  | .error e => ∃ e', a = .error e' ∧ e'.tag = e.tag

theorem Follows.ok {α β} {R : α → β → Prop} {a : Except Err α} {x : α} {y : β} (h : a = .ok x) (hR : R x y) :
    Follows R a (.ok y) := ⟨x, h, hR⟩

theorem Follows.error {α β} {R : α → β → Prop} {a : Except Err α} {e' e : Err} (h : a = .error e') (ht : e'.tag = e.tag) :
    Follows R a (.error e : Except Err β) := ⟨e', h, ht⟩

/-- both sides branch on the same test -/
theorem Follows.ite {α β} {R : α → β → Prop} {c : Prop} [Decidable c] {a a' : Except Err α} {b b' : Except Err β}
    (ht : c → Follows R a b) (hf : ¬ c → Follows R a' b') : Follows R (if c then a else a') (if c then b else b') := by
  split
  · exact ht ‹_›
  · exact hf ‹_›

/-- both sides start with the same computation -/
theorem Follows.bind_same {α β γ} {Q : β → γ → Prop} (a : Except Err α) {f : α → Except Err β} {g : α → Except Err γ}
    (h : ∀ x, Follows Q (f x) (g x)) : Follows Q (bindE a f) (bindE a g) := by
  cases a with
  | ok x => exact h x
  | error e => exact ⟨e, rfl, rfl⟩

/-- a checked store through an `Int` subscript against the model's store: the sites only name the error -/
theorem Follows.setIdxE {α β γ} {Q : β → γ → Prop} (xs : List α) (k : Nat) (v : α) (site site' : String)
    {f : List α → Except Err β} {g : List α → Except Err γ} (h : Follows Q (f (xs.set k v)) (g (xs.set k v))) :
    Follows Q (bindE (PyRt.setIdxE xs (k : Int) v site) f) (bindE (setE xs k v site') g) := by
  rw [setIdxE_nat]
  unfold setE
  split
  · exact h
  · exact ⟨_, rfl, rfl⟩

/-- the same when the model ends with the store -/
theorem Follows.setIdxE_ret {α β} {Q : β → List α → Prop} (xs : List α) (k : Nat) (v : α) (site site' : String)
    {f : List α → Except Err β} (h : Follows Q (f (xs.set k v)) (.ok (xs.set k v))) :
    Follows Q (bindE (PyRt.setIdxE xs (k : Int) v site) f) (setE xs k v site') := by
  rw [setIdxE_nat]
  unfold setE
  split
  · exact h
  · exact ⟨_, rfl, rfl⟩

/-- both sides read the same cell; the sites only name the error -/
theorem Follows.getE {α β γ} {Q : β → γ → Prop} (xs : List α) (i : Nat) (site site' : String)
    {f : α → Except Err β} {g : α → Except Err γ} (h : ∀ x, xs[i]? = some x → Follows Q (f x) (g x)) :
    Follows Q (bindE (Exetera.getE xs i site) f) (bindE (Exetera.getE xs i site') g) := by
  unfold Exetera.getE
  cases hx : xs[i]? with
  | some x => exact h x hx
  | none => exact ⟨_, rfl, rfl⟩

/-- the kernel reads the `Int` copy of an array of naturals, the model the array itself -/
theorem Follows.getE_ints {β γ} {Q : β → γ → Prop} (xs : List Nat) (i : Nat) (site site' : String)
    {f : Int → Except Err β} {g : Nat → Except Err γ} (h : ∀ x, xs[i]? = some x → Follows Q (f (x : Int)) (g x)) :
    Follows Q (bindE (Exetera.getE (ints xs) i site) f) (bindE (Exetera.getE xs i site') g) := by
  unfold Exetera.getE
  rw [List.getElem?_map]
  cases hx : xs[i]? with
  | some x => exact h x hx
  | none => exact ⟨_, rfl, rfl⟩

theorem Follows.mono {α β} {R R' : α → β → Prop} {a : Except Err α} {b : Except Err β} (h : Follows R a b)
    (hR : ∀ x y, R x y → R' x y) : Follows R' a b := by
  cases b with
  | ok y => obtain ⟨x, ha, hxy⟩ := h; exact ⟨x, ha, hR x y hxy⟩
  | error e => exact h

/-- the model conses an entry onto what the rest of its recursion returns -/
theorem Follows.consE {α} {Q Q' : α → List Nat → Prop} {a : Except Err α} {x : Except Err (List Nat)} (v : Nat)
    (h : Follows Q a x) (hQ : ∀ o l, Q o l → Q' o (v :: l)) : Follows Q' a (consE v x) := by
  cases x with
  | ok l => obtain ⟨o, ha, ho⟩ := h; exact ⟨o, ha, hQ o l ho⟩
  | error e => exact h

/-- the model goes on to apply a function to its result -/
theorem Follows.map_right {α β γ} {R : α → β → Prop} {Q : α → γ → Prop} {a : Except Err α} {b : Except Err β} (g : β → γ)
    (h : Follows R a b) (hQ : ∀ x y, R x y → Q x (g y)) : Follows Q a (bindE b fun y => .ok (g y)) := by
  cases b with
  | ok y => obtain ⟨x, ha, hxy⟩ := h; exact ⟨x, ha, hQ x y hxy⟩
  | error e => exact h

/-- what the kernel does after the part that follows the model cannot fail -/
theorem Follows.bind_ok {α β γ} {R : α → β → Prop} {Q : γ → β → Prop} {a : Except Err α} {b : Except Err β}
    {f : α → Except Err γ} (h : Follows R a b) (hf : ∀ x y, R x y → Follows Q (f x) (.ok y)) : Follows Q (bindE a f) b := by
  cases b with
  | ok y => obtain ⟨x, rfl, hxy⟩ := h; exact hf x y hxy
  | error e => obtain ⟨e', rfl, ht⟩ := h; exact ⟨e', rfl, ht⟩

theorem Follows.of_ok {α β} {R : α → β → Prop} {a : Except Err α} {b : Except Err β} {y : β} (h : Follows R a b)
    (hb : b = .ok y) : ∃ x, a = .ok x ∧ R x y := by
  subst hb; exact h

theorem Follows.bind {α β γ δ} {R : α → β → Prop} {Q : γ → δ → Prop} {a : Except Err α} {b : Except Err β}
    {f : α → Except Err γ} {g : β → Except Err δ} (h : Follows R a b) (hfg : ∀ x y, R x y → Follows Q (f x) (g y)) :
    Follows Q (bindE a f) (bindE b g) := by
  cases b with
  | ok y => obtain ⟨x, rfl, hxy⟩ := h; exact hfg x y hxy
  | error e => obtain ⟨e', rfl, ht⟩ := h; exact ⟨e', rfl, ht⟩

theorem Sim.bind {α β} {a b : Except Err α} {f g : α → Except Err β} (h : Sim a b) (hfg : ∀ x, Sim (f x) (g x)) :
    Sim (bindE a f) (bindE b g) := by
  cases a <;> cases b <;> first | exact h.elim | (cases h; exact hfg _) | exact h

/-! ### following a model computation where it succeeds

  Where kernel and model differ on purpose in their error branches (the kernel runs on a global fuel, lets slices clamp, makes a
  negative subscript an error; the model wraps it around or insists on bounds), only the successful runs of the model transfer. -/

/-- where the model side `b` succeeds, so does the kernel side `a`, with results related by `R` -/
def OkFollows {α β} (R : α → β → Prop) (a : Except Err α) (b : Except Err β) : Prop :=
  ∀ y, b = .ok y → ∃ x, a = .ok x ∧ R x y

theorem OkFollows.ok {α β} {R : α → β → Prop} {x : α} {y : β} (h : R x y) : OkFollows R (.ok x) (.ok y) :=
  fun _ hy => by cases hy; exact ⟨x, rfl, h⟩

theorem OkFollows.error {α β} {R : α → β → Prop} {a : Except Err α} {e : Err} : OkFollows R a (.error e : Except Err β) :=
  fun _ h => by cases h

theorem OkFollows.bind {α β γ δ} {R : α → β → Prop} {Q : γ → δ → Prop} {a : Except Err α} {b : Except Err β}
    {f : α → Except Err γ} {g : β → Except Err δ} (h : OkFollows R a b) (hfg : ∀ x y, R x y → OkFollows Q (f x) (g y)) :
    OkFollows Q (bindE a f) (bindE b g) := by
  intro z hz
  obtain ⟨y, hb, hg⟩ := bindE_eq_ok.mp hz
  obtain ⟨x, rfl, hxy⟩ := h y hb
  exact hfg x y hxy z hg

/-- a check that only the model makes -/
theorem OkFollows.guard {α β} {R : α → β → Prop} {c : Prop} [Decidable c] {a : Except Err α} {b : Except Err β} {e : Err}
    (h : c → OkFollows R a b) : OkFollows R a (if c then b else .error e) := by
  split
  · exact h ‹_›
  · exact .error

theorem OkFollows.getE_ints {β γ} {Q : β → γ → Prop} (xs : List Nat) (i : Nat) (site site' : String)
    {f : Int → Except Err β} {g : Nat → Except Err γ} (h : ∀ x, xs[i]? = some x → OkFollows Q (f (x : Int)) (g x)) :
    OkFollows Q (bindE (getE (ints xs) i site) f) (bindE (getE xs i site') g) := by
  unfold getE
  rw [List.getElem?_map]
  cases hx : xs[i]? with
  | some x => exact h x hx
  | none => exact .error

/-- both sides branch on the same test -/
theorem OkFollows.ite {α β} {R : α → β → Prop} {c : Prop} [Decidable c] {a a' : Except Err α} {b b' : Except Err β}
    (ht : c → OkFollows R a b) (hf : ¬ c → OkFollows R a' b') : OkFollows R (if c then a else a') (if c then b else b') := by
  split
  · exact ht ‹_›
  · exact hf ‹_›

/-- both sides read the same cell -/
theorem OkFollows.getE {α β γ} {Q : β → γ → Prop} (xs : List α) (i : Nat) (site site' : String)
    {f : α → Except Err β} {g : α → Except Err γ} (h : ∀ x, xs[i]? = some x → OkFollows Q (f x) (g x)) :
    OkFollows Q (bindE (Exetera.getE xs i site) f) (bindE (Exetera.getE xs i site') g) := by
  unfold Exetera.getE
  cases hx : xs[i]? with
  | some x => exact h x hx
  | none => exact .error

/-- a read that only the model makes at this point -/
theorem OkFollows.getE_right {α β γ} {Q : β → γ → Prop} (xs : List α) (i : Nat) (site : String) {a : Except Err β}
    {g : α → Except Err γ} (h : ∀ x, xs[i]? = some x → OkFollows Q a (g x)) :
    OkFollows Q a (bindE (Exetera.getE xs i site) g) := by
  unfold Exetera.getE
  cases hx : xs[i]? with
  | some x => exact h x hx
  | none => exact .error

/-- `whileG_of_whileE` as a rule of `OkFollows`, with the loop body given in that form too -/
theorem OkFollows.while {σ τ} (R : σ → τ → Prop) (gG : σ → Except Err Bool) (bG : σ → Except Err σ)
    (g2 : τ → Bool) (b2 : τ → Except Err τ) (μ : τ → Nat) (hg : ∀ s t, R s t → gG s = .ok (g2 t))
    (hb : ∀ s t, R s t → g2 t = true → OkFollows (fun s' t' => R s' t' ∧ μ t' < μ t) (bG s) (b2 t))
    (n : Nat) (s : σ) (t : τ) (hR : R s t) (F : Nat) (hF : μ t ≤ F) :
    OkFollows R (whileG gG bG F s) (whileE g2 b2 n t) :=
  fun t' h => whileG_of_whileE R gG bG g2 b2 μ hg (fun s t t' hR hgt hbt => hb s t hR hgt t' hbt) n s t t' hR h F hF

/-- the kernel branches on a Boolean, the model on the proposition it decides -/
theorem OkFollows.ite_decide {α β} {R : α → β → Prop} {c : Prop} [Decidable c] {d : Bool} (hd : d = decide c)
    {a a' : Except Err α} {b b' : Except Err β} (ht : c → OkFollows R a b) (hf : ¬ c → OkFollows R a' b') :
    OkFollows R (if d = true then a else a') (if c then b else b') := by
  subst hd
  by_cases h : c
  · rw [if_pos (decide_eq_true h), if_pos h]; exact ht h
  · rw [if_neg (by rw [decide_eq_false h]; exact Bool.false_ne_true), if_neg h]; exact hf h

/-- the translated test `k + 1 >= lim or xs[k+1] != b` (`b` the value of `xs[k]`, read before), whose value goes to `F`, against
    the model's nested `if` with the same two outcomes -/
theorem OkFollows.lookahead {β γ} {Q : β → γ → Prop} {k lim : Nat} {d : Bool} (hd : d = decide (k + 1 ≥ lim)) (xs : List Int)
    (b : Int) {s1 s2 : String} {F : Bool → Except Err β} {X Y : Except Err γ}
    (hX : OkFollows Q (F true) X) (hY : OkFollows Q (F false) Y) :
    OkFollows Q (bindE (if d = true then .ok true else bindE (Exetera.getE xs (k + 1) s1) fun t => .ok (t != b)) F)
      (if k + 1 ≥ lim then X else bindE (Exetera.getE xs (k + 1) s2) fun t => if (t != b) = true then X else Y) := by
  subst hd
  by_cases h : k + 1 ≥ lim
  · rw [if_pos (decide_eq_true h), if_pos h]; exact hX
  · rw [if_neg (by rw [decide_eq_false h]; exact Bool.false_ne_true), if_neg h, bindE_assoc]
    refine .getE _ _ _ _ fun t _ => ?_
    rw [bindE_ok]
    cases t != b
    · exact hY
    · exact hX

/-- A translated `for j in range(i, i + n)` loop without `break` follows a model loop `M` given by its two equations (`M 0`
    returns `fin` of its state; `M (n + 1)` runs `step` and goes on with `M n`), once the loop body follows `step`. -/
theorem forRange_follows {σ τ ρ} (R : σ → τ → Prop) (body : Int → σ → Except Err σ) (M : Nat → Nat → τ → Except Err ρ)
    (step : Nat → τ → Except Err τ) (fin : τ → ρ) (h0 : ∀ i t, M 0 i t = .ok (fin t))
    (hS : ∀ n i t, M (n + 1) i t = bindE (step i t) (M n (i + 1)))
    (hbody : ∀ (i : Nat) s t, R s t → Follows R (body (i : Int) s) (step i t)) :
    ∀ (n i : Nat) s t, R s t →
      Follows (fun s' r => ∃ t', R s' t' ∧ r = fin t') (forRangeAux (fun _ => false) body n (i : Int) s) (M n i t) := by
  intro n
  induction n with
  | zero => intro i s t hR; rw [h0]; exact .ok rfl ⟨t, hR, rfl⟩
  | succ n ih =>
    intro i s t hR
    rw [hS, forRangeAux_succ]
    exact (hbody i s t hR).bind fun s' t' hR' => ih (i + 1) s' t' hR'

/-- `for j in range(a + 1, b)` -/
theorem forRangeE_succ_nat {σ} (a b : Nat) (body : Int → σ → Except Err σ) (s : σ) :
    forRangeE ((a : Int) + 1) (b : Int) body s = forRangeAux (fun _ => false) body (b - (a + 1)) ((a + 1 : Nat) : Int) s := by
  show forRangeAux _ _ ((b : Int) - ((a + 1 : Nat) : Int)).toNat _ _ = _
  rw [Int.toNat_sub]; rfl

/-- `for j in range(n)` with `break` -/
theorem forRangeB_zero_nat {σ} (n : Nat) (stop : σ → Bool) (body : Int → σ → Except Err σ) (s : σ) :
    forRangeB 0 (n : Int) stop body s = forRangeAux stop body n ((0 : Nat) : Int) s := by
  show forRangeAux _ _ ((n : Int) - ((0 : Nat) : Int)).toNat _ _ = _
  rw [Int.toNat_sub]; rfl

/-! ### the span recursion -/

theorem takeE_cons {α} (src : List α) (site : String) (i : Int) (is : List Int) :
    takeE src site (i :: is) = bindE (idxE src i site) fun v => bindE (takeE src site is) fun r => .ok (v :: r) := by
  rw [takeE]
  cases idxE src i site with
  | error e => rfl
  | ok v => cases takeE src site is <;> rfl

theorem forPairs_cons {β} (f : Nat → Nat → Except Err β) (a b : Nat) (rest : List Nat) :
    forPairs f (a :: b :: rest) = bindE (f a b) fun v => bindE (forPairs f (b :: rest)) fun r => .ok (v :: r) := by
  rw [forPairs]
  cases f a b with
  | error e => rfl
  | ok v => cases forPairs f (b :: rest) <;> rfl

theorem forPairs_length {β} (f : Nat → Nat → Except Err β) :
    ∀ (sp : List Nat) (r : List β), forPairs f sp = .ok r → r.length = sp.length - 1
  | [], r, h => by cases h; rfl
  | [_], r, h => by cases h; rfl
  | a :: b :: rest, r, h => by
    rw [forPairs_cons] at h
    obtain ⟨v, -, h⟩ := bindE_eq_ok.mp h
    obtain ⟨r', hr, h⟩ := bindE_eq_ok.mp h
    cases h
    exact congrArg (· + 1) (forPairs_length f (b :: rest) r' hr)

theorem forPairs_first : ∀ sp : List Nat, forPairs (fun cur _ => .ok (cur : Int)) sp = .ok (ints sp.dropLast)
  | [] => rfl
  | [_] => rfl
  | a :: b :: rest => by rw [forPairs_cons, forPairs_first (b :: rest)]; rfl

theorem forPairs_last : ∀ sp : List Nat,
    forPairs (fun _ next => .ok ((next : Int) - 1)) sp = .ok ((ints sp.tail).map (· - 1))
  | [] => rfl
  | [_] => rfl
  | a :: b :: rest => by rw [forPairs_cons, forPairs_last (b :: rest)]; rfl

/-- numpy fancy indexing `src[idx]` with `idx[i] = g spans[i] spans[i+1]` against the span recursion: it is enough that the
    one subscript `src[g cur next]` agrees with `f cur next` on the pairs of the array -/
theorem takeE_forPairs (src : List Int) (site : String) (g : Nat → Nat → Int) (f : Nat → Nat → Except Err Int) :
    ∀ (sp : List Nat) (is : List Int), forPairs (fun c n => .ok (g c n)) sp = .ok is →
      (∀ c n, n ∈ sp.tail → Sim (idxE src (g c n) site) (f c n)) → Sim (takeE src site is) (forPairs f sp)
  | [], is, hg, _ => by cases hg; rfl
  | [_], is, hg, _ => by cases hg; rfl
  | a :: b :: rest, is, hg, h => by
    rw [forPairs_cons] at hg
    obtain ⟨is', hp, hg⟩ := bindE_eq_ok.mp (bindE_ok _ _ ▸ hg)
    cases hg
    rw [takeE_cons, forPairs_cons]
    exact Sim.bind (h a b List.mem_cons_self) fun v =>
      Sim.bind (takeE_forPairs src site g f (b :: rest) is' hp fun c n hn => h c n (List.mem_cons_of_mem _ hn)) fun r =>
        Sim.rfl' _

/-! ### the two shapes of an `apply_spans_*` kernel -/

/-- A kernel of the shape
    `dest = np.zeros(len(spans) - 1); for i in range(len(spans) - 1): dest[i] = f(spans[i], spans[i+1]); return dest`
    refines `forSpans f` once one iteration of its loop follows `f`.  `mk dest` is the kernel's initial state around the
    destination buffer, `out` reads the buffer back, `R dest s` says that `s` holds the inputs and the buffer `dest`. -/
theorem forSpans_sim {σ} (sp : List Nat) (f : Nat → Nat → Except Err Int) (body : Int → σ → Except Err σ)
    (mk : List Int → σ) (out : σ → List Int) (R : List Int → σ → Prop)
    (hstep : ∀ (k cur next : Nat) (dest : List Int) (s : σ), sp[k]? = some cur → sp[k + 1]? = some next → R dest s →
      k < dest.length → Follows (fun s' v => R (dest.set k v) s') (body (k : Int) s) (f cur next))
    (hmk : ∀ dest, R dest (mk dest)) (hout : ∀ dest s, R dest s → out s = dest) :
    Sim (bindE (npZeros (pyLen (ints sp) - 1)) fun t =>
        bindE (forRangeE 0 (pyLen (ints sp) - 1) body (mk t)) fun s => .ok (out s)) (forSpans f sp) := by
  unfold forSpans
  cases sp with
  | nil => exact rfl
  | cons a t =>
    have hlen : pyLen (ints (a :: t)) - 1 = ((t.length : Nat) : Int) := by simp [pyLen]
    rw [hlen, npZeros_nat]
    have h := forRange_forPairs_run (a :: t) (List.cons_ne_nil a t) R body f
      (fun k cur next dest s hc hn hR hk => by
        have := hstep k cur next dest s hc hn hR hk
        revert this; cases f cur next <;> exact id)
      (mk (List.replicate t.length 0)) (List.replicate t.length 0) (by simp) (hmk _)
    have hl : (((a :: t).length : Nat) : Int) - 1 = ((t.length : Nat) : Int) := by simp
    rw [hl] at h
    simp only [bindE_ok, List.isEmpty_cons, Bool.false_eq_true, if_false]
    revert h
    cases forPairs f (a :: t) with
    | error e => rintro ⟨e', hrun, ht⟩; rw [hrun]; exact ht
    | ok vs => rintro ⟨s', hrun, hR⟩; rw [hrun]; exact hout vs s' hR

/-- `dest = np.zeros(len(spans) - 1); dest[:] = vals; return dest` for an array `vals` that is what the span recursion yields -/
theorem forSpans_assign_sim (sp : List Nat) (f : Nat → Nat → Except Err Int) (vals : List Int)
    (h : forPairs f sp = .ok vals) :
    Sim (bindE (npZeros (pyLen (ints sp) - 1)) fun t => bindE (setSliceE t none none vals) Except.ok) (forSpans f sp) := by
  unfold forSpans
  cases sp with
  | nil => exact rfl
  | cons a t =>
    have hlen : pyLen (ints (a :: t)) - 1 = ((t.length : Nat) : Int) := by simp [pyLen]
    rw [hlen, npZeros_nat, bindE_ok, setSliceE_all _ _ (by rw [forPairs_length f _ _ h, List.length_replicate]; rfl), h]
    exact rfl

/-- the same with a right-hand side `vals` that may itself fail (fancy indexing) -/
theorem forSpans_slice_sim (sp : List Nat) (f : Nat → Nat → Except Err Int) (vals : Except Err (List Int))
    (h : Sim vals (forPairs f sp)) :
    Sim (bindE (npZeros (pyLen (ints sp) - 1)) fun t => bindE vals fun v => bindE (setSliceE t none none v) Except.ok)
      (forSpans f sp) := by
  cases hv : vals with
  | ok v => exact forSpans_assign_sim sp f v (h.ok_left hv)
  | error e =>
    rw [hv] at h
    unfold forSpans
    cases sp with
    | nil => exact rfl
    | cons a t =>
      have hlen : pyLen (ints (a :: t)) - 1 = ((t.length : Nat) : Int) := by simp [pyLen]
      rw [hlen, npZeros_nat]
      exact h

/-! ### count, first, last, index_of_first, index_of_last -/

theorem apply_spans_count_refines (sp : List Nat) :
    Sim (apply_spans_count.run (ints sp) none) (applySpansCount sp) :=
  forSpans_sim sp (fun cur next => .ok ((next : Int) - cur)) (fun k s => apply_spans_count.body_L1 { s with v0 := k })
    (fun d => { p0 := ints sp, p1 := d, v0 := 0 }) (·.p1) (fun d s => s.p0 = ints sp ∧ s.p1 = d)
    (by
      rintro k cur next dest ⟨_, _, _⟩ hc hn ⟨rfl, rfl⟩ hk
      simp only [apply_spans_count.body_L1, idxE_ints_succ _ hn, idxE_ints _ hc, setIdxE_of_lt _ _ hk, bindE_ok]
      exact ⟨_, rfl, rfl, rfl⟩)
    (fun _ => ⟨rfl, rfl⟩) (fun _ _ h => h.2)

theorem apply_spans_index_of_first_refines (sp : List Nat) :
    Sim (apply_spans_index_of_first.run (ints sp) none) (applySpansIndexOfFirst sp) :=
  forSpans_assign_sim sp (fun cur _ => .ok (cur : Int)) (pySlice (ints sp) none (some (-1)))
    (by rw [pySlice_dropLast, ints_dropLast, forPairs_first])

theorem apply_spans_index_of_last_refines (sp : List Nat) :
    Sim (apply_spans_index_of_last.run (ints sp) none) (applySpansIndexOfLast sp) :=
  forSpans_assign_sim sp (fun _ next => .ok ((next : Int) - 1)) ((pySlice (ints sp) (some 1) none).map (· - 1))
    (by rw [pySlice_tail, ints_tail, forPairs_last])

/-- `src[spans[:-1]]` against `for cur, next in pairs: src[cur]` -/
theorem apply_spans_first_refines (sp : List Nat) (src : List Int) :
    Sim (apply_spans_first.run (ints sp) src none) (applySpansFirst sp src) :=
  forSpans_slice_sim sp (fun cur _ => getE src cur "src_array[spans[:-1]]")
    (takeE src "p1[p0[:-1]]" (pySlice (ints sp) none (some (-1)))) (by
    rw [pySlice_dropLast, ints_dropLast]
    exact takeE_forPairs src _ (fun c _ => (c : Int)) _ sp _ (forPairs_first sp) fun c _ _ =>
      idxE_nat src c _ ▸ getE_sim src c _ _)

/-- `src[spans[1:] - 1]` against `for cur, next in pairs: src[next - 1]`, with every span end positive (true of every
    well-formed span array): the kernel's subscript does not wrap around, the model's `getWrapE` does -/
theorem apply_spans_last_refines (sp : List Nat) (src : List Int) (hpos : ∀ x ∈ sp.tail, 0 < x) :
    Sim (apply_spans_last.run (ints sp) src none) (applySpansLast sp src) :=
  forSpans_slice_sim sp (fun _ next => getWrapE src ((next : Int) - 1) "src_array[spans[1:] - 1]")
    (takeE src "p1[p0]" ((pySlice (ints sp) (some 1) none).map (· - 1))) (by
    rw [pySlice_tail, ints_tail]
    refine takeE_forPairs src _ (fun _ n => (n : Int) - 1) _ sp _ (forPairs_last sp) fun _ n hn => ?_
    have h0 : (0 : Int) ≤ (n : Int) - 1 := by have := hpos n hn; omega
    simp only [idxE, getWrapE, h0, if_true]
    exact getE_sim src _ _ _)

end Exetera.GenK
