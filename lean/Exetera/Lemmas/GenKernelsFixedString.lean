import Exetera.Gen.Kernels
import Exetera.Model.Transforms
import Exetera.Lemmas.GenKernels
import Exetera.Lemmas.GenKernelsSpans
import Exetera.Lemmas.GenKernelsCategorical
/-!
  The TRANSLATED `fixed_string_transform` (rows, then the bytes of a row; `memory[a] = np.int8(column_vals[c])`) against
  `Transforms.fixedStringTransform` — transfer form. The model keeps bytes as naturals, the kernel stores `np.int8(b)` into the int8
  view of the `S<n>` buffer: the translated kernel's memory is the model's, byte for byte, read as signed bytes (`asInt8`).
-/
namespace Exetera.GenK

open Exetera Exetera.PyRt Exetera.Transforms Exetera.Gen.Kernels

/-- a byte as the int8 view of the fixed-string buffer holds it -/
def asInt8 (b : Nat) : Int := pyInt8 (b : Int)

theorem asInt8_lt_128 {b : Nat} (h : b < 128) : asInt8 b = (b : Int) := by
  simp only [asInt8, pyInt8, Int.fmod_eq_emod_of_nonneg _ (by omega : (0 : Int) ≤ 256)]
  omega

namespace FS

abbrev St := fixed_string_transform.St

abbrev loop2 (n : Nat) (k : Int) (s : St) : Except Err St :=
  forRangeAux (fun _ => false) (fun k s => fixed_string_transform.body_L2 { s with v5 := k }) n k s

abbrev loop1 (n : Nat) (k : Int) (s : St) : Except Err St :=
  forRangeAux (fun _ => false) (fun k s => fixed_string_transform.body_L1 { s with v1 := k }) n k s

/-- the number of bytes copied for a row, `min(end, start + strlen) - start`, computed in `Int` and in `Nat` -/
theorem count_cast (e0 s0 off strlen : Nat) :
    (min ((e0 : Int) + (off : Int)) ((s0 : Int) + (off : Int) + (strlen : Int)) - ((s0 + off : Nat) : Int)).toNat
      = min (e0 + off) (s0 + off + strlen) - (s0 + off) := by omega

/-- the byte loop `for c in range(start_idx, end_idx)` -/
theorem copy_sim (vals : List Nat) (s : St) (h1 : s.p1 = ints vals) (mem : Bytes) (h6 : s.p6 = mem.map asInt8) (a : Nat)
    (hv2 : s.v2 = (a : Int)) (n p : Nat) (r : Bytes) (h : copyBytes vals n p a mem = .ok r) :
    ∃ s', loop2 n (p : Int) s = .ok s' ∧ ∃ a' k5, s' = { s with p6 := r.map asInt8, v2 := a', v5 := k5 } := by
  refine forRangeAux_rule
    (fun n p t => ∃ (mem : Bytes) (a : Nat), (∃ k5, t = { s with p6 := mem.map asInt8, v2 := (a : Int), v5 := k5 }) ∧
      copyBytes vals n p a mem = .ok r) _ ?_ ?_ n p s ⟨mem, a, ⟨s.v5, by rw [← h6, ← hv2]⟩, h⟩
  · rintro p t ⟨mem, a, ⟨k5, rfl⟩, h⟩
    cases h
    exact ⟨_, _, rfl⟩
  · rintro n p t ⟨mem, a, ⟨k5, rfl⟩, h⟩
    simp only [copyBytes] at h
    split at h
    · cases h
    · rename_i b hb
      split at h
      · cases h
      · rename_i mem' hm
        rw [getE_eq_ok] at hb
        obtain ⟨hlt, rfl⟩ := setE_eq_ok.mp hm
        simp only [fixed_string_transform.body_L2, idxE_nat, getE_ofNat h1 hb, bindE_ok, setIdxE_nat,
          setE_ok _ _ _ _ (show a < (mem.map asInt8).length by rw [List.length_map]; exact hlt)]
        exact ⟨_, rfl, mem.set a b, a + 1, ⟨_, by rw [List.map_set]; rfl⟩, h⟩

/-- the row loop `for i in range(written_row_count)` -/
theorem rows_sim (c : Chunk) (strlen : Nat) (s : St) (h0 : s.p0[c.col]? = some (ints c.inds)) (h1 : s.p1 = ints c.vals)
    (h3 : s.p3 = (c.col : Int)) (h5 : s.p5 = (strlen : Int)) (hv0 : s.v0 = (c.off : Int)) (mem : Bytes)
    (h6 : s.p6 = mem.map asInt8) (n : Nat) (r : Bytes) (h : fixedRows c strlen n 0 mem = .ok r) :
    ∃ s', loop1 n ((0 : Nat) : Int) s = .ok s' ∧ s'.p6 = r.map asInt8 := by
  refine forRangeAux_rule
    (fun n i t => ∃ mem : Bytes, (∃ a1 a2 a3 a4 a5, t =
        { s with p6 := mem.map asInt8, v1 := a1, v2 := a2, v3 := a3, v4 := a4, v5 := a5 }) ∧
      fixedRows c strlen n i mem = .ok r) _ ?_ ?_ n 0 s ⟨mem, ⟨_, _, _, _, _, by rw [← h6]⟩, h⟩
  · rintro i t ⟨mem, ⟨a1, a2, a3, a4, a5, rfl⟩, h⟩
    cases h
    rfl
  · rintro n i t ⟨mem, ⟨a1, a2, a3, a4, a5, rfl⟩, h⟩
    simp only [fixedRows] at h
    split at h
    · cases h
    · rename_i s0 hs0
      split at h
      · cases h
      · rename_i e0 he0
        split at h
        · cases h
        · rename_i mem' hc
          rw [getE_eq_ok] at hs0 he0
          have hcnt : (min ((e0 : Int) + s.v0) ((s0 : Int) + s.v0 + s.p5) - ((s0 + c.off : Nat) : Int)).toNat
              = min (e0 + c.off) (s0 + c.off + strlen) - (s0 + c.off) := by rw [hv0, h5]; exact count_cast e0 s0 c.off strlen
          obtain ⟨s', hrun, a', k5, rfl⟩ := copy_sim c.vals
            { s with p6 := mem.map asInt8, v1 := (i : Int), v2 := (i : Int) * s.p5, v3 := (s0 : Int) + s.v0,
                     v4 := min ((e0 : Int) + s.v0) ((s0 : Int) + s.v0 + s.p5), v5 := a5 }
            h1 mem rfl (i * strlen) (by rw [h5, Int.natCast_mul]) _ (s0 + c.off) mem' hc
          have hst : (s0 : Int) + s.v0 = ((s0 + c.off : Nat) : Int) := by rw [hv0, Int.natCast_add]
          simp only [fixed_string_transform.body_L1, idxE_at h3, getE_of_some _ h0, idxE_nat, idxE_nat_succ,
            getE_map_ofNat _ _ _ hs0, getE_map_ofNat _ _ _ he0, bindE_ok, forRangeE_at hst, hcnt]
          exact ⟨_, hrun, mem', ⟨_, _, _, _, _, rfl⟩, h⟩

end FS

theorem fixed_string_transform_ok (c : Chunk) (strlen : Nat) (cinds : List (List Int)) (coffs : List Int)
    (hst : Staged c cinds coffs) (mem : Bytes) (h : fixedStringTransform c strlen = .ok mem) :
    fixed_string_transform.run cinds (ints c.vals) coffs (c.col : Int) (c.rows : Int) (strlen : Int)
      (List.replicate (c.rows * strlen) 0) = .ok (mem.map asInt8) := by
  unfold fixedStringTransform withCol at h
  split at h
  · cases h
  · split at h
    · cases h
    · obtain ⟨s', hrun, hp6⟩ := FS.rows_sim c strlen
        { p0 := cinds, p1 := ints c.vals, p2 := coffs, p3 := c.col, p4 := c.rows, p5 := strlen,
          p6 := List.replicate (c.rows * strlen) 0, v0 := c.off, v1 := 0, v2 := 0, v3 := 0, v4 := 0, v5 := 0 }
        hst.hinds rfl rfl rfl rfl (List.replicate (c.rows * strlen) 0) (by simp [asInt8, pyInt8]) c.rows mem h
      simp only [fixed_string_transform.run, idxE_nat, getE_of_some _ hst.hoff, bindE_ok, forRangeE_zero, Int.toNat_natCast,
        hrun, hp6]

end Exetera.GenK
