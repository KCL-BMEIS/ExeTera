import Exetera.Lemmas.CsvLoop
/-! `read_file_using_fast_csv_reader` when an importer rejects a cell (C05 ∘ C06): the driver invariant `DI` is carried
    together with "no rejected cell among the records consumed so far", so the import raises in the first kernel call whose
    block of records holds a rejected cell, on the first rejected cell of that block. -/
namespace Exetera.Csv
open Exetera Spec

theorem exists_first_bad {α} (P : α → Prop) (l : List α) (h : ¬ ∀ x ∈ l, P x) :
    ∃ pre x post, l = pre ++ x :: post ∧ (∀ y ∈ pre, P y) ∧ ¬ P x := by
  classical
  cases hf : l.find? (fun x => decide (¬ P x)) with
  | none => exact absurd (fun x hx => by simpa using List.find?_eq_none.mp hf x hx) h
  | some x =>
    obtain ⟨hx, pre, post, rfl, hpre⟩ := List.find?_eq_some_iff_append.mp hf
    exact ⟨pre, x, post, rfl, fun y hy => by simpa using hpre y hy, by simpa using hx⟩

/-- The importers of the driver reject unacceptable cells: `errOf c x err` says that `err` is what the importer of file column
    `c` raises on the cell `x` it does not accept. One `import_part` call of the importer, which has consumed acceptable cells
    `D` only, on staging buffers whose column `c` holds a block in which `x` is the FIRST cell the importer does not accept,
    returns that error — whatever follows `x` in the block, wherever the block was cut. -/
def ImpRej (ncols : Nat) (F : Nat → List Bytes → Imp) (good : Nat → Bytes → Prop) (errOf : Nat → Bytes → Err → Prop) : Prop :=
  ∀ (offs : List Nat) (inds : List (List Nat)) (vals : List Nat) (maxrow c : Nat) (D pre : List Bytes) (x : Bytes)
    (post : List Bytes), c < ncols → Shape ncols maxrow offs inds vals → ColOK offs inds vals c (pre ++ x :: post) →
    offAt offs c + (pre ++ x :: post).flatten.length < offAt offs (c + 1) → (∀ cell ∈ D, good c cell) →
    (∀ cell ∈ pre, good c cell) → ¬ good c x →
    ∃ err, errOf c x err ∧ Imp.importPart (F c D) inds vals offs c (pre ++ x :: post).length = .error err

/-- `for ith, i_c in enumerate(index_map): import_part(…)` on a block with a rejected cell: the importers behind the one that
    raises are not called -/
theorem importAll_rej {offs : List Nat} {inds : List (List Nat)} {vals : List Nat} {ncols maxrow n : Nat}
    {F : Nat → List Bytes → Imp} {good : Nat → Bytes → Prop} {errOf : Nat → Bytes → Err → Prop}
    (hhom : ImpHom ncols F good) (hrej : ImpRej ncols F good errOf)
    {D E : Nat → List Bytes} (hsh : Shape ncols maxrow offs inds vals)
    (hcols : ∀ c, c < ncols → ColOK offs inds vals c (E c))
    (hcaps : ∀ c, c < ncols → offAt offs c + (E c).flatten.length < offAt offs (c + 1))
    (hlen : ∀ c, c < ncols → (E c).length = n) (c : Nat) (im2 : List Nat) (pre : List Bytes) (x : Bytes) (post : List Bytes)
    (hE : E c = pre ++ x :: post) (hpre : ∀ cell ∈ pre, good c cell) (hx : ¬ good c x) :
    ∀ (im1 : List Nat), (∀ c' ∈ im1 ++ c :: im2, c' < ncols) → (∀ c' ∈ im1 ++ c :: im2, ∀ cell ∈ D c', good c' cell) →
      (∀ c' ∈ im1, ∀ cell ∈ E c', good c' cell) →
      ∃ err, errOf c x err ∧
        importAll inds vals offs n (im1 ++ c :: im2) ((im1 ++ c :: im2).map (fun c => F c (D c))) = .error err := by
  intro im1
  induction im1 with
  | nil =>
    intro h hd _
    have hc := h c (by simp)
    have hcol := hcols c hc
    have hcap := hcaps c hc
    rw [hE] at hcol hcap
    obtain ⟨err, herr, h1⟩ := hrej offs inds vals maxrow c (D c) pre x post hc hsh hcol hcap (hd c (by simp)) hpre hx
    rw [← hE, hlen c hc] at h1
    exact ⟨err, herr, by simp only [List.nil_append, List.map_cons, importAll, h1]⟩
  | cons c' im1 ih =>
    intro h hd hg
    have hc' := h c' (by simp)
    have h1 := hhom offs inds vals maxrow c' (D c') (E c') hc' hsh (hcols c' hc') (hcaps c' hc') (hd c' (by simp))
      (hg c' (by simp))
    rw [hlen c' hc'] at h1
    obtain ⟨err, herr, h2⟩ := ih (fun y hy => h y (by simp [hy])) (fun y hy => hd y (by simp [hy]))
      (fun y hy => hg y (by simp [hy]))
    exact ⟨err, herr, by simp only [List.cons_append, List.map_cons, importAll, h1, h2]⟩

/-- **which rejected cell the import reports.** `d` records were consumed by earlier kernel calls and none of their selected
    cells is rejected; the kernel call that raises staged the block of the next `a` records (records `d … d+a-1`); `c` is the
    first column in `index_map` order whose cells in that block include a rejected one, `x` the first rejected cell of that
    column in the block. (`d` and `a` are determined by `chunk_row_size`, the windows and the regrowths: with another chunking
    another rejected cell may be the one reported — a later row in an earlier column when one block holds both.) -/
structure Reported (rows : List (List Cell)) (im : List Nat) (good : Nat → Bytes → Prop) (d a c : Nat) (x : Bytes) :
    Prop where
  inFile : d + a ≤ rows.length
  before : ∀ c' ∈ im, ∀ cell ∈ doneCols rows d c', good c' cell
  firstCol : ∃ im1 im2, im = im1 ++ c :: im2 ∧ ∀ c' ∈ im1, ∀ cell ∈ column (values ((rows.drop d).take a)) c', good c' cell
  firstCell : ∃ pre post, column (values ((rows.drop d).take a)) c = pre ++ x :: post ∧ (∀ cell ∈ pre, good c cell) ∧
    ¬ good c x

theorem Reported.mem {rows : List (List Cell)} {im : List Nat} {good : Nat → Bytes → Prop} {d a c : Nat} {x : Bytes}
    (h : Reported rows im good d a c x) : c ∈ im ∧ x ∈ column (values rows) c ∧ ¬ good c x := by
  obtain ⟨im1, im2, him, _⟩ := h.firstCol
  obtain ⟨pre, post, hcol, _, hx⟩ := h.firstCell
  refine ⟨by rw [him]; simp, ?_, hx⟩
  apply column_part_subset rows d a c
  rw [hcol]; simp

structure DIC (F : Nat → List Bytes → Imp) (good : Nat → Bytes → Prop) (file : Bytes) (w ncols : Nat) (im : List Nat)
    (hrow : List Cell) (rows : List (List Cell)) (s : DS) (q e maxrow : Nat) : Prop where
  di : DI F file w ncols im hrow rows s q e maxrow
  clean : ∀ c ∈ im, ∀ cell ∈ doneCols rows (e - 1) c, good c cell

theorem driver_step_r {file : Bytes} {crs ncols : Nat} {im : List Nat} {hrow : List Cell} {rows : List (List Cell)}
    (st : SettingR file crs ncols im hrow rows) {F : Nat → List Bytes → Imp} {good : Nat → Bytes → Prop}
    {errOf : Nat → Bytes → Err → Prop} (hhom : ImpHom ncols F good) (hrej : ImpRej ncols F good errOf)
    {s : DS} {q e maxrow : Nat}
    (hinv : DIC F good file (crs * Gen.Csv.CHUNK_ROW_FACTOR * ncols) ncols im hrow rows s q e maxrow)
    (hlt : bnd hrow rows q < file.length) :
    (∃ s' q' e' maxrow', driverStep file (crs * Gen.Csv.CHUNK_ROW_FACTOR * ncols) ncols im s = .ok s' ∧
      DIC F good file (crs * Gen.Csv.CHUNK_ROW_FACTOR * ncols) ncols im hrow rows s' q' e' maxrow' ∧
      mu rows ncols s'.offs q' maxrow' < mu rows ncols s.offs q maxrow) ∨
    (∃ d a c x err, Reported rows im good d a c x ∧ errOf c x err ∧
      driverStep file (crs * Gen.Csv.CHUNK_ROW_FACTOR * ncols) ncols im s = .error err) := by
  obtain ⟨o, a, hle, hsh, hcols, hcaps, hlenE, herr, hok⟩ := driver_step_split st hinv.di hlt
  by_cases hblock : ∀ c ∈ im, ∀ cell ∈ column (values ((rows.drop (e - 1)).take a)) c, good c cell
  · -- the block is clean
    left
    have himp : importAll o.inds o.vals s.offs a im s.imps =
        .ok (im.map (fun c => F c (doneCols rows (nextE e a - 1) c))) := by
      rw [hinv.di.imps, importAll_hom hhom (D := doneCols rows (e - 1)) hsh hcols hcaps hlenE im st.imOk hinv.clean hblock]
      simp only [doneCols_nextE]
    obtain ⟨s', q', maxrow', h1, h2, h3⟩ := hok himp
    refine ⟨s', q', nextE e a, maxrow', h1, ⟨h2, ?_⟩, h3⟩
    intro c hc cell hcell
    rw [← doneCols_nextE] at hcell
    rcases List.mem_append.mp hcell with h | h
    · exact hinv.clean c hc cell h
    · exact hblock c hc cell h
  · -- the block holds a rejected cell
    right
    obtain ⟨im1, c, im2, him, him1, hc⟩ := exists_first_bad _ im (fun h => hblock (fun c hc => h c hc))
    obtain ⟨pre, x, post, hcol, hpre, hx⟩ := exists_first_bad _ _ hc
    have himOk : ∀ c' ∈ im1 ++ c :: im2, c' < ncols := by rw [← him]; exact st.imOk
    have hclean : ∀ c' ∈ im1 ++ c :: im2, ∀ cell ∈ doneCols rows (e - 1) c', good c' cell := by
      rw [← him]; exact hinv.clean
    obtain ⟨err, herrOf, himp⟩ := importAll_rej hhom hrej (D := doneCols rows (e - 1)) hsh hcols hcaps hlenE c im2 pre x post
      hcol hpre hx im1 himOk hclean him1
    refine ⟨e - 1, a, c, x, err, ⟨hle, hinv.clean, ⟨im1, im2, him, him1⟩, ⟨pre, post, hcol, hpre, hx⟩⟩, herrOf, ?_⟩
    apply herr
    rw [hinv.di.imps, him]
    exact himp

theorem loop_r {file : Bytes} {crs ncols : Nat} {im : List Nat} {hrow : List Cell} {rows : List (List Cell)}
    (st : SettingR file crs ncols im hrow rows) (hfile : file ≠ []) {F : Nat → List Bytes → Imp} {good : Nat → Bytes → Prop}
    {errOf : Nat → Bytes → Err → Prop} (hhom : ImpHom ncols F good) (hrej : ImpRej ncols F good errOf)
    (hbad : ¬ ∀ c ∈ im, ∀ cell ∈ column (values rows) c, good c cell) :
    ∀ (n : Nat) (s : DS) (q e maxrow : Nat),
      DIC F good file (crs * Gen.Csv.CHUNK_ROW_FACTOR * ncols) ncols im hrow rows s q e maxrow →
      mu rows ncols s.offs q maxrow ≤ n →
      ∀ fuel, n + 1 ≤ fuel →
        ∃ d a c x err, Reported rows im good d a c x ∧ errOf c x err ∧
          whileE (dguard file) (driverStep file (crs * Gen.Csv.CHUNK_ROW_FACTOR * ncols) ncols im) fuel s = .error err := by
  intro n s q e maxrow hinv hmu fuel hfuel
  replace hmu : mu rows ncols s.offs q maxrow < fuel := by omega
  clear hfuel
  induction fuel generalizing s q e maxrow with
  | zero => omega
  | succ f ih =>
    by_cases hlt : bnd hrow rows q < file.length
    · have hg : dguard file s = true := hinv.di.guard.trans (decide_eq_true hlt)
      rcases driver_step_r st hhom hrej hinv hlt with
        ⟨s', q', e', maxrow', hstep, hinv', hdec⟩ | ⟨d, a, c, x, err, hrep, herrOf, hstep⟩
      · obtain ⟨d, a, c, x, err, hrep, herrOf, hloop⟩ := ih s' q' e' maxrow' hinv' (by omega)
        exact ⟨d, a, c, x, err, hrep, herrOf, by simp only [whileE, hg, if_true, hstep]; exact hloop⟩
      · exact ⟨d, a, c, x, err, hrep, herrOf, by simp only [whileE, hg, if_true, hstep]⟩
    · -- the file is consumed and no selected cell was rejected: against `hbad`
      exfalso
      have hall := hinv.di.consumed st hfile hlt
      apply hbad
      intro c hc cell hcell
      apply hinv.clean c hc cell
      rw [hall]
      simpa [doneCols] using hcell

/-- **the driver raises when a selected cell is rejected**: `F` a family of append homomorphisms on acceptable cells
    (`ImpHom`) that reject unacceptable ones (`ImpRej`), and at least one cell of an imported column is not acceptable. For
    every `chunk_row_size` of the supported regime, every starting budgets ≥ 1 and the same fuel as the successful import
    needs, `read_file_using_fast_csv_reader` returns an error: what the importer of column `c` raises on the cell `x`, the
    first rejected cell (`index_map` order, then row order) of the first kernel block that holds one. -/
theorem readFile_raise {file : Bytes} {crs ncols : Nat} {offs im : List Nat} {hrow : List Cell} {rows : List (List Cell)}
    (st : SettingR file crs ncols im hrow rows) (hfile : file ≠ []) {F : Nat → List Bytes → Imp} {good : Nat → Bytes → Prop}
    {errOf : Nat → Bytes → Err → Prop} (hhom : ImpHom ncols F good) (hrej : ImpRej ncols F good errOf)
    (hbad : ¬ ∀ c ∈ im, ∀ cell ∈ column (values rows) c, good c cell)
    (hlen : offs.length = ncols + 1) (h0 : offAt offs 0 = 0) (hbud : ∀ c, c < ncols → offAt offs c < offAt offs (c + 1))
    (fuel : Nat) (hfuel : rows.length + 2 + regrowthBound rows ncols offs (crs * Gen.Csv.CHUNK_ROW_FACTOR) ≤ fuel) :
    ∃ d a c x err, Reported rows im good d a c x ∧ errOf c x err ∧
      readFile file crs ncols offs im (im.map (fun c => F c [])) fuel = .error err := by
  have hinv0 : DIC F good file (crs * Gen.Csv.CHUNK_ROW_FACTOR * ncols) ncols im hrow rows
      ({ ci := 0, hasHeader := true, rows := 0, inds := zeros2 ncols (crs * Gen.Csv.CHUNK_ROW_FACTOR + 1), vals := List.replicate (offs.getLastD 0) 0, offs := offs, indsFull := false, valsFull := false, content := [], start := 0, imps := im.map (fun c => F c []), calls := [], stop := false } : DS)
      0 0 (crs * Gen.Csv.CHUNK_ROW_FACTOR) := {
    di := di_init st F hlen h0 hbud
    clean := by
      intro c _ cell hcell
      simp [doneCols, values, column] at hcell }
  obtain ⟨d, a, c, x, err, hrep, herrOf, hloop⟩ :=
    loop_r st hfile hhom hrej hbad (rows.length + 1 + regrowthBound rows ncols offs (crs * Gen.Csv.CHUNK_ROW_FACTOR)) _ 0 0
      (crs * Gen.Csv.CHUNK_ROW_FACTOR) hinv0 (by rw [mu_eq]; exact Nat.le_refl _) fuel (by omega)
  refine ⟨d, a, c, x, err, hrep, herrOf, ?_⟩
  unfold readFile
  dsimp only
  rw [hloop]

end Exetera.Csv
