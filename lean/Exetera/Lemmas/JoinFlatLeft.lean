import Exetera.Lemmas.JoinFlatSpec
/-!
  The flat left-map kernels `generate_ordered_map_to_left_right_unique` / `…_both_unique` (C19): the `result` array is
  the right column of the relational left join.
-/
namespace Exetera.JoinFlat
open Exetera Exetera.Spec Exetera.Join

/-- On a match `j` moves on unless the kernel is the right-unique one and the next left key repeats the current one. -/
theorem leftBody_cases (bu : Bool) {first second : List Int} {cap : Nat} (inv : Int) {s : LS} {P : LS → Prop}
    (hi : s.i < first.length) (hj : s.j < second.length) (hc : s.i < cap)
    (lt : first[s.i] < second[s.j] → P { s with out := s.out ++ [inv], i := s.i + 1, unmapped := s.unmapped + 1 })
    (gt : first[s.i] > second[s.j] → P { s with j := s.j + 1 })
    (adv : first[s.i] = second[s.j] → (bu = true ∨ ∀ a', first[s.i + 1]? = some a' → a' ≠ first[s.i]) →
      P { s with out := s.out ++ [(s.j : Int)], i := s.i + 1, j := s.j + 1 })
    (stay : first[s.i] = second[s.j] → first[s.i + 1]? = some first[s.i] →
      P { s with out := s.out ++ [(s.j : Int)], i := s.i + 1 }) :
    ∃ s', leftBody bu first second cap inv s = .ok s' ∧ P s' := by
  simp only [leftBody, getE_of_lt _ hi, getE_of_lt _ hj, hc, if_true]
  by_cases h1 : first[s.i] < second[s.j]
  · exact ⟨_, by simp only [h1, if_true], lt h1⟩
  by_cases h2 : first[s.i] > second[s.j]
  · exact ⟨_, by simp only [h1, h2, if_true, if_false], gt h2⟩
  have heq : first[s.i] = second[s.j] := Int.le_antisymm (Int.not_lt.mp h2) (Int.not_lt.mp h1)
  simp only [h1, h2, if_false]
  cases bu with
  | true => exact ⟨_, by simp only [if_true], adv heq (Or.inl rfl)⟩
  | false =>
    simp only [Bool.false_eq_true, if_false]
    by_cases hend : s.i + 1 ≥ first.length
    · refine ⟨_, by simp only [hend, if_true], adv heq (Or.inr fun a' ha' => ?_)⟩
      have := (List.getElem?_eq_some_iff.mp ha').1
      omega
    · have hi1 : s.i + 1 < first.length := by omega
      simp only [hend, if_false, getE_of_lt _ hi1]
      by_cases hne : first[s.i + 1] = first[s.i]
      · exact ⟨_, by simp [hne], stay heq (by rw [get?_some_of_lt hi1, hne])⟩
      · refine ⟨_, by simp [hne], adv heq (Or.inr fun a' ha' => ?_)⟩
        rw [get?_some_of_lt hi1] at ha'
        cases ha'; exact hne

structure LInv (L R : List Int) (inv : Int) (s : LS) : Prop where
  ile : s.i ≤ L.length
  jle : s.j ≤ R.length
  olen : s.out.length = s.i
  out : s.out ++ encR inv (rest L R s.i) = encR inv (leftJoin L R)
  below : Below L R s.i s.j

theorem leftBody_step {bu : Bool} {L R : List Int} {inv : Int} {s : LS} (hL : Sorted L) (hR : R.Pairwise (· < ·))
    (hbu : bu = true → L.Pairwise (· < ·)) (hinv : LInv L R inv s) (hg : leftGuard L R s = true) :
    ∃ s', leftBody bu L R L.length inv s = .ok s' ∧ LInv L R inv s' ∧ walkMu L R s'.i s'.j < walkMu L R s.i s.j := by
  simp only [leftGuard, Bool.and_eq_true, decide_eq_true_eq] at hg
  obtain ⟨hi, hj⟩ := hg
  have olen : (s.out ++ [inv]).length = s.i + 1 ∧ ∀ k : Int, (s.out ++ [k]).length = s.i + 1 := by simp [hinv.olen]
  refine leftBody_cases bu inv hi hj hi (fun hlt => ?_) (fun hgt => ?_) (fun heq hadv => ?_) (fun heq hnext => ?_)
  · obtain ⟨hr, hb⟩ := hinv.below.lt hL (Strict.sorted hR) hi hj hlt
    exact ⟨⟨hi, hinv.jle, olen.1, encR_rest_cons hinv.out hr, hb⟩, walkMu_lt_left hi hj⟩
  · exact ⟨⟨hinv.ile, hj, hinv.olen, hinv.out, hinv.below.gt hi hj hgt⟩, walkMu_lt_right hi hj⟩
  · refine ⟨⟨hi, hj, olen.2 _, encR_rest_cons hinv.out (hinv.below.matched hR hi hj heq), ?_⟩,
      walkMu_lt hi hj (n := 1) (m := 1) (Nat.succ_pos _)⟩
    -- `j` may move on: the next left key is larger, by uniqueness or because it differs
    refine BelowAt.of_le (Strict.sorted hR) (a := L[s.i]) (by rw [get?_some_of_lt hj, heq]) (fun a' ha' => ?_)
    rcases hadv with h | h
    · exact Strict.lt_get? (hbu h) (Nat.lt_succ_self _) (get?_some_of_lt hi) ha'
    · have := Sorted.le_get? hL (Nat.le_succ _) (get?_some_of_lt hi) ha'
      have := h a' ha'
      omega
  · exact ⟨⟨hi, hinv.jle, olen.2 _, encR_rest_cons hinv.out (hinv.below.matched hR hi hj heq), hinv.below.step_left hL⟩,
      walkMu_lt_left hi hj⟩

/-- tail loop: the right column is exhausted (or the left one is), every remaining left row is unmatched -/
theorem leftTail_step {L R : List Int} {inv : Int} {s : LS} (hL : Sorted L) (hR : Sorted R)
    (hinv : LInv L R inv s ∧ (s.i = L.length ∨ s.j = R.length)) (hg : decide (s.i < L.length) = true) :
    ∃ s', leftTailBody L.length inv s = .ok s' ∧ (LInv L R inv s' ∧ (s'.i = L.length ∨ s'.j = R.length)) ∧
      L.length - s'.i < L.length - s.i := by
  have hi : s.i < L.length := by simpa using hg
  obtain ⟨hinv, hor⟩ := hinv
  have hj : s.j = R.length := by omega
  have hr := BelowAt.rest_none hR hinv.below (get?_some_of_lt hi) (fun b hb' => by
    have := (List.getElem?_eq_some_iff.mp hb').1; omega)
  simp only [leftTailBody, hi, if_true]
  exact ⟨_, rfl, ⟨⟨hi, hinv.jle, by simp [hinv.olen], encR_rest_cons hinv.out hr, hinv.below.step_left hL⟩, Or.inr hj⟩,
    by dsimp only; omega⟩

/-- **the flat left-map kernels return the right column of the relational left join** (no out-of-bounds access, both
    loops terminate within their fuel) -/
theorem generateLeft_eq (bu : Bool) {L R : List Int} (result : List Int) (inv : Int) (hL : Sorted L)
    (hR : R.Pairwise (· < ·)) (hbu : bu = true → L.Pairwise (· < ·)) (hres : result.length = L.length) :
    ∃ u, generateLeft bu L R result inv = .ok (u, encR inv (leftJoin L R)) := by
  have h0 : LInv L R inv ({} : LS) :=
    ⟨by simp, by simp, rfl, by simp [rest_zero], Below.zero L R 0⟩
  obtain ⟨s1, hw1, hI1, hg1⟩ := whileE_rule (leftGuard L R) (leftBody bu L R L.length inv) (LInv L R inv)
    (fun s => walkMu L R s.i s.j) (fun s hI hg => leftBody_step hL hR hbu hI hg) (L.length + R.length) {} h0
    (by simp [walkMu])
  have hor := walk_exhausted hI1.ile hI1.jle hg1
  obtain ⟨s2, hw2, ⟨hI2, _⟩, hg2⟩ := whileE_rule (fun s : LS => decide (s.i < L.length)) (leftTailBody L.length inv)
    (fun s => LInv L R inv s ∧ (s.i = L.length ∨ s.j = R.length)) (fun s => L.length - s.i)
    (fun s hI hg => leftTail_step hL (Strict.sorted hR) hI hg) L.length s1 ⟨hI1, hor⟩ (Nat.sub_le _ _)
  have hi2 : s2.i = L.length := Nat.le_antisymm hI2.ile (Nat.not_lt.mp (by simpa using hg2))
  have hout : s2.out = encR inv (leftJoin L R) := by
    have := hI2.out
    rwa [hi2, rest_of_ge L R (Nat.le_refl _), encR, List.map_nil, List.append_nil] at this
  refine ⟨decide (s2.unmapped > 0), ?_⟩
  simp only [generateLeft, hres, bne_self_eq_false, Bool.false_eq_true, if_false, hw1, hw2]
  rw [(hI2.olen.trans hi2).trans hres.symm, List.drop_length, List.append_nil, hout]

end Exetera.JoinFlat
