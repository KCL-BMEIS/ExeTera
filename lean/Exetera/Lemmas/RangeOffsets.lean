import Exetera.Spec.MapValid
import Exetera.Lemmas.FilterIndexKernel
import Exetera.Spec.CsvLine
import Exetera.Spec.Csv
/-!
  C11: every offset of the stored form of a list of entries is a byte count between 0 and the total number of bytes — for each
  of the four renderings of "offsets of a list of entries" the specifications use (`Spec.offsetsFromI` of C04,
  `Spec.offsetsFromF` of C09, `Spec.CsvLine.offsets` of C16, `Csv.Spec.indexOf` of C05).
-/
namespace Exetera

/-- the value range of numpy's `int64` -/
def FitsInt64 (x : Int) : Prop := -(2 ^ 63) ≤ x ∧ x < 2 ^ 63
/-- the value range of numpy's `int32` -/
def FitsInt32 (x : Int) : Prop := -(2 ^ 31) ≤ x ∧ x < 2 ^ 31

theorem FitsInt64.of_bounds {x : Int} {n : Nat} (h0 : 0 ≤ x) (h1 : x ≤ n) (hn : n < 2 ^ 63) : FitsInt64 x := by
  unfold FitsInt64; omega
theorem FitsInt32.of_bounds {x : Int} {n : Nat} (h0 : 0 ≤ x) (h1 : x ≤ n) (hn : n < 2 ^ 31) : FitsInt32 x := by
  unfold FitsInt32; omega
theorem FitsInt64.of_nat_le {x n : Nat} (h1 : x ≤ n) (hn : n < 2 ^ 63) : FitsInt64 (x : Int) := by
  unfold FitsInt64; omega
theorem FitsInt32.of_nat_le {x n : Nat} (h1 : x ≤ n) (hn : n < 2 ^ 31) : FitsInt32 (x : Int) := by
  unfold FitsInt32; omega

theorem offsetsFromF_range {α} (es : List (List α)) (s : Nat) :
    ∀ x ∈ Spec.offsetsFromF s es, s ≤ x ∧ x ≤ s + es.flatten.length := by
  rw [FilterIndex.offsetsFromF_eq_prefixSums]
  exact prefixSums.bounds_lengths s es

/-! The other three renderings are `Spec.offsetsFromF`: over `Int`, without the leading base, on byte strings. -/

theorem offsetsFromI_eq {β} : ∀ (es : List (List β)) (b : Nat),
    Spec.offsetsFromI (b : Int) es = (Spec.offsetsFromF b es).map Int.ofNat
  | [], _ => rfl
  | e :: es, b => by
    simp only [Spec.offsetsFromI, Spec.offsetsFromF, List.map_cons, ← offsetsFromI_eq es (b + e.length)]
    rfl

theorem csvLine_offsetsFrom_eq {α} : ∀ (xs : List (List α)) (b : Nat),
    b :: Spec.CsvLine.offsetsFrom b xs = Spec.offsetsFromF b xs
  | [], _ => rfl
  | x :: xs, b => by simp only [Spec.CsvLine.offsetsFrom, Spec.offsetsFromF, csvLine_offsetsFrom_eq xs (b + x.length)]

theorem csv_offsetsFrom_eq : ∀ (es : List (List Nat)) (b : Nat), Csv.Spec.offsetsFrom b es = Spec.offsetsFromF b es
  | [], _ => rfl
  | e :: es, b => by simp only [Csv.Spec.offsetsFrom, Spec.offsetsFromF, csv_offsetsFrom_eq es (b + e.length)]

theorem offsetsFromI_range {β} (es : List (List β)) (b : Nat) (x : Int) (hx : x ∈ Spec.offsetsFromI b es) :
    (b : Int) ≤ x ∧ x ≤ b + (es.flatten.length : Int) := by
  rw [offsetsFromI_eq] at hx
  obtain ⟨n, hn, rfl⟩ := List.mem_map.mp hx
  have := offsetsFromF_range es b n hn
  simp only [Int.ofNat_eq_natCast]; omega

theorem csvLine_storedIndices_range {α} (outs : List (List α)) : ∀ x ∈ Spec.CsvLine.storedIndices outs,
    x ≤ outs.flatten.length := by
  intro x hx
  unfold Spec.CsvLine.storedIndices at hx
  split at hx
  · simp at hx
  · rw [Spec.CsvLine.offsets, csvLine_offsetsFrom_eq] at hx
    have := offsetsFromF_range outs 0 x hx
    omega

theorem sublist_flatten_length_le {α} {l₁ l₂ : List (List α)} (h : l₁.Sublist l₂) :
    l₁.flatten.length ≤ l₂.flatten.length := by
  induction h with
  | slnil => simp
  | cons a _ ih => simp only [List.flatten_cons, List.length_append]; omega
  | cons_cons a _ ih => simp only [List.flatten_cons, List.length_append]; omega

end Exetera
