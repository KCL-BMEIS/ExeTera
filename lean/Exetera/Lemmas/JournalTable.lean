import Exetera.Lemmas.JournalDefs
import Exetera.Lemmas.JournalIndices
import Exetera.Lemmas.JournalKernels
/-!
  `journal_table` after the sorts (`journalSorted`): index generation, the compare loop over all fields and the merge loop
  over all fields compose to the specification.

  The maps and flags the kernels receive are the specified ones, slot by slot (`fOld`, `fNew`, `gKeep` of the slot's key).
  The slot-wise plan the merge kernels follow (`kPlan`), run on these, is the specification's plan; it covers every old row.
-/
namespace Exetera.Journal
open Exetera Exetera.Spec.Journal

/-- old map entry of key `k` -/
def fOld (o : List Int) (k : Int) : Int := idxOr (positions k o).getLast?
/-- new map entry of key `k` -/
def fNew (n : List Int) (k : Int) : Int := idxOr (positions k n).head?
/-- keep flag of key `k` -/
def gKeep (o n : List Int) (d : Nat → Nat → Bool) (k : Int) : Bool :=
  keepFlag d (positions k n).head? (positions k o).getLast?

theorem indices_eq_map (o n : List Int) : indices o n = ((keyUnion o n).map (fOld o), (keyUnion o n).map (fNew n)) := rfl
theorem toKeep_eq_map (o n : List Int) (d : Nat → Nat → Bool) : toKeep o n d = (keyUnion o n).map (gKeep o n d) := rfl

theorem kPlan_map {κ ι : Type} (f1 f2 : ι → Int) (g : ι → Bool) (h : κ → ι) : ∀ (ks : List κ) (cur : Nat),
    kPlan f1 f2 g cur (ks.map h) = kPlan (fun k => f1 (h k)) (fun k => f2 (h k)) (fun k => g (h k)) cur ks ∧
    kCur f1 cur (ks.map h) = kCur (fun k => f1 (h k)) cur ks
  | [], _ => ⟨rfl, rfl⟩
  | k :: ks, cur => by
    simp only [List.map_cons, kPlan, kCur, kPlan_map f1 f2 g h ks]
    exact ⟨trivial, trivial⟩

/-- the three entries of a slot, from the rows of its key in the old table and in the snapshot -/
def slotOf (d : Nat → Nat → Bool) (po pn : List Nat) : Int × Int × Bool :=
  (idxOr po.getLast?, idxOr pn.head?, keepFlag d pn.head? po.getLast?)

/-- the slot of a key whose `m` old rows start at the cursor `c` and whose snapshot row is `j?`: its block of the plan -/
theorem slotRows_block (d : Nat → Nat → Bool) (c m : Nat) (j? : Option Nat) :
    slotRows c (idxOr (List.range' c m).getLast?) (idxOr j?) (keepFlag d j? (List.range' c m).getLast?) =
      (List.range' c m).map Src.old ++ newPart d j? (List.range' c m).getLast? ∧
    curAfter c (idxOr (List.range' c m).getLast?) = c + m := by
  have hm : (idxOr (List.range' c m).getLast? + 1).toNat = if m = 0 then 0 else c + m := by
    rw [List.getLast?_range']
    split
    · rfl
    · simp only [idxOr]; omega
  unfold slotRows curAfter
  rw [hm]
  constructor
  · congr 1
    · split
      · rename_i h; rw [h, Nat.zero_sub]
      · rw [Nat.add_sub_cancel_left]
    · cases j? with
      | none => rfl
      | some j => simp only [newPart, idxOr, Int.toNat_natCast]
  · split
    · rename_i h; rw [h, Nat.max_eq_left (Nat.zero_le _)]; rfl
    · exact Nat.max_eq_right (Nat.le_add_right _ _)

/-- on the specified slots the merge kernels' plan is the specification's plan, it ends with every old row copied, and it has
    `len(old) + to_keep.sum()` rows — by induction over the blocks of the two key columns -/
theorem plan_facts (d : Nat → Nat → Bool) {old new : List Int} (hso : old.Pairwise (· ≤ ·)) (hsn : new.Pairwise (· < ·)) :
    kPlan (fOld old) (fNew new) (gKeep old new d) 0 (keyUnion old new) = plan old new d ∧
    kCur (fOld old) 0 (keyUnion old new) = old.length ∧
    (plan old new d).length = old.length + (toKeep old new d).count true := by
  refine sortedPair_induction
    (fun o n => kPlan (fOld o) (fNew n) (gKeep o n d) 0 (keyUnion o n) = plan o n d ∧
      kCur (fOld o) 0 (keyUnion o n) = o.length ∧ (plan o n d).length = o.length + (toKeep o n d).count true)
    ⟨rfl, rfl, rfl⟩ ?_ _ old new (Nat.le_refl _) hso hsn
  intro o n k m b hlt hmb ⟨ih1, ih2, ih3⟩
  let o' := o ++ List.replicate m k
  let n' := snocNew n b k
  have hmap : ∀ o n : List Int,
      kPlan (·.1) (·.2.1) (·.2.2) 0 ((keyUnion o n).map (fun k' => slotOf d (positions k' o) (positions k' n))) =
        kPlan (fOld o) (fNew n) (gKeep o n d) 0 (keyUnion o n) ∧
      kCur (·.1) 0 ((keyUnion o n).map (fun k' => slotOf d (positions k' o) (positions k' n))) =
        kCur (fOld o) 0 (keyUnion o n) :=
    fun o n => kPlan_map (·.1) (·.2.1) (·.2.2) (fun k' => slotOf d (positions k' o) (positions k' n)) (keyUnion o n) 0
  have hblk := slotRows_block d o.length m (if b then [n.length] else []).head?
  have hplan : plan o' n' d = plan o n d ++ ((List.range' o.length m).map Src.old ++
      newPart d (if b then [n.length] else []).head? (List.range' o.length m).getLast?) := by
    unfold plan
    rw [List.flatMap_def, List.flatMap_def]
    exact (congrArg List.flatten (slots_snoc (fun po pn => po.map Src.old ++ newPart d pn.head? po.getLast?) hlt hmb)).trans
      (by rw [List.flatten_append, List.flatten_singleton]; rfl)
  have hkeep : toKeep o' n' d = toKeep o n d ++
      [keepFlag d (if b then [n.length] else []).head? (List.range' o.length m).getLast?] :=
    slots_snoc (fun po pn => keepFlag d pn.head? po.getLast?) hlt hmb
  have h1 := (hmap o' n').1
  have h2 := (hmap o' n').2
  rw [slots_snoc (slotOf d) hlt hmb, kPlan_append, (hmap o n).1, (hmap o n).2, ih1, ih2] at h1
  rw [slots_snoc (slotOf d) hlt hmb, kCur_append, (hmap o n).2, ih2] at h2
  refine ⟨?_, ?_, ?_⟩
  · rw [← h1, hplan]; simp only [kPlan, List.append_nil, slotOf, hblk.1]
  · rw [← h2]; simp only [kCur, slotOf, hblk.2, List.length_append, List.length_replicate]
  · rw [hplan, hkeep, List.length_append, ih3, List.count_append, List.length_append, List.length_map, List.length_range',
      newPart_length, List.length_append, List.length_replicate]
    omega

/-- the verdict of field `c` on the slot of key `k` -/
def Dk (ok nk : List Int) (c : Col) (k : Int) : Bool :=
  match (positions k ok).getLast?, (positions k nk).head? with
  | some r, some j => c.differs r j
  | _, _ => false

theorem fOld_cases (ok : List Int) (k : Int) :
    ((positions k ok).getLast? = none ∧ fOld ok k = -1) ∨
    (∃ r, (positions k ok).getLast? = some r ∧ fOld ok k = (r : Int) ∧ r < ok.length) := by
  unfold fOld
  cases h : (positions k ok).getLast? with
  | none => exact Or.inl ⟨rfl, rfl⟩
  | some r => exact Or.inr ⟨r, rfl, rfl, (mem_positions (List.mem_of_getLast? h)).1⟩

theorem fNew_cases (nk : List Int) (k : Int) :
    ((positions k nk).head? = none ∧ fNew nk k = -1) ∨
    (∃ j, (positions k nk).head? = some j ∧ fNew nk k = (j : Int) ∧ j < nk.length) := by
  unfold fNew
  cases h : (positions k nk).head? with
  | none => exact Or.inl ⟨rfl, rfl⟩
  | some j => exact Or.inr ⟨j, rfl, rfl, (mem_positions (List.mem_of_mem_head? h)).1⟩

theorem some_bne_some {α} [BEq α] (a b : α) : (some a != some b) = (a != b) := rfl

theorem numDiffers_nat {o n : List Int} {r j : Nat} (hr : r < o.length) (hj : j < n.length) :
    numDiffers o n r j = .ok (o[r]? != n[j]?) := by
  simp only [numDiffers, getI_of_nat _ hr, getI_of_nat _ hj, bind, Except.bind, pure, Except.pure,
    List.getElem?_eq_getElem hr, List.getElem?_eq_getElem hj, some_bne_some]

theorem strDiffers_nat {o n : List (List Int)} {r j : Nat} (hr : r < o.length) (hj : j < n.length) :
    strDiffers (encode o).1 (encode o).2 (encode n).1 (encode n).2 r j = .ok (o[r]? != n[j]?) := by
  simp only [strDiffers, rowBytes_encode _ hr, rowBytes_encode _ hj, bind, Except.bind, pure, Except.pure,
    List.getElem?_eq_getElem hr, List.getElem?_eq_getElem hj, some_bne_some]

section cmp
variable (ok nk : List Int)

theorem slot_differs {c : Col} {differs : Int → Int → Except Err Bool}
    (hd : ∀ r j, r < ok.length → j < nk.length → differs r j = .ok (c.differs r j)) (k : Int)
    (h1 : fOld ok k ≠ -1) (h2 : fNew nk k ≠ -1) : differs (fOld ok k) (fNew nk k) = .ok (Dk ok nk c k) := by
  rcases fOld_cases ok k with ⟨_, e⟩ | ⟨r, hr, er, hrl⟩
  · exact absurd e h1
  rcases fNew_cases nk k with ⟨_, e⟩ | ⟨j, hj, ej, hjl⟩
  · exact absurd e h2
  rw [er, ej, hd r j hrl hjl, Dk, hr, hj]

theorem compareCol_spec (c : Col) (hwf : c.WF ok.length nk.length) (g : Int → Bool) :
    compareCol ((keyUnion ok nk).map (fOld ok)) ((keyUnion ok nk).map (fNew nk)) ((keyUnion ok nk).map g) c.enc =
      .ok ((keyUnion ok nk).map (fun k => g k || slotKeep (fOld ok k) (fNew nk k) (Dk ok nk c k))) := by
  cases c with
  | num o n =>
    exact compare_loop_map _ _ _ _ _ _
      (fun k _ => slot_differs ok nk (c := .num o n) (fun r j hr hj => numDiffers_nat (hwf.1 ▸ hr) (hwf.2 ▸ hj)) k)
  | str o n =>
    have hlast : ∀ ss : List (List Int), (encode ss).1.getLast? = some (encode ss).2.length := fun ss => by
      rw [encode, offsetsFrom_getLast?, Nat.zero_add]
    have hlen : (((keyUnion ok nk).map (fOld ok)).length != ((keyUnion ok nk).map (fNew nk)).length) = false := by
      rw [List.length_map, List.length_map, bne_self_eq_false]
    simp only [Col.enc, compareCol, compareIndexedRows, hlast, hlen, bne_self_eq_false, Bool.false_eq_true, if_false]
    exact compare_loop_map _ _ _ _ _ _
      (fun k _ => slot_differs ok nk (c := .str o n) (fun r j hr hj => strDiffers_nat (hwf.1 ▸ hr) (hwf.2 ▸ hj)) k)

theorem compareCols_spec : ∀ (cols : List Col) (_ : ∀ c, c ∈ cols → c.WF ok.length nk.length) (g : Int → Bool),
    compareCols ((keyUnion ok nk).map (fOld ok)) ((keyUnion ok nk).map (fNew nk)) (cols.map Col.enc) ((keyUnion ok nk).map g) =
      .ok ((keyUnion ok nk).map (fun k => g k || cols.any (fun c => slotKeep (fOld ok k) (fNew nk k) (Dk ok nk c k))))
  | [], _, g => by simp [compareCols]
  | c :: cs, hwf, g => by
    simp only [List.map_cons, compareCols, compareCol_spec ok nk c (hwf c (by simp)) g]
    rw [compareCols_spec cs (fun c' hc' => hwf c' (by simp [hc']))]
    congr 1
    apply List.map_congr_left
    intro k _
    simp only [List.any_cons, Bool.or_assoc]

/-- **to_keep**: after the compare loop over all compared fields (at least one), a slot is kept iff its key is new or
    the snapshot row differs from the last old version in some field -/
theorem compareCols_toKeep (cols : List Col) (hne : cols ≠ []) (hwf : ∀ c, c ∈ cols → c.WF ok.length nk.length) :
    compareCols (indices ok nk).1 (indices ok nk).2 (cols.map Col.enc) (List.replicate (indices ok nk).1.length false) =
      .ok (toKeep ok nk (differsAny cols)) := by
  have hrep : List.replicate (indices ok nk).1.length false = (keyUnion ok nk).map (fun _ => false) := by
    rw [(indices_length ok nk).1, List.map_const']
  rw [hrep, indices_eq_map, compareCols_spec ok nk cols hwf, toKeep_eq_map]
  refine congrArg Except.ok (List.map_congr_left fun k hk => ?_)
  have hany : ∀ b : Bool, cols.any (fun _ => b) = b := fun b => by
    cases cols with
    | nil => exact absurd rfl hne
    | cons c cs => cases b <;> simp
  have hnat : ∀ r : Nat, ((r : Int) == -1) = false := fun r => by rw [beq_eq_false_iff_ne]; omega
  simp only [Bool.false_or, gKeep, fOld, fNew, Dk]
  cases hr : (positions k ok).getLast? with
  | none =>
    cases hj : (positions k nk).head? with
    | none =>
      rcases mem_keyUnion.1 hk with h | h
      · exact absurd (List.getLast?_eq_none_iff.1 hr) (positions_ne_nil h)
      · exact absurd (List.head?_eq_none_iff.1 hj) (positions_ne_nil h)
    | some j => simp only [idxOr, slotKeep, beq_self_eq_true, if_true, hany, keepFlag]
  | some r =>
    cases hj : (positions k nk).head? with
    | none => simp only [idxOr, slotKeep, hnat, beq_self_eq_true, Bool.false_eq_true, if_false, if_true, hany, keepFlag]
    | some j => simp only [idxOr, slotKeep, hnat, Bool.false_eq_true, if_false, keepFlag, differsAny]

end cmp


section mrg
variable {ok nk : List Int} (hso : ok.Pairwise (· ≤ ·)) (hsn : nk.Pairwise (· < ·)) (d : Nat → Nat → Bool)

omit hso hsn in
theorem hold_fOld (len : Nat) (ho : len = ok.length) (k : Int) : (fOld ok k + 1).toNat ≤ len := by
  rcases fOld_cases ok k with ⟨_, e⟩ | ⟨r, _, e, hr⟩
  · rw [e]; simp
  · rw [e]; omega

omit hso hsn in
theorem hnew_fNew (len : Nat) (hn : len = nk.length) (k : Int) (hk : gKeep ok nk d k = true) :
    0 ≤ fNew nk k ∧ (fNew nk k).toNat < len := by
  rcases fNew_cases nk k with ⟨h, _⟩ | ⟨j, _, e, hj⟩
  · simp [gKeep, h, keepFlag] at hk
  · rw [e]; omega

include hso hsn

theorem column_plan_length {α} (o n : List α) (ho : o.length = ok.length) (hn : n.length = nk.length) :
    (column (plan ok nk d) o n).length = ok.length + (toKeep ok nk d).count true := by
  rw [column_length_of_valid, (plan_facts d hso hsn).2.2]
  intro x hx
  have := plan_valid d ok nk x hx
  cases x <;> simp only at this ⊢ <;> omega

/-- every specified result field has `len(old) + to_keep.sum()` rows -/
theorem out_rows (c : Col) (hwf : c.WF ok.length nk.length) :
    (c.out (plan ok nk d)).rows = ok.length + (toKeep ok nk d).count true := by
  cases c with
  | num o n => exact column_plan_length hso hsn d o n hwf.1 hwf.2
  | str o n =>
    rw [Col.out, OutCol.rows, encode_inds_length, Nat.add_sub_cancel]
    exact column_plan_length hso hsn d o n hwf.1 hwf.2

theorem mergeCol_spec (c : Col) (hwf : c.WF ok.length nk.length) :
    mergeCol (indices ok nk).1 (indices ok nk).2 (toKeep ok nk d) (ok.length + (toKeep ok nk d).count true) c.enc =
      .ok (c.out (plan ok nk d)) := by
  have hplan := (plan_facts d hso hsn).1
  rw [indices_eq_map, toKeep_eq_map]
  cases c with
  | num o n =>
    obtain ⟨ho, hn⟩ := hwf
    have hlen := column_plan_length hso hsn d o n ho hn
    rw [toKeep_eq_map] at hlen
    simp only [Col.enc, mergeCol, Col.out]
    rw [mergeEntries_plan (keyUnion ok nk) (fOld ok) (fNew nk) (gKeep ok nk d) o n _
      (fun k _ => hold_fOld o.length ho k) (fun k _ hk => hnew_fNew d n.length hn k hk) (by rw [hplan, hlen]; exact Nat.le_refl _)]
    simp only [hplan, hlen, Nat.sub_self, List.replicate_zero, List.append_nil]
  | str o n =>
    obtain ⟨ho, hn⟩ := hwf
    have hlen := column_plan_length hso hsn d o n ho hn
    rw [toKeep_eq_map] at hlen
    simp only [Col.enc, mergeCol, Col.out]
    rw [mergeIndexedCount_plan (keyUnion ok nk) (fOld ok) (fNew nk) (gKeep ok nk d) o n
      (fun k _ => hold_fOld o.length ho k) (fun k _ hk => hnew_fNew d n.length hn k hk)]
    simp only
    have := mergeIndexedEntries_plan (keyUnion ok nk) (fOld ok) (fNew nk) (gKeep ok nk d) o n
      (fun k _ => hold_fOld o.length ho k) (fun k _ hk => hnew_fNew d n.length hn k hk)
    rw [hplan, hlen] at this
    rw [hplan, this]

theorem mergeCols_spec : ∀ (cols : List Col), (∀ c, c ∈ cols → c.WF ok.length nk.length) →
    mergeCols (indices ok nk).1 (indices ok nk).2 (toKeep ok nk d) (ok.length + (toKeep ok nk d).count true) (cols.map Col.enc) =
      .ok (cols.map (Col.out (plan ok nk d)))
  | [], _ => rfl
  | c :: cs, hwf => by
    simp only [List.map_cons, mergeCols, mergeCol_spec hso hsn d c (hwf c (by simp)),
      mergeCols_spec cs (fun c' hc' => hwf c' (by simp [hc']))]

/-- **journal_table on sorted tables**: the result fields are the compared fields read along the specification's plan -/
theorem journalSorted_eq (cols : List Col) (hwf : ∀ c, c ∈ cols → c.WF ok.length nk.length) :
    journalSorted ok nk (cols.map Col.enc) ok.length = .ok (cols.map (Col.out (plan ok nk (differsAny cols)))) := by
  unfold journalSorted
  rw [journalIndices_eq hso hsn]
  simp only
  by_cases hne : cols = []
  · subst hne; simp [compareCols, mergeCols]
  · rw [compareCols_toKeep ok nk cols hne hwf]
    simp only
    exact mergeCols_spec hso hsn (differsAny cols) cols hwf

end mrg

end Exetera.Journal
