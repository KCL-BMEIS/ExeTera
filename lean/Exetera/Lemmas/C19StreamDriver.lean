import Exetera.Lemmas.C19StreamKernel
/-!
  C19, legacy streamed left map: the driver loop of `generate_ordered_map_to_left_right_unique_streamed_old` (kernel
  call, write, re-slice or refill of either view) and its tail loop. For every chunk size ≥ 1 the map written is the
  right column of the relational left join.
-/
namespace Exetera.JoinOld
open Exetera Exetera.Spec Exetera.Join Exetera.JoinFlat

theorem oldBody_step {L R : List Int} {cs : Nat} {inv : Int} {s : SO} (hcs : 1 ≤ cs) (hL : Sorted L)
    (hR : R.Pairwise (· < ·)) (hS : SInv L R cs inv s)
    (hg : (decide (s.i < L.length) && decide (s.j < R.length)) = true) :
    ∃ s', oldBody L R cs inv s = .ok s' ∧ SInv L R cs inv s' ∧
      (L.length - s'.i) + (R.length - s'.j) < (L.length - s.i) + (R.length - s.j) := by
  simp only [Bool.and_eq_true, decide_eq_true_eq] at hg
  obtain ⟨p, hrun, hK, hend⟩ := runPartialOld_spec hL hR hS
  obtain ⟨s', hb, hD, ei, ej, eo⟩ := Term.oldBody_ok inv hcs hS.dinv hrun hK.ile hK.jle
  have hout : s'.out = s.out ++ p.buf := eo.trans (write_nonempty _ _ hK.blen)
  refine ⟨s', hb, SInv.of_dinv hD ?_ ?_ ?_, ?_⟩
  · rw [hout, ei, List.length_append, hS.olen, hK.blen]
  · rw [hout, ei]; exact hK.out
  · rw [ei, ej]; exact hK.below
  · rw [ei, ej]
    exact walk_lt hg.1 hg.2 (hS.dinv.progress hg.1 hg.2 hend)

/-- invariant of the tail loop (NC19a repaired) -/
structure TInv (L R : List Int) (inv : Int) (s : SO) : Prop where
  ile : s.i ≤ L.length
  olen : s.out.length = s.i
  out : s.out ++ encR inv (rest L R s.i) = encR inv (leftJoin L R)
  below : Below L R s.i R.length

theorem oldTailBody_step {L R : List Int} {cs : Nat} {inv : Int} {s : SO} (hcs : 1 ≤ cs) (hL : Sorted L) (hR : Sorted R)
    (hT : TInv L R inv s) (hg : decide (s.i < L.length) = true) :
    ∃ s', oldTailBody L cs inv s = .ok s' ∧ TInv L R inv s' ∧ L.length - s'.i < L.length - s.i := by
  have hi : s.i < L.length := by simpa using hg
  have hrt := rest_tail inv hL hR (min cs (L.length - s.i)) s.i (by omega) hT.below
  have hout := hT.out
  rw [hrt, ← List.append_assoc] at hout
  exact ⟨_, rfl, ⟨by dsimp only; omega, by simp [hT.olen], hout, Below.add_left hL hT.below _⟩, by dsimp only; omega⟩

/-- **the legacy streamed left map equals the relational left join for every chunk size ≥ 1** (sorted left keys,
    duplicate-free right keys): no out-of-bounds access, no `'i' has got ahead` / `StopIteration` error, both loops end
    within their fuel, and `left_to_right` holds `encR inv (leftJoin L R)` — the value the flat kernel
    `generate_ordered_map_to_left_right_unique` returns (`generateLeft_eq`). -/
theorem streamedOld_eq {L R : List Int} (inv : Int) {cs : Nat} (hcs : 1 ≤ cs) (hL : Sorted L) (hR : R.Pairwise (· < ·)) :
    ∃ u, streamedOld L R inv cs = .ok (u, encR inv (leftJoin L R)) := by
  obtain ⟨s1, hw1, hS1, hg1⟩ := whileE_rule (fun s : SO => decide (s.i < L.length) && decide (s.j < R.length))
    (oldBody L R cs inv) (SInv L R cs inv) (fun s => (L.length - s.i) + (R.length - s.j))
    (fun s hS hg => oldBody_step hcs hL hR hS hg) (L.length + R.length)
    { lcur := min L.length cs, rcur := min R.length cs, lhi := min L.length cs, rhi := min R.length cs,
      lc := slice L 0 (min L.length cs), rc := slice R 0 (min R.length cs) }
    (SInv.of_dinv ⟨Term.View.init L hcs, Term.View.init R hcs⟩ rfl (by simp [rest_zero]) (Below.zero L R 0))
    (Nat.le_refl _)
  have hT1 : TInv L R inv s1 := by
    have h1 := hS1.ilh
    have h2 := hS1.lhl
    have h3 := hS1.jrh
    have h4 := hS1.rhl
    refine ⟨by omega, hS1.olen, hS1.out, ?_⟩
    simp only [Bool.and_eq_false_iff, decide_eq_false_iff_not] at hg1
    by_cases hi : s1.i < L.length
    · have hj : s1.j = R.length := by omega
      rw [← hj]
      exact hS1.below
    · exact Below.of_ge (by omega)
  obtain ⟨s2, hw2, hT2, hg2⟩ := whileE_rule (fun s : SO => decide (s.i < L.length)) (oldTailBody L cs inv)
    (TInv L R inv) (fun s => L.length - s.i)
    (fun s hT hg => oldTailBody_step hcs hL (Strict.sorted hR) hT hg) L.length s1 hT1 (Nat.sub_le _ _)
  have hi2 : s2.i = L.length := by
    have h1 := hT2.ile
    have : ¬ s2.i < L.length := by simpa using hg2
    omega
  have hout := hT2.out
  rw [hi2, rest_of_ge L R (Nat.le_refl _)] at hout
  refine ⟨decide (s2.unmapped > 0), ?_⟩
  simp only [streamedOld, nextRange_zero, hw1, hw2]
  simpa [encR] using hout

end Exetera.JoinOld
