import Exetera.Lemmas.Spans
import Exetera.Lemmas.SpansScan
import Exetera.Lemmas.SpansMerge
/-! The entry points (`Field.get_spans`, `Session.get_spans`) against one notion of row.  `Session.get_spans(fields=…)` over
    any number of fields (after fix NC08d): folding the merge of span arrays over the columns gives the span array of the
    joint column. -/
namespace Exetera.Spans

open Exetera Exetera.Spec

inductive Row where
  | num (x : Int)
  | str (s : List Nat)
  deriving DecidableEq, Repr

/-- the rows of a column as the property sees them (fixed strings and indexed strings are byte strings) -/
def Column.rows : Column → List Row
  | .numeric xs => xs.map .num
  | .fixed xs => xs.map .str
  | .indexed i v => (decodeRows i v).map .str

def Column.Valid : Column → Prop
  | .indexed i v => ValidIndex i v
  | _ => True

theorem isBoundary_map {α β} [BEq α] [LawfulBEq α] [BEq β] [LawfulBEq β] (f : α → β)
    (hf : ∀ a b, f a = f b → a = b) (xs : List α) (i : Nat) :
    isBoundary neq (xs.map f) i = isBoundary neq xs i := by
  cases i with
  | zero => simp [isBoundary_zero]
  | succ i =>
    rw [isBoundary_succ, isBoundary_succ, List.getElem?_map, List.getElem?_map]
    cases h1 : xs[i]? <;> cases h2 : xs[i + 1]? <;> simp [neq]
    rename_i a b
    by_cases hab : a = b
    · simp [hab]
    · have hfab : f a ≠ f b := fun h => hab (hf _ _ h)
      have e1 : (a == b) = false := by simpa using hab
      have e2 : (f a == f b) = false := by simpa using hfab
      simp [bne, e1, e2]

theorem spans_map {α β} [BEq α] [LawfulBEq α] [BEq β] [LawfulBEq β] (f : α → β)
    (hf : ∀ a b, f a = f b → a = b) (xs : List α) : spans neq (xs.map f) = spans neq xs :=
  spans_congr _ _ _ _ (by simp) (isBoundary_map f hf xs)

theorem columnSpans_eq_spec (c : Column) (hv : c.Valid) : columnSpans .repaired c = .ok (spans neq c.rows) := by
  cases c with
  | numeric xs =>
    simp only [columnSpans, Column.rows]
    rw [spans_map Row.num (fun a b h => by injection h), ← getSpansForField_eq_spec]; rfl
  | fixed xs =>
    simp only [columnSpans, Column.rows, fixedNe]
    rw [spans_map Row.str (fun a b h => by injection h), ← getSpansForField_eq_spec]; rfl
  | indexed i v =>
    simp only [columnSpans, Column.rows]
    rw [spans_map Row.str (fun a b h => by injection h)]
    exact getSpansForIndexStringField_eq_spec i v hv

theorem sessionGetSpansFields_eq_spec (c0 c1 : Column) (h0 : c0.Valid) (h1 : c1.Valid)
    (hl : c0.rows.length = c1.rows.length) :
    sessionGetSpansFields .repaired [c0, c1] = .ok (spans neq (c0.rows.zip c1.rows)) := by
  simp only [sessionGetSpansFields, foldColumnSpans, columnSpans_eq_spec c0 h0, columnSpans_eq_spec c1 h1,
    getSpansFor2FieldsBySpans_eq_spec c0.rows c1.rows hl]

theorem jointRows_pair (a b : List Int) (hl : a.length = b.length) :
    jointRows [a, b] a.length = (a.zip b).map (fun p => [some p.1, some p.2]) := by
  apply List.ext_getElem?
  intro i
  by_cases hi : i < a.length
  · have hb : i < b.length := hl ▸ hi
    have hz : i < (a.zip b).length := by rw [List.length_zip]; omega
    simp [getElem?_jointRows _ _ i hi, List.getElem?_eq_getElem hi, List.getElem?_eq_getElem hb, List.getElem?_eq_getElem hz]
  · rw [List.getElem?_eq_none (by rw [jointRows_length]; omega),
      List.getElem?_eq_none (by rw [List.length_map, List.length_zip]; omega)]

theorem isBoundary_jointRows2 (a b : List Int) (hl : a.length = b.length) (i : Nat) :
    isBoundary neq (jointRows [a, b] a.length) i = isBoundary neq (a.zip b) i := by
  rw [jointRows_pair a b hl]
  exact isBoundary_map _ (fun p q h => by simpa [Prod.ext_iff] using h) _ i

def jointCols (cols : List Column) (n : Nat) : List (List (Option Row)) :=
  (List.range n).map (fun i => cols.map (fun c => c.rows[i]?))

theorem jointCols_length (cols : List Column) (n : Nat) : (jointCols cols n).length = n := by
  simp [jointCols]

theorem getElem?_jointCols (cols : List Column) (n i : Nat) (h : i < n) :
    (jointCols cols n)[i]? = some (cols.map (fun c => c.rows[i]?)) := by
  unfold jointCols
  rw [List.getElem?_map, List.getElem?_range h]; rfl

theorem neq_map_rows (cols : List Column) (i j : Nat) (hi : ∀ c ∈ cols, i < c.rows.length) (hj : ∀ c ∈ cols, j < c.rows.length) :
    neq (cols.map (fun c => c.rows[i]?)) (cols.map (fun c => c.rows[j]?)) =
      cols.any (fun c => match c.rows[i]?, c.rows[j]? with
        | some a, some b => neq a b
        | _, _ => false) := by
  induction cols with
  | nil => simp [neq]
  | cons c cs ih =>
    have hci := hi c (by simp)
    have hcj := hj c (by simp)
    have ih' := ih (fun d hd => hi d (by simp [hd])) (fun d hd => hj d (by simp [hd]))
    simp only [List.map_cons, List.any_cons, List.getElem?_eq_getElem hci, List.getElem?_eq_getElem hcj]
    simp only [neq] at ih' ⊢
    by_cases hab : c.rows[i] = c.rows[j]
    · simp only [hab, bne_self_eq_false, Bool.false_or]
      rw [← ih']
      simp [bne, List.cons_beq_cons]
    · have e1 : (c.rows[i] == c.rows[j]) = false := by simpa using hab
      simp [bne, List.cons_beq_cons, e1]

theorem isBoundary_jointCols (cols : List Column) (n : Nat) (hl : ∀ c ∈ cols, c.rows.length = n) (i : Nat) :
    isBoundary neq (jointCols cols n) i = cols.any (fun c => isBoundary neq c.rows i) := by
  cases i with
  | zero => simp [isBoundary_zero]
  | succ j =>
    by_cases hj : j + 1 < n
    · rw [isBoundary_succ, getElem?_jointCols cols n j (by omega), getElem?_jointCols cols n (j + 1) hj]
      simp only []
      rw [neq_map_rows cols j (j + 1) (fun c hc => by have := hl c hc; omega) (fun c hc => by have := hl c hc; omega)]
      congr 1
      funext c
      rw [isBoundary_succ]
      cases c.rows[j]? <;> cases c.rows[j + 1]? <;> rfl
    · rw [isBoundary_false_of_ge _ _ _ (by rw [jointCols_length]; omega)]
      symm
      rw [List.any_eq_false]
      intro c hc
      rw [isBoundary_false_of_ge _ _ _ (by have := hl c hc; omega)]
      simp

def FoldInv (done : List Column) (n : Nat) (acc : List Nat) : Prop :=
  acc.Pairwise (· < ·) ∧ ∀ z, z ∈ acc ↔ z = 0 ∨ z = n ∨ done.any (fun c => isBoundary neq c.rows z) = true

theorem foldInv_spans (c : Column) : FoldInv [c] c.rows.length (spans neq c.rows) :=
  ⟨spans_pairwise _ _, fun z => by rw [mem_spans]; simp⟩

theorem foldInv_le {done : List Column} {n : Nat} {acc : List Nat} (h : FoldInv done n acc)
    (hl : ∀ c ∈ done, c.rows.length = n) : ∀ x ∈ acc, x ≤ n := by
  intro x hx
  rcases (h.2 x).1 hx with h0 | hn | hb
  · omega
  · omega
  · rw [List.any_eq_true] at hb
    obtain ⟨c, hc, hcb⟩ := hb
    have := isBoundary_lt hcb
    have := hl c hc
    omega

theorem foldColumnSpans_spec (n : Nat) : ∀ (rest done : List Column) (acc : List Nat),
    FoldInv done n acc → (∀ c ∈ done, c.rows.length = n) → (∀ c ∈ rest, c.Valid ∧ c.rows.length = n) →
    ∃ m, foldColumnSpans .repaired acc rest = .ok m ∧ FoldInv (done ++ rest) n m
  | [], done, acc, hinv, _, _ => ⟨acc, rfl, by simpa using hinv⟩
  | c :: cs, done, acc, hinv, hdone, hrest => by
    obtain ⟨hv, hcl⟩ := hrest c (by simp)
    have hn : n ∈ spans neq c.rows := by rw [mem_spans]; right; left; exact hcl.symm
    obtain ⟨m, hm, hp, hmem⟩ := mergeLoop_spec acc (spans neq c.rows) hinv.1 (spans_pairwise _ _)
      (Or.inr (fun x hx => ⟨n, hn, foldInv_le hinv hdone x hx⟩))
    have hinv' : FoldInv (done ++ [c]) n m := by
      refine ⟨hp, fun z => ?_⟩
      rw [hmem, hinv.2, mem_spans, hcl, List.any_append]
      simp only [List.any_cons, List.any_nil, Bool.or_false, Bool.or_eq_true]
      exact or_or_or_merge
    obtain ⟨r, hr, hfin⟩ := foldColumnSpans_spec n cs (done ++ [c]) m hinv'
      (fun d hd => by
        rcases List.mem_append.1 hd with h | h
        · exact hdone d h
        · simp at h; subst h; exact hcl)
      (fun d hd => hrest d (by simp [hd]))
    refine ⟨r, ?_, by simpa using hfin⟩
    have hmerge : getSpansFor2FieldsBySpans acc (spans neq c.rows) = .ok m := hm
    simp only [foldColumnSpans, columnSpans_eq_spec c hv, hmerge]
    exact hr

theorem sessionGetSpansFields_all (c0 : Column) (cs : List Column) (hv : ∀ c ∈ c0 :: cs, c.Valid)
    (hl : ∀ c ∈ cs, c.rows.length = c0.rows.length) :
    sessionGetSpansFields .repaired (c0 :: cs) = .ok (spans neq (jointCols (c0 :: cs) c0.rows.length)) := by
  obtain ⟨m, hm, hinv⟩ := foldColumnSpans_spec c0.rows.length cs [c0] (spans neq c0.rows) (foldInv_spans c0)
    (fun c hc => by simp at hc; subst hc; rfl) (fun c hc => ⟨hv c (by simp [hc]), hl c hc⟩)
  simp only [sessionGetSpansFields, columnSpans_eq_spec c0 (hv c0 (by simp)), hm]
  congr 1
  apply pairwise_lt_ext hinv.1 (spans_pairwise _ _)
  intro z
  have hall : ∀ c ∈ c0 :: cs, c.rows.length = c0.rows.length := by
    intro c hc
    rcases List.mem_cons.1 hc with h | h
    · subst h; rfl
    · exact hl c h
  rw [hinv.2, mem_spans, jointCols_length, isBoundary_jointCols _ _ hall]
  simp

theorem foldArraySpans_eq : ∀ (as : List (List Int)) (acc : List Nat),
    foldArraySpans acc as = foldColumnSpans .repaired acc (as.map .numeric)
  | [], _ => rfl
  | a :: as, acc => by
    simp only [foldArraySpans, List.map_cons, foldColumnSpans, columnSpans]
    cases getSpansFor2FieldsBySpans acc (getSpansForField (fun x y => x != y) a) with
    | error e => rfl
    | ok m => exact foldArraySpans_eq as m

theorem numeric_rows_length (a : List Int) : (Column.numeric a).rows.length = a.length := by simp [Column.rows]

/-- two arrays go through the two-array kernel (`getSpansFor2Fields`), any other number through the fold -/
theorem sessionGetSpansArrays_all (a0 : List Int) (as : List (List Int)) (hl : ∀ a ∈ as, a.length = a0.length) :
    sessionGetSpansArrays .repaired (a0 :: as) =
      .ok (spans neq (jointCols ((a0 :: as).map .numeric) a0.length)) := by
  have hfold : ∀ as : List (List Int), (∀ a ∈ as, a.length = a0.length) →
      foldArraySpans (getSpansForField (fun x y => x != y) a0) as =
        .ok (spans neq (jointCols ((a0 :: as).map .numeric) a0.length)) := by
    intro as hl
    have h := sessionGetSpansFields_all (.numeric a0) (as.map .numeric)
      (fun c hc => by
        rcases List.mem_cons.1 hc with h | h
        · subst h; trivial
        · obtain ⟨a, _, rfl⟩ := List.mem_map.1 h; trivial)
      (fun c hc => by
        obtain ⟨a, ha, rfl⟩ := List.mem_map.1 hc
        rw [numeric_rows_length, numeric_rows_length]; exact hl a ha)
    rw [numeric_rows_length] at h
    simp only [sessionGetSpansFields, columnSpans] at h
    rw [foldArraySpans_eq]; exact h
  match as, hl with
  | [], hl => simpa [sessionGetSpansArrays] using hfold [] hl
  | [a1], hl =>
    have h1 : a0.length = a1.length := (hl a1 (by simp)).symm
    simp only [sessionGetSpansArrays]
    rw [getSpansFor2Fields_eq_spec a0 a1 h1]
    congr 1
    apply spans_congr
    · simp [jointCols_length, List.length_zip, h1]
    · intro i
      rw [isBoundary_zip a0 a1 h1, isBoundary_jointCols _ _ (by
        intro c hc
        simp only [List.map_cons, List.map_nil, List.mem_cons, List.not_mem_nil, or_false] at hc
        rcases hc with rfl | rfl
        · exact numeric_rows_length a0
        · rw [numeric_rows_length]; exact h1.symm)]
      simp only [List.map_cons, List.map_nil, List.any_cons, List.any_nil, Bool.or_false, Column.rows]
      rw [isBoundary_map Row.num (fun a b h => by injection h), isBoundary_map Row.num (fun a b h => by injection h)]
  | a1 :: a2 :: as', hl =>
    simpa [sessionGetSpansArrays] using hfold (a1 :: a2 :: as') hl

end Exetera.Spans
