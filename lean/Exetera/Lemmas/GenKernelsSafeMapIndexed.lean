import Exetera.Gen.Kernels
import Exetera.Model.MapValid
import Exetera.Lemmas.MapValidIndexed
import Exetera.Lemmas.GenKernels
import Exetera.Lemmas.GenKernelsMapValid
/-!
  The TRANSLATED `safe_map_indexed_values` (two passes; an optional ARRAY parameter `empty_value` tested with `is None` in a
  conditional expression and with `is not None` inside the loop; slices of `data_values` assigned to slices of `v_result`) against
  `MapValid.safeMapIndexedValues` — transfer form: every `.ok` run of the model is a run of the translated kernel with the same
  pair (offsets, bytes), provided that where the filter is set the row number is not negative (the model wraps a negative
  subscript, the translation rejects it) and the row's two offsets lie in order inside `data_values` (the model appends the
  slice whatever its length, the code assigns it to a slice of exactly `delta` slots — numpy's size check).
-/
namespace Exetera.GenK

open Exetera Exetera.PyRt Exetera.Gen.Kernels
open Exetera.MapValid (forE getI smivLenStep smivStep SI safeMapIndexedValues)

namespace SMI

open safe_map_indexed_values

abbrev St := safe_map_indexed_values.St

theorem pySlice_eq {α} (xs : List α) (a b : Int) : MapValid.pySlice xs a b = PyRt.pySlice xs (some a) (some b) := by
  have hn : ∀ (i : Int) (d : Nat), MapValid.normIdx xs.length i = normBound xs.length (some i) d := by
    intro i d
    simp only [MapValid.normIdx, normBound]
    by_cases h : 0 ≤ i
    · have : ¬ i < 0 := by omega
      simp only [h, this, if_true, if_false]
    · have : i < 0 := by omega
      simp only [h, this, if_true, if_false]
      omega
  simp only [MapValid.pySlice, PyRt.pySlice, hn a 0, hn b xs.length]

theorem setSlice_empty (dest : List Int) (L : Int) : setSliceE dest (some L) (some (L + 0)) [] = .ok dest := by
  have e : normBound dest.length (some L) dest.length = normBound dest.length (some L) 0 := rfl
  simp only [Int.add_zero, setSliceE, e, Nat.max_self, Nat.sub_self, broadcastTo, List.length_nil, if_true, List.append_nil,
    List.take_append_drop]

theorem setSlice_empty' (dest : List Int) (L : Int) :
    setSliceE dest (some L) (some (L + ((0 : Nat) : Int))) [] = .ok dest := setSlice_empty dest L

theorem slice_fill (w rhs : List Int) (capV : Nat) (d : Int) (hd : d = rhs.length) (hcap : w.length + rhs.length ≤ capV) :
    setSliceE (w ++ List.replicate (capV - w.length) 0) (some (w.length : Int)) (some ((w.length : Int) + d)) rhs
      = .ok ((w ++ rhs) ++ List.replicate (capV - (w ++ rhs).length) 0) := by
  subst hd
  have hlen : (w ++ List.replicate (capV - w.length) (0 : Int)).length = capV := by simp; omega
  have h1 : ¬ ((w.length : Int) < 0) := by omega
  have h2 : ¬ ((w.length : Int) + (rhs.length : Int) < 0) := by omega
  have e2 : ((w.length : Int) + (rhs.length : Int)).toNat = w.length + rhs.length := by omega
  simp only [setSliceE, normBound, hlen, h1, h2, if_false, Int.toNat_natCast, e2]
  have m1 : min w.length capV = w.length := by omega
  have m2 : min (w.length + rhs.length) capV = w.length + rhs.length := by omega
  have m3 : max w.length (w.length + rhs.length) = w.length + rhs.length := by omega
  simp only [m1, m2, m3, Nat.add_sub_cancel_left, broadcastTo, if_true]
  have t1 : (w ++ List.replicate (capV - w.length) (0 : Int)).take w.length = w := by simp
  have t2 : (w ++ List.replicate (capV - w.length) (0 : Int)).drop (w.length + rhs.length)
      = List.replicate (capV - (w ++ rhs).length) 0 := by
    rw [← List.drop_drop, List.drop_left, List.drop_replicate]
    congr 1
    simp only [List.length_append]
    omega
  rw [t1, t2]

theorem idx_fill (b : List Int) (cap k : Nat) (v : Int) (hk : k = b.length) (h : k < cap) (site : String) :
    setIdxE (b ++ List.replicate (cap - b.length) 0) (k : Int) v site
      = .ok ((b ++ [v]) ++ List.replicate (cap - (b ++ [v]).length) 0) := by
  subst hk
  have e : cap - b.length = (cap - (b.length + 1)) + 1 := by omega
  rw [setIdxE_nat, setE, if_pos (by simp; omega)]
  rw [e, List.replicate_succ]
  simp

theorem len_step (indices m : List Int) (filt : List Bool) (el : Nat) (i : Nat) (len len' : Int) (s : St)
    (h0 : s.p0 = indices) (h2 : s.p2 = m) (h3 : s.p3 = filt) (hv0 : s.v0 = (el : Int)) (hv1 : s.v1 = len)
    (hpos : ∀ k, filt[i]? = some true → m[i]? = some k → 0 ≤ k)
    (h : smivLenStep indices m filt el i len = .ok len') :
    body_L1 { s with v2 := (i : Int) } = .ok { s with v2 := (i : Int), v1 := len' } := by
  subst h0 h2 h3 hv1
  unfold smivLenStep at h
  cases hf : s.p3[i]? with
  | none => simp [hf] at h
  | some f =>
    simp only [hf] at h
    simp only [body_L1, idxE_nat, getE_of_some _ hf, bindE_ok]
    cases f with
    | true =>
      simp only [if_true] at h ⊢
      cases hm : s.p2[i]? with
      | none => simp [hm] at h
      | some k =>
        simp only [hm] at h
        have hk := hpos k hf hm
        simp only [getE_of_some _ hm, bindE_ok]
        cases hb : getI s.p0 (k + 1) "data_indices[map_field[i]+1]" with
        | error er => simp [hb] at h
        | ok b =>
          cases ha : getI s.p0 k "data_indices[map_field[i]]" with
          | error er => simp [hb, ha] at h
          | ok a =>
            simp only [hb, ha, Except.ok.injEq] at h
            subst h
            rw [getI_nonneg s.p0 (k + 1) _ "p0[p2[v2] + 1]" b (by omega) hb, getI_nonneg s.p0 k _ "p0[p2[v2]]" a hk ha]
            simp only [bindE_ok]
    | false =>
      simp only [Bool.false_eq_true, if_false, Except.ok.injEq] at h ⊢
      subst h
      rw [hv0]

theorem len_loop (indices m : List Int) (filt : List Bool) (el : Nat)
    (hpos : ∀ (i : Nat) (k : Int), filt[i]? = some true → m[i]? = some k → 0 ≤ k) (n i : Nat) (len len' : Int) (s : St)
    (h0 : s.p0 = indices) (h2 : s.p2 = m) (h3 : s.p3 = filt) (hv0 : s.v0 = (el : Int)) (hv1 : s.v1 = len)
    (h : forE (smivLenStep indices m filt el) i n len = .ok len') :
    ∃ k', forRangeAux (fun _ => false) (fun k s => body_L1 { s with v2 := k }) n (i : Int) s
      = .ok { s with v2 := k', v1 := len' } := by
  obtain ⟨s', hrun, k', rfl⟩ := forRangeAux_forE (body := fun k s => body_L1 { s with v2 := k })
    (fun _ (t : St) (len : Int) => ∃ k, t = { s with v2 := k, v1 := len })
    (fun i t len len1 ⟨k, ht⟩ hs => ht ▸
      ⟨{ s with v2 := (i : Int), v1 := len1 }, len_step indices m filt el i len len1 _ h0 h2 h3 hv0 rfl (hpos i) hs, _, rfl⟩)
    n i s len len' ⟨s.v2, by rw [← hv1]⟩ h
  exact ⟨k', hrun⟩

theorem pySlice_length {α} (xs : List α) {a b : Int} (ha0 : 0 ≤ a) (hab : a ≤ b) (hbl : b ≤ xs.length) :
    ((MapValid.pySlice xs a b).length : Int) = b - a := by
  rw [MapValid.pySlice_nonneg xs a b ha0 (Int.le_trans ha0 hab) hbl hab, slice_length]
  omega


/-- `i_result` / `v_result` are the model's lists followed by the untouched zeros; `offset` is the number of bytes written -/
structure RW (indices values m : List Int) (filt : List Bool) (e : Option (List Int)) (capI : Nat) (capV : Int) (i : Nat)
    (s : St) (t : SI Int) : Prop where
  h0 : s.p0 = indices
  h1 : s.p1 = values
  h2 : s.p2 = m
  h3 : s.p3 = filt
  h4 : s.p4 = e.getD []
  h4s : s.p4_some = e.isSome
  hv0 : s.v0 = ((e.getD []).length : Int)
  hv3 : s.v3 = t.iRes ++ List.replicate (capI - t.iRes.length) 0
  hil : t.iRes.length = i + 1
  hv4 : s.v4 = t.vRes ++ List.replicate (capV.toNat - t.vRes.length) 0
  hv5 : s.v5 = t.offset
  hoff : t.offset = (t.vRes.length : Int)

theorem write_step (indices values m : List Int) (filt : List Bool) (e : Option (List Int)) (capI : Nat) (capV : Int) (i : Nat) (s : St)
    (t t' : SI Int) (hR : RW indices values m filt e capI capV i s t)
    (hpos : ∀ k, filt[i]? = some true → m[i]? = some k → 0 ≤ k)
    (hwf : ∀ k a b, filt[i]? = some true → m[i]? = some k → indices[k.toNat]? = some a → indices[k.toNat + 1]? = some b →
      0 ≤ a ∧ a ≤ b ∧ b ≤ values.length)
    (h : smivStep indices values m filt (e.getD []) capI capV i t = .ok t') :
    ∃ s', body_L2 { s with v2 := (i : Int) } = .ok s' ∧ RW indices values m filt e capI capV (i + 1) s' t' := by
  obtain ⟨q0, q1, q2, q3, q4, f4, w0, w1, w2, w3, w4, w5, w6, w7, w8, w9, w10⟩ := s
  obtain ⟨off, iR, vR⟩ := t
  obtain ⟨h0, h1, h2, h3, h4, h4s, hv0, hv3, hil, hv4, hv5, hoff⟩ := hR
  simp only at h0 h1 h2 h3 h4 h4s hv0 hv3 hil hv4 hv5 hoff
  subst h0 h1 h2 h3 h4 h4s hv0 hv3 hv4 hv5 hoff
  unfold smivStep at h
  have e1 : (i : Int) + 1 = ((i + 1 : Nat) : Int) := by omega
  cases hf : q3[i]? with
  | none => simp [hf] at h
  | some f =>
    simp only [hf] at h
    have hgf : ∀ site, getE q3 i site = .ok f := fun site => by simp [getE, hf]
    simp only [body_L2, idxE_nat, hgf, bindE_ok]
    cases f with
    | true =>
      simp only [if_true] at h ⊢
      cases hm : q2[i]? with
      | none => simp [hm] at h
      | some k =>
        simp only [hm] at h
        have hk := hpos k hf hm
        have hgm : ∀ site, getE q2 i site = .ok k := fun site => by simp [getE, hm]
        simp only [hgm, bindE_ok]
        cases ha : getI q0 k "data_indices[map_field[i]]" with
        | error er => simp [ha] at h
        | ok a =>
          cases hb : getI q0 (k + 1) "data_indices[map_field[i]+1]" with
          | error er => simp [hb, ha] at h
          | ok b =>
            simp only [hb, ha] at h
            have ga : q0[k.toNat]? = some a := by
              have := ha; unfold getI at this; rw [if_pos hk] at this; exact getE_eq_ok.mp this
            have gb : q0[k.toNat + 1]? = some b := by
              have := hb; unfold getI at this; rw [if_pos (by omega)] at this
              have e : (k + 1).toNat = k.toNat + 1 := by omega
              rw [e] at this; exact getE_eq_ok.mp this
            obtain ⟨ha0, hab, hbl⟩ := hwf k a b hf hm ga gb
            by_cases hcI : capI ≤ i + 1
            · simp [hcI] at h
            · simp only [hcI, if_false] at h
              by_cases hcV : capV < (vR.length : Int) + (b - a)
              · simp [hcV] at h
              · simp only [hcV, if_false, Except.ok.injEq] at h
                subst h
                rw [getI_nonneg q0 k _ "p0[p2[v2]]" a hk ha, getI_nonneg q0 (k + 1) _ "p0[p2[v2] + 1]" b (by omega) hb]
                have hd : b - a = ((MapValid.pySlice q1 a b).length : Int) := (pySlice_length q1 ha0 hab hbl).symm
                simp only [bindE_ok, e1, idx_fill iR capI (i + 1) _ hil.symm (by omega), ← pySlice_eq,
                  slice_fill vR (MapValid.pySlice q1 a b) capV.toNat (b - a) hd (by omega)]
                refine ⟨_, rfl, ?_⟩
                exact ⟨rfl, rfl, rfl, rfl, rfl, rfl, rfl, rfl, by simp [hil], rfl, rfl, by simp; exact hd⟩
    | false =>
      simp only [Bool.false_eq_true, if_false] at h ⊢
      by_cases hcI : capI ≤ i + 1
      · simp [hcI] at h
      · simp only [hcI, if_false] at h
        cases e with
        | none =>
          simp only [Option.getD_none, List.isEmpty_nil, Bool.not_true, Bool.false_and, Bool.false_eq_true, if_false,
            List.length_nil, Except.ok.injEq] at h
          subst h
          simp only [Option.isSome_none, Option.getD_none, List.length_nil, Bool.false_eq_true, if_false, bindE_ok, e1,
            idx_fill iR capI (i + 1) _ hil.symm (by omega)]
          refine ⟨_, rfl, ?_⟩
          exact ⟨rfl, rfl, rfl, rfl, rfl, rfl, rfl, rfl, by simp [hil], by simp, by simp, by simp⟩
        | some ev =>
          simp only [Option.getD_some] at h ⊢
          by_cases hev : ev = []
          · subst hev
            simp only [List.isEmpty_nil, Bool.not_true, Bool.false_and, Bool.false_eq_true, if_false, List.length_nil,
              Except.ok.injEq] at h
            subst h
            simp only [Option.isSome_some, List.length_nil, if_true, readOptE, bindE_ok, e1,
              idx_fill iR capI (i + 1) _ hil.symm (by omega), setSlice_empty']
            refine ⟨_, rfl, ?_⟩
            exact ⟨rfl, rfl, rfl, rfl, rfl, rfl, rfl, rfl, by simp [hil], by simp, by simp, by simp⟩
          · have hne : ev.isEmpty = false := by
              cases ev with
              | nil => exact absurd rfl hev
              | cons _ _ => rfl
            simp only [hne, Bool.not_false, Bool.true_and, decide_eq_true_eq] at h
            by_cases hcV : capV < (vR.length : Int) + (ev.length : Int)
            · simp [hcV] at h
            · simp only [hcV, if_false, Except.ok.injEq] at h
              subst h
              simp only [Option.isSome_some, if_true, readOptE, bindE_ok, e1,
                idx_fill iR capI (i + 1) _ hil.symm (by omega), slice_fill vR ev capV.toNat (ev.length : Int) rfl (by omega)]
              refine ⟨_, rfl, ?_⟩
              exact ⟨rfl, rfl, rfl, rfl, rfl, rfl, rfl, rfl, by simp [hil], by simp, by simp; omega, by simp⟩

theorem write_loop (indices values m : List Int) (filt : List Bool) (e : Option (List Int)) (capI : Nat) (capV : Int)
    (hpos : ∀ (i : Nat) (k : Int), filt[i]? = some true → m[i]? = some k → 0 ≤ k)
    (hwf : ∀ (i : Nat) (k a b : Int), filt[i]? = some true → m[i]? = some k → indices[k.toNat]? = some a →
      indices[k.toNat + 1]? = some b → 0 ≤ a ∧ a ≤ b ∧ b ≤ values.length)
    (n i : Nat) (s : St) (t t' : SI Int) (hR : RW indices values m filt e capI capV i s t)
    (h : forE (smivStep indices values m filt (e.getD []) capI (capV : Int)) i n t = .ok t') :
    ∃ s', forRangeAux (fun _ => false) (fun k s => body_L2 { s with v2 := k }) n (i : Int) s = .ok s' ∧
      RW indices values m filt e capI capV (i + n) s' t' :=
  forRangeAux_forE (body := fun k s => body_L2 { s with v2 := k }) (RW indices values m filt e capI capV)
    (fun i s t t1 hR hs => write_step indices values m filt e capI capV i s t t1 hR (hpos i) (hwf i) hs) n i s t t' hR h

/-- the two passes of the MODEL add up the same lengths: the fill position after the second pass is the first pass's
    `value_length` -/
theorem offset_step (indices values m : List Int) (filt : List Bool) (empty : List Int) (capI : Nat) (capV : Int) (i : Nat)
    (len len1 : Int) (t t1 : SI Int) (h1 : smivLenStep indices m filt empty.length i len = .ok len1)
    (h2 : smivStep indices values m filt empty capI capV i t = .ok t1) : len1 - len = t1.offset - t.offset := by
  unfold smivLenStep at h1
  unfold smivStep at h2
  cases hf : filt[i]? with
  | none => simp [hf] at h1
  | some f =>
    simp only [hf] at h1 h2
    cases f with
    | true =>
      simp only at h1 h2
      cases hm : m[i]? with
      | none => simp [hm] at h1
      | some k =>
        simp only [hm] at h1 h2
        cases hb : getI indices (k + 1) "data_indices[map_field[i]+1]" with
        | error er => simp [hb] at h1
        | ok b =>
          cases ha : getI indices k "data_indices[map_field[i]]" with
          | error er => simp [hb, ha] at h1
          | ok a =>
            simp only [hb, ha, Except.ok.injEq] at h1 h2
            split at h2
            · simp at h2
            · split at h2
              · simp at h2
              · simp only [Except.ok.injEq] at h2
                subst h1 h2
                simp only
                omega
    | false =>
      simp only [Except.ok.injEq] at h1 h2
      split at h2
      · simp at h2
      · split at h2
        · simp at h2
        · simp only [Except.ok.injEq] at h2
          subst h1 h2
          simp only
          omega

theorem offset_eq (indices values m : List Int) (filt : List Bool) (empty : List Int) (capI : Nat) (capV : Int) :
    ∀ (n i : Nat) (len len' : Int) (t t' : SI Int), forE (smivLenStep indices m filt empty.length) i n len = .ok len' →
      forE (smivStep indices values m filt empty capI capV) i n t = .ok t' → len' - len = t'.offset - t.offset := by
  intro n
  induction n with
  | zero =>
    intro i len len' t t' h1 h2
    simp only [forE, Except.ok.injEq] at h1 h2
    subst h1 h2
    omega
  | succ n ih =>
    intro i len len' t t' h1 h2
    simp only [forE] at h1 h2
    cases hs1 : smivLenStep indices m filt empty.length i len with
    | error er => simp [hs1] at h1
    | ok len1 =>
      cases hs2 : smivStep indices values m filt empty capI capV i t with
      | error er => simp [hs2] at h2
      | ok t1 =>
        simp only [hs1] at h1
        simp only [hs2] at h2
        have := offset_step indices values m filt empty capI capV i len len1 t t1 hs1 hs2
        have := ih (i + 1) len1 len' t1 t' h1 h2
        omega

end SMI

open SMI in
theorem safe_map_indexed_values_ok (indices values m : List Int) (filt : List Bool) (e : Option (List Int))
    (r : List Int × List Int)
    (hpos : ∀ (i : Nat) (k : Int), filt[i]? = some true → m[i]? = some k → 0 ≤ k)
    (hwf : ∀ (i : Nat) (k a b : Int), filt[i]? = some true → m[i]? = some k → indices[k.toNat]? = some a →
      indices[k.toNat + 1]? = some b → 0 ≤ a ∧ a ≤ b ∧ b ≤ values.length)
    (h : safeMapIndexedValues indices values m filt (e.getD []) = .ok r) :
    safe_map_indexed_values.run indices values m filt e = .ok r := by
  unfold safeMapIndexedValues at h
  cases h1 : forE (smivLenStep indices m filt (e.getD []).length) 0 m.length 0 with
  | error er => simp [h1] at h
  | ok VL =>
    simp only [h1] at h
    cases h2 : forE (smivStep indices values m filt (e.getD []) (m.length + 1) VL) 0 m.length ⟨0, [0], []⟩ with
    | error er => simp [h2] at h
    | ok w =>
      simp only [h2, Except.ok.injEq] at h
      subst h
      have hoffs := offset_eq indices values m filt (e.getD []) (m.length + 1) VL m.length 0 0 VL ⟨0, [0], []⟩ w h1 h2
      simp only [Int.sub_zero] at hoffs
      obtain ⟨k1, hl1⟩ := len_loop indices m filt (e.getD []).length hpos m.length 0 0 VL
        ⟨indices, values, m, filt, e.getD [], e.isSome, ((e.getD []).length : Int), 0, 0, [], [], 0, 0, 0, 0, 0, 0⟩
        rfl rfl rfl rfl rfl h1
      obtain ⟨s2, hl2, hR2⟩ := write_loop indices values m filt e (m.length + 1) VL hpos hwf m.length 0
        ⟨indices, values, m, filt, e.getD [], e.isSome, ((e.getD []).length : Int), VL, k1, List.replicate (m.length + 1) 0,
          List.replicate VL.toNat 0, 0, 0, 0, 0, 0, 0⟩ ⟨0, [0], []⟩ w
        ⟨rfl, rfl, rfl, rfl, rfl, rfl, rfl, by simp [List.replicate_succ], rfl, by simp, rfl, rfl⟩ h2
      have hVL : VL = (w.vRes.length : Int) := by rw [hoffs, hR2.hoff]
      have hnn : ¬ VL < 0 := by omega
      have hz : npZeros VL = .ok (List.replicate VL.toNat 0) := by simp only [npZeros, hnn, if_false]
      have hlen0 : (if (!e.isSome) = true then (.ok 0 : Except Err Int)
          else bindE (readOptE e.isSome (e.getD []) "p4") fun t1 => .ok ((t1.length : Nat) : Int))
          = .ok ((e.getD []).length : Int) := by
        cases e <;> simp [readOptE]
      have hset : setIdxE (List.replicate (m.length + 1) (0 : Int)) 0 0 "v3[0]" = .ok (List.replicate (m.length + 1) 0) := by
        simp [setIdxE, setE, List.replicate_succ]
      rw [show ((0 : Nat) : Int) = 0 from rfl] at hl1 hl2
      simp only at hl1
      have em : (m.length : Int) + 1 = ((m.length + 1 : Nat) : Int) := by omega
      unfold safe_map_indexed_values.run
      simp only [pyLen, hlen0, bindE_ok, forRangeE, Int.sub_zero, Int.toNat_natCast, hl1, em, npZeros_nat, hz, hset, hl2]
      have h3 := hR2.hv3
      have h4 := hR2.hv4
      have hil := hR2.hil
      rw [h3, h4, hil, hVL]
      simp

end Exetera.GenK
