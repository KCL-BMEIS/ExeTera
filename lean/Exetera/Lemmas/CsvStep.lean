import Exetera.Model.Csv
import Exetera.Spec.Csv
import Exetera.Lemmas.While
/-! The kernel loop of `fast_csv_reader`, one iteration at a time (C05): what an iteration does for each class of byte
    (`lexByte`), and that every iteration advances `index`, so `len(source)` iterations always suffice. -/
namespace Exetera.Csv
open Exetera

theorem getElem?_append_len {α} (A R : List α) (k : Nat) : (A ++ R)[A.length + k]? = R[k]? := by
  rw [List.getElem?_append_right (by omega)]
  congr 1; omega

theorem getElem?_append_len0 {α} (A R : List α) : (A ++ R)[A.length]? = R[0]? := by
  simpa using getElem?_append_len A R 0

theorem drop_append_len {α} (A R : List α) (k : Nat) : (A ++ R).drop (A.length + k) = R.drop k := by
  rw [List.drop_append]
  simp [List.drop_eq_nil_of_le]

theorem leadWs_split (B : Bytes) :
    B = B.takeWhile (fun b => b == WS) ++ B.dropWhile (fun b => b == WS) :=
  (List.takeWhile_append_dropWhile).symm

theorem leadWs_nil : leadWs [] = 0 := rfl

theorem leadWs_cons_ne {b : Nat} {B : Bytes} (h : b ≠ WS) : leadWs (b :: B) = 0 := by
  have hb : (b == WS) = false := by simpa using h
  simp [leadWs, hb]

theorem leadWs_cons_ws (B : Bytes) : leadWs (WS :: B) = leadWs B + 1 := by
  simp [leadWs]

theorem leadWs_le (B : Bytes) : leadWs B ≤ B.length := by
  unfold leadWs
  exact (List.takeWhile_prefix _).length_le

theorem skipAfter_at (A X : Bytes) (t : Nat) (B : Bytes) :
    skipAfter (A ++ (X ++ t :: B)) (A.length + X.length) = A.length + X.length + leadWs B := by
  unfold skipAfter
  have : (A ++ (X ++ t :: B)).drop (A.length + X.length + 1) = B := by
    rw [← List.append_assoc]
    have h := drop_append_len (A ++ X) (t :: B) 1
    simp only [List.length_append] at h
    rw [h]; rfl
  rw [this]

theorem skipFrom_at (A B : Bytes) : skipFrom (A ++ B) A.length = A.length + leadWs B := by
  unfold skipFrom
  have := drop_append_len A B 0
  simp only [Nat.add_zero, List.drop_zero] at this
  rw [this]

instance (c : Spec.Cell) : Decidable c.WF := by unfold Spec.Cell.WF; infer_instance

inductive StepsN {σ} (g : σ → Bool) (f : σ → Except Err σ) : Nat → σ → σ → Prop
  | refl (s : σ) : StepsN g f 0 s s
  | cons {n : Nat} {s s1 s2 : σ} : g s = true → f s = .ok s1 → StepsN g f n s1 s2 → StepsN g f (n + 1) s s2

theorem StepsN.one {σ} {g : σ → Bool} {f : σ → Except Err σ} {s s1 : σ} (hg : g s = true) (hf : f s = .ok s1) :
    StepsN g f 1 s s1 := .cons hg hf (.refl _)

theorem StepsN.trans {σ} {g : σ → Bool} {f : σ → Except Err σ} {n m : Nat} {s s1 s2 : σ}
    (h1 : StepsN g f n s s1) (h2 : StepsN g f m s1 s2) : StepsN g f (n + m) s s2 := by
  induction h1 with
  | refl s => simpa using h2
  | @cons k _ _ _ hg hf _ ih =>
    have := StepsN.cons hg hf (ih h2)
    rw [Nat.add_right_comm k 1 m]
    exact this

theorem whileE_of_stepsN {σ} {g : σ → Bool} {f : σ → Except Err σ} {n : Nat} {s s' : σ}
    (h : StepsN g f n s s') (hg : g s' = false) : ∀ fuel, n ≤ fuel → whileE g f fuel s = .ok s' := by
  induction h with
  | refl s =>
    intro fuel _
    cases fuel <;> simp [whileE, hg]
  | cons hgs hf _ ih =>
    intro fuel hfuel
    cases fuel with
    | zero => omega
    | succ k =>
      simp only [whileE, hgs, if_true, hf]
      exact ih hg k (by omega)

/-- total correctness of a loop whose invariant carries its own variant: `Inv s m` with `m` decreasing in every iteration -/
theorem whileE_measured {σ} (guard : σ → Bool) (body : σ → Except Err σ) (Inv : σ → Nat → Prop)
    (step : ∀ s m, Inv s m → guard s = true → ∃ s' m', body s = .ok s' ∧ Inv s' m' ∧ m' < m) :
    ∀ (n : Nat) (s : σ) (m : Nat), Inv s m → m ≤ n →
      ∃ s' m', whileE guard body n s = .ok s' ∧ Inv s' m' ∧ guard s' = false := by
  intro n
  induction n with
  | zero =>
    intro s m hI hm
    cases hg : guard s with
    | false => exact ⟨s, m, by simp [whileE, hg], hI, hg⟩
    | true =>
      obtain ⟨_, _, _, _, hlt⟩ := step s m hI hg
      omega
  | succ n ih =>
    intro s m hI hm
    cases hg : guard s with
    | false => exact ⟨s, m, by simp [whileE, hg], hI, hg⟩
    | true =>
      obtain ⟨s', m', hb, hI', hlt⟩ := step s m hI hg
      obtain ⟨s'', m'', hw, hI'', hg''⟩ := ih s' m' hI' (by omega)
      exact ⟨s'', m'', by simp [whileE, hg, hb, hw], hI'', hg''⟩

/-- the loop guard of the kernel: `while True … return` = `while not done` -/
abbrev kguard : KS → Bool := fun s => !s.done

/-- the kernel variables a byte inside a cell never touches -/
def KS.ctx (s : KS) := (s.nextPos, s.col, s.hdr, s.row, s.vfc, s.cstart, s.ics, s.indsFull, s.valsFull, s.colOff, s.colCnt, s.inds)

theorem QUOTE_ne_SEP : QUOTE ≠ SEP := by decide
theorem QUOTE_ne_NL : QUOTE ≠ NL := by decide
theorem QUOTE_ne_WS : QUOTE ≠ WS := by decide
theorem SEP_ne_NL : SEP ≠ NL := by decide
theorem SEP_ne_WS : SEP ≠ WS := by decide
theorem NL_ne_WS : NL ≠ WS := by decide

theorem lex_plain {nx : Option Nat} {at_ e cd : Bool} {c : Nat} (h1 : c ≠ SEP) (h2 : c ≠ NL) (h3 : c ≠ QUOTE) :
    lexByte nx at_ e cd c = .ok ⟨.write, e, cd⟩ := by
  simp [lexByte, h1, h2, h3]

theorem lex_sep (nx : Option Nat) (at_ cd : Bool) : lexByte nx at_ false cd SEP = .ok ⟨.endCell, false, cd⟩ := by
  simp [lexByte]

theorem lex_nl (nx : Option Nat) (at_ cd : Bool) : lexByte nx at_ false cd NL = .ok ⟨.endLine, false, cd⟩ := by
  simp [lexByte, SEP_ne_NL.symm]

theorem lex_esc_nonquote {nx : Option Nat} {at_ cd : Bool} {c : Nat} (h3 : c ≠ QUOTE) :
    lexByte nx at_ true cd c = .ok ⟨.write, true, cd⟩ := by
  unfold lexByte
  by_cases h1 : c = SEP
  · simp [h1]
  · by_cases h2 : c = NL
    · simp [h2]
    · simp [h1, h2, h3]

theorem lex_write {nx : Option Nat} {at_ e cd : Bool} {c : Nat} (h3 : c ≠ QUOTE) (h : e = true ∨ (c ≠ SEP ∧ c ≠ NL)) :
    lexByte nx at_ e cd c = .ok ⟨.write, e, cd⟩ := by
  rcases h with rfl | ⟨h1, h2⟩
  · exact lex_esc_nonquote h3
  · exact lex_plain h1 h2 h3

theorem lex_open (nx : Option Nat) (cd : Bool) : lexByte nx true false cd QUOTE = .ok ⟨.skip, true, cd⟩ := by
  simp [lexByte, QUOTE_ne_SEP, QUOTE_ne_NL]

theorem lex_pair1 (at_ : Bool) : lexByte (some QUOTE) at_ true false QUOTE = .ok ⟨.skip, true, true⟩ := by
  simp [lexByte, QUOTE_ne_SEP, QUOTE_ne_NL]

theorem lex_pair2 (nx : Option Nat) (at_ : Bool) : lexByte nx at_ true true QUOTE = .ok ⟨.write, true, false⟩ := by
  simp [lexByte, QUOTE_ne_SEP, QUOTE_ne_NL]

theorem lex_close {t : Nat} (at_ : Bool) (ht : t = SEP ∨ t = NL) :
    lexByte (some t) at_ true false QUOTE = .ok ⟨.skip, false, false⟩ := by
  have hq : t ≠ QUOTE := by
    rcases ht with h | h <;> rw [h] <;> decide
  simp [lexByte, QUOTE_ne_SEP, QUOTE_ne_NL, hq, ht]

/-- a closing quote as the last byte of the window: nothing happens (the record is retried in the next window) -/
theorem lex_close_eof (at_ : Bool) : lexByte none at_ true false QUOTE = .ok ⟨.skip, true, false⟩ := by
  simp [lexByte, QUOTE_ne_SEP, QUOTE_ne_NL]

theorem lt_len_of_get {α} {l : List α} {i : Nat} {x : α} (h : l[i]? = some x) : i < l.length :=
  (List.getElem?_eq_some_iff.mp h).1

theorem done_false_of_get {src : Bytes} {s : KS} {b : Nat} (hd : s.done = (s.index == src.length))
    (hc : src[s.index]? = some b) : s.done = false := by
  rw [hd]
  exact beq_false_of_ne (Nat.ne_of_lt (lt_len_of_get hc))

theorem step_write {src : Bytes} {offs : List Nat} {maxrow : Nat} {s : KS} {c : Nat} {e' c' : Bool}
    (hc : src[s.index]? = some c)
    (hlex : lexByte src[s.index + 1]? (s.index == s.ics) s.escaped s.cand c = .ok ⟨.write, e', c'⟩)
    (hif : s.indsFull = false) (hvf : s.valsFull = false)
    (hcap : s.hdr = false → s.colOff + s.cstart + s.count < s.vals.length ∧ s.cstart + s.count + 1 < s.colCnt) :
    ∃ s', step src offs maxrow s = .ok s' ∧ s'.index = s.index + 1 ∧ s'.escaped = e' ∧ s'.cand = c' ∧
      s'.done = (s'.index == src.length) ∧ s'.ctx = s.ctx ∧
      s'.count = (if s.hdr then s.count else s.count + 1) ∧
      s'.vals = (if s.hdr then s.vals else s.vals.set (s.colOff + s.cstart + s.count) c) := by
  cases hh : s.hdr with
  | true =>
    refine ⟨_, by simp only [step, getE, hc, hlex, writeChar, hh, if_true]; rfl, ?_⟩
    simp [KS.ctx, hh, hif, hvf]
  | false =>
    obtain ⟨hb, hcnt⟩ := hcap hh
    have hfull : decide (s.colCnt ≤ s.cstart + s.count + 1) = false := by simp; omega
    refine ⟨_, by simp only [step, getE, hc, hlex, writeChar, hh, setE, hb, if_true, hfull]; rfl, ?_⟩
    simp [KS.ctx, hh, hif, hvf]

/-- a written byte that fills the budget of the current column: the call ends with `is_column_vals_full` -/
theorem step_write_full {src : Bytes} {offs : List Nat} {maxrow : Nat} {s : KS} {c : Nat} {e' c' : Bool}
    (hc : src[s.index]? = some c)
    (hlex : lexByte src[s.index + 1]? (s.index == s.ics) s.escaped s.cand c = .ok ⟨.write, e', c'⟩)
    (hif : s.indsFull = false) (hh : s.hdr = false)
    (hb : s.colOff + s.cstart + s.count < s.vals.length) (hfull : s.colCnt ≤ s.cstart + s.count + 1) :
    ∃ s', step src offs maxrow s = .ok s' ∧ s'.done = true ∧ s'.valsFull = true ∧ s'.vfc = some s.col ∧
      s'.indsFull = false ∧ s'.nextPos = s.nextPos ∧ s'.hdr = false ∧ s'.row = s.row ∧ s'.inds = s.inds ∧
      s'.vals = s.vals.set (s.colOff + s.cstart + s.count) c := by
  have hfull' : decide (s.colCnt ≤ s.cstart + s.count + 1) = true := by simpa using hfull
  refine ⟨_, by simp only [step, getE, hc, hlex, writeChar, hh, setE, hb, if_true, hfull']; rfl, ?_⟩
  simp [hif]

theorem step_skip {src : Bytes} {offs : List Nat} {maxrow : Nat} {s : KS} {c : Nat} {e' c' : Bool}
    (hc : src[s.index]? = some c)
    (hlex : lexByte src[s.index + 1]? (s.index == s.ics) s.escaped s.cand c = .ok ⟨.skip, e', c'⟩)
    (hif : s.indsFull = false) (hvf : s.valsFull = false) :
    ∃ s', step src offs maxrow s = .ok s' ∧ s'.index = s.index + 1 ∧ s'.escaped = e' ∧ s'.cand = c' ∧
      s'.done = (s'.index == src.length) ∧ s'.ctx = s.ctx ∧ s'.count = s.count ∧ s'.vals = s.vals := by
  refine ⟨_, by simp only [step, getE, hc, hlex]; rfl, ?_⟩
  simp [KS.ctx, hif, hvf]

/-- the variables a cell end does not touch -/
def KS.ctx2 (s : KS) := (s.vfc, s.valsFull, s.vals)

theorem step_sep {src : Bytes} {offs : List Nat} {maxrow : Nat} {s : KS} {c : Nat} {e' c' : Bool}
    {inds' : List (List Nat)} {o o1 cs : Nat}
    (hc : src[s.index]? = some c)
    (hlex : lexByte src[s.index + 1]? (s.index == s.ics) s.escaped s.cand c = .ok ⟨.endCell, e', c'⟩)
    (hif : s.indsFull = false) (hvf : s.valsFull = false)
    (hinds : (if s.hdr then (.ok s.inds : Except Err (List (List Nat)))
              else set2 s.inds s.col (s.row + 1) (s.cstart + s.count) "column_inds[col_index,row_index+1]") = .ok inds')
    (ho : offs[s.col + 1]? = some o) (ho1 : offs[s.col + 1 + 1]? = some o1)
    (hcs : get2 inds' (s.col + 1) (if s.hdr then maxrow else s.row) "column_inds[col_index,row_index]" = .ok cs) :
    ∃ s', step src offs maxrow s = .ok s' ∧ s'.index = skipAfter src s.index + 1 ∧ s'.ics = skipAfter src s.index + 1 ∧
      s'.escaped = e' ∧ s'.cand = c' ∧ s'.done = (skipAfter src s.index + 1 == src.length) ∧
      s'.nextPos = s.nextPos ∧ s'.col = s.col + 1 ∧ s'.hdr = s.hdr ∧ s'.row = s.row ∧ s'.cstart = cs ∧ s'.count = 0 ∧
      s'.indsFull = false ∧ s'.colOff = o ∧ s'.colCnt = o1 - o ∧ s'.inds = inds' ∧ s'.ctx2 = s.ctx2 := by
  have hc' : getE src s.index "source[index]" = .ok c := getE_eq_ok.mpr hc
  have ho' : getE offs (s.col + 1) "column_offsets[col_index]" = .ok o := getE_eq_ok.mpr ho
  have ho1' : getE offs (s.col + 1 + 1) "column_offsets[col_index+1]" = .ok o1 := getE_eq_ok.mpr ho1
  simp only [step, hc', hlex, endCell, hinds, Bool.false_eq_true, ↓reduceIte, ho', ho1', hcs, reduceCtorEq]
  refine ⟨_, rfl, ?_⟩
  simp [KS.ctx2, hif, hvf]

theorem step_nl {src : Bytes} {offs : List Nat} {maxrow : Nat} {s : KS} {c : Nat} {e' c' : Bool}
    {inds' : List (List Nat)} {o o1 cs : Nat}
    (hc : src[s.index]? = some c)
    (hlex : lexByte src[s.index + 1]? (s.index == s.ics) s.escaped s.cand c = .ok ⟨.endLine, e', c'⟩)
    (hif : s.indsFull = false) (hvf : s.valsFull = false)
    (hinds : (if s.hdr then (.ok s.inds : Except Err (List (List Nat)))
              else set2 s.inds s.col (s.row + 1) (s.cstart + s.count) "column_inds[col_index,row_index+1]") = .ok inds')
    (ho : offs[0]? = some o) (ho1 : offs[1]? = some o1)
    (hcs : get2 inds' 0 (if s.hdr then 0 else s.row + 1) "column_inds[col_index,row_index]" = .ok cs) :
    ∃ s', step src offs maxrow s = .ok s' ∧ s'.index = skipAfter src s.index + 1 ∧ s'.ics = skipAfter src s.index + 1 ∧
      s'.escaped = e' ∧ s'.cand = c' ∧
      s'.done = ((skipAfter src s.index + 1 == src.length) || ((if s.hdr then 0 else s.row + 1) == maxrow)) ∧
      s'.nextPos = s.index + 1 ∧ s'.col = 0 ∧ s'.hdr = false ∧ s'.row = (if s.hdr then 0 else s.row + 1) ∧ s'.cstart = cs ∧
      s'.count = 0 ∧ s'.indsFull = ((if s.hdr then 0 else s.row + 1) == maxrow) ∧ s'.colOff = o ∧ s'.colCnt = o1 - o ∧
      s'.inds = inds' ∧ s'.ctx2 = s.ctx2 := by
  have hc' : getE src s.index "source[index]" = .ok c := getE_eq_ok.mpr hc
  have ho' : getE offs 0 "column_offsets[col_index]" = .ok o := getE_eq_ok.mpr ho
  have ho1' : getE offs (0 + 1) "column_offsets[col_index+1]" = .ok o1 := getE_eq_ok.mpr ho1
  simp only [step, hc', hlex, endCell, hinds, Bool.false_eq_true, ↓reduceIte, ho', ho1', hcs]
  refine ⟨_, rfl, ?_⟩
  simp [KS.ctx2, hif, hvf]

theorem ctx2_eq {s s' : KS} (h : s'.ctx2 = s.ctx2) :
    s'.vfc = s.vfc ∧ s'.valsFull = s.valsFull ∧ s'.vals = s.vals := by
  simpa [KS.ctx2, Prod.ext_iff] using h

theorem skipAfter_ge (src : Bytes) (i : Nat) : i ≤ skipAfter src i := by unfold skipAfter; omega

theorem skipAfter_lt (src : Bytes) (i : Nat) (h : i < src.length) : skipAfter src i < src.length := by
  unfold skipAfter
  have := leadWs_le (src.drop (i + 1))
  simp at this
  omega

theorem writeChar_index {s s' : KS} {c : Nat} (h : writeChar s c = .ok s') : s'.index = s.index := by
  unfold writeChar at h
  repeat' split at h
  all_goals first | (cases h; done) | (cases h; rfl)

theorem endCell_index {src : Bytes} {offs : List Nat} {maxrow : Nat} {s s' : KS} {b : Bool}
    (h : endCell src offs maxrow s b = .ok s') : s'.index = skipAfter src s.index := by
  unfold endCell at h
  split at h
  · cases h
  · simp only at h
    split at h
    · cases h
    · split at h
      · cases h
      · split at h
        · cases h
        · cases h; rfl

/-- every iteration advances `index`, and never past the end of the window: whatever the byte does (`writeChar`, `endCell`
    or nothing) leaves `index` inside the window, then `index += 1` -/
theorem step_index {src : Bytes} {offs : List Nat} {maxrow : Nat} {s s' : KS}
    (h : step src offs maxrow s = .ok s') : s.index < s'.index ∧ s'.index ≤ src.length := by
  unfold step at h
  cases hc : getE src s.index "source[index]" with
  | error e => simp [hc] at h
  | ok c =>
    have hi : s.index < src.length := lt_len_of_get (getE_eq_ok.mp hc)
    simp only [hc] at h
    cases hl : lexByte src[s.index + 1]? (s.index == s.ics) s.escaped s.cand c with
    | error e => simp [hl] at h
    | ok lx =>
      simp only [hl] at h
      split at h
      · cases h
      · rename_i s2 heq
        cases h
        have key : s.index ≤ s2.index ∧ s2.index < src.length := by
          cases hev : lx.ev <;> simp only [hev] at heq
          · have := writeChar_index heq
            exact ⟨Nat.le_of_eq this.symm, this ▸ hi⟩
          · rw [endCell_index heq]
            exact ⟨skipAfter_ge _ _, skipAfter_lt _ _ hi⟩
          · rw [endCell_index heq]
            exact ⟨skipAfter_ge _ _, skipAfter_lt _ _ hi⟩
          · cases heq; exact ⟨Nat.le_refl _, hi⟩
        exact ⟨Nat.lt_succ_of_le key.1, key.2⟩

theorem stepsN_index {src : Bytes} {offs : List Nat} {maxrow : Nat} {n : Nat} {s s' : KS}
    (h : StepsN kguard (step src offs maxrow) n s s') (hs : s.index ≤ src.length) :
    s.index + n ≤ s'.index ∧ s'.index ≤ src.length := by
  induction h with
  | refl s => exact ⟨Nat.le_refl _, hs⟩
  | cons _ hf _ ih =>
    obtain ⟨h1, h2⟩ := step_index hf
    have := ih h2
    omega

end Exetera.Csv
