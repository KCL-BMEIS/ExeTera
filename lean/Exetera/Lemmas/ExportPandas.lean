import Exetera.Lemmas.Export
/-!
  C18, `to_pandas`. Every column of the result is `filterCol` of the frame's column of that name, for the mask the as-found
  code applies and for the one the repaired code builds; and columns of one length filtered one by one give the rows
  `to_csv` writes.
-/
namespace Exetera.Export
open Exetera.Spec.Export

/-- the `row_filter` of `to_pandas` is absent or a boolean list / array of the frame's length `n`; `flt` is its content -/
inductive PdFilterOk (n : Nat) : PdFilter → Option (List Bool) → Prop where
  | none : PdFilterOk n .none Option.none
  | list (xs : List Bool) : xs.length = n → PdFilterOk n (.list xs) (some xs)
  | array (xs : List Bool) : xs.length = n → PdFilterOk n (.array xs) (some xs)

theorem filterCol_nil {α} (flt : Option (List Bool)) : filterCol ([] : List α) flt = [] := rfl

theorem filterMap_range_getElem? {α} : ∀ (xs : List α), (List.range xs.length).filterMap (fun i => xs[i]?) = xs
  | [] => rfl
  | x :: xs => by
    have hg : ((fun i => (x :: xs)[i]?) ∘ Nat.succ) = fun i => xs[i]? := rfl
    rw [List.length_cons, List.range_succ_eq_map, List.filterMap_cons_some List.getElem?_cons_zero, List.filterMap_map, hg,
      filterMap_range_getElem? xs]

theorem filterCol_none {α} (xs : List α) : filterCol xs Option.none = xs := by
  rw [filterCol, List.filter_eq_self (p := keep Option.none) |>.mpr (fun _ _ => rfl)]
  exact filterMap_range_getElem? xs

theorem filterCol_some_nil {α} (xs : List α) : filterCol xs (some []) = [] := by
  rw [filterCol, List.filter_eq_nil_iff (p := keep (some [])) |>.mpr (fun _ _ => Bool.false_ne_true)]
  rfl

theorem filterCol_cons {α} (d : α) (ds : List α) (b : Bool) (bs : List Bool) :
    filterCol (d :: ds) (some (b :: bs)) = (if b then [d] else []) ++ filterCol ds (some bs) := by
  have hk : (keep (some (b :: bs)) ∘ Nat.succ) = keep (some bs) := rfl
  have hg : ((fun i => (d :: ds)[i]?) ∘ Nat.succ) = fun i => ds[i]? := rfl
  rw [filterCol, List.length_cons, List.range_succ_eq_map, List.filter_cons, List.filter_map, hk]
  cases b
  · exact (List.filterMap_map ..).trans (by rw [hg]; rfl)
  · exact congrArg (d :: ·) ((List.filterMap_map ..).trans (by rw [hg]; rfl))

theorem pdSelected_zero (xs : List Bool) : pdSelected 0 xs = [] := by simp [pdSelected]

theorem pdSelected_nil (n : Nat) : pdSelected n [] = List.replicate n false := by simp [pdSelected]

theorem pdSelected_cons (n : Nat) (b : Bool) (bs : List Bool) : pdSelected (n + 1) (b :: bs) = b :: pdSelected n bs := by
  simp [pdSelected, Nat.succ_min_succ]

theorem maskSelect_cons {α} (d : α) (ds : List α) (b : Bool) (bs : List Bool) :
    maskSelect (d :: ds) (b :: bs) = (if b then [d] else []) ++ maskSelect ds bs := by
  cases b <;> rfl

theorem maskSelect_replicate_false {α} : ∀ (data : List α) (n : Nat), maskSelect data (List.replicate n false) = []
  | [], _ => rfl
  | _ :: _, 0 => rfl
  | d :: ds, n + 1 => by rw [List.replicate_succ, maskSelect_cons, maskSelect_replicate_false ds n]; rfl

/-- the mask the repaired `to_pandas` builds selects exactly the rows `keep` keeps — for a filter of ANY length -/
theorem maskSelect_pdSelected {α} : ∀ (data : List α) (xs : List Bool),
    maskSelect data (pdSelected data.length xs) = filterCol data (some xs)
  | [], xs => by rw [List.length_nil, pdSelected_zero]; rfl
  | d :: ds, [] => by rw [pdSelected_nil, maskSelect_replicate_false, filterCol_some_nil]
  | d :: ds, b :: bs => by
    rw [List.length_cons, pdSelected_cons, filterCol_cons, maskSelect_cons, maskSelect_pdSelected ds bs]

theorem pdSelected_self (xs : List Bool) : pdSelected xs.length xs = xs := by simp [pdSelected]

theorem maskSelect_eq_filterCol {α} (data : List α) (xs : List Bool) (h : xs.length = data.length) :
    maskSelect data xs = filterCol data (some xs) := by
  rw [← maskSelect_pdSelected, ← h, pdSelected_self]

theorem pdApplyAsFound_ok (data : List Cell) (rf : PdFilter) (flt : Option (List Bool)) (h : PdFilterOk data.length rf flt) :
    pdApplyAsFound rf data = .ok (filterCol data flt) := by
  cases h with
  | none => simp only [pdApplyAsFound, filterCol_none]
  | list xs hx | array xs hx =>
    cases xs with
    | nil => rw [List.eq_nil_of_length_eq_zero hx.symm]; rfl
    | cons b bs => simp only [pdApplyAsFound, hx, ne_eq, not_true_eq_false, if_false, maskSelect_eq_filterCol data (b :: bs) hx]

theorem pdApply_eq_filterCol (flt : Option (List Bool)) (data : List Cell) : pdApply flt data = filterCol data flt := by
  cases flt with
  | none => simp [pdApply, filterCol_none]
  | some xs => simp [pdApply, maskSelect_pdSelected]

theorem validate_of_pdFilterOk {n : Nat} {rf : PdFilter} {flt : Option (List Bool)} (h : PdFilterOk n rf flt) :
    validateRowFilter rf.toRowFilter = .ok flt := by
  cases h <;> rfl

theorem validate_ofCsv (rf : RowFilter) : validateRowFilter (PdFilter.ofCsv rf).toRowFilter = validateRowFilter rf := by
  cases rf <;> rfl

def AllLen (f : Frame) (N : Nat) (names : List Cell) : Prop := ∀ n ∈ names, ∃ c, f.get? n = some c ∧ c.data.length = N

theorem pdCheckLengths_ok (f : Frame) (N : Nat) : ∀ names, AllLen f N names → pdCheckLengths f N names = .ok ()
  | [], _ => rfl
  | n :: ns, h => by
    obtain ⟨c, hc, hl⟩ := h n List.mem_cons_self
    simp only [pdCheckLengths, Frame.getE, hc, hl, ne_eq, not_true_eq_false, if_false]
    exact pdCheckLengths_ok f N ns (fun m hm => h m (List.mem_cons_of_mem _ hm))

def GoodCol (f : Frame) (flt : Option (List Bool)) (p : Cell × List Cell) : Prop :=
  ∃ c, f.get? p.1 = some c ∧ p.2 = filterCol c.data flt

/-- `temp[n] = xs` on the dict `temp` as the list of its items: an existing key keeps its position -/
def dictSet (acc : List (Cell × List Cell)) (n : Cell) (xs : List Cell) : List (Cell × List Cell) :=
  if acc.any (·.1 == n) then acc.map (fun p => if p.1 == n then (n, xs) else p) else acc ++ [(n, xs)]

theorem dictSet_keys (acc : List (Cell × List Cell)) (n : Cell) (xs : List Cell) :
    (dictSet acc n xs).map (·.1) = if (acc.map (·.1)).contains n then acc.map (·.1) else acc.map (·.1) ++ [n] := by
  have hany : acc.any (·.1 == n) = (acc.map (·.1)).contains n := by
    rw [List.contains_eq_any_beq, List.any_map]
    exact List.any_congr rfl fun p => BEq.comm
  rw [dictSet, hany]
  split
  · rw [List.map_map]
    apply List.map_congr_left
    intro p _
    by_cases hp : (p.1 == n) = true
    · simp only [Function.comp, hp, if_true]; exact (eq_of_beq hp).symm
    · simp only [Function.comp, hp, Bool.false_eq_true, if_false]
  · rw [List.map_append]; rfl

theorem mem_dictSet {acc : List (Cell × List Cell)} {n : Cell} {xs : List Cell} {p : Cell × List Cell}
    (h : p ∈ dictSet acc n xs) : p ∈ acc ∨ p = (n, xs) := by
  unfold dictSet at h
  split at h
  · obtain ⟨q, hq, rfl⟩ := List.mem_map.mp h
    split
    · exact Or.inr rfl
    · exact Or.inl hq
  · rcases List.mem_append.mp h with h | h
    · exact Or.inl h
    · exact Or.inr (List.mem_singleton.mp h)

theorem firstOccurrences_cons {α} [BEq α] (acc : List α) (n : α) (ns : List α) :
    firstOccurrences acc (n :: ns) = firstOccurrences (if acc.contains n then acc else acc ++ [n]) ns := by
  rw [firstOccurrences]
  split <;> rfl

theorem pdCollect_ok (f : Frame) (app : List Cell → Except Err (List Cell)) (flt : Option (List Bool)) (N : Nat)
    (happ : ∀ data : List Cell, data.length = N → app data = .ok (filterCol data flt)) :
    ∀ (names : List Cell) (acc : List (Cell × List Cell)), AllLen f N names → (∀ p ∈ acc, GoodCol f flt p) →
      ∃ out, pdCollect f app names acc = .ok out ∧ out.map (·.1) = firstOccurrences (acc.map (·.1)) names ∧
        ∀ p ∈ out, GoodCol f flt p
  | [], acc, _, hacc => ⟨acc, rfl, rfl, hacc⟩
  | n :: ns, acc, h, hacc => by
    obtain ⟨c, hc, hl⟩ := h n List.mem_cons_self
    obtain ⟨out, h1, h2, h3⟩ := pdCollect_ok f app flt N happ ns (dictSet acc n (filterCol c.data flt))
      (fun m hm => h m (List.mem_cons_of_mem _ hm)) (by
        intro p hp
        rcases mem_dictSet hp with hp | rfl
        · exact hacc p hp
        · exact ⟨c, hc, rfl⟩)
    refine ⟨out, ?_, by rw [h2, dictSet_keys, firstOccurrences_cons], h3⟩
    simp only [pdCollect, Frame.getE, hc, happ c.data hl]
    exact h1

theorem nRows_of_all_len {α} (n : Nat) : ∀ (cols : List (List α)), cols ≠ [] → (∀ c ∈ cols, c.length = n) → nRows cols = n
  | [], h, _ => absurd rfl h
  | [c], _, h => h c List.mem_cons_self
  | c :: d :: ds, _, h => by
    show min c.length (nRows (d :: ds)) = n
    rw [h c List.mem_cons_self, nRows_of_all_len n (d :: ds) (List.cons_ne_nil _ _) (fun x hx => h x (List.mem_cons_of_mem _ hx)),
      Nat.min_self]

theorem getElem?_filterMap_of_isSome {α β} (g : α → Option β) : ∀ (l : List α), (∀ x ∈ l, (g x).isSome) → ∀ k : Nat,
    (l.filterMap g)[k]? = l[k]?.bind g
  | [], _, _ => rfl
  | x :: xs, h, k => by
    obtain ⟨y, hy⟩ := Option.isSome_iff_exists.mp (h x List.mem_cons_self)
    rw [List.filterMap_cons_some hy]
    cases k with
    | zero => exact hy.symm
    | succ k => exact getElem?_filterMap_of_isSome g xs (fun z hz => h z (List.mem_cons_of_mem _ hz)) k

theorem filterMap_congr_mem {α β} (g h : α → Option β) : ∀ (l : List α), (∀ x ∈ l, g x = h x) → l.filterMap g = l.filterMap h
  | [], _ => rfl
  | x :: xs, hh => by
    rw [List.filterMap_cons, List.filterMap_cons, hh x List.mem_cons_self,
      filterMap_congr_mem g h xs (fun z hz => hh z (List.mem_cons_of_mem _ hz))]

theorem length_filterMap_of_isSome {α β} (g : α → Option β) : ∀ (l : List α), (∀ x ∈ l, (g x).isSome) →
    (l.filterMap g).length = l.length
  | [], _ => rfl
  | x :: xs, h => by
    obtain ⟨y, hy⟩ := Option.isSome_iff_exists.mp (h x List.mem_cons_self)
    rw [List.filterMap_cons_some hy, List.length_cons, List.length_cons,
      length_filterMap_of_isSome g xs (fun z hz => h z (List.mem_cons_of_mem _ hz))]

def keptRows (flt : Option (List Bool)) (n : Nat) : List Nat := (List.range n).filter (keep flt)

theorem keptRows_lt {flt : Option (List Bool)} {n i : Nat} (h : i ∈ keptRows flt n) : i < n := by
  simp only [keptRows, List.mem_filter, List.mem_range] at h
  exact h.1

theorem filterCol_length {α} (c : List α) (flt : Option (List Bool)) : (filterCol c flt).length = (keptRows flt c.length).length := by
  apply length_filterMap_of_isSome
  intro i hi
  have : i < c.length := keptRows_lt hi
  simp [this]

theorem filterCol_getElem? {α} (c : List α) (flt : Option (List Bool)) (k : Nat) :
    (filterCol c flt)[k]? = (keptRows flt c.length)[k]?.bind (fun i => c[i]?) := by
  apply getElem?_filterMap_of_isSome
  intro i hi
  have : i < c.length := keptRows_lt hi
  simp [this]

theorem keep_none_filter (n : Nat) : (List.range n).filter (keep (Option.none : Option (List Bool))) = List.range n :=
  List.filter_eq_self.mpr (fun _ _ => rfl)

/-- **columns filtered one by one = rows filtered**: for columns of one length, all rows of the table of the filtered columns
    are exactly the rows of the table the filter keeps -/
theorem exportRows_filterCol {α} (cs : List (List α)) (flt : Option (List Bool)) (N : Nat) (hne : cs ≠ [])
    (hlen : ∀ c ∈ cs, c.length = N) :
    exportRows (cs.map (fun c => filterCol c flt)) Option.none = exportRows cs flt := by
  have hn : nRows cs = N := nRows_of_all_len N cs hne hlen
  have hn' : nRows (cs.map (fun c => filterCol c flt)) = (keptRows flt N).length := by
    apply nRows_of_all_len
    · simpa using hne
    · intro c hc
      obtain ⟨c0, hc0, rfl⟩ := List.mem_map.mp hc
      rw [filterCol_length, hlen c0 hc0]
  simp only [exportRows, hn, hn', keep_none_filter]
  show _ = (keptRows flt N).map (rowAt cs)
  apply List.ext_getElem
  · simp
  · intro k h1 h2
    simp only [List.length_map, List.length_range] at h1
    simp only [List.getElem_map, List.getElem_range, rowAt, List.filterMap_map]
    apply filterMap_congr_mem
    intro c hc
    simp only [Function.comp, filterCol_getElem?, hlen c hc, List.getElem?_eq_getElem h1, Option.bind_some]

example := exportRows_filterCol [[1, 2, 3], [4, 5, 6]] (some [false, true, true, true]) 3 (by decide +kernel) (by decide +kernel)

example : exportRows ([[1, 2, 3], [4, 5, 6]].map (fun c => filterCol c (some [false, true, true, true]))) Option.none
    = [[2, 5], [3, 6]] := by decide +kernel

theorem firstOccurrences_nodup {α} [BEq α] [LawfulBEq α] : ∀ (ns acc : List α), ns.Nodup → (∀ n ∈ ns, n ∉ acc) →
    firstOccurrences acc ns = acc ++ ns
  | [], acc, _, _ => (List.append_nil acc).symm
  | n :: ns, acc, hnd, hdis => by
    have hn : acc.contains n = false := by simpa using hdis n List.mem_cons_self
    obtain ⟨hn', hnd'⟩ := List.nodup_cons.mp hnd
    rw [firstOccurrences_cons, hn, if_neg Bool.false_ne_true, firstOccurrences_nodup ns (acc ++ [n]) hnd', List.append_assoc]
    · rfl
    · intro m hm h
      rcases List.mem_append.mp h with h | h
      · exact hdis m (List.mem_cons_of_mem _ hm) h
      · exact hn' (List.mem_singleton.mp h ▸ hm)

/-- the columns `to_pandas` collected are, in order, the filtered data of the fields `to_csv` reads under their names -/
theorem goodCols_eq (f : Frame) (flt : Option (List Bool)) : ∀ (cols : List (Cell × List Cell)) (fields : List Column),
    f.getAll (cols.map (·.1)) = .ok fields → (∀ p ∈ cols, GoodCol f flt p) →
    cols.map (·.2) = (fields.map (·.data)).map (fun c => filterCol c flt)
  | [], _, h, _ => by cases h; rfl
  | p :: ps, fields, h, hg => by
    obtain ⟨c, hc, hp⟩ := hg p List.mem_cons_self
    simp only [List.map_cons, Frame.getAll, Frame.getE, hc] at h
    cases hr : f.getAll (ps.map (·.1)) with
    | error e => simp [hr] at h
    | ok cs =>
      simp only [hr] at h
      cases h
      rw [List.map_cons, hp, goodCols_eq f flt ps cs hr (fun q hq => hg q (List.mem_cons_of_mem _ hq))]
      rfl

end Exetera.Export
