import Exetera.Model.LegacyMapFix
import Exetera.Lemmas.MapValidBasic
import Exetera.Lemmas.C19MapStreamDriver
/-! C12, `ordered_map_valid_stream_old` with NC12a repaired: on EVERY input (any map — in range or not, ordered or not) and
    every chunk size ≥ 1 the run ends in `.ok` or in an error other than `outOfFuel`, within the budget `|map| + |data| + 1`.
    In the regime of C19's theorem (in-range map with non-decreasing valid entries, marker outside the source's row numbers)
    the test added by the repair never fires, so the repaired mapper is the as-found one and returns `Spec.mapSpec`. -/
namespace Exetera.JoinOld.Term
open Exetera

theorem getI_err {α} {xs : List α} {i : Int} {site : String} {e : Err} (h : MapValid.getI xs i site = .error e) :
    e = .oob site := by
  have getE_err : ∀ {k : Nat}, getE xs k site = .error e → e = .oob site := by
    intro k h
    unfold getE at h
    split at h <;> cases h
    rfl
  unfold MapValid.getI at h
  split at h
  · exact getE_err h
  · split at h
    · exact getE_err h
    · cases h; rfl

theorem partialOldMapFrom_not_fuel {α} (d : Nat) (dfc : List α) (inv : Int) (zero : α) (cap : Nat) :
    ∀ (vs : List Int) (acc : List α) (last : Int) (e : Err),
      partialOldMapFrom d dfc inv zero cap vs acc last = .error e → e ≠ .outOfFuel := by
  intro vs
  induction vs with
  | nil => intro acc last e h; simp [partialOldMapFrom] at h
  | cons v vs ih =>
    intro acc last e h
    unfold partialOldMapFrom at h
    split at h
    · split at h
      · cases h
      · split at h
        · next hg => cases h; rw [getI_err hg]; simp
        · split at h
          · exact ih _ _ _ h
          · cases h; simp
    · exact ih _ _ _ h

theorem partialOldMap_not_fuel {α} (d : Nat) (dfc : List α) (mfc : List Int) (inv : Int) (zero : α) (cap : Nat) (e : Err)
    (h : partialOldMap d dfc mfc inv zero cap = .error e) : e ≠ .outOfFuel := by
  unfold partialOldMap at h
  split at h
  · simp only [Except.error.injEq] at h; subst h; simp
  · exact partialOldMapFrom_not_fuel d dfc inv zero cap _ _ _ e h

/-- the measure of the driver loop: map rows left plus source rows beyond the chunk generator's position -/
def mapMu {α} (data : List α) (map_ : List Int) (s : MO α) : Nat := (map_.length - s.m) + (data.length - s.dcur)

/-! From an arbitrary state the two re-slicing steps can fail (a generator may be exhausted), but never for lack of fuel,
    and a data chunk that is fetched moves the generator on. -/

theorem reslice_err {xs : List Int} {cs pos cur hi : Nat} {c : List Int} {e : Err}
    (h : reslice xs cs pos cur hi c = .error e) : e ≠ .outOfFuel := by
  unfold reslice at h
  split at h
  · split at h
    · cases h
    · cases h; simp
  · cases h

theorem dreslice_err {α} {data : List α} {cs : Nat} {dd : Int} {dcur dlo dhi : Nat} {dfc : List α} {e : Err}
    (h : dreslice data cs dd dcur dlo dhi dfc = .error e) : e ≠ .outOfFuel := by
  unfold dreslice at h
  split at h
  · split at h
    · cases h
    · cases h; simp
  · cases h

theorem dreslice_cur {α} {data : List α} {cs : Nat} (hcs : 1 ≤ cs) {dd : Int} {dcur dlo dhi : Nat} {dfc : List α}
    {b : Nat × Nat × Nat × List α} (h : dreslice data cs dd dcur dlo dhi dfc = .ok b) :
    (decide (dd ≥ (dhi : Int)) && decide (dd < (data.length : Int))) = true ∧ dcur < data.length ∧ dcur < b.1 ∨
      (decide (dd ≥ (dhi : Int)) && decide (dd < (data.length : Int))) = false ∧ b.1 = dcur := by
  unfold dreslice nextRange at h
  split at h
  · next hf =>
    split at h
    · next rg hn =>
      split at hn
      · next hlt =>
        cases hn; cases h
        exact Or.inl ⟨hf, hlt, Nat.lt_min.mpr ⟨hlt, Nat.lt_add_of_pos_right hcs⟩⟩
      · cases hn
    · cases h
  · next hf =>
    cases h
    exact Or.inr ⟨Bool.not_eq_true _ ▸ hf, rfl⟩

theorem mapOldBodyR_step {α} (data : List α) (map_ : List Int) (inv : Int) (cs : Nat) (zero : α) (hcs : 1 ≤ cs) (s : MO α)
    (hg : s.m < map_.length) :
    (∃ s', mapOldBodyR data map_ inv cs zero s = .ok s' ∧ mapMu data map_ s' < mapMu data map_ s) ∨
    (∃ e, mapOldBodyR data map_ inv cs zero s = .error e ∧ e ≠ .outOfFuel ∧ 0 < mapMu data map_ s) := by
  have hpos : 0 < mapMu data map_ s := Nat.add_pos_left (Nat.sub_pos_of_lt hg) _
  unfold mapOldBodyR
  cases hp : partialOldMap s.dlo s.dfc s.mfc inv zero cs with
  | error e => exact Or.inr ⟨e, rfl, partialOldMap_not_fuel _ _ _ _ _ _ e hp, hpos⟩
  | ok r =>
    obtain ⟨buf, dd⟩ := r
    dsimp only
    split
    · exact Or.inr ⟨_, rfl, by simp, hpos⟩
    · next hprog =>
      simp only [mapOldBody, hp]
      -- the model spells `reslice` / `dreslice` out (with match expressions of its own)
      split
      · next a b e1 e2 =>
        refine Or.inl ⟨_, rfl, ?_⟩
        rcases dreslice_cur hcs e2 with ⟨_, h1, h2⟩ | ⟨hf, h1⟩
        · exact Nat.add_lt_add_of_le_of_lt (Nat.sub_le_sub_left (Nat.le_add_right _ _) _) (Nat.sub_lt_sub_left h1 h2)
        · -- no fetch: the repair's test did not fire, so a map entry was consumed
          have hbl : 0 < buf.length := by
            rcases Nat.eq_zero_or_pos buf.length with h0 | h0
            · simp [h0, hf] at hprog
            · exact h0
          rw [show b.1 = s.dcur from h1]
          exact Nat.add_lt_add_right (Nat.sub_lt_sub_left hg (Nat.lt_add_of_pos_right hbl)) _
      · next e e1 => exact Or.inr ⟨e, rfl, reslice_err e1, hpos⟩
      · next e e2 _ => exact Or.inr ⟨e, rfl, dreslice_err e2, hpos⟩

/-- **the repaired legacy map stream never runs out of fuel**: every input, every chunk size ≥ 1 -/
theorem mapValidStreamOldR_not_fuel {α} (data : List α) (map_ : List Int) (inv : Int) (cs : Nat) (zero : α) (hcs : 1 ≤ cs) :
    mapValidStreamOldR data map_ inv cs zero ≠ .error .outOfFuel := by
  have h := whileE_rule_err (fun s : MO α => decide (s.m < map_.length)) (mapOldBodyR data map_ inv cs zero)
    (fun _ => True) (fun e => e ≠ .outOfFuel) (mapMu data map_)
    (by
      intro s _ hg
      simp only [decide_eq_true_eq] at hg
      rcases mapOldBodyR_step data map_ inv cs zero hcs s hg with ⟨s', h1, h2⟩ | ⟨e, h1, h2, h3⟩
      · exact Or.inl ⟨s', h1, trivial, h2⟩
      · exact Or.inr ⟨e, h1, h2, h3⟩)
    (map_.length + data.length + 1)
    { dcur := min data.length cs, dlo := 0, dhi := min data.length cs, mcur := min map_.length cs,
      mhi := min map_.length cs, dfc := slice data 0 (min data.length cs), mfc := slice map_ 0 (min map_.length cs) }
    trivial (by simp only [mapMu]; omega)
  rcases h with ⟨s', hrun, _, _⟩ | ⟨e, hrun, he⟩
  · simp only [mapValidStreamOldR, nextRange_zero, hrun]
    intro h'; cases h'
  · simp only [mapValidStreamOldR, nextRange_zero, hrun]
    intro h'
    simp only [Except.error.injEq] at h'
    exact he h'

open Exetera.Spec Exetera.MapValid in
/-- on the states of C19's invariant the repair's test does not fire: the partial call consumed an entry or a data
    chunk is fetched (`MInv.partial`) -/
theorem mapOldBodyR_eq_of_inv {α} {data : List α} {map_ : List Int} {inv : Int} {cs : Nat} {zero : α} {s : MO α}
    (hr : InRange data.length map_ inv) (hinv : inv < 0 ∨ (data.length : Int) ≤ inv) (hS : MInv data map_ inv cs zero s)
    (hg : decide (s.m < map_.length) = true) :
    mapOldBodyR data map_ inv cs zero s = mapOldBody data map_ inv cs zero s := by
  obtain ⟨ys, dd, hrun, _, _, hfin⟩ := hS.partial hr hinv (by simpa using hg)
  have : (ys.length == 0 && !(decide (dd ≥ (s.dhi : Int)) && decide (dd < (data.length : Int)))) = false := by
    rcases hfin with ⟨h, _⟩ | ⟨_, _, _, _, h⟩
    · simp [Nat.ne_of_gt h]
    · simp [h.1, h.2]
  simp only [mapOldBodyR, hrun, this, Bool.false_eq_true, if_false]

open Exetera.Spec Exetera.MapValid in
/-- **in C19's regime the repaired legacy mapper is the as-found one** and returns the specified column -/
theorem mapValidStreamOldR_eq {α} (data : List α) (map_ : List Int) (inv : Int) {cs : Nat} (zero : α) (hcs : 1 ≤ cs)
    (hr : InRange data.length map_ inv) (hmono : ValidMonotone map_ inv)
    (hinv : inv < 0 ∨ (data.length : Int) ≤ inv) :
    mapValidStreamOldR data map_ inv cs zero = mapValidStreamOld data map_ inv cs zero ∧
      ∃ out, mapValidStreamOldR data map_ inv cs zero = .ok out ∧ mapSpec data inv zero map_ = some out := by
  have hloop := whileE_congr_inv (fun s : MO α => decide (s.m < map_.length)) (mapOldBody data map_ inv cs zero)
    (mapOldBodyR data map_ inv cs zero) (MInv data map_ inv cs zero)
    (fun s hS hg => mapOldBodyR_eq_of_inv hr hinv hS hg)
    (fun s s' hS hg hb => by
      obtain ⟨s'', hb', hS', _⟩ := mapOldBody_step hcs hr hmono hinv hS hg
      rw [hb] at hb'; cases hb'; exact hS')
    (map_.length + data.length + 1) _ (MInv.init data zero hcs hr)
  have heq : mapValidStreamOldR data map_ inv cs zero = mapValidStreamOld data map_ inv cs zero := by
    simp only [mapValidStreamOldR, mapValidStreamOld, nextRange_zero, hloop]
    rfl
  refine ⟨heq, ?_⟩
  rw [heq]
  exact mapValidStreamOld_eq data map_ inv zero hcs hr hmono hinv

end Exetera.JoinOld.Term
