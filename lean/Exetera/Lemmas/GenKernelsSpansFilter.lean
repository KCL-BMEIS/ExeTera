import Exetera.Gen.Kernels
import Exetera.Lemmas.GenKernels
import Exetera.Lemmas.GenKernelsSpans
import Exetera.Lemmas.GenKernelsSpansIndex
/-!
  The TRANSLATED `apply_spans_index_of_{first,last,min,max}_filter` kernels (caller-supplied `dest_array` and `filter_array`,
  both really subscripted) refine the hand model `filterLoop g` of `Model/Spans.lean`: same pair of arrays, or the same
  error class, for every span array of naturals and every pair of buffers.
-/
namespace Exetera.GenK

open Exetera Exetera.PyRt Exetera.Spans Exetera.Gen.Kernels

def filterStep (g : Nat → Nat → Except Err Int) (cur next i : Nat) (dest : List Int) (filt : List Bool) :
    Except Err (List Int × List Bool) :=
  if next == cur then bindE (setE filt i false "filter_array[i]") fun filt' => .ok (dest, filt')
  else
    bindE (setE filt i true "filter_array[i]") fun filt' =>
    bindE (g cur next) fun v =>
    bindE (setE dest i v "dest_array[i]") fun dest' => .ok (dest', filt')

theorem filterLoop_cons (g : Nat → Nat → Except Err Int) (cur next : Nat) (rest : List Nat) (i : Nat) (dest : List Int)
    (filt : List Bool) :
    filterLoop g (cur :: next :: rest) i dest filt =
      bindE (filterStep g cur next i dest filt) fun df => filterLoop g (next :: rest) (i + 1) df.1 df.2 := by
  rw [filterLoop, filterStep]
  split
  · cases setE filt i false "filter_array[i]" <;> rfl
  · cases setE filt i true "filter_array[i]" with
    | error e => rfl
    | ok f =>
      cases g cur next with
      | error e => rfl
      | ok v => dsimp only [bindE_ok]; cases setE dest i v "dest_array[i]" <;> rfl

theorem forRange_filterLoop {σ} (sp : List Nat) (R : List Int → List Bool → σ → Prop) (body : Int → σ → Except Err σ)
    (g : Nat → Nat → Except Err Int)
    (hstep : ∀ (k cur next : Nat) (dest : List Int) (filt : List Bool) (s : σ), sp[k]? = some cur → sp[k + 1]? = some next →
      R dest filt s → Follows (fun s' df => R df.1 df.2 s') (body (k : Int) s) (filterStep g cur next k dest filt)) :
    ∀ (n k : Nat) (dest : List Int) (filt : List Bool) (s : σ), k + n + 1 = sp.length → R dest filt s →
      Follows (fun s' df => R df.1 df.2 s') (forRangeAux (fun _ => false) body n (k : Int) s)
        (filterLoop g (sp.drop k) k dest filt) := by
  intro n
  induction n with
  | zero =>
    intro k dest filt s hk hR
    rw [List.drop_eq_getElem_cons (by omega), List.drop_eq_nil_of_le (by omega)]
    exact Follows.ok rfl hR
  | succ n ih =>
    intro k dest filt s hk hR
    have hk0 : k < sp.length := by omega
    have hk1 : k + 1 < sp.length := by omega
    rw [List.drop_eq_getElem_cons hk0, List.drop_eq_getElem_cons hk1, filterLoop_cons, forRangeAux_succ]
    refine (hstep k sp[k] sp[k + 1] dest filt s (List.getElem?_eq_getElem hk0) (List.getElem?_eq_getElem hk1) hR).bind
      fun s' df hR' => ?_
    have hrec := ih (k + 1) df.1 df.2 s' (by omega) hR'
    rw [List.drop_eq_getElem_cons hk1] at hrec
    exact hrec

theorem filterLoop_sim {σ} (sp : List Nat) (g : Nat → Nat → Except Err Int) (body : Int → σ → Except Err σ)
    (out : σ → List Int × List Bool) (R : List Int → List Bool → σ → Prop)
    (hstep : ∀ (k cur next : Nat) (dest : List Int) (filt : List Bool) (s : σ), sp[k]? = some cur → sp[k + 1]? = some next →
      R dest filt s → Follows (fun s' df => R df.1 df.2 s') (body (k : Int) s) (filterStep g cur next k dest filt))
    (hout : ∀ dest filt s, R dest filt s → out s = (dest, filt))
    (s : σ) (dest : List Int) (filt : List Bool) (hR : R dest filt s) :
    Sim (bindE (forRangeE 0 (pyLen (ints sp) - 1) body s) fun s => .ok (out s)) (filterLoop g sp 0 dest filt) := by
  have h : Follows (fun s' df => R df.1 df.2 s') (forRangeE 0 (pyLen (ints sp) - 1) body s) (filterLoop g sp 0 dest filt) := by
    unfold forRangeE
    cases sp with
    | nil => exact Follows.ok rfl hR
    | cons a t =>
      have hn : (pyLen (ints (a :: t)) - 1 - 0).toNat = t.length := by simp [pyLen]
      rw [hn]
      exact forRange_filterLoop (a :: t) R body g hstep t.length 0 dest filt s (by simp) hR
  revert h
  cases filterLoop g sp 0 dest filt with
  | error e => rintro ⟨e', hrun, ht⟩; rw [hrun]; exact ht
  | ok df => rintro ⟨s', hrun, hR'⟩; rw [hrun]; exact hout _ _ _ hR'

theorem apply_spans_index_of_first_filter_refines (sp : List Nat) (dest : List Int) (filt : List Bool) :
    Sim (apply_spans_index_of_first_filter.run (ints sp) dest filt) (applySpansIndexOfFirstFilter sp dest filt) :=
  filterLoop_sim sp (fun cur _ => .ok (cur : Int)) (fun k s => apply_spans_index_of_first_filter.body_L1 { s with v0 := k })
    (fun s => (s.p1, s.p2)) (fun d f s => s.p0 = ints sp ∧ s.p1 = d ∧ s.p2 = f)
    (by
      rintro k cur next dest filt ⟨⟩ hc hn ⟨rfl, rfl, rfl⟩
      simp only [apply_spans_index_of_first_filter.body_L1, idxE_ints_succ _ hn, idxE_ints _ hc, bindE_ok, filterStep,
        sub_beq_zero]
      exact Follows.ite (fun _ => Follows.setIdxE _ _ _ _ _ (.ok rfl ⟨rfl, rfl, rfl⟩))
        (fun _ => Follows.setIdxE _ _ _ _ _ (Follows.setIdxE _ _ _ _ _ (.ok rfl ⟨rfl, rfl, rfl⟩))))
    (fun _ _ _ h => Prod.ext h.2.1 h.2.2) _ dest filt ⟨rfl, rfl, rfl⟩

theorem apply_spans_index_of_last_filter_refines (sp : List Nat) (dest : List Int) (filt : List Bool) :
    Sim (apply_spans_index_of_last_filter.run (ints sp) dest filt) (applySpansIndexOfLastFilter sp dest filt) :=
  filterLoop_sim sp (fun _ next => .ok ((next : Int) - 1))
    (fun k s => apply_spans_index_of_last_filter.body_L1 { s with v0 := k })
    (fun s => (s.p1, s.p2)) (fun d f s => s.p0 = ints sp ∧ s.p1 = d ∧ s.p2 = f)
    (by
      rintro k cur next dest filt ⟨⟩ hc hn ⟨rfl, rfl, rfl⟩
      simp only [apply_spans_index_of_last_filter.body_L1, idxE_ints_succ _ hn, idxE_ints _ hc, bindE_ok, filterStep,
        sub_beq_zero]
      exact Follows.ite (fun _ => Follows.setIdxE _ _ _ _ _ (.ok rfl ⟨rfl, rfl, rfl⟩))
        (fun _ => Follows.setIdxE _ _ _ _ _ (Follows.setIdxE _ _ _ _ _ (.ok rfl ⟨rfl, rfl, rfl⟩))))
    (fun _ _ _ h => Prod.ext h.2.1 h.2.2) _ dest filt ⟨rfl, rfl, rfl⟩

theorem apply_spans_index_of_min_filter_refines (sp : List Nat) (src dest : List Int) (filt : List Bool) :
    Sim (apply_spans_index_of_min_filter.run (ints sp) src dest filt) (applySpansIndexOfMinFilter sp src dest filt) :=
  filterLoop_sim sp (spanIndexOfMin src) (fun k s => apply_spans_index_of_min_filter.body_L1 { s with v0 := k })
    (fun s => (s.p2, s.p3)) (fun d f s => s.p0 = ints sp ∧ s.p1 = src ∧ s.p2 = d ∧ s.p3 = f)
    (by
      rintro k cur next dest filt ⟨⟩ hc hn ⟨rfl, rfl, rfl, rfl⟩
      simp only [apply_spans_index_of_min_filter.body_L1, idxE_ints_succ _ hn, idxE_ints _ hc, bindE_ok, filterStep,
        sub_beq_zero, spanIndexOfMin_eq]
      refine Follows.ite (fun _ => Follows.setIdxE _ _ _ _ _ (.ok rfl ⟨rfl, rfl, rfl, rfl⟩)) fun _ => ?_
      -- the kernel tests `next - cur == 1` before the store into `filter_array`, the model after it
      split
      · exact Follows.setIdxE _ _ _ _ _ (Follows.setIdxE _ _ _ _ _ (.ok rfl ⟨rfl, rfl, rfl, rfl⟩))
      · simp only [bindE_assoc, bindE_ok]
        exact Follows.setIdxE _ _ _ _ _ (Follows.bind_same _ fun t =>
          Follows.setIdxE _ _ _ _ _ (.ok rfl ⟨rfl, rfl, rfl, rfl⟩)))
    (fun _ _ _ h => Prod.ext h.2.2.1 h.2.2.2) _ dest filt ⟨rfl, rfl, rfl, rfl⟩

theorem apply_spans_index_of_max_filter_refines (sp : List Nat) (src dest : List Int) (filt : List Bool) :
    Sim (apply_spans_index_of_max_filter.run (ints sp) src dest filt) (applySpansIndexOfMaxFilter sp src dest filt) :=
  filterLoop_sim sp (spanIndexOfMax src) (fun k s => apply_spans_index_of_max_filter.body_L1 { s with v0 := k })
    (fun s => (s.p2, s.p3)) (fun d f s => s.p0 = ints sp ∧ s.p1 = src ∧ s.p2 = d ∧ s.p3 = f)
    (by
      rintro k cur next dest filt ⟨⟩ hc hn ⟨rfl, rfl, rfl, rfl⟩
      simp only [apply_spans_index_of_max_filter.body_L1, idxE_ints_succ _ hn, idxE_ints _ hc, bindE_ok, filterStep,
        sub_beq_zero, spanIndexOfMax_eq]
      refine Follows.ite (fun _ => Follows.setIdxE _ _ _ _ _ (.ok rfl ⟨rfl, rfl, rfl, rfl⟩)) fun _ => ?_
      split
      · exact Follows.setIdxE _ _ _ _ _ (Follows.setIdxE _ _ _ _ _ (.ok rfl ⟨rfl, rfl, rfl, rfl⟩))
      · simp only [bindE_assoc, bindE_ok]
        exact Follows.setIdxE _ _ _ _ _ (Follows.bind_same _ fun t =>
          Follows.setIdxE _ _ _ _ _ (.ok rfl ⟨rfl, rfl, rfl, rfl⟩)))
    (fun _ _ _ h => Prod.ext h.2.2.1 h.2.2.2) _ dest filt ⟨rfl, rfl, rfl, rfl⟩

end Exetera.GenK
