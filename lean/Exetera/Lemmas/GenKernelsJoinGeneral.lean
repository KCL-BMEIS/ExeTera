import Exetera.Gen.Kernels
import Exetera.Model.Join
import Exetera.Lemmas.GenKernels
import Exetera.Lemmas.GenKernelsJoin
/-!
  The TRANSLATED general finite-state kernels `generate_ordered_map_to_left_partial` and `generate_ordered_map_to_inner_partial`
  (both keys may repeat: outer `while`, two run-counting `while` loops with subscripting guards, the `inner` cartesian-block
  state carried between calls) against the models `runPartial .left` (`generalBody true`) and `runPartial .inner`
  (`generalBody false`) of `Model/Join.lean`. The inner kernel is the left kernel without the unmatched-row branch and
  without `invalid`.

  Same simulation relation as for the unique kernels (`Buf` for both buffers, loop variables and FSM registers equal);
  `whileE_sim` lifts the one-iteration lemma.  The model counts a key run by a fuel-bounded recursion (`runCount`, fuel
  `i_max` / `j_max`, which always suffices); the translated kernel runs the code's `while` loops on the kernel's fuel, which
  is larger (`whileG_runCount`).
-/
namespace Exetera.GenK

open Exetera Exetera.PyRt Exetera.Gen.Kernels Exetera.Join

namespace Gen

abbrev St := generate_ordered_map_to_left_partial.St

abbrev mk (p : P) (l4 l5 : List Int) (i j r ii jj iiMax jjMax : Int) (inner : Bool) (w0 w1 w2 w3 : Int) : St :=
  ⟨p.left, (p.iMax : Int), p.right, (p.jMax : Int), l4, l5, p.inv, (p.iOff : Int), (p.jOff : Int), i, j, r, ii, jj, iiMax, jjMax,
    inner, w0, w1, w2, w3⟩

def R (p : P) (s : St) (k : K) : Prop :=
  ∃ l4 l5 r w0 w1 w2 w3, s = mk p l4 l5 k.i k.j (r : Nat) k.ii k.jj k.iiMax k.jjMax k.inner w0 w1 w2 w3 ∧
    Buf p.cap r l4 k.lb ∧ Buf p.cap r l5 k.rb

theorem guard_eq (p : P) (s : St) (k : K) (h : R p s k) :
    generate_ordered_map_to_left_partial.guard_L1 s = partialGuard .left p k := by
  obtain ⟨l4, l5, r, w0, w1, w2, w3, rfl, h4, h5⟩ := h
  simp only [generate_ordered_map_to_left_partial.guard_L1, partialGuard, pyLen, decide_cast_lt, K.r, h4.1, h5.2.1, Bool.and_assoc]

theorem body_sim (p : P) (s : St) (k k' : K) (h : R p s k) (hg : partialGuard .left p k = true)
    (hb : partialBody .left p k = .ok k') :
    ∃ s', generate_ordered_map_to_left_partial.body_L1 (partialFuel p) s = .ok s' ∧ R p s' k' := by
  obtain ⟨l4, l5, r, w0, w1, w2, w3, rfl, h4, h5⟩ := h
  obtain ⟨i, j, ii, jj, iiMax, jjMax, inner, lb, rb⟩ := k
  have hcap : r < p.cap := h5.2.1 ▸ partialGuard_room hg
  have hpush : ∀ {x y : Int} {i j ii jj : Nat} {iiMax jjMax : Int} {inner : Bool},
      R p (mk p (l4.set r x) (l5.set r y) i j ((r + 1 : Nat) : Int) ii jj iiMax jjMax inner w0 w1 w2 w3)
        ⟨i, j, ii, jj, iiMax, jjMax, inner, lb ++ [x], rb ++ [y]⟩ :=
    ⟨_, _, r + 1, w0, w1, w2, w3, rfl, h4.push hcap _, h5.push hcap _⟩
  refine (?_ : OkFollows (R p) _ _) k' hb
  simp only [partialBody, generalBody, Except.bind_eq_bindE, pure, Except.pure, push, show rb.length = r from h5.2.1, hcap, if_true,
    Int.natCast_add, Int.natCast_one, generate_ordered_map_to_left_partial.body_L1, setIdxE_of_lt _ _ (h4.lt hcap),
    setIdxE_of_lt _ _ (h5.lt hcap), bindE_ok]
  cases inner with
  | false =>
    simp only [Bool.not_false, if_true, beq_self_eq_true, idxE_nat]
    refine .getE _ _ _ _ fun a ha => .getE _ _ _ _ fun b hbb => ?_
    simp only [getE_of_some _ ha, getE_of_some _ hbb, bindE_ok]
    refine .ite_decide rfl (fun _ => .ok hpush) fun _ => ?_
    refine .ite_decide rfl (fun _ => .ok ⟨l4, l5, r, w0, w1, w2, w3, rfl, h4, h5⟩) fun _ => ?_
    refine .runCount _ _ p.left p.iMax _ _ (fun a c => mk p l4 l5 i j r ii jj iiMax jjMax false (a : Int) (c : Int) w2 w3)
      (fun _ _ => rfl) (fun _ _ => rfl) (partialFuel p) i 1 (le_partialFuel p).1 fun ci _ => ?_
    refine .runCount _ _ p.right p.jMax _ _
      (fun a c => mk p l4 l5 i j r ii jj iiMax jjMax false ((i + (ci - 1) : Nat) : Int) (ci : Int) (a : Int) (c : Int))
      (fun _ _ => rfl) (fun _ _ => rfl) (partialFuel p) j 1 (le_partialFuel p).2 fun cj _ => ?_
    exact .ok ⟨l4, l5, r, _, _, _, _, rfl, h4, h5⟩
  | true =>
    simp only [Bool.not_true, Bool.false_eq_true, if_false, show (true == false) = false from rfl]
    refine .ite (fun hjj => .ite (fun hii => ?_) fun _ => .ok hpush) fun _ => .ok hpush
    -- the block is finished: `ii_max = ii + 1`, `jj_max = jj + 1`, so `i + ii_max` is the cast of the model's `i + ii_max.toNat`
    obtain rfl := beq_iff_eq.mp hii
    obtain rfl := beq_iff_eq.mp hjj
    exact .ok hpush

end Gen

theorem left_partial_ok (p : P) (k k' : K) (lbuf rbuf : List Int)
    (hl : Buf p.cap k.rb.length lbuf k.lb) (hr : Buf p.cap k.rb.length rbuf k.rb) (h : runPartial .left p k = .ok k') :
    ∃ lbuf' rbuf', generate_ordered_map_to_left_partial.run p.left p.iMax p.right p.jMax lbuf rbuf p.inv p.iOff p.jOff k.i k.j
        k.rb.length k.ii k.jj k.iiMax k.jjMax k.inner (partialFuel p)
        = .ok ((k'.i : Int), (k'.j : Int), (k'.rb.length : Int), (k'.ii : Int), (k'.jj : Int), k'.iiMax, k'.jjMax, k'.inner,
               lbuf', rbuf') ∧
      Buf p.cap k'.rb.length lbuf' k'.lb ∧ Buf p.cap k'.rb.length rbuf' k'.rb := by
  obtain ⟨_, hw, l4, l5, r, w0, w1, w2, w3, rfl, h4, h5⟩ := whileE_sim (Gen.R p) generate_ordered_map_to_left_partial.guard_L1
    (generate_ordered_map_to_left_partial.body_L1 (partialFuel p)) _ (partialBody .left p) (Gen.guard_eq p) (Gen.body_sim p)
    (partialFuel p) (Gen.mk p lbuf rbuf k.i k.j k.rb.length k.ii k.jj k.iiMax k.jjMax k.inner 0 0 0 0) k k'
    ⟨lbuf, rbuf, _, 0, 0, 0, 0, rfl, hl, hr⟩ h
  obtain rfl := h5.2.1
  exact ⟨l4, l5, by simp only [generate_ordered_map_to_left_partial.run, hw, bindE_ok], h4, h5⟩

namespace GenI

abbrev St := generate_ordered_map_to_inner_partial.St

abbrev mk (p : P) (l4 l5 : List Int) (i j r ii jj iiMax jjMax : Int) (inner : Bool) (w0 w1 w2 w3 : Int) : St :=
  ⟨p.left, (p.iMax : Int), p.right, (p.jMax : Int), l4, l5, (p.iOff : Int), (p.jOff : Int), i, j, r, ii, jj, iiMax, jjMax,
    inner, w0, w1, w2, w3⟩

def R (p : P) (s : St) (k : K) : Prop :=
  ∃ l4 l5 r w0 w1 w2 w3, s = mk p l4 l5 k.i k.j (r : Nat) k.ii k.jj k.iiMax k.jjMax k.inner w0 w1 w2 w3 ∧
    Buf p.cap r l4 k.lb ∧ Buf p.cap r l5 k.rb

theorem guard_eq (p : P) (s : St) (k : K) (h : R p s k) :
    generate_ordered_map_to_inner_partial.guard_L1 s = partialGuard .inner p k := by
  obtain ⟨l4, l5, r, w0, w1, w2, w3, rfl, h4, h5⟩ := h
  simp only [generate_ordered_map_to_inner_partial.guard_L1, partialGuard, pyLen, decide_cast_lt, K.r, h4.1, h5.2.1, Bool.and_assoc]

theorem body_sim (p : P) (s : St) (k k' : K) (h : R p s k) (hg : partialGuard .inner p k = true)
    (hb : partialBody .inner p k = .ok k') :
    ∃ s', generate_ordered_map_to_inner_partial.body_L1 (partialFuel p) s = .ok s' ∧ R p s' k' := by
  obtain ⟨l4, l5, r, w0, w1, w2, w3, rfl, h4, h5⟩ := h
  obtain ⟨i, j, ii, jj, iiMax, jjMax, inner, lb, rb⟩ := k
  have hcap : r < p.cap := h5.2.1 ▸ partialGuard_room hg
  have hpush : ∀ {x y : Int} {i j ii jj : Nat} {iiMax jjMax : Int} {inner : Bool},
      R p (mk p (l4.set r x) (l5.set r y) i j ((r + 1 : Nat) : Int) ii jj iiMax jjMax inner w0 w1 w2 w3)
        ⟨i, j, ii, jj, iiMax, jjMax, inner, lb ++ [x], rb ++ [y]⟩ :=
    ⟨_, _, r + 1, w0, w1, w2, w3, rfl, h4.push hcap _, h5.push hcap _⟩
  refine (?_ : OkFollows (R p) _ _) k' hb
  simp only [partialBody, generalBody, Except.bind_eq_bindE, pure, Except.pure, push, show rb.length = r from h5.2.1, hcap, if_true,
    Int.natCast_add, Int.natCast_one, generate_ordered_map_to_inner_partial.body_L1, setIdxE_of_lt _ _ (h4.lt hcap),
    setIdxE_of_lt _ _ (h5.lt hcap), bindE_ok]
  cases inner with
  | false =>
    simp only [Bool.not_false, if_true, beq_self_eq_true, idxE_nat, Bool.false_eq_true, if_false]
    refine .getE _ _ _ _ fun a ha => .getE _ _ _ _ fun b hbb => ?_
    simp only [getE_of_some _ ha, getE_of_some _ hbb, bindE_ok]
    refine .ite_decide rfl (fun _ => .ok ⟨l4, l5, r, w0, w1, w2, w3, rfl, h4, h5⟩) fun _ => ?_
    refine .ite_decide rfl (fun _ => .ok ⟨l4, l5, r, w0, w1, w2, w3, rfl, h4, h5⟩) fun _ => ?_
    refine .runCount _ _ p.left p.iMax _ _ (fun a c => mk p l4 l5 i j r ii jj iiMax jjMax false (a : Int) (c : Int) w2 w3)
      (fun _ _ => rfl) (fun _ _ => rfl) (partialFuel p) i 1 (le_partialFuel p).1 fun ci _ => ?_
    refine .runCount _ _ p.right p.jMax _ _
      (fun a c => mk p l4 l5 i j r ii jj iiMax jjMax false ((i + (ci - 1) : Nat) : Int) (ci : Int) (a : Int) (c : Int))
      (fun _ _ => rfl) (fun _ _ => rfl) (partialFuel p) j 1 (le_partialFuel p).2 fun cj _ => ?_
    exact .ok ⟨l4, l5, r, _, _, _, _, rfl, h4, h5⟩
  | true =>
    simp only [Bool.not_true, Bool.false_eq_true, if_false, show (true == false) = false from rfl]
    refine .ite (fun hjj => .ite (fun hii => ?_) fun _ => .ok hpush) fun _ => .ok hpush
    -- the block is finished: `ii_max = ii + 1`, `jj_max = jj + 1`, so `i + ii_max` is the cast of the model's `i + ii_max.toNat`
    obtain rfl := beq_iff_eq.mp hii
    obtain rfl := beq_iff_eq.mp hjj
    exact .ok hpush

end GenI

theorem inner_partial_ok (p : P) (k k' : K) (lbuf rbuf : List Int)
    (hl : Buf p.cap k.rb.length lbuf k.lb) (hr : Buf p.cap k.rb.length rbuf k.rb) (h : runPartial .inner p k = .ok k') :
    ∃ lbuf' rbuf', generate_ordered_map_to_inner_partial.run p.left p.iMax p.right p.jMax lbuf rbuf p.iOff p.jOff k.i k.j
        k.rb.length k.ii k.jj k.iiMax k.jjMax k.inner (partialFuel p)
        = .ok ((k'.i : Int), (k'.j : Int), (k'.rb.length : Int), (k'.ii : Int), (k'.jj : Int), k'.iiMax, k'.jjMax, k'.inner,
               lbuf', rbuf') ∧
      Buf p.cap k'.rb.length lbuf' k'.lb ∧ Buf p.cap k'.rb.length rbuf' k'.rb := by
  obtain ⟨_, hw, l4, l5, r, w0, w1, w2, w3, rfl, h4, h5⟩ := whileE_sim (GenI.R p) generate_ordered_map_to_inner_partial.guard_L1
    (generate_ordered_map_to_inner_partial.body_L1 (partialFuel p)) _ (partialBody .inner p) (GenI.guard_eq p) (GenI.body_sim p)
    (partialFuel p) (GenI.mk p lbuf rbuf k.i k.j k.rb.length k.ii k.jj k.iiMax k.jjMax k.inner 0 0 0 0) k k'
    ⟨lbuf, rbuf, _, 0, 0, 0, 0, rfl, hl, hr⟩ h
  obtain rfl := h5.2.1
  exact ⟨l4, l5, by simp only [generate_ordered_map_to_inner_partial.run, hw, bindE_ok], h4, h5⟩

end Exetera.GenK
