import Exetera.Model.SortIndex
import Exetera.Lemmas.LexOrder
/-!
  `Session.dataset_sort_index` is the stable lexicographic sort: least-significant-key-first passes of a stable argsort.
  One pass (`sortPass_spec`) turns an index sorted by (keys `P`, row number) into one sorted by (`c :: P`, row number).
-/
namespace Exetera.SortIndex
open Exetera Exetera.Spec List

def keyAt (cols : List (List Int)) (i : Nat) : List Int := cols.map (·.getD i 0)

def ltBy (cols : List (List Int)) (i j : Nat) : Prop :=
  tupleLt (keyAt cols i) (keyAt cols j) = true ∨ (keyAt cols i = keyAt cols j ∧ i < j)

theorem gather_ok {α} (src : List α) (d : α) : ∀ (idx : List Nat), (∀ i ∈ idx, i < src.length) →
    gather src idx = .ok (idx.map (src.getD · d))
  | [], _ => rfl
  | i :: is, h => by
    have hi : i < src.length := h i (by simp)
    simp only [gather, getE_of_lt _ hi, gather_ok src d is (fun j hj => h j (by simp [hj])), consE_ok, List.map_cons]
    simp [List.getD_eq_getElem?_getD, List.getElem?_eq_getElem hi]

theorem leKey_trans (a b c : Int × Nat) : leKey a b = true → leKey b c = true → leKey a c = true := by
  simp only [leKey, decide_eq_true_eq]; omega

theorem leKey_total (a b : Int × Nat) : (leKey a b || leKey b a) = true := by
  simp only [leKey, Bool.or_eq_true, decide_eq_true_eq]; omega

theorem mergeSort_zipIdx_lex (vals : List Int) :
    (vals.zipIdx.mergeSort leKey).Pairwise (fun x y => x.1 < y.1 ∨ (x.1 = y.1 ∧ x.2 < y.2)) := by
  have hsorted := pairwise_mergeSort leKey_trans leKey_total vals.zipIdx
  have hpos : vals.zipIdx.Pairwise (fun x y => x.2 < y.2) := by
    rw [pairwise_iff_getElem]
    intro i j hi hj hij
    simp [getElem_zipIdx, hij]
  rw [pairwise_iff_forall_sublist] at hsorted ⊢
  intro x y hxy
  have hle : x.1 ≤ y.1 := by simpa [leKey] using hsorted hxy
  by_cases hlt : x.1 < y.1
  · exact Or.inl hlt
  · right
    have heq : x.1 = y.1 := by omega
    refine ⟨heq, ?_⟩
    -- the rows with this key keep their relative order
    let p : Int × Nat → Bool := fun z => z.1 == y.1
    have hc : (vals.zipIdx.filter p).Pairwise (fun a b => leKey a b = true) := by
      rw [pairwise_iff_forall_sublist]
      intro a b hab
      have ha : a ∈ vals.zipIdx.filter p := hab.subset (by simp)
      have hb : b ∈ vals.zipIdx.filter p := hab.subset (by simp)
      simp only [mem_filter, p, beq_iff_eq] at ha hb
      simp [leKey, ha.2, hb.2]
    have hsub : vals.zipIdx.filter p <+ vals.zipIdx.mergeSort leKey :=
      sublist_mergeSort leKey_trans leKey_total hc filter_sublist
    have hsub' : vals.zipIdx.filter p <+ (vals.zipIdx.mergeSort leKey).filter p := by
      have := hsub.filter p
      simpa [filter_filter] using this
    have hlen : (vals.zipIdx.filter p).length = ((vals.zipIdx.mergeSort leKey).filter p).length :=
      ((mergeSort_perm vals.zipIdx leKey).filter p).length_eq.symm
    have heq' := hsub'.eq_of_length hlen
    have hxy' : [x, y] <+ (vals.zipIdx.mergeSort leKey).filter p := by
      have := hxy.filter p
      simpa [p, heq] using this
    rw [← heq'] at hxy'
    have hp : (vals.zipIdx.filter p).Pairwise (fun x y => x.2 < y.2) := hpos.sublist filter_sublist
    rw [pairwise_iff_forall_sublist] at hp
    exact hp hxy'

theorem keyAt_cons (c : List Int) (P : List (List Int)) (i : Nat) : keyAt (c :: P) i = c.getD i 0 :: keyAt P i := rfl

theorem ltBy_cons_of_lt {c : List Int} {P : List (List Int)} {a b : Nat} (h : c.getD a 0 < c.getD b 0) : ltBy (c :: P) a b := by
  left; rw [keyAt_cons, keyAt_cons, tupleLt_cons_iff]; exact Or.inl h

theorem ltBy_cons_of_eq {c : List Int} {P : List (List Int)} {a b : Nat} (h : c.getD a 0 = c.getD b 0) (hp : ltBy P a b) :
    ltBy (c :: P) a b := by
  rcases hp with hp | ⟨hk, hab⟩
  · left; rw [keyAt_cons, keyAt_cons, tupleLt_cons_iff]; exact Or.inr ⟨h, hp⟩
  · right; rw [keyAt_cons, keyAt_cons, h, hk]; exact ⟨rfl, hab⟩

theorem sortPass_spec (c : List Int) (P : List (List Int)) (acc : List Nat) (n : Nat) (hc : c.length = n)
    (hperm : acc.Perm (List.range n)) (hs : acc.Pairwise (ltBy P)) :
    ∃ out, sortPass c acc = .ok out ∧ out.Perm (List.range n) ∧ out.Pairwise (ltBy (c :: P)) := by
  have hlt : ∀ i ∈ acc, i < c.length := by
    intro i hi
    have := hperm.subset hi
    simp at this; omega
  let f : Nat → Int := fun i => c.getD i 0
  let M := ((acc.map f).zipIdx).mergeSort leKey
  let g : Int × Nat → Nat := fun x => acc.getD x.2 0
  have hmemM : ∀ x ∈ M, x.2 < acc.length ∧ x.1 = f (g x) := by
    intro x hx
    have hx' : x ∈ (acc.map f).zipIdx := (mergeSort_perm _ _).subset hx
    obtain ⟨hlt', hv⟩ := mem_zipIdx' (x := x.1) (i := x.2) hx'
    simp only [length_map] at hlt'
    refine ⟨hlt', ?_⟩
    simp only [g, List.getD_eq_getElem?_getD, List.getElem?_eq_getElem hlt', Option.getD_some]
    simpa using hv
  have hpos : ∀ p ∈ argsortStable (acc.map f), p < acc.length := by
    intro p hp
    simp only [argsortStable, mem_map] at hp
    obtain ⟨x, hx, rfl⟩ := hp
    exact (hmemM x hx).1
  refine ⟨M.map g, ?_, ?_, ?_⟩
  · unfold sortPass
    rw [gather_ok c 0 acc hlt]
    simp only
    rw [gather_ok acc 0 _ hpos]
    simp [argsortStable, M, g, f]
  · have h1 : (M.map g).Perm (((acc.map f).zipIdx).map g) := (mergeSort_perm _ _).map g
    have h2 : ((acc.map f).zipIdx).map g = acc := by
      apply List.ext_getElem
      · simp
      · intro i h1 h2
        simp only [length_map, length_zipIdx] at h1
        simp [g, getElem_zipIdx, List.getD_eq_getElem?_getD, List.getElem?_eq_getElem h1]
    rw [h2] at h1
    exact h1.trans hperm
  · rw [pairwise_map]
    refine (mergeSort_zipIdx_lex (acc.map f)).imp_of_mem ?_
    intro x y hx hy hxy
    obtain ⟨hx2, hx1⟩ := hmemM x hx
    obtain ⟨hy2, hy1⟩ := hmemM y hy
    rcases hxy with hlt' | ⟨heq, hp⟩
    · apply ltBy_cons_of_lt
      rw [hx1, hy1] at hlt'; exact hlt'
    · apply ltBy_cons_of_eq
      · rw [hx1, hy1] at heq; exact heq
      · have := (pairwise_iff_getElem.1 hs) x.2 y.2 hx2 hy2 hp
        simpa [g, List.getD_eq_getElem?_getD, List.getElem?_eq_getElem hx2, List.getElem?_eq_getElem hy2] using this

theorem sortLoop_spec (n : Nat) : ∀ (rs P : List (List Int)) (acc : List Nat), (∀ c ∈ rs, c.length = n) →
    acc.Perm (List.range n) → acc.Pairwise (ltBy P) →
    ∃ out, sortLoop rs acc = .ok out ∧ out.Perm (List.range n) ∧ out.Pairwise (ltBy (rs.reverse ++ P))
  | [], P, acc, _, hp, hs => ⟨acc, rfl, hp, by simpa using hs⟩
  | r :: rs, P, acc, hl, hp, hs => by
    obtain ⟨acc', h1, hp', hs'⟩ := sortPass_spec r P acc n (hl r (by simp)) hp hs
    obtain ⟨out, h2, hp'', hs''⟩ := sortLoop_spec n rs (r :: P) acc' (fun c hc => hl c (by simp [hc])) hp' hs'
    refine ⟨out, by simp [sortLoop, h1, h2], hp'', ?_⟩
    simpa using hs''

theorem ltBy_nil (i j : Nat) : ltBy [] i j ↔ i < j := by
  simp [ltBy, keyAt, tupleLt]

/-- **`dataset_sort_index` is the stable lexicographic sort**: for `n`-row key columns and the start index `arange(n)`
    it returns (no IndexError) a permutation of the row numbers along which (key tuple, row number) strictly increases —
    i.e. key tuples are non-decreasing and rows with equal keys stay in their original order. -/
theorem datasetSortIndex_spec (c0 : List Int) (cs : List (List Int)) (n : Nat) (hl : ∀ c ∈ c0 :: cs, c.length = n) :
    ∃ idx, datasetSortIndex (c0 :: cs) (List.range n) = .ok idx ∧ idx.Perm (List.range n) ∧
      idx.Pairwise (ltBy (c0 :: cs)) := by
  have hs0 : (List.range n).Pairwise (ltBy []) := by
    refine pairwise_lt_range.imp ?_
    intro a b h; exact (ltBy_nil a b).2 h
  obtain ⟨out, h, hp, hs⟩ := sortLoop_spec n (c0 :: cs).reverse [] (List.range n)
    (fun c hc => hl c (by simp at hc; simp; exact hc.symm)) (Perm.refl _) hs0
  refine ⟨out, ?_, hp, by simpa using hs⟩
  unfold datasetSortIndex
  cases hrev : (c0 :: cs).reverse with
  | nil => simp at hrev
  | cons r rs => rw [hrev] at h; exact h

end Exetera.SortIndex
