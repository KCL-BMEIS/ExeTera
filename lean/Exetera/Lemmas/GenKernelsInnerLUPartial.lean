import Exetera.Gen.Kernels
import Exetera.Lemmas.GenKernels
import Exetera.Lemmas.GenKernelsJoinUnique
/-!
  The TRANSLATED kernel `ordered_inner_map_left_unique_partial(d_i, d_j, left, right, left_to_inner, right_to_inner)`.

  The kernel has NO caller reachable from the library's API (its only caller `ordered_inner_map_left_unique_streamed` is called by
  tests/ only): the theorems below are NOT obligations of any property; they are re-checked by `lake build Exetera` only. The
  translation itself is validated differentially under C10 (checks/harness/genkernels.py).

  It is the C03 kernel `generate_ordered_map_to_inner_left_unique_partial` entered at `i = j = r = 0` with `i_max = len(left)`,
  `j_max = len(right)`: `inner_lu_partial_iff` proves that for EVERY input and fuel the two TRANSLATED definitions return normally
  on the same inputs, with the same result (they differ in the names of their subscript sites only, so their errors are equal up
  to the site string). Every theorem about the C03 kernel (`C03Gen.gen_inner_left_unique_partial_ok`, `gen_ilu_partial_call`)
  therefore speaks about this one too.

  Technique: `okOf` forgets the error value; a state of the flat kernel is embedded into the states of the C03 kernel (bounds :=
  lengths); `okOf` of either loop body is the same function of the state (`simp` normalises both to one site-free expression),
  and `whileE` commutes with such an embedding (`whileE_okOf`).
-/
namespace Exetera.GenK

open Exetera Exetera.PyRt Exetera.Gen.Kernels

/-- the value of a run, forgetting which error it was -/
def okOf {α} : Except Err α → Option α
  | .ok a => some a
  | .error _ => none

@[simp] theorem okOf_ok {α} (a : α) : okOf (.ok a : Except Err α) = some a := rfl
@[simp] theorem okOf_error {α} (e : Err) : okOf (.error e : Except Err α) = none := rfl

@[simp] theorem okOf_bindE {α β} (x : Except Err α) (k : α → Except Err β) :
    okOf (bindE x k) = (okOf x).bind (fun a => okOf (k a)) := by
  cases x <;> rfl

theorem okOf_ite {α} (c : Prop) [Decidable c] (a b : Except Err α) : okOf (if c then a else b) = if c then okOf a else okOf b := by
  split <;> rfl

theorem ite_bind {α β} (c : Prop) [Decidable c] (a b : Option α) (f : α → Option β) :
    (if c then a else b).bind f = if c then a.bind f else b.bind f := by
  split <;> rfl

theorem okOf_eq_some {α} {x : Except Err α} {a : α} : okOf x = some a ↔ x = .ok a := by
  cases x <;> simp [okOf]

/-- `xs[i]` without the site -/
def idxO {α} (xs : List α) (i : Int) : Option α := if 0 ≤ i then xs[i.toNat]? else none

/-- `xs[i] = v` without the site -/
def setIdxO {α} (xs : List α) (i : Int) (v : α) : Option (List α) :=
  if 0 ≤ i then (if i.toNat < xs.length then some (xs.set i.toNat v) else none) else none

@[simp] theorem okOf_idxE {α} (xs : List α) (i : Int) (site : String) : okOf (idxE xs i site) = idxO xs i := by
  unfold idxE idxO getE
  split
  · cases xs[i.toNat]? <;> rfl
  · rfl

@[simp] theorem okOf_setIdxE {α} (xs : List α) (i : Int) (v : α) (site : String) :
    okOf (setIdxE xs i v site) = setIdxO xs i v := by
  unfold setIdxE setIdxO setE
  split
  · split <;> rfl
  · rfl

/-- `whileE` commutes with an embedding `f` of states under which guards agree and bodies agree up to the error value -/
theorem whileE_okOf {σ τ} (f : τ → σ) (g1 : σ → Bool) (b1 : σ → Except Err σ) (g2 : τ → Bool) (b2 : τ → Except Err τ)
    (hg : ∀ t, g1 (f t) = g2 t) (hb : ∀ t, okOf (b1 (f t)) = (okOf (b2 t)).map f) :
    ∀ (n : Nat) (t : τ), okOf (whileE g1 b1 n (f t)) = (okOf (whileE g2 b2 n t)).map f := by
  intro n
  induction n with
  | zero =>
    intro t
    simp only [whileE, hg t]
    cases g2 t <;> rfl
  | succ n ih =>
    intro t
    simp only [whileE, hg t]
    cases g2 t with
    | false => rfl
    | true =>
      simp only [if_true]
      have h := hb t
      cases h2 : b2 t with
      | error e =>
        rw [h2] at h
        cases h1 : b1 (f t) with
        | error e' => rfl
        | ok s' => rw [h1] at h; cases h
      | ok t' =>
        rw [h2] at h
        rw [okOf_eq_some.mp h]
        exact ih t'

namespace ILUP

abbrev S1 := ordered_inner_map_left_unique_partial.St
abbrev S2 := generate_ordered_map_to_inner_left_unique_partial.St

/-- the state of the C03 kernel that a state of the flat kernel stands for: the bounds are the lengths of the columns -/
def emb (t : S1) : S2 := ⟨t.p2, pyLen t.p2, t.p3, pyLen t.p3, t.p4, t.p5, t.p0, t.p1, t.v0, t.v1, t.v2⟩

theorem body_eq (t : S1) :
    okOf (generate_ordered_map_to_inner_left_unique_partial.body_L1 (emb t))
      = (okOf (ordered_inner_map_left_unique_partial.body_L1 t)).map emb := by
  obtain ⟨di, dj, left, right, l2i, r2i, i, j, m⟩ := t
  show okOf (generate_ordered_map_to_inner_left_unique_partial.body_L1
    ⟨left, pyLen left, right, pyLen right, l2i, r2i, di, dj, i, j, m⟩) = _
  simp only [ordered_inner_map_left_unique_partial.body_L1, generate_ordered_map_to_inner_left_unique_partial.body_L1,
    okOf_bindE, okOf_ite, okOf_ok, okOf_idxE, okOf_setIdxE]
  simp only [Option.bind_assoc, ite_bind, Option.bind_some, Option.map_bind, Function.comp_def, apply_ite (Option.map emb),
    Option.map_some]
  rfl

end ILUP

theorem inner_lu_partial_iff (di dj : Int) (left right l2i r2i : List Int) (fuel : Nat)
    (r : Int × Int × Int × List Int × List Int) :
    ordered_inner_map_left_unique_partial.run di dj left right l2i r2i fuel = .ok r ↔
      generate_ordered_map_to_inner_left_unique_partial.run left (pyLen left) right (pyLen right) l2i r2i di dj 0 0 0 fuel = .ok r := by
  have h := whileE_okOf ILUP.emb generate_ordered_map_to_inner_left_unique_partial.guard_L1
    generate_ordered_map_to_inner_left_unique_partial.body_L1 ordered_inner_map_left_unique_partial.guard_L1
    ordered_inner_map_left_unique_partial.body_L1 (fun _ => rfl) ILUP.body_eq fuel ⟨di, dj, left, right, l2i, r2i, 0, 0, 0⟩
  unfold ordered_inner_map_left_unique_partial.run generate_ordered_map_to_inner_left_unique_partial.run
  simp only [ILUP.emb] at h
  rw [← okOf_eq_some, ← okOf_eq_some]
  simp only [okOf_bindE, okOf_ok, h]
  cases okOf (whileE ordered_inner_map_left_unique_partial.guard_L1 ordered_inner_map_left_unique_partial.body_L1 fuel
    ⟨di, dj, left, right, l2i, r2i, 0, 0, 0⟩) <;> simp [ILUP.emb]

/-- transfer from the hand model of the C03 kernel (`Join.runPartial .innerLU`, entered with empty buffers at `i = j = 0` and the
    bounds `len(left)`, `len(right)`): every `.ok` run of the model is a run of the translated flat kernel on buffers whose written
    prefixes are the model's lists -/
theorem inner_lu_partial_flat_ok (p : Join.P) (k' : Join.K) (lbuf rbuf : List Int)
    (hl : lbuf.length = p.cap) (hr : rbuf.length = p.cap) (hi : p.iMax = p.left.length) (hj : p.jMax = p.right.length)
    (h : Join.runPartial .innerLU p {} = .ok k') :
    ∃ lbuf' rbuf', ordered_inner_map_left_unique_partial.run p.iOff p.jOff p.left p.right lbuf rbuf (Join.partialFuel p)
        = .ok ((k'.i : Int), (k'.j : Int), (k'.rb.length : Int), lbuf', rbuf') ∧
      lbuf'.length = p.cap ∧ rbuf'.length = p.cap ∧ lbuf'.take k'.rb.length = k'.lb ∧ rbuf'.take k'.rb.length = k'.rb := by
  obtain ⟨lbuf', rbuf', hrun, h1, h2⟩ := inner_left_unique_partial_ok p {} k' lbuf rbuf ⟨hl, rfl, rfl⟩ ⟨hr, rfl, rfl⟩ h
  refine ⟨lbuf', rbuf', ?_, h1.1, h2.1, h1.2.2, h2.2.2⟩
  rw [inner_lu_partial_iff]
  rw [hi, hj] at hrun
  exact hrun

example : ordered_inner_map_left_unique_partial.run 3 5 [1, 2, 4] [1, 2, 2, 4, 6] [7, 7, 7, 7] [8, 8, 8, 8] 9
    = .ok (3, 4, 4, [3, 4, 4, 5], [5, 6, 7, 8]) := rfl

end Exetera.GenK
