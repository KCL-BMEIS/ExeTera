import Exetera.Gen.Kernels
import Exetera.Model.Transforms
import Exetera.Lemmas.GenKernels
import Exetera.Lemmas.GenKernelsSpans
import Exetera.Lemmas.GenKernelsCategorical
/-!
  The TRANSLATED `transform_to_values` (`data.append(column_vals[col_offset + inds[r] : col_offset + inds[r+1]])` for every row
  written) against `Transforms.cellsE` / `cellsFrom` — transfer form. The model reads a cell with `sliceE`, which insists that the
  END of the slice lies inside `column_vals` (nothing about the start); the translation renders the Python slice, which clamps both
  bounds (`PyRt.pySlice`) and never raises. The two slices are always the same list (`pySlice_ints_nat`); the only difference is
  the model's range check: where the model reports an end beyond the buffer the translated kernel returns the (shortened) cell
  (no transfer is claimed there).
-/
namespace Exetera.GenK

open Exetera Exetera.PyRt Exetera.Transforms Exetera.Gen.Kernels

theorem pySlice_ints_nat (vals : List Nat) (a b : Nat) :
    pySlice (ints vals) (some (a : Int)) (some (b : Int)) = ints (slice vals a b) := by
  rw [pySlice_nat]
  simp only [slice, List.map_take, List.map_drop]

namespace TV

abbrev St := transform_to_values.St

abbrev loop1 (n : Nat) (k : Int) (s : St) : Except Err St :=
  forRangeAux (fun _ => false) (fun k s => transform_to_values.body_L1 { s with v2 := k }) n k s

theorem rows_sim (c : Chunk) (s : St) (h0 : s.p0[c.col]? = some (ints c.inds)) (h1 : s.p1 = ints c.vals)
    (h3 : s.p3 = (c.col : Int)) (hv1 : s.v1 = (c.off : Int)) (n : Nat) (cells : List Bytes) (h : cellsFrom c n 0 = .ok cells) :
    ∃ s', loop1 n ((0 : Nat) : Int) s = .ok s' ∧ s'.v0 = s.v0 ++ cells.map ints := by
  refine forRangeAux_rule
    (fun n i t => ∃ (acc : List (List Int)) (rest : List Bytes), (∃ a2 a3 a4 a5, t =
        { s with v0 := acc, v2 := a2, v3 := a3, v4 := a4, v5 := a5 }) ∧
      cellsFrom c n i = .ok rest ∧ acc ++ rest.map ints = s.v0 ++ cells.map ints) _ ?_ ?_ n 0 s
    ⟨s.v0, cells, ⟨_, _, _, _, rfl⟩, h, rfl⟩
  · rintro i t ⟨acc, rest, ⟨a2, a3, a4, a5, rfl⟩, h, hacc⟩
    cases h
    simpa using hacc
  · rintro n i t ⟨acc, rest, ⟨a2, a3, a4, a5, rfl⟩, h, hacc⟩
    simp only [cellsFrom] at h
    split at h
    · cases h
    · rename_i s0 hs0
      split at h
      · cases h
      · rename_i e0 he0
        split at h
        · cases h
        · rename_i cell hcell
          split at h
          · cases h
          · rename_i rest' hrest
            cases h
            rw [getE_eq_ok] at hs0 he0
            simp only [sliceE] at hcell
            split at hcell
            · cases hcell
              have e5 : s.v1 + (s0 : Int) = ((c.off + s0 : Nat) : Int) := by rw [hv1, Int.natCast_add]
              have e6 : s.v1 + (e0 : Int) = ((c.off + e0 : Nat) : Int) := by rw [hv1, Int.natCast_add]
              have hps : ∀ a b : Nat, pySlice s.p1 (some (a : Int)) (some (b : Int)) = ints (slice c.vals a b) :=
                fun a b => h1 ▸ pySlice_ints_nat c.vals a b
              simp only [transform_to_values.body_L1, idxE_at h3, getE_of_some _ h0, idxE_nat, idxE_nat_succ,
                getE_map_ofNat _ _ _ hs0, getE_map_ofNat _ _ _ he0, bindE_ok, e5, e6, hps]
              refine ⟨_, rfl, _, rest', ⟨_, _, _, _, rfl⟩, hrest, ?_⟩
              rw [← hacc, List.map_cons, List.append_assoc, List.singleton_append]
            · cases hcell

end TV

theorem transform_to_values_ok (c : Chunk) (cinds : List (List Int)) (coffs : List Int) (hst : Staged c cinds coffs)
    {cells : List Bytes} (h : cellsE c = .ok cells) :
    transform_to_values.run cinds (ints c.vals) coffs (c.col : Int) (c.rows : Int) = .ok (cells.map ints) := by
  unfold cellsE withCol at h
  split at h
  · cases h
  · split at h
    · cases h
    · obtain ⟨s', hrun, hv0⟩ := TV.rows_sim c
        { p0 := cinds, p1 := ints c.vals, p2 := coffs, p3 := c.col, p4 := c.rows, v0 := [], v1 := c.off, v2 := 0, v3 := 0,
          v4 := 0, v5 := [] } hst.hinds rfl rfl rfl c.rows cells h
      simp only [transform_to_values.run, idxE_nat, getE_of_some _ hst.hoff, bindE_ok, forRangeE_zero, Int.toNat_natCast,
        hrun, hv0, List.nil_append]

end Exetera.GenK
