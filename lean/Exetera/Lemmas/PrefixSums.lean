import Exetera.Lemmas.Basic
/-!
  The index array of an indexed-string column. The models and specifications that store variable-length entries carry
  their own "running offsets" (`Spec.offsetsFrom`, `Spec.offsetsFromF`, `Spec.CsvLine.offsetsFrom`, `Csv.Spec.offsetsFrom`,
  `GroupBy.offsets`, `Transforms.offsets`, `Journal.offsetsFrom`), because each mirrors its own piece of ExeTera. Each of these
  is the `prefixSums` of the entry lengths (an equation `*_eq_prefixSums` beside its lemmas), so the facts about offsets are
  proved here about `prefixSums` and carried over by rewriting. (`Spec.offsetsFromI` is `Spec.offsetsFromF` cast to `Int`,
  `offsetsFromI_eq`; `Unique.offsetsFrom` has its own direct lemmas.)
-/
namespace Exetera

/-- `[b, b + l₀, b + l₀ + l₁, …]` -/
def prefixSums (b : Nat) : List Nat → List Nat
  | [] => [b]
  | l :: ls => b :: prefixSums (b + l) ls

namespace prefixSums

@[simp] theorem length_eq (b : Nat) (ls : List Nat) : (prefixSums b ls).length = ls.length + 1 := by
  induction ls generalizing b with
  | nil => rfl
  | cons l ls ih => simp [prefixSums, ih]

theorem ne_nil (b : Nat) (ls : List Nat) : prefixSums b ls ≠ [] := by cases ls <;> simp [prefixSums]

theorem cons_tail (b : Nat) (ls : List Nat) : b :: (prefixSums b ls).tail = prefixSums b ls := by cases ls <;> rfl

theorem getElem? (b : Nat) (ls : List Nat) (k : Nat) (hk : k ≤ ls.length) :
    (prefixSums b ls)[k]? = some (b + (ls.take k).sum) := by
  induction ls generalizing b k with
  | nil => obtain rfl : k = 0 := by simpa using hk
           rfl
  | cons l ls ih =>
    cases k with
    | zero => rfl
    | succ k => simp [prefixSums, ih (b + l) k (by simpa using hk), Nat.add_assoc]

theorem getLast? (b : Nat) (ls : List Nat) : (prefixSums b ls).getLast? = some (b + ls.sum) := by
  rw [List.getLast?_eq_getElem?, length_eq, Nat.add_sub_cancel, getElem? b ls _ (Nat.le_refl _), List.take_length]

theorem map_add (b a : Nat) (ls : List Nat) : (prefixSums b ls).map (· + a) = prefixSums (b + a) ls := by
  induction ls generalizing b with
  | nil => rfl
  | cons l ls ih => simp [prefixSums, ih, Nat.add_right_comm]

theorem append (b : Nat) (xs ys : List Nat) :
    prefixSums b (xs ++ ys) = prefixSums b xs ++ (prefixSums (b + xs.sum) ys).tail := by
  induction xs generalizing b with
  | nil => cases ys <;> simp [prefixSums]
  | cons x xs ih => simp [prefixSums, ih, Nat.add_assoc]

theorem snoc (b : Nat) (xs : List Nat) (y : Nat) : prefixSums b (xs ++ [y]) = prefixSums b xs ++ [b + xs.sum + y] := by
  simp [append, prefixSums]

theorem bounds (b : Nat) (ls : List Nat) : ∀ x ∈ prefixSums b ls, b ≤ x ∧ x ≤ b + ls.sum := by
  induction ls generalizing b with
  | nil => simp [prefixSums]
  | cons l ls ih =>
    intro x hx
    rcases List.mem_cons.mp hx with rfl | hx
    · simp
    · have := ih (b + l) x hx
      simp only [List.sum_cons]
      omega

theorem pairwise (b : Nat) (ls : List Nat) : (prefixSums b ls).Pairwise (· ≤ ·) := by
  induction ls generalizing b with
  | nil => simp [prefixSums]
  | cons l ls ih =>
    refine List.pairwise_cons.mpr ⟨fun x hx => ?_, ih (b + l)⟩
    have := (bounds (b + l) ls x hx).1
    omega

variable {α : Type _}

theorem getElem?_lengths (b : Nat) (es : List (List α)) (k : Nat) (hk : k ≤ es.length) :
    (prefixSums b (es.map List.length))[k]? = some (b + (es.take k).flatten.length) := by
  rw [getElem? b _ k (by rw [List.length_map]; exact hk), ← List.map_take, List.length_flatten]

theorem getLast?_lengths (b : Nat) (es : List (List α)) :
    (prefixSums b (es.map List.length)).getLast? = some (b + es.flatten.length) := by
  rw [getLast?, List.length_flatten]

theorem bounds_lengths (b : Nat) (es : List (List α)) :
    ∀ x ∈ prefixSums b (es.map List.length), b ≤ x ∧ x ≤ b + es.flatten.length := by
  rw [List.length_flatten]
  exact bounds b _

theorem append_lengths (b : Nat) (xs ys : List (List α)) :
    prefixSums b ((xs ++ ys).map List.length) =
      prefixSums b (xs.map List.length) ++ (prefixSums (b + xs.flatten.length) (ys.map List.length)).tail := by
  rw [List.map_append, append, List.length_flatten]

theorem snoc_lengths (b : Nat) (es : List (List α)) (e : List α) :
    prefixSums b ((es ++ [e]).map List.length) = prefixSums b (es.map List.length) ++ [b + es.flatten.length + e.length] := by
  rw [List.map_append, List.map_singleton, snoc, List.length_flatten]

end prefixSums

end Exetera
