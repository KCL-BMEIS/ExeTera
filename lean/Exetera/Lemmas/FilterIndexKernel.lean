import Exetera.Model.FilterIndex
import Exetera.Spec.FilterIndex
import Exetera.Lemmas.PrefixSums
/-!
  The kernels and fields of filter / re-index (C09) against the row-level spec, in terms of the spec's `rowAt` /
  `gather`: a subscript is looked at only through the entry it addresses. The filter kernel is not treated separately:
  past its length guard it is the re-index kernel on the positions of the set flags (`filter_kernel_eq_index`), and those
  positions gather exactly `filterBy` (`gather_setFlags`).
-/
namespace Exetera.FilterIndex
open Exetera Exetera.Spec

theorem normIdx_eq_wrapIdx : normIdx = Spec.wrapIdx := rfl

theorem wrapIdx_ofNat (n m : Nat) : wrapIdx n (m : Int) = if m < n then some m else none := by
  simp [wrapIdx]

theorem wrapIdx_negSucc (n m : Nat) : wrapIdx n (Int.negSucc m) = if m + 1 ≤ n then some (n - (m + 1)) else none := by
  simp [wrapIdx, Int.negSucc_not_nonneg, Int.neg_negSucc]

/-- the subscripts numpy rejects are exactly those the guard of fix NC09b (`indexGuard`) tests for -/
theorem wrapIdx_eq_none_iff {n : Nat} {i : Int} : wrapIdx n i = none ↔ (i < -(n : Int) ∨ i ≥ (n : Int)) := by
  cases i with
  | ofNat m => rw [Int.ofNat_eq_natCast, wrapIdx_ofNat]; split <;> simp <;> omega
  | negSucc m => rw [wrapIdx_negSucc]; split <;> simp <;> omega

theorem wrapIdx_lt {n : Nat} {i : Int} {k : Nat} (h : wrapIdx n i = some k) : k < n := by
  cases i with
  | ofNat m => rw [Int.ofNat_eq_natCast, wrapIdx_ofNat] at h; split at h <;> cases h; assumption
  | negSucc m =>
    rw [wrapIdx_negSucc] at h; split at h <;> cases h
    rename_i hle; exact Nat.sub_lt (Nat.lt_of_lt_of_le (Nat.succ_pos m) hle) (Nat.succ_pos m)

theorem rowAt_eq_some_iff {α} {xs : List α} {i : Int} {x : α} :
    rowAt xs i = some x ↔ ∃ k, wrapIdx xs.length i = some k ∧ xs[k]? = some x := by
  unfold rowAt
  cases wrapIdx xs.length i <;> simp

theorem rowAt_eq_none_iff {α} {xs : List α} {i : Int} : rowAt xs i = none ↔ wrapIdx xs.length i = none := by
  unfold rowAt
  cases h : wrapIdx xs.length i with
  | none => simp
  | some k => simpa using wrapIdx_lt h

theorem rowAt_nil {α} (i : Int) : rowAt ([] : List α) i = none := by
  unfold rowAt; split <;> simp

theorem rowAt_natCast {α} {xs : List α} {k : Nat} (h : k < xs.length) : rowAt xs (k : Int) = some xs[k] := by
  simp [rowAt, wrapIdx_ofNat, h]

theorem getWrapE_eq_rowAt {α} (xs : List α) (i : Int) (site : String) :
    getWrapE xs i site = match rowAt xs i with
      | some x => .ok x
      | none => .error (.oob site) := by
  unfold getWrapE rowAt
  rw [normIdx_eq_wrapIdx]
  cases wrapIdx xs.length i with
  | none => rfl
  | some k => simp only [getE]; cases xs[k]? <;> rfl

theorem indexGuard_ok (v : Variant) {α} {xs : List α} {i : Int} {x : α} (h : rowAt xs i = some x) :
    indexGuard v xs.length i = .ok () := by
  have hn : ¬ (i < -(xs.length : Int) ∨ i ≥ (xs.length : Int)) := by
    rw [← wrapIdx_eq_none_iff, ← rowAt_eq_none_iff, h]; simp
  simp [indexGuard, hn]

theorem indexGuard_err {α} {xs : List α} {i : Int} (h : rowAt xs i = none) :
    indexGuard .repaired xs.length i = .error (.oob "index out of bounds for indexed field") := by
  rw [rowAt_eq_none_iff, wrapIdx_eq_none_iff] at h
  simp [indexGuard, h]

theorem gather_cons {α} (xs : List α) (i : Int) (is : List Int) :
    gather xs (i :: is) = (rowAt xs i).bind fun x => (gather xs is).map (x :: ·) := by
  simp only [gather]
  cases rowAt xs i with
  | none => rfl
  | some x => cases gather xs is <;> rfl

theorem gather_cons_eq_some {α} {xs : List α} {i : Int} {is : List Int} {rows : List α} :
    gather xs (i :: is) = some rows ↔ ∃ x r, rowAt xs i = some x ∧ gather xs is = some r ∧ x :: r = rows := by
  simp only [gather_cons, Option.bind_eq_some_iff, Option.map_eq_some_iff]
  exact ⟨fun ⟨x, hx, r, hr, h⟩ => ⟨x, r, hx, hr, h⟩, fun ⟨x, r, hx, hr, h⟩ => ⟨x, hx, r, hr, h⟩⟩

theorem gather_cons_eq_none {α} {xs : List α} {i : Int} {is : List Int} :
    gather xs (i :: is) = none ↔ rowAt xs i = none ∨ gather xs is = none := by
  rw [gather_cons]
  cases rowAt xs i <;> simp

theorem filterBy_nil_right {α} (bs : List Bool) : filterBy bs ([] : List α) = [] := by
  cases bs <;> rfl

theorem filterBy_cons {α} (b : Bool) (bs : List Bool) (x : α) (xs : List α) :
    filterBy (b :: bs) (x :: xs) = if b then x :: filterBy bs xs else filterBy bs xs := rfl

/-! ### offsets and bytes of an indexed string column -/

theorem offsetsFromF_eq_prefixSums {α} (s : Nat) (es : List (List α)) :
    offsetsFromF s es = prefixSums s (es.map List.length) := by
  induction es generalizing s with
  | nil => rfl
  | cons e es ih => simp [offsetsFromF, prefixSums, ih]

theorem offsetsFrom_length {α} (s : Nat) (es : List (List α)) : (offsetsFromF s es).length = es.length + 1 := by
  rw [offsetsFromF_eq_prefixSums, prefixSums.length_eq, List.length_map]

theorem offsetsFrom_getElem? {α} (s : Nat) (es : List (List α)) (k : Nat) (hk : k ≤ es.length) :
    (offsetsFromF s es)[k]? = some (s + (es.take k).flatten.length) := by
  rw [offsetsFromF_eq_prefixSums, prefixSums.getElem?_lengths s es k hk]

theorem offsetsF_snoc {α} (xs : List (List α)) (e : List α) :
    offsetsF (xs ++ [e]) = offsetsF xs ++ [xs.flatten.length + e.length] := by
  rw [offsetsF, offsetsF, offsetsFromF_eq_prefixSums, offsetsFromF_eq_prefixSums, prefixSums.snoc_lengths, Nat.zero_add]

theorem cur_length {α} (es : List (List α)) : (offsetsF es).dropLast.length = es.length := by
  simp [offsetsF, offsetsFrom_length]

theorem nxt_length {α} (es : List (List α)) : ((offsetsF es).drop 1).length = es.length := by
  simp [offsetsF, offsetsFrom_length]

theorem entry_bounds {α} {es : List (List α)} {k : Nat} {e : List α} (he : es[k]? = some e) :
    (offsetsF es)[k]? = some (es.take k).flatten.length ∧
    (offsetsF es)[k + 1]? = some ((es.take k).flatten.length + e.length) ∧
    (es.take k).flatten.length + e.length ≤ es.flatten.length ∧
    slice es.flatten (es.take k).flatten.length ((es.take k).flatten.length + e.length) = e := by
  obtain ⟨hk, rfl⟩ := List.getElem?_eq_some_iff.mp he
  have hsplit : es.flatten = (es.take k).flatten ++ (es[k] ++ (es.drop (k + 1)).flatten) := by
    rw [← List.flatten_cons, ← List.flatten_append, ← List.drop_eq_getElem_cons hk, List.take_append_drop]
  refine ⟨?_, ?_, ?_, ?_⟩
  · rw [offsetsF, offsetsFrom_getElem? 0 es k (Nat.le_of_lt hk), Nat.zero_add]
  · rw [offsetsF, offsetsFrom_getElem? 0 es (k + 1) hk, List.take_add_one, he]
    simp only [Option.toList_some, List.flatten_append, List.flatten_cons, List.flatten_nil, List.append_nil,
      List.length_append, Nat.zero_add]
  · rw [hsplit, List.length_append, List.length_append, ← Nat.add_assoc]; exact Nat.le_add_right _ _
  · rw [hsplit, slice, List.drop_left' rfl, Nat.add_sub_cancel_left, List.take_left' rfl]

theorem entry_reads {es : List (List Nat)} {i : Int} {e : List Nat} (h : rowAt es i = some e) :
    ∃ c, rowAt (offsetsF es).dropLast i = some c ∧ rowAt ((offsetsF es).drop 1) i = some (c + e.length) ∧
      sliceE es.flatten c (c + e.length) "values[c:n]" = .ok e := by
  obtain ⟨k, hk, he⟩ := rowAt_eq_some_iff.mp h
  obtain ⟨hc, hn, hb, hs⟩ := entry_bounds he
  have hlt : k < (offsetsF es).length - 1 := by rw [offsetsF, offsetsFrom_length]; exact wrapIdx_lt hk
  exact ⟨_, rowAt_eq_some_iff.mpr ⟨k, by rwa [cur_length], by rw [List.getElem?_dropLast, if_pos hlt, hc]⟩,
    rowAt_eq_some_iff.mpr ⟨k, by rwa [nxt_length], by rw [List.getElem?_drop, Nat.add_comm, hn]⟩,
    by rw [sliceE, if_pos ⟨Nat.le_add_right _ _, hb⟩, hs]⟩

theorem entryLen_ok {es : List (List Nat)} {i : Int} {e : List Nat} (h : rowAt es i = some e) :
    entryLen (offsetsF es).dropLast ((offsetsF es).drop 1) i = .ok e.length := by
  obtain ⟨c, hc, hn, _⟩ := entry_reads h
  simp only [entryLen, getWrapE_eq_rowAt, hc, hn, bind, Except.bind, pure, Except.pure, Nat.le_add_right, ite_true,
    Nat.add_sub_cancel_left]

theorem entryLen_oob (es : List (List Nat)) (i : Int) (hk : normIdx es.length i = none) :
    entryLen (offsetsF es).dropLast ((offsetsF es).drop 1) i = .error (.oob "next_[i]") := by
  have h : rowAt ((offsetsF es).drop 1) i = none := rowAt_eq_none_iff.mpr (by rw [nxt_length]; exact hk)
  simp only [entryLen, getWrapE_eq_rowAt, h, bind, Except.bind]

theorem setSliceE_mid {α} (a old new b : List α) (h : old.length = new.length) (site : String) :
    setSliceE (a ++ old ++ b) a.length (a.length + new.length) new site = .ok (a ++ new ++ b) := by
  have ht : (a ++ old ++ b).take a.length = a := by rw [List.append_assoc, List.take_left' rfl]
  have hd : (a ++ old ++ b).drop (a.length + new.length) = b := by
    rw [← h, ← List.length_append]; exact List.drop_left' rfl
  have hb : a.length + new.length ≤ (a ++ old ++ b).length := by
    rw [List.length_append, List.length_append, h]; exact Nat.le_add_right _ _
  rw [setSliceE, if_pos ⟨Nat.le_add_right _ _, hb, (Nat.add_sub_cancel_left ..).symm⟩, ht, hd]

theorem setE_mid {α} (a b : List α) (x y : α) (site : String) :
    setE (a ++ x :: b) a.length y site = .ok (a ++ y :: b) := by
  simp [setE]

/-- the state of pass 2 after the entries `sel` have been copied, with room for `kc` more offsets and `kt` more bytes -/
def p2State (sel : List (List Nat)) (kc kt : Nat) : P2 :=
  { count := sel.length + 1, total := sel.flatten.length,
    di := offsetsF sel ++ List.replicate kc 0, dv := sel.flatten ++ List.replicate kt 0 }

theorem initP2_eq (count total : Nat) : initP2 count total = .ok (p2State [] count total) := by
  simp [initP2, p2State, setE, offsetsF, offsetsFromF, List.replicate_succ, bind, Except.bind, pure, Except.pure]

theorem copyEntry_ok {es : List (List Nat)} {i : Int} {e : List Nat} (h : rowAt es i = some e)
    (sel : List (List Nat)) (kc kt : Nat) :
    copyEntry (offsetsF es).dropLast ((offsetsF es).drop 1) es.flatten i (p2State sel (kc + 1) (e.length + kt)) =
      .ok (p2State (sel ++ [e]) kc kt) := by
  obtain ⟨c, hc, hn, hs⟩ := entry_reads h
  have hdv := setSliceE_mid sel.flatten (List.replicate e.length 0) e (List.replicate kt 0) List.length_replicate
    "dest_values[total:total+delta]"
  have hdi := setE_mid (offsetsF sel) (List.replicate kc 0) 0 (sel.flatten.length + e.length) "dest_indices[count]"
  rw [show (offsetsF sel).length = sel.length + 1 from offsetsFrom_length 0 sel] at hdi
  simp only [copyEntry, p2State, getWrapE_eq_rowAt, hc, hn, bind, Except.bind, pure, Except.pure,
    Nat.add_sub_cancel_left, hs, ← List.replicate_append_replicate, ← List.append_assoc, hdv, List.replicate_succ, hdi]
  simp [offsetsF_snoc]

theorem indexPass1_ok (v : Variant) {es : List (List Nat)} {idx : List Int} {rows : List (List Nat)}
    (h : gather es idx = some rows) (count total : Nat) :
    indexPass1 v (offsetsF es).dropLast ((offsetsF es).drop 1) idx count total =
      .ok (count + rows.length, total + rows.flatten.length) := by
  induction idx generalizing rows count total with
  | nil => cases h; rfl
  | cons i is ih =>
    obtain ⟨x, r, hx, hr, rfl⟩ := gather_cons_eq_some.mp h
    simp only [indexPass1, cur_length, indexGuard_ok v hx, entryLen_ok hx, ih hr, List.length_cons, List.flatten_cons,
      List.length_append, Nat.add_assoc, Nat.add_comm 1]

theorem indexPass2_ok {es : List (List Nat)} {idx : List Int} {rows : List (List Nat)}
    (h : gather es idx = some rows) (sel : List (List Nat)) (kc kt : Nat) :
    indexPass2 (offsetsF es).dropLast ((offsetsF es).drop 1) es.flatten idx
        (p2State sel (rows.length + kc) (rows.flatten.length + kt)) = .ok (p2State (sel ++ rows) kc kt) := by
  induction idx generalizing rows sel with
  | nil => cases h; simp [indexPass2]
  | cons i is ih =>
    obtain ⟨x, r, hx, hr, rfl⟩ := gather_cons_eq_some.mp h
    rw [List.flatten_cons, List.length_append, Nat.add_assoc, List.length_cons, Nat.add_right_comm]
    simp only [indexPass2, copyEntry_ok hx, ih hr, List.append_assoc, List.singleton_append]

theorem indexPass1_err {es : List (List Nat)} {idx : List Int} (h : gather es idx = none) (count total : Nat) :
    ∃ site, indexPass1 .repaired (offsetsF es).dropLast ((offsetsF es).drop 1) idx count total = .error (.oob site) := by
  induction idx generalizing count total with
  | nil => cases h
  | cons i is ih =>
    cases hx : rowAt es i with
    | none => exact ⟨"index out of bounds for indexed field", by simp only [indexPass1, cur_length, indexGuard_err hx]⟩
    | some x =>
      obtain ⟨site, hs⟩ := ih ((gather_cons_eq_none.mp h).resolve_left (by simp [hx])) (count + 1) (total + x.length)
      exact ⟨site, by simp only [indexPass1, cur_length, indexGuard_ok _ hx, entryLen_ok hx, hs]⟩

theorem index_kernel_eq (v : Variant) (es : List (List Nat)) (idx : List Int) (rows : List (List Nat))
    (h : gather es idx = some rows) :
    applyIndicesToIndexValues v idx (offsetsF es) es.flatten = .ok (offsetsF rows, rows.flatten) := by
  have h1 := indexPass1_ok v h 0 0
  have h2 := indexPass2_ok h [] 0 0
  simp only [Nat.zero_add, Nat.add_zero, List.nil_append] at h1 h2
  simp only [applyIndicesToIndexValues, h1, initP2_eq, h2]
  simp [p2State]

theorem index_kernel_err (es : List (List Nat)) (idx : List Int) (h : gather es idx = none) :
    ∃ site, applyIndicesToIndexValues .repaired idx (offsetsF es) es.flatten = .error (.oob site) := by
  obtain ⟨site, hs⟩ := indexPass1_err h 0 0
  exact ⟨site, by simp only [applyIndicesToIndexValues, hs]⟩

def setFlags : List Bool → Nat → List Int
  | [], _ => []
  | b :: bs, i => if b then (i : Int) :: setFlags bs (i + 1) else setFlags bs (i + 1)

theorem filterPass1_eq_index (cur nxt : List Nat) (bs : List Bool) (i count total : Nat) :
    filterPass1 cur nxt bs i count total = indexPass1 .asFound cur nxt (setFlags bs i) count total := by
  induction bs generalizing i count total with
  | nil => rfl
  | cons b bs ih => cases b <;> simp [filterPass1, setFlags, indexPass1, indexGuard, ih]

theorem filterPass2_eq_index (cur nxt values : List Nat) (bs : List Bool) (i : Nat) (s : P2) :
    filterPass2 cur nxt values bs i s = indexPass2 cur nxt values (setFlags bs i) s := by
  induction bs generalizing i s with
  | nil => rfl
  | cons b bs ih => cases b <;> simp [filterPass2, setFlags, indexPass2, ih]

/-- `.asFound` on the right: the filter kernel has no subscript guard, only the length guard of fix D8 -/
theorem filter_kernel_eq_index (v : Variant) (flt : List Bool) (indices values : List Nat)
    (hg : ¬ (v = .repaired ∧ flt.length ≠ indices.length - 1)) :
    applyFilterToIndexValues v flt indices values = applyIndicesToIndexValues .asFound (setFlags flt 0) indices values := by
  simp only [applyFilterToIndexValues, if_neg hg, filterPass1_eq_index, filterPass2_eq_index, applyIndicesToIndexValues]

theorem filter_kernel_mismatch (flt : List Bool) (indices values : List Nat) (h : flt.length ≠ indices.length - 1) :
    applyFilterToIndexValues .repaired flt indices values = .error (.oob "len(index_filter) != len(indices) - 1") := by
  simp [applyFilterToIndexValues, h]

theorem gather_setFlags {α} (pre post : List α) (bs : List Bool) (h : bs.length ≤ post.length) :
    gather (pre ++ post) (setFlags bs pre.length) = some (filterBy bs post) := by
  induction bs generalizing pre post with
  | nil => rfl
  | cons b bs ih =>
    cases post with
    | nil => cases h
    | cons e post =>
      have ih := ih (pre ++ [e]) post (Nat.le_of_succ_le_succ h)
      rw [List.append_assoc, List.length_append] at ih
      have he : rowAt (pre ++ e :: post) (pre.length : Int) = some e := by
        rw [rowAt_natCast (by simp)]; simp
      cases b
      · exact ih
      · exact gather_cons_eq_some.mpr ⟨e, _, he, ih, rfl⟩

theorem filter_kernel_eq (v : Variant) (es : List (List Nat)) (flt : List Bool) (h : flt.length = es.length) :
    applyFilterToIndexValues v flt (offsetsF es) es.flatten =
      .ok (offsetsF (filterBy flt es), (filterBy flt es).flatten) := by
  rw [filter_kernel_eq_index v flt _ _ (by simp [offsetsF, offsetsFrom_length, h])]
  exact index_kernel_eq .asFound es _ _ (gather_setFlags [] es flt (Nat.le_of_eq h))

theorem boolSelect_eq {α} (bs : List Bool) (xs : List α) : boolSelect bs xs = filterBy bs xs := by
  induction bs generalizing xs with
  | nil => cases xs <;> rfl
  | cons b bs ih =>
    cases xs with
    | nil => rfl
    | cons x xs => simp only [boolSelect, filterBy_cons, ih]

theorem fancyIndex_eq {α} (xs : List α) (idx : List Int) :
    fancyIndex xs idx = match gather xs idx with
      | some rows => .ok rows
      | none => .error (.oob "data[index]") := by
  induction idx with
  | nil => rfl
  | cons i is ih =>
    simp only [fancyIndex, getWrapE_eq_rowAt, ih, gather_cons]
    cases rowAt xs i with
    | none => rfl
    | some x => cases gather xs is <;> rfl

/-- an indexed string field that was never written holds `indices = []` rather than `[0]` -/
def Encodes : Payload → Column → Prop
  | .plain d, .nums xs => d = xs
  | .indexed i v, .strs es => (i = offsetsF es ∨ (es = [] ∧ i = [])) ∧ v = es.flatten
  | _, _ => False

@[elab_as_elim]
theorem Encodes.elim {motive : Payload → Column → Prop} (nums : ∀ xs, motive (.plain xs) (.nums xs))
    (strs : ∀ es, motive (.indexed (offsetsF es) es.flatten) (.strs es)) (unwritten : motive (.indexed [] []) (.strs []))
    {p : Payload} {c : Column} (h : Encodes p c) : motive p c := by
  cases p with
  | plain d =>
    cases c with
    | nums xs => obtain rfl : d = xs := h; exact nums d
    | strs es => exact False.elim h
  | indexed i v =>
    cases c with
    | nums xs => exact False.elim h
    | strs es =>
      obtain ⟨hi | ⟨rfl, rfl⟩, rfl⟩ := h
      · subst hi; exact strs es
      · exact unwritten

theorem Encodes_nrows (p : Payload) (c : Column) (h : Encodes p c) : p.nrows = c.length := by
  refine h.elim (fun xs => rfl) (fun es => ?_) rfl
  simp [Payload.nrows, Column.length, offsetsF, offsetsFrom_length]

theorem filterPayload_spec (v : Variant) (p : Payload) (c c' : Column) (bs : List Bool)
    (h : Encodes p c) (hc : c.filter bs = some c') :
    ∃ p', filterPayload v bs p = .ok p' ∧ Encodes p' c' := by
  revert hc
  refine h.elim (fun xs => ?_) (fun es => ?_) ?_ <;>
    simp only [Column.filter, Option.ite_none_right_eq_some, Option.some.injEq] <;> rintro ⟨hl, rfl⟩
  · exact ⟨.plain (filterBy bs xs), by rw [filterPayload, boolIndex, if_neg (fun h => h hl), boolSelect_eq]; rfl, rfl⟩
  · exact ⟨.indexed (offsetsF (filterBy bs es)) (filterBy bs es).flatten,
      by rw [filterPayload, filter_kernel_eq v es bs hl]; rfl, Or.inl rfl, rfl⟩
  · cases List.eq_nil_of_length_eq_zero hl
    exact ⟨.indexed [0] [], by cases v <;> rfl, Or.inl rfl, rfl⟩

theorem filterPayload_err (p : Payload) (c : Column) (bs : List Bool)
    (h : Encodes p c) (hc : c.filter bs = none) :
    ∃ site, filterPayload .repaired bs p = .error (.oob site) := by
  revert hc
  refine h.elim (fun xs => ?_) (fun es => ?_) ?_ <;>
    simp only [Column.filter, ite_eq_right_iff, reduceCtorEq, imp_false] <;> intro hc
  · exact ⟨"boolean index did not match indexed array", by rw [filterPayload, boolIndex, if_pos hc]; rfl⟩
  · exact ⟨_, by rw [filterPayload, filter_kernel_mismatch bs _ _ (by rwa [offsetsF, offsetsFrom_length])]; rfl⟩
  · exact ⟨_, by rw [filterPayload, filter_kernel_mismatch bs [] [] hc]; rfl⟩

theorem indexPayload_spec (v : Variant) (p : Payload) (c c' : Column) (idx : List Int)
    (h : Encodes p c) (hc : c.gather idx = some c') :
    ∃ p', indexPayload v idx p = .ok p' ∧ Encodes p' c' := by
  revert hc
  refine h.elim (fun xs => ?_) (fun es => ?_) ?_ <;>
    simp only [Column.gather, Option.map_eq_some_iff] <;> rintro ⟨rows, hr, rfl⟩
  · exact ⟨.plain rows, by rw [indexPayload, fancyIndex_eq, hr]; rfl, rfl⟩
  · exact ⟨.indexed (offsetsF rows) rows.flatten, by rw [indexPayload, index_kernel_eq v es idx rows hr]; rfl,
      Or.inl rfl, rfl⟩
  · cases idx with
    | nil => cases hr; exact ⟨.indexed [0] [], by cases v <;> rfl, Or.inl rfl, rfl⟩
    | cons i is => simp [gather, rowAt_nil] at hr

theorem indexPayload_err (p : Payload) (c : Column) (idx : List Int)
    (h : Encodes p c) (hc : c.gather idx = none) :
    ∃ site, indexPayload .repaired idx p = .error (.oob site) := by
  revert hc
  refine h.elim (fun xs => ?_) (fun es => ?_) ?_ <;> simp only [Column.gather, Option.map_eq_none_iff] <;> intro hc
  · exact ⟨"data[index]", by rw [indexPayload, fancyIndex_eq, hc]; rfl⟩
  · obtain ⟨site, hs⟩ := index_kernel_err _ idx hc
    exact ⟨site, by rw [indexPayload, hs]; rfl⟩
  · cases idx with
    | nil => cases hc
    | cons j js =>
      have hg := indexGuard_err (rowAt_nil (α := Nat) j)
      rw [List.length_nil] at hg
      exact ⟨"index out of bounds for indexed field",
        by simp only [indexPayload, applyIndicesToIndexValues, indexPass1, List.dropLast_nil, List.length_nil, hg, Except.map]⟩

theorem Payload.clearWrite_eq (o n : Payload) : o.clearWrite n = n := by
  cases o <;> cases n <;> simp [Payload.clearWrite, FilterIndex.clearWrite]

theorem Payload.writeTarget_eq (o n : Payload) : o.writeTarget n = n := by
  cases o <;> cases n <;> simp [Payload.writeTarget, FilterIndex.writeTarget, FilterIndex.clearWrite]

theorem storeResult_inPlace (src : Field) (res : Payload) (hw : src.writeEnabled = true) :
    storeResult src res none true = .ok { src with payload := res } := by
  simp [storeResult, hw, Payload.clearWrite_eq]

theorem storeResult_target (src t : Field) (res : Payload) :
    storeResult src res (some t) false = .ok { t with payload := res } := by
  simp [storeResult, Payload.writeTarget_eq]

theorem storeResult_fresh (src : Field) (res : Payload) :
    storeResult src res none false = .ok { info := src.info, payload := res, writeEnabled := true } := rfl

/-- `ip = true → t = none`: `in_place` together with a target is rejected before anything is computed -/
def ComputesThenStores (op : Field → Option Field → Bool → Except Err Field) (compute : Payload → Except Err Payload) : Prop :=
  ∀ src t ip, (ip = true → t = none) → op src t ip = compute src.payload >>= fun res => storeResult src res t ip

theorem applyFilterField_stores (v : Variant) (bs : List Bool) :
    ComputesThenStores (fun f t ip => applyFilterField v f (.bool bs) t ip) (filterPayload v bs) := by
  intro src t ip h
  have hn : ¬ (ip = true ∧ t.isSome = true) := fun ⟨a, b⟩ => by simp [h a] at b
  simp [applyFilterField, hn, validateFilter, bind, Except.bind]

theorem applyIndexField_stores (v : Variant) (idx : List Int) :
    ComputesThenStores (fun f t ip => applyIndexField v f idx t ip) (indexPayload v idx) := by
  intro src t ip h
  have hn : ¬ (ip = true ∧ t.isSome = true) := fun ⟨a, b⟩ => by simp [h a] at b
  simp [applyIndexField, hn, bind, Except.bind]

theorem ComputesThenStores.modes_agree {op compute} (h : ComputesThenStores op compute) (src : Field) :
    (∀ res, compute src.payload = .ok res →
      (src.writeEnabled = true → op src none true = .ok { src with payload := res }) ∧
      (∀ t, op src (some t) false = .ok { t with payload := res }) ∧
      op src none false = .ok { info := src.info, payload := res, writeEnabled := true }) ∧
    (∀ e, compute src.payload = .error e →
      op src none true = .error e ∧ (∀ t, op src (some t) false = .error e) ∧ op src none false = .error e) := by
  have h1 := h src none true (fun _ => rfl)
  have h2 := fun t => h src (some t) false (fun h => nomatch h)
  have h3 := h src none false (fun h => nomatch h)
  constructor
  · intro res hr
    rw [hr] at h1 h2 h3
    exact ⟨fun hw => h1.trans (storeResult_inPlace src res hw), fun t => (h2 t).trans (storeResult_target src t res), h3⟩
  · intro e he
    rw [he] at h1 h2 h3
    exact ⟨h1, h2, h3⟩

theorem filterBy_sublist {α} (bs : List Bool) (xs : List α) : (filterBy bs xs).Sublist xs := by
  induction bs generalizing xs with
  | nil => exact List.nil_sublist _
  | cons b bs ih =>
    cases xs with
    | nil => exact List.nil_sublist _
    | cons x xs =>
      rw [filterBy_cons]
      cases b
      · exact (ih xs).cons x
      · exact (ih xs).cons_cons x

theorem filterBy_length_le {α} (bs : List Bool) (xs : List α) : (filterBy bs xs).length ≤ xs.length :=
  (filterBy_sublist bs xs).length_le

theorem filterBy_zip {α β} (bs : List Bool) (xs : List α) (ys : List β) :
    filterBy bs (xs.zip ys) = (filterBy bs xs).zip (filterBy bs ys) := by
  induction bs generalizing xs ys with
  | nil => rfl
  | cons b bs ih =>
    cases xs with
    | nil => rfl
    | cons x xs =>
      cases ys with
      | nil => rw [List.zip_nil_right, filterBy_nil_right, filterBy_nil_right, List.zip_nil_right]
      | cons y ys => cases b <;> simp only [List.zip_cons_cons, filterBy_cons, ih] <;> rfl

theorem rowAt_zip {α β} (xs : List α) (ys : List β) (h : xs.length = ys.length) (i : Int) :
    rowAt (xs.zip ys) i = match rowAt xs i, rowAt ys i with
      | some x, some y => some (x, y)
      | _, _ => none := by
  unfold rowAt
  rw [List.length_zip, ← h, Nat.min_self]
  cases wrapIdx xs.length i with
  | none => rfl
  | some k => simp only [List.zip_eq_zipWith, List.getElem?_zipWith]; cases xs[k]? <;> cases ys[k]? <;> rfl

theorem gather_zip {α β} (xs : List α) (ys : List β) (h : xs.length = ys.length) (idx : List Int) :
    gather (xs.zip ys) idx = match gather xs idx, gather ys idx with
      | some r, some s => some (r.zip s)
      | _, _ => none := by
  induction idx with
  | nil => rfl
  | cons i is ih =>
    simp only [gather, rowAt_zip xs ys h i, ih]
    cases rowAt xs i with
    | none => rfl
    | some x =>
      cases gather xs is with
      | none => cases rowAt ys i <;> rfl
      | some r => cases rowAt ys i <;> cases gather ys is <;> rfl

theorem gather_natCast {α} (xs : List α) (q : List Nat) (h : ∀ k ∈ q, k < xs.length) :
    gather xs (q.map (fun (k : Nat) => (k : Int))) = some (gatherNat xs q) := by
  induction q with
  | nil => rfl
  | cons k q ih =>
    have hk := h k (by simp)
    exact gather_cons_eq_some.mpr ⟨xs[k], _, rowAt_natCast hk, ih (fun k' hk' => h k' (by simp [hk'])),
      by simp [gatherNat, hk]⟩

theorem gatherNat_range {α} (xs : List α) : gatherNat xs (List.range xs.length) = xs := by
  have h : ∀ n, gatherNat xs (List.range n) = xs.take n := by
    intro n
    induction n with
    | zero => rfl
    | succ n ih =>
      rw [gatherNat, List.range_succ, List.filterMap_append, ← gatherNat, ih, List.take_add_one]
      rfl
  rw [h, List.take_length]

theorem gather_perm {α} (xs : List α) (p : List Nat) (hp : p.Perm (List.range xs.length)) :
    gather xs (p.map (fun (k : Nat) => (k : Int))) = some (gatherNat xs p) ∧ (gatherNat xs p).Perm xs :=
  ⟨gather_natCast xs p (fun k hk => List.mem_range.mp (hp.subset hk)),
    by have := hp.filterMap (xs[·]?); rwa [← gatherNat, ← gatherNat, gatherNat_range] at this⟩

end Exetera.FilterIndex
