import Exetera.Lemmas.CsvStage
/-! One cell, from the cell start `CellStart` to wherever the kernel gets (C05): to the next cell start behind a separator, to
    the next record (or the end of the call: index buffer full) behind a line break, to the end of the window inside the cell,
    or to the byte that uses up the value budget of the column. The three ways in which the call ends (index buffer full, end of
    the window, value budget used up) are described by `KEnd`. -/
namespace Exetera.Csv
open Exetera Spec

/-- the text of a cell as the kernel sees it once the blanks in front of it are skipped -/
def body (c : Cell) : Bytes := if c.quoted then renderCell c else stripLead c.text

theorem mem_stripLead {b : Nat} {bs : Bytes} (h : b ∈ stripLead bs) : b ∈ bs :=
  (List.dropWhile_sublist _).subset h

theorem bare_plain {c : Cell} (hwf : c.WF) (hq : c.quoted = false) {b : Nat} (hb : b ∈ c.text) :
    b ≠ QUOTE ∧ b ≠ SEP ∧ b ≠ NL := by
  rcases hwf with h | h
  · rw [hq] at h; cases h
  · exact h b hb

abbrev isWs : Nat → Bool := fun b => b == WS

theorem takeWhile_append_stop (p : Nat → Bool) (xs : Bytes) (t : Nat) (B : Bytes) (ht : p t = false) :
    (xs ++ t :: B).takeWhile p = xs.takeWhile p := by
  induction xs with
  | nil => simp [List.takeWhile, ht]
  | cons x xs ih =>
    cases hx : p x <;> simp [List.takeWhile, hx, ih]

theorem lead_split (c : Cell) (t : Nat) (B : Bytes) (ht : t = SEP ∨ t = NL) :
    (renderCell c ++ t :: B).takeWhile isWs ++ body c = renderCell c := by
  have htw : isWs t = false := by
    rcases ht with h | h <;> rw [h] <;> decide
  cases hq : c.quoted with
  | true =>
    have : renderCell c = QUOTE :: (escape c.text ++ [QUOTE]) := by simp [renderCell, hq]
    have hqw : (QUOTE == WS) = false := by decide
    rw [body, hq, this]
    simp [isWs, hqw]
  | false =>
    have : renderCell c = c.text := by simp [renderCell, hq]
    rw [body, hq, this, takeWhile_append_stop _ _ _ _ htw]
    exact List.takeWhile_append_dropWhile

theorem lead_drop (A0 : Bytes) (c : Cell) (t : Nat) (B : Bytes) (ht : t = SEP ∨ t = NL) :
    A0 ++ (renderCell c ++ t :: B) = (A0 ++ (renderCell c ++ t :: B).takeWhile isWs) ++ (body c ++ t :: B) := by
  rw [List.append_assoc, ← List.append_assoc _ (body c), lead_split c t B ht]

/-- `u` is the content of a quoted cell, or the part of it the kernel gets through before the window ends or the value budget
    is used up -/
theorem quoted_upto {src : Bytes} {offs : List Nat} {maxrow : Nat} (u A R : Bytes) (s : KS)
    (hsrc : src = A ++ (QUOTE :: (escape u ++ R))) (hi : s.index = A.length) (hics : s.ics = A.length)
    (hd : s.done = (s.index == src.length)) (hif : s.indsFull = false) (hvf : s.valsFull = false)
    (he : s.escaped = false) (hcd : s.cand = false) (hroom : Room s u.length) :
    ∃ n s2, KSteps src offs maxrow n s s2 ∧ s2.index = (A ++ [QUOTE] ++ escape u).length ∧ s2.escaped = true ∧
      s2.cand = false ∧ s2.done = (s2.index == src.length) ∧ s2.indsFull = false ∧ s2.valsFull = false ∧ RunEff s s2 u := by
  have hc0 : src[s.index]? = some QUOTE := by rw [hsrc, hi, getElem?_append_len0]; simp
  obtain ⟨s1, hstep1, hi1, he1, hc1, hd1, hctx1, hcnt1, hv1⟩ :=
    step_skip (offs := offs) (maxrow := maxrow) hc0
      (by rw [he, hcd, hi, hics]; simpa using lex_open _ false) hif hvf
  obtain ⟨_, _, _, _, _, _, _, hif1, hvf1, _, _, _⟩ := ctx_eq hctx1
  have e1 : RunEff s s1 [] := .skip hctx1 hcnt1 hv1
  obtain ⟨n, s2, hsteps2, hi2, he2, hc2, hd2, e2⟩ :=
    run_text (src := src) (offs := offs) (maxrow := maxrow) u (A ++ [QUOTE]) R s1 (by simp [hsrc]) (by simp [hi1, hi]) hd1
      (by rw [hif1, hif]) (by rw [hvf1, hvf]) (Or.inl ⟨he1, hc1⟩) (Room.after (w := []) (by simpa using hroom) e1)
  obtain ⟨_, _, _, _, _, _, _, hif2, hvf2, _, _, _⟩ := ctx_eq e2.1
  exact ⟨n + 1, s2, .cons (by simp [kguard, done_false_of_get hd hc0]) hstep1 hsteps2, by rw [hi2, ← List.length_append],
    by rw [he2, he1], by rw [hc2, hc1], hd2, by rw [hif2, hif1, hif], by rw [hvf2, hvf1, hvf], by simpa using e1.trans e2⟩

theorem cell_content {src : Bytes} {offs : List Nat} {maxrow : Nat} (c : Cell) (hwf : c.WF)
    (A B : Bytes) (t : Nat) (s : KS) (hsrc : src = A ++ (body c ++ t :: B)) (ht : t = SEP ∨ t = NL)
    (hi : s.index = A.length) (hics : s.ics = A.length) (hd : s.done = (s.index == src.length))
    (hif : s.indsFull = false) (hvf : s.valsFull = false) (he : s.escaped = false) (hcd : s.cand = false)
    (hroom : Room s c.value.length) :
    ∃ n s1, KSteps src offs maxrow n s s1 ∧ s1.index = A.length + (body c).length ∧ s1.escaped = false ∧ s1.cand = false ∧
      s1.done = false ∧ RunEff s s1 c.value := by
  cases hq : c.quoted with
  | false =>
    have hbody : body c = stripLead c.text := by simp [body, hq]
    have hval : c.value = stripLead c.text := by simp [Cell.value, hq]
    have hplain : ∀ b ∈ stripLead c.text, b ≠ QUOTE ∧ b ≠ SEP ∧ b ≠ NL :=
      fun b hb => bare_plain hwf hq (mem_stripLead hb)
    rw [hbody] at hsrc ⊢
    rw [hval] at hroom ⊢
    obtain ⟨n, s1, hsteps, hi1, he1, hc1, hd1, heff⟩ :=
      run_plain (offs := offs) (maxrow := maxrow) (stripLead c.text) A (t :: B) s hsrc hi hd hif hvf hplain hroom
    exact ⟨n, s1, hsteps, hi1, by rw [he1, he], by rw [hc1, hcd],
      done_false_of_get (b := t) hd1 (by rw [hi1, hsrc, getElem?_append_len, getElem?_append_len0]; rfl), heff⟩
  | true =>
    have hbody : body c = QUOTE :: (escape c.text ++ [QUOTE]) := by simp [body, hq, renderCell]
    have hval : c.value = c.text := by simp [Cell.value, hq]
    rw [hval] at hroom ⊢
    have hsrc' : src = A ++ (QUOTE :: (escape c.text ++ (QUOTE :: t :: B))) := by simp [hsrc, hbody]
    obtain ⟨n, s2, hsteps2, hi2, he2, hc2, hd2, hif2, hvf2, e2⟩ :=
      quoted_upto (offs := offs) (maxrow := maxrow) c.text A (QUOTE :: t :: B) s hsrc' hi hics hd hif hvf he hcd hroom
    have hsrc2 : src = (A ++ [QUOTE] ++ escape c.text) ++ (QUOTE :: t :: B) := by simp [hsrc']
    have hc3 : src[s2.index]? = some QUOTE := by rw [hsrc2, hi2, getElem?_append_len0]; simp
    have hnx3 : src[s2.index + 1]? = some t := by rw [hsrc2, hi2, getElem?_append_len]; simp
    obtain ⟨s3, hstep3, hi3, he3, hc3', hd3, hctx3, hcnt3, hv3⟩ :=
      step_skip (offs := offs) (maxrow := maxrow) hc3 (by rw [hnx3, he2, hc2]; exact lex_close _ ht) hif2 hvf2
    exact ⟨n + 1, s3, StepsN.trans hsteps2 (StepsN.one (g := kguard) (by simp [kguard, done_false_of_get hd2 hc3]) hstep3),
      by simp [hi3, hi2, hbody]; omega, he3, hc3', done_false_of_get hd3 (by rw [hi3, hnx3]),
      by simpa using e2.trans (.skip hctx3 hcnt3 hv3)⟩

/-- the cells of the header line are parsed but not staged -/
def stage (hdr : Bool) (E : Nat → List Bytes) (j : Nat) (v : Bytes) : Nat → List Bytes := if hdr then E else upd E j v

/-- the kernel is about to read the first byte (after the skipped blanks) of the cell in column `j` of row `k`
    (`hdr`: of the header line); `A` is the text consumed so far, `E c` the entries staged in column `c` during this call -/
structure CellStart (src : Bytes) (offs : List Nat) (maxrow ncols : Nat) (s : KS) (A : Bytes) (j : Nat) (hdr : Bool)
    (k np : Nat) (E : Nat → List Bytes) : Prop where
  index : s.index = A.length
  ics : s.ics = A.length
  col : s.col = j
  hdr_ : s.hdr = hdr
  row : s.row = k
  np : s.nextPos = np
  esc : s.escaped = false
  cand : s.cand = false
  count : s.count = 0
  vfc : s.vfc = none
  indsFull : s.indsFull = false
  valsFull : s.valsFull = false
  done : s.done = (s.index == src.length)
  colOff : s.colOff = offAt offs j
  colCnt : s.colCnt = offAt offs (j + 1) - offAt offs j
  cstart : hdr = false → s.cstart = (E j).flatten.length
  staged : Staged offs maxrow ncols s.inds s.vals E
  jlt : j < ncols
  lens : hdr = false → (∀ c, c < j → (E c).length = k + 1) ∧ (∀ c, j ≤ c → c < ncols → (E c).length = k)
  hdrE : hdr = true → (∀ c, E c = []) ∧ k = 0
  krow : hdr = false → k < maxrow
  maxrow_pos : 0 < maxrow

/-- where the next byte of the current cell goes -/
theorem CellStart.pos {src : Bytes} {offs : List Nat} {maxrow ncols : Nat} {s : KS} {A : Bytes} {j k np : Nat}
    {E : Nat → List Bytes} (h : CellStart src offs maxrow ncols s A j false k np E) :
    s.colOff + s.cstart + s.count = offAt offs j + (E j).flatten.length := by
  rw [h.colOff, h.cstart rfl, h.count]; rfl

/-- closing the cell of column `j` completes the columns up to `j` for row `k` -/
theorem CellStart.lens_upd {src : Bytes} {offs : List Nat} {maxrow ncols : Nat} {s : KS} {A : Bytes} {j k np : Nat}
    {E : Nat → List Bytes} (h : CellStart src offs maxrow ncols s A j false k np E) (v : Bytes) {c : Nat} (hc : c < j + 1) :
    (upd E j v c).length = k + 1 := by
  obtain ⟨hl1, hl2⟩ := h.lens rfl
  by_cases hcj : c = j
  · rw [hcj, upd_self, List.length_append, hl2 j (Nat.le_refl _) h.jlt]; rfl
  · rw [upd_ne _ _ hcj]; exact hl1 c (by omega)

theorem cell_room {src : Bytes} {offs : List Nat} {maxrow ncols : Nat} {s : KS} {A : Bytes} {j : Nat} {hdr : Bool}
    {k np : Nat} {E : Nat → List Bytes} (h : CellStart src offs maxrow ncols s A j hdr k np E) (n : Nat)
    (hcap : hdr = false → offAt offs j + (E j).flatten.length + n < offAt offs (j + 1)) : Room s n := by
  intro hh
  rw [h.hdr_] at hh
  have h1 := hcap hh
  have hsh := h.staged.shape
  have h2 := hsh.mono_le ncols (j + 1) (by have := h.jlt; omega) (Nat.le_refl _)
  have h3 := hsh.last
  have h4 := hsh.mono j h.jlt
  rw [h.colOff, h.cstart hh, h.count, h.colCnt]
  omega

/-- the kernel stands on the terminator `t` of the cell; `inds'` is what the cell end is about to store into `column_inds` -/
theorem cell_upto {src : Bytes} {offs : List Nat} {maxrow ncols : Nat} (c : Cell) (hwf : c.WF) (A0 B : Bytes) (t : Nat)
    (ht : t = SEP ∨ t = NL) (s : KS) (j : Nat) (hdr : Bool) (k np : Nat) (E : Nat → List Bytes)
    (hsrc : src = A0 ++ (renderCell c ++ t :: B))
    (hcs : CellStart src offs maxrow ncols s (A0 ++ (renderCell c ++ t :: B).takeWhile isWs) j hdr k np E)
    (hcap : hdr = false → offAt offs j + (E j).flatten.length + c.value.length < offAt offs (j + 1)) :
    ∃ n s1 inds', KSteps src offs maxrow n s s1 ∧ s1.index = (A0 ++ renderCell c).length ∧ s1.escaped = false ∧
      s1.cand = false ∧ s1.done = false ∧ s1.ctx = s.ctx ∧ src[s1.index]? = some t ∧
      skipAfter src s1.index + 1 = ((A0 ++ (renderCell c ++ [t])) ++ B.takeWhile isWs).length ∧
      (if s1.hdr then (.ok s1.inds : Except Err (List (List Nat)))
       else set2 s1.inds s1.col (s1.row + 1) (s1.cstart + s1.count) "column_inds[col_index,row_index+1]") = .ok inds' ∧
      Staged offs maxrow ncols inds' s1.vals (stage hdr E j c.value) := by
  have hsrc' : src = (A0 ++ (renderCell c ++ t :: B).takeWhile isWs) ++ (body c ++ t :: B) :=
    hsrc.trans (lead_drop A0 c t B ht)
  obtain ⟨n, s1, hsteps, hi1, he1, hc1, hd1, hctx1, heff⟩ :=
    cell_content (offs := offs) (maxrow := maxrow) c hwf _ B t s hsrc' ht hcs.index hcs.ics hcs.done
      hcs.indsFull hcs.valsFull hcs.esc hcs.cand (cell_room hcs _ hcap)
  replace hi1 : s1.index = (A0 ++ renderCell c).length := by
    have := congrArg List.length (lead_split c t B ht)
    simp only [List.length_append] at this hi1 ⊢
    omega
  obtain ⟨_, hcol1, hh1, hrow1, _, hcst1, _, _, _, _, _, hinds1⟩ := ctx_eq hctx1
  have hcb : src[s1.index]? = some t := by
    rw [hi1, hsrc, ← List.append_assoc, getElem?_append_len0]; rfl
  have hskip : skipAfter src s1.index + 1 = ((A0 ++ (renderCell c ++ [t])) ++ B.takeWhile isWs).length := by
    show _ = ((A0 ++ (renderCell c ++ [t])) ++ B.takeWhile (fun b => b == WS)).length
    rw [hi1, hsrc, List.length_append, skipAfter_at A0 (renderCell c) t B]; simp [leadWs]; omega
  rw [hcs.hdr_] at heff
  cases hdr with
  | true =>
    simp only [if_true] at heff
    refine ⟨n, s1, s.inds, hsteps, hi1, he1, hc1, hd1, hctx1, hcb, hskip, by simp [hh1, hcs.hdr_, hinds1], ?_⟩
    rw [heff.2]
    exact hcs.staged
  | false =>
    simp only [Bool.false_eq_true, if_false] at heff
    obtain ⟨hcnt1, hw⟩ := heff
    rw [hcs.pos] at hw
    obtain ⟨⟨rj, hrj, _⟩, _⟩ := hcs.staged.cols j hcs.jlt
    have hEj : (E j).length = k := (hcs.lens rfl).2 j (Nat.le_refl _) hcs.jlt
    have hkrow := hcs.krow rfl
    have hcl := hcs.staged.close hcs.jlt hrj (by omega) hw (Nat.le_of_lt (hcap rfl))
    rw [hEj] at hcl
    refine ⟨n, s1, _, hsteps, hi1, he1, hc1, hd1, hctx1, hcb, hskip, ?_, hcl⟩
    rw [hh1, hcs.hdr_, hinds1, hcol1, hcs.col, hrow1, hcs.row, hcst1, hcs.cstart rfl, hcnt1, hcs.count, Nat.zero_add]
    exact set2_eq _ _ hrj (by rw [hcs.staged.shape.rowLen _ _ hrj]; omega)

theorem cell_sep {src : Bytes} {offs : List Nat} {maxrow ncols : Nat} (c : Cell) (hwf : c.WF) (A B : Bytes) (s : KS)
    (j : Nat) (hdr : Bool) (k np : Nat) (E : Nat → List Bytes)
    (hsrc : src = A ++ (renderCell c ++ SEP :: B))
    (hcs : CellStart src offs maxrow ncols s (A ++ (renderCell c ++ SEP :: B).takeWhile isWs) j hdr k np E)
    (hj : j + 1 < ncols)
    (hcap : hdr = false → offAt offs j + (E j).flatten.length + c.value.length < offAt offs (j + 1)) :
    ∃ n s', KSteps src offs maxrow n s s' ∧
      CellStart src offs maxrow ncols s' ((A ++ (renderCell c ++ [SEP])) ++ B.takeWhile isWs) (j + 1) hdr k np
        (stage hdr E j c.value) := by
  obtain ⟨n, s1, inds', hsteps, hi1, he1, hc1, hd1, hctx1, hcb, hskip, hinds, hst⟩ :=
    cell_upto (offs := offs) (maxrow := maxrow) c hwf A B SEP (Or.inl rfl) s j hdr k np E hsrc hcs hcap
  obtain ⟨hnp1, hcol1, hh1, hrow1, hvfc1, _, _, hif1, hvf1, _, _, _⟩ := ctx_eq hctx1
  have hsh := hst.shape
  -- the start of the next cell, as `column_inds` has it
  have hEn : hdr = false → (stage hdr E j c.value (j + 1)).length = k := by
    intro h; subst h
    show (upd E j c.value (j + 1)).length = k
    rw [upd_ne _ _ (by omega)]
    exact (hcs.lens rfl).2 (j + 1) (by omega) hj
  obtain ⟨x, hx, hxE⟩ : ∃ x, get2 inds' (j + 1) (if hdr then maxrow else k) "column_inds[col_index,row_index]" = .ok x ∧
      (hdr = false → x = (stage hdr E j c.value (j + 1)).flatten.length) := by
    obtain ⟨rn, hrn, hlast⟩ := (hst.cols (j + 1) hj).last
    cases hdr with
    | true =>
      have hm : maxrow < rn.length := by rw [hsh.rowLen _ _ hrn]; omega
      exact ⟨rn[maxrow], get2_eq _ hrn (List.getElem?_eq_getElem hm), fun h => by cases h⟩
    | false =>
      rw [hEn rfl] at hlast
      exact ⟨_, get2_eq _ hrn hlast, fun _ => rfl⟩
  obtain ⟨s2, hstep, hi2, hics2, he2, hc2, hd2, hnp2, hcol2, hh2, hrow2, hcst2, hcnt2, hif2, hco2, hcc2, hinds2, hctx2⟩ :=
    step_sep (offs := offs) (maxrow := maxrow) hcb (by rw [he1, hc1]; exact lex_sep _ _ _) (by rw [hif1, hcs.indsFull])
      (by rw [hvf1, hcs.valsFull]) hinds (by rw [hcol1, hcs.col]; exact offs_get hsh.offsLen (by omega))
      (by rw [hcol1, hcs.col]; exact offs_get hsh.offsLen (by omega))
      (by rw [hcol1, hcs.col, hh1, hcs.hdr_, hrow1, hcs.row]; exact hx)
  have hctx2' := ctx2_eq hctx2
  refine ⟨n + 1, s2, StepsN.trans hsteps (StepsN.one (g := kguard) (by simp [kguard, hd1]) hstep), ?_⟩
  exact {
    index := by rw [hi2, hskip]
    ics := by rw [hics2, hskip]
    col := by rw [hcol2, hcol1, hcs.col]
    hdr_ := by rw [hh2, hh1, hcs.hdr_]
    row := by rw [hrow2, hrow1, hcs.row]
    np := by rw [hnp2, hnp1, hcs.np]
    esc := he2
    cand := hc2
    count := hcnt2
    vfc := by rw [hctx2'.1, hvfc1, hcs.vfc]
    indsFull := hif2
    valsFull := by rw [hctx2'.2.1, hvf1, hcs.valsFull]
    done := by rw [hd2, hi2]
    colOff := hco2
    colCnt := hcc2
    cstart := fun h => by rw [hcst2, hxE h]
    staged := by rw [hinds2, hctx2'.2.2]; exact hst
    jlt := hj
    lens := by
      intro h; subst h
      refine ⟨fun c' hc' => hcs.lens_upd _ hc', fun c' h1 h2 => ?_⟩
      show (upd E j c.value c').length = k
      rw [upd_ne _ _ (by omega)]; exact (hcs.lens rfl).2 c' (by omega) h2
    hdrE := fun h => by subst h; exact hcs.hdrE rfl
    krow := hcs.krow
    maxrow_pos := hcs.maxrow_pos }

/-- behind the line break of a record: the loop goes on with the first cell of row `k`, or it has stopped with
    `is_column_inds_full` because `k = maxrow` records are staged -/
def LineEnd (src : Bytes) (offs : List Nat) (maxrow ncols : Nat) (s' : KS) (A : Bytes) (k np : Nat)
    (E : Nat → List Bytes) : Prop :=
  (k < maxrow ∧ CellStart src offs maxrow ncols s' A 0 false k np E) ∨
  (k = maxrow ∧ KEnd offs maxrow ncols s' maxrow np E true false none)

theorem cell_nl {src : Bytes} {offs : List Nat} {maxrow ncols : Nat} (c : Cell) (hwf : c.WF) (A B : Bytes) (s : KS)
    (j : Nat) (hdr : Bool) (k np : Nat) (E : Nat → List Bytes)
    (hsrc : src = A ++ (renderCell c ++ NL :: B))
    (hcs : CellStart src offs maxrow ncols s (A ++ (renderCell c ++ NL :: B).takeWhile isWs) j hdr k np E)
    (hj : j + 1 = ncols)
    (hcap : hdr = false → offAt offs j + (E j).flatten.length + c.value.length < offAt offs (j + 1)) :
    ∃ n s', KSteps src offs maxrow n s s' ∧
      LineEnd src offs maxrow ncols s' ((A ++ (renderCell c ++ [NL])) ++ B.takeWhile isWs) (if hdr then 0 else k + 1)
        (A ++ (renderCell c ++ [NL])).length (stage hdr E j c.value) := by
  obtain ⟨n, s1, inds', hsteps, hi1, he1, hc1, hd1, hctx1, hcb, hskip, hinds, hst⟩ :=
    cell_upto (offs := offs) (maxrow := maxrow) c hwf A B NL (Or.inr rfl) s j hdr k np E hsrc hcs hcap
  obtain ⟨_, _, hh1, hrow1, hvfc1, _, _, hif1, hvf1, _, _, _⟩ := ctx_eq hctx1
  have hsh := hst.shape
  have hnc : 0 < ncols := by omega
  have hmp := hcs.maxrow_pos
  obtain ⟨k', hk'⟩ : ∃ k', k' = if hdr then 0 else k + 1 := ⟨_, rfl⟩
  rw [← hk']
  have hk'le : k' ≤ maxrow := by
    cases hdr with
    | true => rw [hk']; exact Nat.zero_le _
    | false => rw [hk']; exact hcs.krow rfl
  have hlens : ∀ c', c' < ncols → (stage hdr E j c.value c').length = k' := by
    intro c' hc'
    cases hdr with
    | true => rw [hk']; show (E c').length = 0; rw [(hcs.hdrE rfl).1 c']; rfl
    | false => rw [hk']; exact hcs.lens_upd _ (by omega)
  obtain ⟨r0, hr0, hlast⟩ := (hst.cols 0 hnc).last
  rw [hlens 0 hnc] at hlast
  have hrow' : (if s1.hdr = true then 0 else s1.row + 1) = k' := by rw [hh1, hcs.hdr_, hrow1, hcs.row, hk']
  obtain ⟨s2, hstep, hi2, hics2, he2, hc2, hd2, hnp2, hcol2, hh2, hrow2, hcst2, hcnt2, hif2, hco2, hcc2, hinds2, hctx2⟩ :=
    step_nl (offs := offs) (maxrow := maxrow) hcb (by rw [he1, hc1]; exact lex_nl _ _ _) (by rw [hif1, hcs.indsFull])
      (by rw [hvf1, hcs.valsFull]) hinds (offs_get hsh.offsLen (Nat.zero_le _)) (offs_get hsh.offsLen (by omega))
      (by rw [hrow']; exact get2_eq _ hr0 hlast)
  rw [hrow'] at hd2 hrow2 hif2
  have hctx2' := ctx2_eq hctx2
  have hst2 : Staged offs maxrow ncols s2.inds s2.vals (stage hdr E j c.value) := by rw [hinds2, hctx2'.2.2]; exact hst
  refine ⟨n + 1, s2, StepsN.trans hsteps (StepsN.one (g := kguard) (by simp [kguard, hd1]) hstep), ?_⟩
  rcases Nat.lt_or_ge k' maxrow with hlt | hge
  · have hb : (k' == maxrow) = false := beq_false_of_ne (Nat.ne_of_lt hlt)
    refine Or.inl ⟨hlt, ?_⟩
    exact {
      index := by rw [hi2, hskip]
      ics := by rw [hics2, hskip]
      col := hcol2
      hdr_ := hh2
      row := hrow2
      np := by rw [hnp2, hi1]; simp [Nat.add_assoc]
      esc := he2
      cand := hc2
      count := hcnt2
      vfc := by rw [hctx2'.1, hvfc1, hcs.vfc]
      indsFull := by rw [hif2, hb]
      valsFull := by rw [hctx2'.2.1, hvf1, hcs.valsFull]
      done := by rw [hd2, hb, hi2, Bool.or_false]
      colOff := hco2
      colCnt := hcc2
      cstart := fun _ => hcst2
      staged := hst2
      jlt := hnc
      lens := fun _ => ⟨fun c' h => absurd h (Nat.not_lt_zero _), fun c' _ h2 => hlens c' h2⟩
      hdrE := fun h => by cases h
      krow := fun _ => hlt
      maxrow_pos := hmp }
  · have hke : k' = maxrow := Nat.le_antisymm hk'le hge
    have hb : (k' == maxrow) = true := by rw [hke]; exact beq_self_eq_true _
    refine Or.inr ⟨hke, ?_⟩
    exact {
      done := by rw [hd2, hb, Bool.or_true]
      np := by rw [hnp2, hi1]; simp [Nat.add_assoc]
      hdr := hh2
      row := by rw [hrow2, hke]
      indsFull := by rw [hif2, hb]
      valsFull := by rw [hctx2'.2.1, hvf1, hcs.valsFull]
      vfc := by rw [hctx2'.1, hvfc1, hcs.vfc]
      shape := hst2.shape
      cols := hst2.cols }

theorem dropWhile_take_length_le (p : Nat → Bool) (l : Bytes) : ∀ m, ((l.take m).dropWhile p).length ≤ (l.dropWhile p).length := by
  induction l with
  | nil => intro m; simp
  | cons x xs ih =>
    intro m
    cases m with
    | zero => simp
    | succ m =>
      cases hx : p x
      · simp [List.take, List.dropWhile, hx]
        exact Nat.min_le_right _ _
      · simpa [List.take, List.dropWhile, hx] using ih m

/-- every prefix of the content-and-closing-quote of a quoted cell is the escaped form of a prefix of the content,
    possibly followed by one more quote (the first of a doubled quote, or the closing one) -/
theorem take_escape (text : Bytes) : ∀ m, ∃ u tq, (escape text ++ [QUOTE]).take m = escape u ++ tq ∧
    (tq = [] ∨ tq = [QUOTE]) ∧ u.length ≤ text.length := by
  induction text with
  | nil =>
    intro m
    cases m with
    | zero => exact ⟨[], [], by simp [escape], Or.inl rfl, by simp⟩
    | succ m => exact ⟨[], [QUOTE], by simp [escape], Or.inr rfl, by simp⟩
  | cons b t ih =>
    intro m
    cases m with
    | zero => exact ⟨[], [], by simp [escape], Or.inl rfl, by simp⟩
    | succ m =>
      by_cases hb : b = QUOTE
      · subst hb
        cases m with
        | zero => exact ⟨[], [QUOTE], by simp [escape], Or.inr rfl, by simp⟩
        | succ m =>
          obtain ⟨u, tq, h1, h2, h3⟩ := ih m
          refine ⟨QUOTE :: u, tq, ?_, h2, by simp; omega⟩
          simp only [escape, if_true, List.cons_append, List.take_succ_cons]
          rw [h1]
      · obtain ⟨u, tq, h1, h2, h3⟩ := ih m
        refine ⟨b :: u, tq, ?_, h2, by simp; omega⟩
        simp only [escape, hb, if_false, List.cons_append, List.take_succ_cons]
        rw [h1]

theorem take_len_add {α} (l1 l2 : List α) (k : Nat) : (l1 ++ l2).take (l1.length + k) = l1 ++ l2.take k := by
  induction l1 with
  | nil => simp
  | cons x xs ih => simp [Nat.succ_add, ih]

/-- the loop has stopped at the end of the window, inside (or right before) record `k`, with no buffer full -/
abbrev WindowEnd (offs : List Nat) (maxrow ncols : Nat) (s' : KS) (k np : Nat) (E : Nat → List Bytes) : Prop :=
  KEnd offs maxrow ncols s' k np E false false none

/-- `E'` extends `E` by further entries in some columns (cells of the unfinished record) -/
def Ext (E E' : Nat → List Bytes) : Prop := ∀ c, ∃ t, E' c = E c ++ t

theorem Ext.refl (E : Nat → List Bytes) : Ext E E := fun _ => ⟨[], by simp⟩

theorem Ext.stage {E E' : Nat → List Bytes} (h : Ext E E') (j : Nat) (v : Bytes) : Ext E (stage false E' j v) := by
  intro c
  obtain ⟨t, ht⟩ := h c
  by_cases hc : c = j
  · subst hc
    exact ⟨t ++ [v], by simp [Csv.stage, upd, ht]⟩
  · exact ⟨t, by simp [Csv.stage, upd, hc, ht]⟩

/-- bytes written behind the entries `E'` of the unfinished record leave the complete records' entries `E` intact -/
theorem cols_of_wrote {src : Bytes} {offs : List Nat} {maxrow ncols : Nat} {s : KS} {A : Bytes} {j k np : Nat}
    {E E' : Nat → List Bytes} {v' : List Nat} {w : Bytes}
    (hcs : CellStart src offs maxrow ncols s A j false k np E') (hext : Ext E E')
    (hw : Wrote s.vals v' (offAt offs j + (E' j).flatten.length) w)
    (hcap : offAt offs j + (E' j).flatten.length + w.length ≤ offAt offs (j + 1)) :
    Shape ncols maxrow offs s.inds v' ∧ ∀ c, c < ncols → ColOK offs s.inds v' c (E c) := by
  have h := hcs.staged.wrote hcs.jlt hw hcap
  refine ⟨h.shape, fun c hc => ?_⟩
  obtain ⟨t, ht⟩ := hext c
  have h1 := h.cols c hc
  rw [ht] at h1
  exact h1.of_append

theorem windowEnd_of_run {src : Bytes} {offs : List Nat} {maxrow ncols : Nat} {s s' : KS} {A : Bytes} {j k np : Nat}
    {E E' : Nat → List Bytes} {w : Bytes} (hcs : CellStart src offs maxrow ncols s A j false k np E') (hext : Ext E E')
    (hend : s'.index = src.length) (hd : s'.done = (s'.index == src.length)) (heff : RunEff s s' w)
    (hcap : offAt offs j + (E' j).flatten.length + w.length ≤ offAt offs (j + 1)) :
    WindowEnd offs maxrow ncols s' k np E := by
  obtain ⟨hctx, hrun⟩ := heff
  obtain ⟨hnp1, _, hh1, hrow1, hvfc1, _, _, hif1, hvf1, _, _, hinds1⟩ := ctx_eq hctx
  rw [hcs.hdr_] at hrun
  simp only [Bool.false_eq_true, if_false] at hrun
  have hw := hrun.2
  rw [hcs.pos] at hw
  obtain ⟨hshape, hcols⟩ := cols_of_wrote hcs hext hw hcap
  exact {
    done := by rw [hd, hend]; simp
    np := by rw [hnp1, hcs.np]
    hdr := by rw [hh1, hcs.hdr_]
    row := by rw [hrow1, hcs.row]
    indsFull := by rw [hif1, hcs.indsFull]
    valsFull := by rw [hvf1, hcs.valsFull]
    vfc := by rw [hvfc1, hcs.vfc]
    shape := by rw [hinds1]; exact hshape
    cols := by rw [hinds1]; exact hcols }

/-- the window ends exactly at a cell start (`A = src`) -/
theorem cell_tail_none {src : Bytes} {offs : List Nat} {maxrow ncols : Nat} {s : KS} {j k np : Nat}
    {E E' : Nat → List Bytes} (hcs : CellStart src offs maxrow ncols s src j false k np E') (hext : Ext E E') :
    WindowEnd offs maxrow ncols s k np E :=
  windowEnd_of_run (w := []) hcs hext hcs.index hcs.done (.refl s) (by simpa using hcs.staged.caps j hcs.jlt)

theorem cell_tail_bare {src : Bytes} {offs : List Nat} {maxrow ncols : Nat} {s : KS} {A w : Bytes} {j k np : Nat}
    {E E' : Nat → List Bytes} (hcs : CellStart src offs maxrow ncols s A j false k np E') (hext : Ext E E')
    (hsrc : src = A ++ w) (hplain : ∀ b ∈ w, b ≠ QUOTE ∧ b ≠ SEP ∧ b ≠ NL)
    (hcap : offAt offs j + (E' j).flatten.length + w.length < offAt offs (j + 1)) :
    ∃ n s', KSteps src offs maxrow n s s' ∧ WindowEnd offs maxrow ncols s' k np E := by
  obtain ⟨n, s', hsteps, hi, _, _, hd, heff⟩ :=
    run_plain (offs := offs) (maxrow := maxrow) w A [] s (by simpa using hsrc) hcs.index hcs.done hcs.indsFull
      hcs.valsFull hplain (cell_room hcs _ (fun _ => hcap))
  exact ⟨n, s', hsteps, windowEnd_of_run hcs hext (by rw [hi, hsrc]; simp) hd heff (by omega)⟩

/-- the window ends inside a quoted cell: after the opening quote and the content `u` so far, possibly right after the
    first quote of a doubled quote or after the closing quote (`tq = [QUOTE]`) -/
theorem cell_tail_quoted {src : Bytes} {offs : List Nat} {maxrow ncols : Nat} {s : KS} {A u tq : Bytes} {j k np : Nat}
    {E E' : Nat → List Bytes} (hcs : CellStart src offs maxrow ncols s A j false k np E') (hext : Ext E E')
    (hsrc : src = A ++ (QUOTE :: (escape u ++ tq))) (htq : tq = [] ∨ tq = [QUOTE])
    (hcap : offAt offs j + (E' j).flatten.length + u.length < offAt offs (j + 1)) :
    ∃ n s', KSteps src offs maxrow n s s' ∧ WindowEnd offs maxrow ncols s' k np E := by
  obtain ⟨n, s2, h12, hi2, he2, hc2, hd2, hif2, hvf2, e12⟩ :=
    quoted_upto (offs := offs) (maxrow := maxrow) u A tq s hsrc hcs.index hcs.ics hcs.done hcs.indsFull hcs.valsFull hcs.esc
      hcs.cand (cell_room hcs u.length (fun _ => hcap))
  rcases htq with h | h
  · subst h
    refine ⟨n, s2, h12, windowEnd_of_run hcs hext ?_ hd2 e12 (by omega)⟩
    rw [hi2, hsrc]; simp
  · subst h
    have hsrc2 : src = (A ++ [QUOTE] ++ escape u) ++ [QUOTE] := by simp [hsrc]
    have hc3 : src[s2.index]? = some QUOTE := by rw [hsrc2, hi2, getElem?_append_len0]; simp
    have hnx3 : src[s2.index + 1]? = none := by
      rw [hsrc2, hi2]; apply List.getElem?_eq_none; simp; omega
    obtain ⟨s3, hstep3, hi3, _, _, hd3, hctx3, hcnt3, hv3⟩ :=
      step_skip (offs := offs) (maxrow := maxrow) hc3 (by rw [hnx3, he2, hc2]; exact lex_close_eof _) hif2 hvf2
    refine ⟨n + 1, s3,
      StepsN.trans h12 (StepsN.one (g := kguard) (by simp [kguard, done_false_of_get hd2 hc3]) hstep3),
      windowEnd_of_run hcs hext ?_ hd3 (by simpa using e12.trans (.skip hctx3 hcnt3 hv3)) (by omega)⟩
    rw [hi3, hi2, hsrc2]; simp; omega

/-- the loop has stopped because the value budget of column `j` is used up, inside record `k` -/
structure FullEnd (offs : List Nat) (maxrow ncols : Nat) (s' : KS) (k np : Nat) (E : Nat → List Bytes) (j : Nat) : Prop
    extends KEnd offs maxrow ncols s' k np E false true (some j) where
  jlt : j < ncols

theorem escape_append (a b : Bytes) : escape (a ++ b) = escape a ++ escape b := by
  induction a with
  | nil => rfl
  | cons x xs ih =>
    by_cases hx : x = QUOTE
    · simp [escape, hx, ih]
    · simp [escape, hx, ih]

theorem split_at {α} (w : List α) (r : Nat) (h : r < w.length) : w = w.take r ++ w[r] :: w.drop (r + 1) := by
  have h1 : w.drop r = w[r] :: w.drop (r + 1) := List.drop_eq_getElem_cons h
  rw [← h1, List.take_append_drop]

/-- the run `w` of the current cell was written with one byte of the budget left; the next byte `b` is written and fills it -/
theorem full_at {src : Bytes} {offs : List Nat} {maxrow ncols : Nat} {s s1 : KS} {A : Bytes} {j k np : Nat}
    {E E' : Nat → List Bytes} {w : Bytes} {b : Nat} {e' c' : Bool}
    (hcs : CellStart src offs maxrow ncols s A j false k np E') (hext : Ext E E') (heff : RunEff s s1 w)
    (hfill : offAt offs j + (E' j).flatten.length + w.length + 1 = offAt offs (j + 1))
    (hc : src[s1.index]? = some b)
    (hlex : lexByte src[s1.index + 1]? (s1.index == s1.ics) s1.escaped s1.cand b = .ok ⟨.write, e', c'⟩) :
    ∃ s2, step src offs maxrow s1 = .ok s2 ∧ FullEnd offs maxrow ncols s2 k np E j := by
  obtain ⟨hctx, hrun⟩ := heff
  obtain ⟨hnp1, hcol1, hh1, hrow1, _, hcst1, _, hif1, _, hco1, hcc1, hinds1⟩ := ctx_eq hctx
  rw [hcs.hdr_] at hrun
  simp only [Bool.false_eq_true, if_false] at hrun
  obtain ⟨hcnt, hw⟩ := hrun
  have hp := hcs.pos
  rw [hp] at hw
  have hsh := hcs.staged.shape
  have hroom : offAt offs j + (E' j).flatten.length + w.length < s.vals.length :=
    Nat.lt_of_lt_of_le (Nat.lt_of_succ_le (Nat.le_of_eq hfill))
      (Nat.le_trans (hsh.mono_le ncols (j + 1) hcs.jlt (Nat.le_refl _)) hsh.last)
  have hp1 : s1.colOff + s1.cstart + s1.count = offAt offs j + (E' j).flatten.length + w.length := by
    rw [hco1, hcst1, hcnt, ← Nat.add_assoc, hp]
  obtain ⟨s2, hstep, hd, hvf, hvfc, hif, hnp, hh, hrow, hinds, hvals⟩ :=
    step_write_full (offs := offs) (maxrow := maxrow) hc hlex (by rw [hif1, hcs.indsFull]) (by rw [hh1, hcs.hdr_])
      (by rw [hp1, hw.len]; exact hroom)
      (by rw [hcc1, hcst1, hcnt, hcs.colCnt, hcs.cstart rfl, hcs.count, ← hfill]; omega)
  have hw2 : Wrote s.vals s2.vals (offAt offs j + (E' j).flatten.length) (w ++ [b]) := by
    rw [hvals, hp1]
    exact hw.append (Wrote.single b (by rw [hw.len]; exact hroom))
  obtain ⟨hshape, hcols⟩ :=
    cols_of_wrote hcs hext hw2 (by rw [List.length_append, ← Nat.add_assoc]; exact Nat.le_of_eq hfill)
  exact ⟨s2, hstep, {
    done := hd
    np := by rw [hnp, hnp1, hcs.np]
    hdr := hh
    row := by rw [hrow, hrow1, hcs.row]
    indsFull := hif
    valsFull := hvf
    vfc := by rw [hvfc, hcol1, hcs.col]
    jlt := hcs.jlt
    shape := by rw [hinds, hinds1]; exact hshape
    cols := by rw [hinds, hinds1]; exact hcols }⟩

theorem cell_full_bare {src : Bytes} {offs : List Nat} {maxrow ncols : Nat} {s : KS} {A w R : Bytes} {j k np : Nat}
    {E E' : Nat → List Bytes} (hcs : CellStart src offs maxrow ncols s A j false k np E') (hext : Ext E E')
    (hsrc : src = A ++ (w ++ R)) (hplain : ∀ b ∈ w, b ≠ QUOTE ∧ b ≠ SEP ∧ b ≠ NL)
    (hstrict : offAt offs j + (E' j).flatten.length < offAt offs (j + 1))
    (hover : offAt offs (j + 1) ≤ offAt offs j + (E' j).flatten.length + w.length) :
    ∃ n s', KSteps src offs maxrow n s s' ∧ FullEnd offs maxrow ncols s' k np E j := by
  obtain ⟨r, hr⟩ : ∃ r, offAt offs j + (E' j).flatten.length + r + 1 = offAt offs (j + 1) :=
    ⟨offAt offs (j + 1) - offAt offs j - (E' j).flatten.length - 1, by omega⟩
  have hrw : r < w.length := by omega
  have hlen1 : (w.take r).length = r := by simp; omega
  have hsrc1 : src = A ++ (w.take r ++ (w[r] :: w.drop (r + 1) ++ R)) := by
    rw [hsrc]; congr 1; rw [← List.append_assoc, ← split_at w r hrw]
  obtain ⟨n, s1, hsteps, hi1, _, _, hd1, heff⟩ :=
    run_plain (offs := offs) (maxrow := maxrow) (w.take r) A (w[r] :: w.drop (r + 1) ++ R) s hsrc1 hcs.index hcs.done
      hcs.indsFull hcs.valsFull (fun b hb => hplain b (List.mem_of_mem_take hb))
      (cell_room hcs _ (fun _ => by rw [hlen1]; omega))
  have hb := hplain w[r] (List.getElem_mem hrw)
  have hsrc2 : src = (A ++ w.take r) ++ (w[r] :: (w.drop (r + 1) ++ R)) := by
    rw [hsrc1]; simp only [List.append_assoc, List.cons_append]
  have hi1' : s1.index = (A ++ w.take r).length := by rw [hi1]; simp
  have hcb : src[s1.index]? = some w[r] := by rw [hsrc2, hi1', getElem?_append_len0]; simp
  obtain ⟨s2, hstep, hend⟩ := full_at hcs hext heff (by rw [hlen1]; exact hr) hcb (lex_plain hb.2.1 hb.2.2 hb.1)
  have hd10 : s1.done = false := done_false_of_get hd1 hcb
  exact ⟨n + 1, s2, StepsN.trans hsteps (StepsN.one (g := kguard) (by simp [kguard, hd10]) hstep), hend⟩

theorem cell_full_quoted {src : Bytes} {offs : List Nat} {maxrow ncols : Nat} {s : KS} {A u R : Bytes} {j k np : Nat}
    {E E' : Nat → List Bytes} (hcs : CellStart src offs maxrow ncols s A j false k np E') (hext : Ext E E')
    (hsrc : src = A ++ (QUOTE :: (escape u ++ R)))
    (hstrict : offAt offs j + (E' j).flatten.length < offAt offs (j + 1))
    (hover : offAt offs (j + 1) ≤ offAt offs j + (E' j).flatten.length + u.length) :
    ∃ n s', KSteps src offs maxrow n s s' ∧ FullEnd offs maxrow ncols s' k np E j := by
  obtain ⟨r, hr⟩ : ∃ r, offAt offs j + (E' j).flatten.length + r + 1 = offAt offs (j + 1) :=
    ⟨offAt offs (j + 1) - offAt offs j - (E' j).flatten.length - 1, by omega⟩
  have hru : r < u.length := by omega
  have hlen1 : (u.take r).length = r := by simp; omega
  have hesc : escape u = escape (u.take r) ++ escape (u[r] :: u.drop (r + 1)) := by
    rw [← escape_append, ← split_at u r hru]
  obtain ⟨n, s2, h12, hi2', he2, hc2, hd2, hif2, hvf2, e12⟩ :=
    quoted_upto (offs := offs) (maxrow := maxrow) (u.take r) A (escape (u[r] :: u.drop (r + 1)) ++ R) s
      (by rw [hsrc, hesc, List.append_assoc]) hcs.index hcs.ics hcs.done hcs.indsFull hcs.valsFull hcs.esc hcs.cand
      (cell_room hcs (u.take r).length (fun _ => by rw [hlen1]; omega))
  have hsrc1 : src = (A ++ [QUOTE]) ++ (escape (u.take r) ++ (escape (u[r] :: u.drop (r + 1)) ++ R)) := by
    rw [hsrc, hesc]; simp only [List.append_assoc, List.cons_append, List.nil_append]
  have hfill : offAt offs j + (E' j).flatten.length + (u.take r).length + 1 = offAt offs (j + 1) := by rw [hlen1]; exact hr
  by_cases hb : u[r] = QUOTE
  · -- the byte that fills the budget is a doubled quote: the first one only sets the candidate flag
    have hsrc2 : src = (A ++ [QUOTE] ++ escape (u.take r)) ++ (QUOTE :: QUOTE :: (escape (u.drop (r + 1)) ++ R)) := by
      rw [hsrc1]; simp [escape, hb]
    have hc3 : src[s2.index]? = some QUOTE := by rw [hsrc2, hi2', getElem?_append_len0]; simp
    have hnx3 : src[s2.index + 1]? = some QUOTE := by rw [hsrc2, hi2', getElem?_append_len]; simp
    have hd20 : s2.done = false := done_false_of_get hd2 hc3
    obtain ⟨s3, hstep3, hi3, he3, hc3', hd3, hctx3, hcnt3, hv3⟩ :=
      step_skip (offs := offs) (maxrow := maxrow) hc3 (by rw [hnx3, he2, hc2]; exact lex_pair1 _) hif2 hvf2
    have hd30 : s3.done = false := done_false_of_get hd3 (by rw [hi3, hnx3])
    obtain ⟨s4, hstep4, hend⟩ :=
      full_at hcs hext (by simpa using e12.trans (.skip hctx3 hcnt3 hv3)) hfill (by rw [hi3, hnx3])
        (by rw [he3, hc3']; exact lex_pair2 _ _)
    exact ⟨n + 1 + 1, s4, StepsN.trans (StepsN.trans h12 (StepsN.one (g := kguard) (by simp [kguard, hd20]) hstep3))
      (StepsN.one (g := kguard) (by simp [kguard, hd30]) hstep4), hend⟩
  · have hsrc2 : src = (A ++ [QUOTE] ++ escape (u.take r)) ++ (u[r] :: (escape (u.drop (r + 1)) ++ R)) := by
      rw [hsrc1]; simp [escape, hb]
    have hc3 : src[s2.index]? = some u[r] := by rw [hsrc2, hi2', getElem?_append_len0]; simp
    have hd20 : s2.done = false := done_false_of_get hd2 hc3
    obtain ⟨s3, hstep3, hend⟩ := full_at hcs hext e12 hfill hc3 (by rw [he2]; exact lex_esc_nonquote hb)
    exact ⟨n + 1, s3, StepsN.trans h12 (StepsN.one (g := kguard) (by simp [kguard, hd20]) hstep3), hend⟩

/-- every column still has at least one free byte (true at entry because every budget is ≥ 1, and kept by every cell that
    fits strictly) -/
def StrictCaps (offs : List Nat) (ncols : Nat) (E : Nat → List Bytes) : Prop :=
  ∀ c, c < ncols → offAt offs c + (E c).flatten.length < offAt offs (c + 1)

theorem StrictCaps.stage {offs : List Nat} {ncols : Nat} {E : Nat → List Bytes} {j : Nat} {v : Bytes}
    (h : StrictCaps offs ncols E) (hcap : offAt offs j + (E j).flatten.length + v.length < offAt offs (j + 1)) :
    StrictCaps offs ncols (stage false E j v) := by
  intro c hc
  show offAt offs c + (upd E j v c).flatten.length < offAt offs (c + 1)
  by_cases hcj : c = j
  · subst hcj; rw [upd_flat_self]; omega
  · rw [upd_ne _ _ hcj]; exact h c hc

theorem cell_full {src : Bytes} {offs : List Nat} {maxrow ncols : Nat} (c : Cell) (hwf : c.WF) (A0 B : Bytes) (t : Nat)
    (ht : t = SEP ∨ t = NL) {s : KS} {j k np : Nat} {E E' : Nat → List Bytes}
    (hsrc : src = A0 ++ (renderCell c ++ t :: B))
    (hcs : CellStart src offs maxrow ncols s (A0 ++ (renderCell c ++ t :: B).takeWhile isWs) j false k np E')
    (hext : Ext E E') (hstrict : offAt offs j + (E' j).flatten.length < offAt offs (j + 1))
    (hover : offAt offs (j + 1) ≤ offAt offs j + (E' j).flatten.length + c.value.length) :
    ∃ n s', KSteps src offs maxrow n s s' ∧ FullEnd offs maxrow ncols s' k np E j := by
  replace hsrc : src = (A0 ++ (renderCell c ++ t :: B).takeWhile isWs) ++ (body c ++ t :: B) :=
    hsrc.trans (lead_drop A0 c t B ht)
  cases hq : c.quoted with
  | false =>
    have hplain : ∀ b ∈ stripLead c.text, b ≠ QUOTE ∧ b ≠ SEP ∧ b ≠ NL :=
      fun b hb => bare_plain hwf hq (mem_stripLead hb)
    rw [show body c = stripLead c.text by simp [body, hq]] at hsrc
    rw [show c.value = stripLead c.text by simp [Cell.value, hq]] at hover
    exact cell_full_bare hcs hext hsrc hplain hstrict hover
  | true =>
    rw [show c.value = c.text by simp [Cell.value, hq]] at hover
    exact cell_full_quoted (R := QUOTE :: t :: B) hcs hext (by simp [hsrc, body, hq, renderCell]) hstrict hover

/-- the window ends inside the cell, after `m` bytes of its text; no assumption on budgets -/
theorem cell_tail {src : Bytes} {offs : List Nat} {maxrow ncols : Nat} (c : Cell) (hwf : c.WF) (m : Nat) {s : KS}
    {A0 : Bytes} {j k np : Nat} {E E' : Nat → List Bytes} (hsrc : src = A0 ++ (renderCell c).take m)
    (hcs : CellStart src offs maxrow ncols s (A0 ++ ((renderCell c).take m).takeWhile isWs) j false k np E')
    (hext : Ext E E') (hstrict : offAt offs j + (E' j).flatten.length < offAt offs (j + 1)) :
    ∃ n s', KSteps src offs maxrow n s s' ∧
      (WindowEnd offs maxrow ncols s' k np E ∨
       (FullEnd offs maxrow ncols s' k np E j ∧
        offAt offs (j + 1) ≤ offAt offs j + (E' j).flatten.length + c.value.length)) := by
  have hsplit : src = (A0 ++ ((renderCell c).take m).takeWhile isWs) ++ ((renderCell c).take m).dropWhile isWs := by
    rw [List.append_assoc, List.takeWhile_append_dropWhile]; exact hsrc
  cases hq : c.quoted with
  | false =>
    have hr : renderCell c = c.text := by simp [renderCell, hq]
    have hv : c.value = stripLead c.text := by simp [Cell.value, hq]
    rw [hr] at hsplit hcs
    have hplain : ∀ b ∈ (c.text.take m).dropWhile isWs, b ≠ QUOTE ∧ b ≠ SEP ∧ b ≠ NL := fun b hb =>
      bare_plain hwf hq (List.mem_of_mem_take ((List.dropWhile_sublist _).subset hb))
    have hlen : ((c.text.take m).dropWhile isWs).length ≤ c.value.length := by
      rw [hv]; exact dropWhile_take_length_le _ _ _
    by_cases hcap : offAt offs j + (E' j).flatten.length + ((c.text.take m).dropWhile isWs).length < offAt offs (j + 1)
    · obtain ⟨n, s', hsteps, hend⟩ := cell_tail_bare hcs hext hsplit hplain hcap
      exact ⟨n, s', hsteps, Or.inl hend⟩
    · obtain ⟨n, s', hsteps, hend⟩ :=
        cell_full_bare (R := []) hcs hext (by simpa using hsplit) hplain hstrict (by omega)
      exact ⟨n, s', hsteps, Or.inr ⟨hend, by omega⟩⟩
  | true =>
    have hr : renderCell c = QUOTE :: (escape c.text ++ [QUOTE]) := by simp [renderCell, hq]
    have hv : c.value = c.text := by simp [Cell.value, hq]
    rw [hr] at hsplit hcs hsrc
    cases m with
    | zero =>
      simp only [List.take_zero, List.takeWhile_nil, List.append_nil] at hcs hsrc
      rw [← hsrc] at hcs
      exact ⟨0, s, .refl _, Or.inl (cell_tail_none hcs hext)⟩
    | succ m =>
      obtain ⟨u, tq, h1, h2, h3⟩ := take_escape c.text m
      have hqw : isWs QUOTE = false := by decide
      have htk : (QUOTE :: (escape c.text ++ [QUOTE])).take (m + 1) = QUOTE :: (escape u ++ tq) := by
        rw [List.take_succ_cons, h1]
      rw [htk] at hcs hsrc
      have htw : (QUOTE :: (escape u ++ tq)).takeWhile isWs = [] := by simp [hqw]
      rw [htw, List.append_nil] at hcs
      by_cases hcap : offAt offs j + (E' j).flatten.length + u.length < offAt offs (j + 1)
      · obtain ⟨n, s', hsteps, hend⟩ := cell_tail_quoted hcs hext hsrc h2 hcap
        exact ⟨n, s', hsteps, Or.inl hend⟩
      · obtain ⟨n, s', hsteps, hend⟩ := cell_full_quoted hcs hext hsrc hstrict (by omega)
        exact ⟨n, s', hsteps, Or.inr ⟨hend, by rw [hv]; omega⟩⟩

end Exetera.Csv
