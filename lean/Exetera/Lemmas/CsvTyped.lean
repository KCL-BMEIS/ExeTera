import Exetera.Props.C06
import Exetera.Lemmas.TransformsCatChecked
import Exetera.Lemmas.CsvReadCsv
/-! C05 ∘ C06, the accepting side. `typedSpec` is C06's specification of a whole column; the importer of a column that has
    consumed the cells `D` is `typedSpec kind D`. One `import_part` call is `typedPart` on a chunk that `Encodes` the staged
    block (all the buffer geometry is in that step), and `typedPart` on a chunk encoding acceptable cells `E` appends C06's
    result for `E`. So the importers are append homomorphisms, C05's loop theorem `readFile_hom` applies, and
    `read_csv_with_schema_dict` returns `typedSpec` of the whole columns. -/
namespace Exetera.Csv
open Exetera Spec Exetera.Transforms Exetera.Spec.Transforms

/-- what C06's theorems assume about an importer definition: category keys are pairwise distinct (they are the keys of a
    Python dict); the text → number conversion rejects blank text, and `str(invalid_value)` converts to `invalid_value` -/
def KindOK : FieldKind → Prop
  | .categorical cats => (cats.map (·.1)).Nodup
  | .leaky cats => (cats.map (·.1)).Nodup
  | .numeric p _ invalidText invalidVal =>
    (∀ t, npNonEmpty t = false → p.parse t = .bad) ∧ p.parse invalidText = .val invalidVal
  | _ => True

/-- all cells of a datetime / date column through the per-cell conversion; `none` when one of them raises -/
def timeColumn (f : Bytes → Except Err (Int × Bytes × Bool)) (cells : List Bytes) : Option (List (Int × Bytes × Bool)) :=
  (cellsMapE f cells).toOption

/-- **C06's specification applied to a whole column of cell texts**: the destination fields (main column and companions) of
    an importer of kind `k` that has consumed exactly `cells`; `none`: the import raises.
    * indexed string: offsets `[0, |e₀|, |e₀|+|e₁|, …]` and the concatenated bytes (C05);
    * fixed string: first `n` bytes of every cell, zero padded (`fixedCell`);
    * categorical: value of the key equal to the whole cell; the import raises when a cell equals no key (`catColumn`,
      fix NC06d);
    * leaky categorical: value or `-1` (`leakyCode`), `_freetext` holds exactly the unmatched texts (`freeText`) with running
      offsets over the whole column;
    * bool / int / float: the validation-mode table `numericColumn` over the cells' classes; `_valid` beside it;
    * datetime / date: the per-cell conversion (`datetimeCell` / `dateCell`: µs since the epoch, `_day`, `_set`). -/
def typedSpec : FieldKind → List Bytes → Option Imp
  | .indexed, cells => some (fieldOf' cells)
  | .fixed n, cells => some { kind := .fixed n, data := (cells.map (fixedCell n)).flatten }
  | .categorical cats, cells => (catColumn cats cells).map (fun codes => { kind := .categorical cats, codes := codes })
  | .leaky cats, cells =>
    some { kind := .leaky cats, codes := cells.map (leakyCode cats)
           idx := offsets 0 (cells.map (fun c => (freeText cats c).length))
           vals := (cells.map (freeText cats)).flatten
           acc := (cells.map (fun c => (freeText cats c).length)).sum }
  | .bool mode invalid, cells =>
    (numericColumn mode invalid (cells.map boolClass)).map
      (fun r => { kind := .bool mode invalid, bools := r.1, valids := r.2 })
  | .numeric p mode invalidText invalidVal, cells =>
    (numericColumn mode invalidVal ((cells.map rstripNul).map (classOf p.parse))).map
      (fun r => { kind := .numeric p mode invalidText invalidVal, nums := r.1
                  valids := if mode = .strict then [] else r.2 })
  | .datetime, cells =>
    (timeColumn datetimeCell cells).map
      (fun rs => { kind := .datetime, codes := rs.map (·.1), days := rs.map (·.2.1), valids := rs.map (·.2.2) })
  | .date, cells =>
    (timeColumn dateCell cells).map
      (fun rs => { kind := .date, codes := rs.map (·.1), days := rs.map (·.2.1), valids := rs.map (·.2.2) })

/-- a cell text the importer of kind `k` accepts (does not raise on): decided by the cell alone -/
def cellOK : FieldKind → Bytes → Prop
  | .categorical cats, cell => (lookup cats cell).isSome
  | .bool mode invalid, cell => (numericCell mode invalid (boolClass cell)).isSome
  | .numeric p mode _ invalidVal, cell => (numericCell mode invalidVal (classOf p.parse (rstripNul cell))).isSome
  | .datetime, cell => (datetimeCell cell).toOption.isSome
  | .date, cell => (dateCell cell).toOption.isSome
  | _, _ => True

instance (k : FieldKind) (cell : Bytes) : Decidable (cellOK k cell) := by
  cases k <;> simp only [cellOK] <;> infer_instance

/-- importer `c` of the driver, as a function of the entries it has consumed -/
def typedF (kinds : Nat → FieldKind) (c : Nat) (D : List Bytes) : Imp :=
  (typedSpec (kinds c) D).getD { kind := kinds c }

/-- the kind of file column `c` under a schema (columns missing from the schema are indexed strings) -/
def kindAt (names : List String) (schema : List (String × FieldKind)) (c : Nat) : FieldKind :=
  kindOf schema (names.getD c "")


/-- the value budgets `read_csv_with_schema_dict` starts with for a schema -/
def schemaOffsets (names : List String) (schema : List (String × FieldKind)) (crs : Nat) : List Nat :=
  columnOffsets (names.map (fun k => (kindOf schema k).fieldSize)) crs

theorem numericColumn_isSome_iff {V} (mode : Mode) (inv : V) (ks : List (CellClass V)) :
    (numericColumn mode inv ks).isSome ↔ ∀ k ∈ ks, (numericCell mode inv k).isSome := by
  induction ks with
  | nil => simp [numericColumn]
  | cons k ks ih =>
    rw [numericColumn_cons, List.forall_mem_cons, ← ih]
    rcases numericCell mode inv k with _ | ⟨v, f⟩ <;> rcases numericColumn mode inv ks with _ | ⟨vs, fs⟩ <;> simp [consCell]

theorem cellsMapE_isSome_iff {α} (f : Bytes → Except Err α) (cells : List Bytes) :
    (cellsMapE f cells).toOption.isSome ↔ ∀ cell ∈ cells, (f cell).toOption.isSome := by
  induction cells with
  | nil => simp [cellsMapE, Except.toOption]
  | cons c cs ih =>
    rw [cellsMapE, List.forall_mem_cons, ← ih]
    cases f c <;> cases cellsMapE f cs <;> simp [Except.toOption]

theorem toOption_eq_some {α} {x : Except Err α} {a : α} (h : x.toOption = some a) : x = .ok a := by
  cases x with
  | error e => cases h
  | ok b => simp [Except.toOption] at h; rw [h]

theorem numericColumn_append_some {V α} (mode : Mode) (inv : V) (g : α → CellClass V) {D E : List α}
    (hD : ∀ a ∈ D, (numericCell mode inv (g a)).isSome) (hE : ∀ a ∈ E, (numericCell mode inv (g a)).isSome) :
    ∃ rD rE, numericColumn mode inv (D.map g) = some rD ∧ numericColumn mode inv (E.map g) = some rE ∧
      numericColumn mode inv (D.map g ++ E.map g) = some (rD.1 ++ rE.1, rD.2 ++ rE.2) := by
  obtain ⟨rD, hrD⟩ := Option.isSome_iff_exists.mp ((numericColumn_isSome_iff mode inv (D.map g)).mpr (List.forall_mem_map.mpr hD))
  obtain ⟨rE, hrE⟩ := Option.isSome_iff_exists.mp ((numericColumn_isSome_iff mode inv (E.map g)).mpr (List.forall_mem_map.mpr hE))
  exact ⟨rD, rE, hrD, hrE, by rw [Exetera.Props.C06.numericColumn_append, hrD, hrE]⟩

theorem cellsMapE_append {α} (f : Bytes → Except Err α) (a b : List Bytes) (x y : List α)
    (ha : cellsMapE f a = .ok x) (hb : cellsMapE f b = .ok y) : cellsMapE f (a ++ b) = .ok (x ++ y) := by
  induction a generalizing x with
  | nil => cases ha; exact hb
  | cons c cs ih =>
    rw [cellsMapE] at ha
    rw [List.cons_append, cellsMapE]
    cases hf : f c with
    | error e => simp [hf] at ha
    | ok v =>
      cases hr : cellsMapE f cs with
      | error e => simp [hf, hr] at ha
      | ok as =>
        simp only [hf, hr, Except.ok.injEq] at ha
        subst ha
        simp only [ih as hr, List.cons_append]

theorem timeColumn_append_some (f : Bytes → Except Err (Int × Bytes × Bool)) {D E : List Bytes}
    (hD : ∀ cell ∈ D, (f cell).toOption.isSome) (hE : ∀ cell ∈ E, (f cell).toOption.isSome) :
    ∃ rsD rsE, timeColumn f D = some rsD ∧ cellsMapE f E = .ok rsE ∧ timeColumn f (D ++ E) = some (rsD ++ rsE) := by
  obtain ⟨rsD, hrsD⟩ := Option.isSome_iff_exists.mp ((cellsMapE_isSome_iff f D).mpr hD)
  obtain ⟨rsE, hrsE⟩ := Option.isSome_iff_exists.mp ((cellsMapE_isSome_iff f E).mpr hE)
  refine ⟨rsD, rsE, hrsD, toOption_eq_some hrsE, ?_⟩
  rw [timeColumn, cellsMapE_append f D E rsD rsE (toOption_eq_some hrsD) (toOption_eq_some hrsE)]
  rfl

theorem typedSpec_nil (k : FieldKind) : typedSpec k [] = some { kind := k } := by
  cases k with
  | numeric p mode it iv => cases mode <;> simp [typedSpec, numericColumn]
  | indexed => simp [typedSpec, fieldOf', indexOf, bytesOf, offsetsFrom]
  | leaky cats => simp [typedSpec, offsets]
  | bool mode invalid => simp [typedSpec, numericColumn]
  | datetime => simp [typedSpec, timeColumn, cellsMapE, Except.toOption]
  | date => simp [typedSpec, timeColumn, cellsMapE, Except.toOption]
  | fixed n => simp [typedSpec]
  | categorical cats => simp [typedSpec, catColumn]

theorem typedF_nil (kinds : Nat → FieldKind) (im : List Nat) :
    im.map (fun c => typedF kinds c []) = im.map (fun c => ({ kind := kinds c } : Imp)) :=
  List.map_congr_left fun c _ => by simp [typedF, typedSpec_nil]

theorem typedSpec_kind (k : FieldKind) (cells : List Bytes) (imp : Imp) (h : typedSpec k cells = some imp) :
    imp.kind = k := by
  cases k <;> simp only [typedSpec, Option.map_eq_some_iff, Option.some.injEq] at h
  case indexed | fixed | leaky => subst h; rfl
  all_goals obtain ⟨_, _, rfl⟩ := h; rfl

theorem typedSpec_isSome_iff (k : FieldKind) (cells : List Bytes) :
    (typedSpec k cells).isSome ↔ ∀ cell ∈ cells, cellOK k cell := by
  cases k <;>
    simp only [typedSpec, cellOK, timeColumn, Option.isSome_map, Option.isSome_some, numericColumn_isSome_iff,
      cellsMapE_isSome_iff, catColumn_isSome_iff, List.forall_mem_map, implies_true]

theorem cellOK_of_typedSpec (k : FieldKind) (cells : List Bytes) (imp : Imp) (h : typedSpec k cells = some imp) :
    ∀ cell ∈ cells, cellOK k cell :=
  (typedSpec_isSome_iff k cells).mp (by rw [h]; rfl)

theorem typedSpec_eq_typedF (kinds : Nat → FieldKind) (c : Nat) (cells : List Bytes)
    (h : ∀ cell ∈ cells, cellOK (kinds c) cell) : typedSpec (kinds c) cells = some (typedF kinds c cells) := by
  obtain ⟨imp, himp⟩ := Option.isSome_iff_exists.mp ((typedSpec_isSome_iff _ _).mpr h)
  rw [typedF, himp]; rfl

theorem typedF_kind (kinds : Nat → FieldKind) (c : Nat) (D : List Bytes) : (typedF kinds c D).kind = kinds c := by
  unfold typedF
  cases h : typedSpec (kinds c) D with
  | none => rfl
  | some imp => exact typedSpec_kind _ _ _ h

theorem kindAt_idxOf (names : List String) (schema : List (String × FieldKind)) (k : String) (hk : k ∈ names) :
    kindAt names schema (names.idxOf k) = kindOf schema k := by
  have hlt : names.idxOf k < names.length := List.idxOf_lt_length_of_mem hk
  simp [kindAt, List.getD, List.getElem?_eq_getElem hlt, List.getElem_idxOf hlt]

/-- `index_map` is the selected names' positions, and `kindAt` at a position is `kindOf` of the name there -/
theorem forall_indexMap {names : List String} {schema : List (String × FieldKind)} {incl excl : Option (List String)}
    (P : Nat → FieldKind → Prop) :
    (∀ c ∈ (fieldsToUse names incl excl).map (fun k => names.idxOf k), P c (kindAt names schema c)) ↔
      ∀ k ∈ fieldsToUse names incl excl, P (names.idxOf k) (kindOf schema k) := by
  rw [List.forall_mem_map]
  exact forall₂_congr fun k hk => by rw [kindAt_idxOf names schema k (fieldsToUse_subset _ _ _ _ hk)]

/-- C06's assumption on the importer definition holds for the executable integer parser (`int()`, then the dtype's range) when
    `str(invalid_value)` is within the range -/
theorem kindOK_intRange {lo hi : Int} (mode : Mode) {invalidText : Bytes} {invalid : Int}
    (h : parseIntRange lo hi invalidText = .val invalid) : KindOK (.numeric (.intRange lo hi) mode invalidText (.int invalid)) :=
  ⟨fun t ht => by simp [NumParser.parse, parseIntRange_blank lo hi t ht], by simp [NumParser.parse, h]⟩

@[simp] theorem chunkOf_rows (r : List Nat) (vals : List Nat) (off cap n col ncols : Nat) :
    (chunkOf r vals off cap n col ncols).rows = n := rfl

theorem encFrom_of (ch : Chunk) : ∀ (cells : List Bytes) (i s : Nat),
    (∀ k, k ≤ cells.length → ch.inds[i + k]? = some (s + endOf cells k)) →
    At ch.vals (ch.off + s) cells.flatten → ch.off + s + cells.flatten.length ≤ ch.vals.length →
    EncFrom ch i s cells := by
  intro cells
  induction cells with
  | nil => intro i s hk _ _; exact hk 0 (Nat.le_refl _)
  | cons cell rest ih =>
    intro i s hk hat hlen
    rw [List.flatten_cons, List.length_append] at hlen
    have hatc : At ch.vals (ch.off + s) cell := by
      intro k hkc
      rw [hat k (by rw [List.flatten_cons, List.length_append]; omega), List.flatten_cons, List.getElem?_append_left hkc]
    refine ⟨hk 0 (Nat.zero_le _), by omega, slice_of_at hatc, ih (i + 1) (s + cell.length) ?_ ?_ (by omega)⟩
    · intro k hkr
      have := hk (k + 1) (by simpa using hkr)
      rw [endOf_cons_succ] at this
      rw [Nat.add_assoc i 1 k, Nat.add_comm 1 k, this, Nat.add_assoc]
    · intro k hkr
      have := hat (cell.length + k) (by rw [List.flatten_cons, List.length_append]; omega)
      rw [List.flatten_cons, List.getElem?_append_right (by omega), Nat.add_sub_cancel_left] at this
      rw [← this]
      congr 1
      omega

theorem encodes_of_colOK {ncols maxrow : Nat} {offs : List Nat} {inds : List (List Nat)} {vals : List Nat} {c : Nat}
    {E : List Bytes} {r : List Nat} (hsh : Shape ncols maxrow offs inds vals) (hc : c < ncols)
    (hcol : ColOK offs inds vals c E) (hr : inds[c]? = some r)
    (hcaps : offAt offs c + E.flatten.length < offAt offs (c + 1)) (cap : Nat) (hcap : E.flatten.length ≤ cap) :
    Encodes (chunkOf r vals (offAt offs c) cap E.length c inds.length) E := by
  obtain ⟨⟨r', hr', hk⟩, hat⟩ := hcol
  cases hr.symm.trans hr'
  have hle : offAt offs (c + 1) ≤ vals.length := Nat.le_trans (hsh.mono_le ncols (c + 1) (by omega) (Nat.le_refl _)) hsh.last
  refine ⟨rfl, ⟨0, encFrom_of _ E 0 0 ?_ ?_ ?_, ?_⟩, (List.getElem?_eq_some_iff.mp hr).1⟩
  · simpa [chunkOf] using hk
  · simpa [chunkOf] using hat
  · show offAt offs c + 0 + E.flatten.length ≤ vals.length
    omega
  · rw [Nat.zero_add, ← flatten_length_eq_sum]; exact hcap

/-- **`import_part` of a schema-typed importer is `typedPart` on a chunk that encodes the staged block**: the chunk is row
    `c` of `column_inds`, `column_vals` from `column_offsets[c]` on, `written_row_count` rows; its `cap` is the column's
    budget for the leaky importer (the size of its free-text staging array) and unread otherwise -/
theorem importPart_eq_typedPart {ncols maxrow : Nat} {offs : List Nat} {inds : List (List Nat)} {vals : List Nat} {c : Nat}
    {E : List Bytes} (hsh : Shape ncols maxrow offs inds vals) (hc : c < ncols) (hcol : ColOK offs inds vals c E)
    (hcaps : offAt offs c + E.flatten.length < offAt offs (c + 1)) (imp : Imp) (hk : imp.kind ≠ .indexed) :
    ∃ ch, Encodes ch E ∧ Imp.importPart imp inds vals offs c E.length = imp.typedPart ch := by
  obtain ⟨r, hr⟩ : ∃ r, inds[c]? = some r := by obtain ⟨⟨r, hr, _⟩, _⟩ := hcol; exact ⟨r, hr⟩
  have hgo : getE offs c "column_offsets[col_idx]" = .ok (offAt offs c) :=
    getE_eq_ok.mpr (offs_get hsh.offsLen (by omega))
  have hgo1 : getE offs (c + 1) "column_offsets[col_idx+1]" = .ok (offAt offs (c + 1)) :=
    getE_eq_ok.mpr (offs_get hsh.offsLen (by omega))
  have hle : offAt offs (c + 1) ≤ vals.length := Nat.le_trans (hsh.mono_le ncols (c + 1) (by omega) (Nat.le_refl _)) hsh.last
  have hencV := encodes_of_colOK hsh hc hcol hr hcaps vals.length (by omega)
  cases hkind : imp.kind with
  | indexed => exact absurd hkind hk
  | leaky cats =>
    exact ⟨_, encodes_of_colOK hsh hc hcol hr hcaps (offAt offs (c + 1) - offAt offs c) (by omega),
      by simp only [Imp.importPart, hr, hgo, hgo1, hkind]⟩
  | _ => exact ⟨_, hencV, by simp only [Imp.importPart, hr, hgo, hkind]⟩

/-! ### every typed importer is an append homomorphism over cell blocks -/

/-- `typedPart` of the importer that has consumed the acceptable cells `D`, on a chunk that encodes the acceptable cells `E`,
    leaves what C06 specifies for the column `D ++ E`; per importer kind this is C06's theorem about the kernel, and that the
    specified column of `D ++ E` is that of `D` with that of `E` appended -/
theorem typedPart_hom {k : FieldKind} (hKind : KindOK k) (hk : k ≠ .indexed) {ch : Chunk} {D E : List Bytes}
    (henc : Encodes ch E) (hD : ∀ cell ∈ D, cellOK k cell) (hE : ∀ cell ∈ E, cellOK k cell) :
    ((typedSpec k D).getD { kind := k }).typedPart ch = .ok ((typedSpec k (D ++ E)).getD { kind := k }) := by
  cases k with
  | indexed => exact absurd rfl hk
  | fixed n => simp [typedSpec, Imp.typedPart, fixedStringTransform_spec _ n E henc]
  | categorical cats =>
    have hDE : ∀ cell ∈ D ++ E, (lookup cats cell).isSome :=
      fun cell hm => (List.mem_append.mp hm).elim (hD cell) (hE cell)
    simp [typedSpec, Imp.typedPart, categoricalImportPart_spec cats hKind _ E henc,
      catColumn_eq_map cats D hD, catColumn_eq_map cats E hE, catColumn_eq_map cats (D ++ E) hDE]
  | leaky cats =>
    have hst : ({ data := D.map (leakyCode cats), ftIndices := offsets 0 (D.map (fun c => (freeText cats c).length)),
                  ftValues := (D.map (freeText cats)).flatten,
                  acc := (D.map (fun c => (freeText cats c).length)).sum } : LeakyState) =
        scanColumn (cats.mergeSort (fun a b => bytesLe a.1 b.1)) D := by
      rw [scanColumn_getByteMap cats hKind]; rfl
    have hpart := leakyImportPart_spec (cats.mergeSort (fun a b => bytesLe a.1 b.1)) D _ E henc
    rw [scanColumn_getByteMap cats hKind (D ++ E)] at hpart
    simp only [typedSpec, Option.getD_some, Imp.typedPart, hst, getByteMap, hpart]
    simp [leakyColumn]
  | bool mode invalid =>
    obtain ⟨rD, rE, hrD, hrE, happ⟩ := numericColumn_append_some mode invalid boolClass hD hE
    have hbt := Exetera.Props.C06.bool_transform_spec ch mode invalid ch.rows ch.rows E henc (Nat.le_refl _) (Nat.le_refl _)
    rw [hrE] at hbt
    simp [typedSpec, hrD, happ, Imp.typedPart, hbt]
  | numeric p mode it iv =>
    obtain ⟨rD, rE, hrD, hrE, happ⟩ := numericColumn_append_some mode iv (fun c => classOf p.parse (rstripNul c)) hD hE
    have htab := Exetera.Props.C06.validation_mode_table p.parse mode it iv hKind.1 hKind.2 E
    simp only [List.map_map, Function.comp_def, hrE] at htab
    simp only [typedSpec, List.map_append, List.map_map, Function.comp_def, hrD, happ, Option.map_some, Option.getD_some,
      Imp.typedPart, cellsE_spec _ E henc, toOption_eq_some htab]
    cases mode <;> simp
  | datetime =>
    obtain ⟨rsD, rsE, hrsD, hrsE, happ⟩ := timeColumn_append_some datetimeCell hD hE
    simp [typedSpec, hrsD, happ, Imp.typedPart, cellsE_spec _ E henc, hrsE]
  | date =>
    obtain ⟨rsD, rsE, hrsD, hrsE, happ⟩ := timeColumn_append_some dateCell hD hE
    simp [typedSpec, hrsD, happ, Imp.typedPart, cellsE_spec _ E henc, hrsE]

/-- **every importer is an append homomorphism over cell blocks.** For importer definitions that satisfy C06's assumptions
    (`KindOK`), one `import_part` call of the importer of column `c`, which has consumed the acceptable cells `D`, on staging
    buffers whose column `c` holds the acceptable cells `E`, returns `.ok` (no subscript of a transform kernel leaves its
    array) and leaves the importer with exactly what C06 specifies for the column `D ++ E`: the accumulated offsets
    (`chunk_accumulated`, `freetext_index_accumulated`), every companion column and the main column. -/
theorem impHom_typed (ncols : Nat) (kinds : Nat → FieldKind) (hkinds : ∀ c, c < ncols → KindOK (kinds c)) :
    ImpHom ncols (typedF kinds) (fun c => cellOK (kinds c)) := by
  intro offs inds vals maxrow c D E hc hsh hcol hcaps hD hE
  by_cases hk : kinds c = .indexed
  · simp only [typedF, hk, typedSpec, Option.getD_some]
    exact importPart_acc hcol (offs_get hsh.offsLen (by omega))
  · obtain ⟨ch, henc, hpart⟩ := importPart_eq_typedPart hsh hc hcol hcaps (typedF kinds c D) (by rwa [typedF_kind])
    rw [hpart]
    exact typedPart_hom (hkinds c hc) hk henc hD hE

/-! ### `read_csv_with_schema_dict` -/

theorem kindOK_kindAt {names : List String} {schema : List (String × FieldKind)}
    (hkinds : ∀ k ∈ names, KindOK (kindOf schema k)) (c : Nat) (hc : c < names.length) : KindOK (kindAt names schema c) := by
  apply hkinds
  simp [List.getD, List.getElem?_eq_getElem hc]

/-- the budgets computed from the `_field_size`s are ≥ 1 (`max(field_size, 1) * chunk_row_size`, fix NC05b) -/
theorem schemaOffsets_budgets (names : List String) (schema : List (String × FieldKind)) {crs : Nat} (hcrs : 0 < crs) :
    (schemaOffsets names schema crs).length = names.length + 1 ∧ offAt (schemaOffsets names schema crs) 0 = 0 ∧
      ∀ c, c < names.length → offAt (schemaOffsets names schema crs) c < offAt (schemaOffsets names schema crs) (c + 1) := by
  unfold schemaOffsets
  rw [columnOffsets_eq]
  generalize hsz : names.map (fun k => (kindOf schema k).fieldSize) = sizes
  have hlen : sizes.length = names.length := by rw [← hsz, List.length_map]
  refine ⟨by rw [offsRec_length, hlen], offsRec_zero _ _ _, fun c hc => ?_⟩
  rw [offsRec_step crs sizes 0 c (by omega)]
  have : 0 < max (sizes.getD c 0) 1 * crs := Nat.mul_pos (by omega) hcrs
  omega

theorem readCsv_eq_readFile (file : Bytes) (names : List String) (schema : List (String × FieldKind))
    (incl excl : Option (List String)) (crs fuel : Nat)
    (hincl : ∀ l, incl = some l → ∀ k ∈ l, k ∈ names) (hexcl : ∀ l, excl = some l → ∀ k ∈ l, k ∈ names) :
    readCsv file names schema incl excl crs fuel =
      (readFile file crs names.length (schemaOffsets names schema crs)
          ((fieldsToUse names incl excl).map (fun k => names.idxOf k))
          (((fieldsToUse names incl excl).map (fun k => names.idxOf k)).map (fun c => typedF (kindAt names schema) c []))
          fuel).map
        (fun o => ⟨o.rows, ((fieldsToUse names incl excl).zip o.imps).map (fun p => ⟨p.1, p.2⟩)⟩) := by
  have himps : (fieldsToUse names incl excl).map (fun k => ({ kind := kindOf schema k } : Imp)) =
      ((fieldsToUse names incl excl).map (fun k => names.idxOf k)).map (fun c => typedF (kindAt names schema) c []) := by
    rw [typedF_nil, List.map_map]
    exact List.map_congr_left fun k hk => by simp [kindAt_idxOf names schema k (fieldsToUse_subset _ _ _ _ hk)]
  simp only [readCsv, unknownName_false hincl, unknownName_false hexcl, Bool.false_eq_true, if_false, himps,
    schemaOffsets]
  cases readFile _ _ _ _ _ _ _ <;> rfl

/-- what the theorems about `read_csv_with_schema_dict` assume of a call: include / exclude lists of known names, a file of
    C05's regime (`SettingR`, with as many columns as header names), importer definitions that satisfy C06's assumptions,
    and fuel for `records + 2 + regrowthBound` kernel calls -/
structure SchemaRun (file : Bytes) (names : List String) (schema : List (String × FieldKind))
    (incl excl : Option (List String)) (crs : Nat) (hrow : List Cell) (rows : List (List Cell)) (fuel : Nat) : Prop where
  inclOk : ∀ l, incl = some l → ∀ k ∈ l, k ∈ names
  exclOk : ∀ l, excl = some l → ∀ k ∈ l, k ∈ names
  setting : SettingR file crs names.length ((fieldsToUse names incl excl).map (fun k => names.idxOf k)) hrow rows
  nonempty : file ≠ []
  kinds : ∀ k ∈ names, KindOK (kindOf schema k)
  fuel : rows.length + 2 +
    regrowthBound rows names.length (schemaOffsets names schema crs) (crs * Gen.Csv.CHUNK_ROW_FACTOR) ≤ fuel

/-- `read_csv_with_schema_dict` with a schema of typed columns, every selected cell acceptable to its importer: the destination
    fields are `typedSpec` of the whole columns, in file order -/
theorem readCsv_typed {file : Bytes} {names : List String} {schema : List (String × FieldKind)}
    {incl excl : Option (List String)} {crs : Nat} {hrow : List Cell} {rows : List (List Cell)} {fuel : Nat}
    (run : SchemaRun file names schema incl excl crs hrow rows fuel)
    (hok : ∀ k ∈ fieldsToUse names incl excl, ∀ cell ∈ column (values rows) (names.idxOf k),
      cellOK (kindOf schema k) cell) :
    readCsv file names schema incl excl crs fuel =
      .ok ⟨rows.length, (fieldsToUse names incl excl).map
        (fun k => ⟨k, typedF (kindAt names schema) (names.idxOf k) (column (values rows) (names.idxOf k))⟩)⟩ := by
  have hgood := (forall_indexMap (schema := schema) fun c kd => ∀ cell ∈ column (values rows) c, cellOK kd cell).mpr hok
  obtain ⟨hlen, h0, hbud⟩ := schemaOffsets_budgets names schema run.setting.crsPos
  obtain ⟨calls, hrf⟩ := readFile_hom run.setting run.nonempty
    (impHom_typed names.length (kindAt names schema) (kindOK_kindAt run.kinds)) hgood hlen h0 hbud fuel run.fuel
  rw [readCsv_eq_readFile file names schema incl excl crs fuel run.inclOk run.exclOk, hrf]
  simp only [Except.map, List.map_map]
  congr 2
  exact zip_map_self (fieldsToUse names incl excl) _ (fun k i => (⟨k, i⟩ : Field))

end Exetera.Csv
