import Exetera.Gen.Kernels
import Exetera.Lemmas.While
import Exetera.Lemmas.GenKernels
/-!
  The TRANSLATED kernel `streaming_sort_partial(in_chunk_indices, in_chunk_lengths, src_value_chunks, src_index_chunks,
  dest_value_chunk, dest_index_chunk)` — one merge step of a k-way streaming sort (2-D arguments as lists of rows, `a.sum()`,
  `a[k] += 1`, `return` from inside the `for` loop nested in the `while` loop).

  The kernel has NO caller in the library (only tests/ call it; it is unused by any public path): the theorems below are NOT
  obligations of any property; they are re-checked by `lake build Exetera` only. The translation itself is validated
  differentially under C10 (checks/harness/genkernels.py, 1–3 chunks).

  What is proved is for TWO chunks, against the functional specification `mergeUntil` (the first chunk wins ties, since
  `cur_value < min_value` is strict). More than two chunks: differential validation only.
-/
namespace Exetera.GenK
open Exetera Exetera.PyRt Exetera.Gen.Kernels

/-- merge of two chunks of (value, row index) pairs until one of them is used up; on equal values the first chunk goes first -/
def mergeUntil : List (Int × Int) → List (Int × Int) → List (Int × Int)
  | [], _ => []
  | _ :: _, [] => []
  | x :: xs, y :: ys => if y.1 < x.1 then y :: mergeUntil (x :: xs) ys else x :: mergeUntil xs (y :: ys)
termination_by l r => l.length + r.length

@[simp] theorem mergeUntil_nil_left (r : List (Int × Int)) : mergeUntil [] r = [] := by rw [mergeUntil]
@[simp] theorem mergeUntil_nil_right (l : List (Int × Int)) : mergeUntil l [] = [] := by cases l <;> rw [mergeUntil]

theorem mem_mergeUntil (A B : List (Int × Int)) : ∀ z ∈ mergeUntil A B, z ∈ A ∨ z ∈ B := by
  induction A, B using mergeUntil.induct with
  | case1 r => intro z hz; rw [mergeUntil] at hz; cases hz
  | case2 a l => intro z hz; rw [mergeUntil] at hz; cases hz
  | case3 x xs y ys hlt ih1 =>
    intro z hz
    rw [mergeUntil, if_pos hlt] at hz
    rcases List.mem_cons.mp hz with rfl | hz'
    · exact Or.inr (by simp)
    · rcases ih1 z hz' with h | h
      · exact Or.inl h
      · exact Or.inr (List.mem_cons_of_mem _ h)
  | case4 x xs y ys hlt ih2 =>
    intro z hz
    rw [mergeUntil, if_neg hlt] at hz
    rcases List.mem_cons.mp hz with rfl | hz'
    · exact Or.inl (by simp)
    · rcases ih2 z hz' with h | h
      · exact Or.inl (List.mem_cons_of_mem _ h)
      · exact Or.inr h

theorem mergeUntil_sorted (A B : List (Int × Int)) (hA : A.Pairwise (fun p q => p.1 ≤ q.1)) (hB : B.Pairwise (fun p q => p.1 ≤ q.1)) :
    (mergeUntil A B).Pairwise (fun p q => p.1 ≤ q.1) := by
  induction A, B using mergeUntil.induct with
  | case1 r => rw [mergeUntil]; exact List.Pairwise.nil
  | case2 a l => rw [mergeUntil]; exact List.Pairwise.nil
  | case3 x xs y ys hlt ih1 =>
    have hx := List.pairwise_cons.mp hA
    have hy := List.pairwise_cons.mp hB
    rw [mergeUntil, if_pos hlt]
    refine List.pairwise_cons.mpr ⟨?_, ih1 hA hy.2⟩
    intro z hz
    rcases mem_mergeUntil _ _ z hz with h | h
    · rcases List.mem_cons.mp h with rfl | h'
      · omega
      · have := hx.1 z h'; omega
    · exact hy.1 z h
  | case4 x xs y ys hlt ih2 =>
    have hx := List.pairwise_cons.mp hA
    have hy := List.pairwise_cons.mp hB
    rw [mergeUntil, if_neg hlt]
    refine List.pairwise_cons.mpr ⟨?_, ih2 hx.2 hB⟩
    intro z hz
    rcases mem_mergeUntil _ _ z hz with h | h
    · exact hx.1 z h
    · rcases List.mem_cons.mp h with rfl | h'
      · omega
      · have := hy.1 z h'; omega

namespace SSort

abbrev St := streaming_sort_partial.St

abbrev mk (pos lens : List Int) (vals idx : List (List Int)) (dv di : List Int) (n mx v2 v3 v4 v5 v6 : Int) (ret : Bool)
    (rv0 : Int) : St := ⟨pos, lens, vals, idx, dv, di, n, mx, v2, v3, v4, v5, v6, ret, rv0⟩

variable (A B : List (Int × Int))

/-- the state of the kernel on the two chunks `A`, `B` at the chunk positions `pa`, `pb` with `n` rows emitted -/
def st (pa pb : Int) (dv di : List Int) (n v2 v3 v4 v5 v6 : Int) (ret : Bool) (rv0 : Int) : St :=
  mk [pa, pb] [(A.length : Int), (B.length : Int)] [A.map (·.1), B.map (·.1)] [A.map (·.2), B.map (·.2)] dv di n
    ((A.length + B.length : Nat) : Int) v2 v3 v4 v5 v6 ret rv0

theorem idxE_pair_zero {α} (u v : α) (site : String) : idxE [u, v] 0 site = .ok u := rfl
theorem idxE_pair_one {α} (u v : α) (site : String) : idxE [u, v] 1 site = .ok v := rfl
theorem setIdxE_pair_zero {α} (u v w : α) (site : String) : setIdxE [u, v] 0 w site = .ok [w, v] := rfl
theorem setIdxE_pair_one {α} (u v w : α) (site : String) : setIdxE [u, v] 1 w site = .ok [u, w] := rfl

theorem idxE_map {α β} (f : α → β) {xs : List α} {i : Nat} (h : i < xs.length) (site : String) :
    idxE (xs.map f) (i : Int) site = .ok (f xs[i]) := by
  rw [idxE_nat, getE_of_lt site (by rw [List.length_map]; exact h), List.getElem_map]

theorem beq_cast_of_lt {a b : Nat} (h : a < b) : ((a : Int) == (b : Int)) = false := by
  rw [natCast_beq]; exact beq_false_of_ne (Nat.ne_of_lt h)

theorem body_emit (dv di : List Int) (pa pb : Nat) (v2 v3 v4 v5 v6 rv0 : Int) (ha : pa < A.length) (hb : pb < B.length)
    (hdv : pa + pb < dv.length) (hdi : pa + pb < di.length) :
    ∃ w2 w3 w4 w5 w6, streaming_sort_partial.body_L1 (st A B pa pb dv di ((pa + pb : Nat) : Int) v2 v3 v4 v5 v6 false rv0)
      = .ok (if B[pb].1 < A[pa].1 then
          st A B pa ((pb + 1 : Nat) : Int) (dv.set (pa + pb) B[pb].1) (di.set (pa + pb) B[pb].2) ((pa + (pb + 1) : Nat) : Int)
            w2 w3 w4 w5 w6 false rv0
        else
          st A B ((pa + 1 : Nat) : Int) pb (dv.set (pa + pb) A[pa].1) (di.set (pa + pb) A[pa].2) ((pa + 1 + pb : Nat) : Int)
            w2 w3 w4 w5 w6 false rv0) := by
  simp only [streaming_sort_partial.body_L1, st, mk, idxE_pair_zero, idxE_pair_one, bindE_ok, beq_cast_of_lt ha, beq_cast_of_lt hb,
    Bool.false_eq_true, if_false, idxE_map _ ha, idxE_map _ hb, forRangeB, show ((pyLen [(pa : Int), (pb : Int)]) - 1).toNat = 1 from rfl,
    forRangeAux, streaming_sort_partial.body_L2]
  by_cases hlt : B[pb].1 < A[pa].1
  · refine ⟨B[pb].1, 1, 1, B[pb].1, B[pb].2, ?_⟩
    simp only [hlt, decide_true, if_true, Bool.false_eq_true, if_false, idxE_pair_one, idxE_map _ hb, setIdxE_of_lt _ _ hdv,
      setIdxE_of_lt _ _ hdi, setIdxE_pair_one, bindE_ok]
    rfl
  · refine ⟨A[pa].1, 0, 1, B[pb].1, A[pa].2, ?_⟩
    simp only [hlt, decide_false, Bool.false_eq_true, if_false, idxE_pair_zero, idxE_map _ ha, setIdxE_of_lt _ _ hdv,
      setIdxE_of_lt _ _ hdi, setIdxE_pair_zero, bindE_ok, Nat.add_right_comm pa 1 pb]
    rfl

/-- the first chunk is used up: `return dest_index` -/
theorem body_a_done (dv di : List Int) (pb : Int) (n v2 v3 v4 v5 v6 rv0 : Int) :
    streaming_sort_partial.body_L1 (st A B A.length pb dv di n v2 v3 v4 v5 v6 false rv0)
      = .ok (st A B A.length pb dv di n v2 v3 v4 v5 v6 true n) := by
  simp only [streaming_sort_partial.body_L1, st, mk, idxE_pair_zero, bindE_ok, beq_self_eq_true, if_true]

/-- the second chunk is used up (the first is not): `return dest_index` from inside the `for` loop -/
theorem body_b_done (dv di : List Int) (pa : Nat) (n v2 v3 v4 v5 v6 rv0 : Int) (ha : pa < A.length) :
    ∃ w2 w3 w4, streaming_sort_partial.body_L1 (st A B pa B.length dv di n v2 v3 v4 v5 v6 false rv0)
      = .ok (st A B pa B.length dv di n w2 w3 w4 v5 v6 true n) := by
  refine ⟨A[pa].1, 0, 1, ?_⟩
  simp only [streaming_sort_partial.body_L1, st, mk, idxE_pair_zero, idxE_pair_one, bindE_ok, beq_cast_of_lt ha, Bool.false_eq_true,
    if_false, idxE_map _ ha, forRangeB, show ((pyLen [(pa : Int), (B.length : Int)]) - 1).toNat = 1 from rfl, forRangeAux,
    streaming_sort_partial.body_L2, beq_self_eq_true, if_true]

/-- both chunks have a row: the smaller head `z` (the first chunk's on a tie) is emitted and its chunk position advances -/
theorem emit_step (dv di : List Int) (pa pb : Nat) (v2 v3 v4 v5 v6 rv0 : Int) (ha : pa < A.length) (hb : pb < B.length)
    (hdv : pa + pb < dv.length) (hdi : pa + pb < di.length) :
    ∃ (pa1 pb1 : Nat) (z : Int × Int) (w2 w3 w4 w5 w6 : Int), pa1 + pb1 = pa + pb + 1 ∧ pa1 ≤ A.length ∧ pb1 ≤ B.length ∧
      mergeUntil (A.drop pa) (B.drop pb) = z :: mergeUntil (A.drop pa1) (B.drop pb1) ∧
      streaming_sort_partial.body_L1 (st A B pa pb dv di ((pa + pb : Nat) : Int) v2 v3 v4 v5 v6 false rv0)
        = .ok (st A B pa1 pb1 (dv.set (pa + pb) z.1) (di.set (pa + pb) z.2) ((pa1 + pb1 : Nat) : Int) w2 w3 w4 w5 w6 false rv0) := by
  obtain ⟨w2, w3, w4, w5, w6, hbody⟩ := body_emit A B dv di pa pb v2 v3 v4 v5 v6 rv0 ha hb hdv hdi
  have hda : A.drop pa = A[pa] :: A.drop (pa + 1) := List.drop_eq_getElem_cons ha
  have hdb : B.drop pb = B[pb] :: B.drop (pb + 1) := List.drop_eq_getElem_cons hb
  by_cases hlt : B[pb].1 < A[pa].1
  · rw [if_pos hlt] at hbody
    exact ⟨pa, pb + 1, B[pb], w2, w3, w4, w5, w6, rfl, Nat.le_of_lt ha, hb,
      by rw [hda, hdb, mergeUntil, if_pos hlt, ← hda], hbody⟩
  · rw [if_neg hlt] at hbody
    exact ⟨pa + 1, pb, A[pa], w2, w3, w4, w5, w6, Nat.add_right_comm pa 1 pb, ha, Nat.le_of_lt hb,
      by rw [hda, hdb, mergeUntil, if_neg hlt, ← hdb], hbody⟩

theorem while_ret (F : Nat) (s : St) (h : s.ret = true) :
    whileE streaming_sort_partial.guard_L1 streaming_sort_partial.body_L1 F s = .ok s := by
  exact whileE_of_guard_false (by simp only [streaming_sort_partial.guard_L1, h, Bool.not_true, Bool.false_and]) F

/-- `dv` with the rows `M` written from position `n` on -/
def splice (dv : List Int) (n : Nat) (M : List Int) : List Int := dv.take n ++ M ++ dv.drop (n + M.length)

theorem splice_nil (dv : List Int) (n : Nat) : splice dv n [] = dv := by
  simp [splice]

theorem splice_cons (dv : List Int) (n : Nat) (v : Int) (M : List Int) (h : n < dv.length) :
    splice (dv.set n v) (n + 1) M = splice dv n (v :: M) := by
  unfold splice
  rw [take_succ_set _ _ _ h, List.drop_set_of_lt (by omega)]
  simp [Nat.add_assoc, Nat.add_comm 1]

theorem guard_st (pa pb : Int) (dv di : List Int) (n v2 v3 v4 v5 v6 rv0 : Int) :
    streaming_sort_partial.guard_L1 (st A B pa pb dv di n v2 v3 v4 v5 v6 false rv0)
      = decide (n < ((A.length + B.length : Nat) : Int)) := rfl

/-- one of the chunks is used up: nothing more is emitted, the loop ends (by `return`, or at once if both are used up) -/
theorem loop_done (dv di : List Int) (pa pb : Nat) (v2 v3 v4 v5 v6 rv0 : Int) (F : Nat) (hpa : pa ≤ A.length) (hpb : pb ≤ B.length)
    (hd : pa = A.length ∨ pb = B.length) (hF : 0 < F) :
    mergeUntil (A.drop pa) (B.drop pb) = [] ∧
    ∃ s' : St, whileE streaming_sort_partial.guard_L1 streaming_sort_partial.body_L1 F
        (st A B pa pb dv di ((pa + pb : Nat) : Int) v2 v3 v4 v5 v6 false rv0) = .ok s' ∧
      (if s'.ret then s'.rv0 else s'.v0) = ((pa + pb : Nat) : Int) ∧ s'.p0 = [(pa : Int), (pb : Int)] ∧ s'.p4 = dv ∧ s'.p5 = di := by
  obtain ⟨F', rfl⟩ : ∃ F', F = F' + 1 := ⟨F - 1, by omega⟩
  by_cases ha : pa < A.length
  · obtain rfl : pb = B.length := by omega
    have hg : decide (((pa + B.length : Nat) : Int) < ((A.length + B.length : Nat) : Int)) = true := decide_eq_true (by omega)
    obtain ⟨w2, w3, w4, hbody⟩ := body_b_done A B dv di pa ((pa + B.length : Nat) : Int) v2 v3 v4 v5 v6 rv0 ha
    refine ⟨by rw [List.drop_eq_getElem_cons ha, List.drop_length, mergeUntil], ?_⟩
    rw [whileE, guard_st, hg, if_pos rfl, hbody]
    exact ⟨_, while_ret _ _ rfl, rfl, rfl, rfl, rfl⟩
  · obtain rfl : pa = A.length := by omega
    refine ⟨by rw [List.drop_length, mergeUntil], ?_⟩
    by_cases hb : pb < B.length
    · have hg : decide (((A.length + pb : Nat) : Int) < ((A.length + B.length : Nat) : Int)) = true := decide_eq_true (by omega)
      rw [whileE, guard_st, hg, if_pos rfl, body_a_done]
      exact ⟨_, while_ret _ _ rfl, rfl, rfl, rfl, rfl⟩
    · obtain rfl : pb = B.length := by omega
      rw [whileE, guard_st, decide_eq_false (Int.lt_irrefl _)]
      exact ⟨_, rfl, rfl, rfl, rfl, rfl⟩

/-- the loop from the chunk positions `(pa, pb)` with `pa + pb` rows emitted: it emits `mergeUntil` of the rests and returns -/
theorem loop (cap : Nat) (hcap : A.length + B.length ≤ cap) :
    ∀ (m pa pb : Nat) (dv di : List Int) (v2 v3 v4 v5 v6 rv0 : Int) (F : Nat),
      A.length + B.length ≤ pa + pb + m → m < F → pa ≤ A.length → pb ≤ B.length → dv.length = cap → di.length = cap →
      ∃ (s' : St) (pa' pb' : Nat), whileE streaming_sort_partial.guard_L1 streaming_sort_partial.body_L1 F
          (st A B pa pb dv di ((pa + pb : Nat) : Int) v2 v3 v4 v5 v6 false rv0) = .ok s' ∧
        (if s'.ret then s'.rv0 else s'.v0) = ((pa + pb + (mergeUntil (A.drop pa) (B.drop pb)).length : Nat) : Int) ∧
        s'.p0 = [(pa' : Int), (pb' : Int)] ∧ pa' + pb' = pa + pb + (mergeUntil (A.drop pa) (B.drop pb)).length ∧
        s'.p4 = splice dv (pa + pb) ((mergeUntil (A.drop pa) (B.drop pb)).map (·.1)) ∧
        s'.p5 = splice di (pa + pb) ((mergeUntil (A.drop pa) (B.drop pb)).map (·.2)) := by
  intro m
  induction m with
  | zero =>
    intro pa pb dv di v2 v3 v4 v5 v6 rv0 F hm hF hpa hpb hdv hdi
    obtain ⟨hM, s', hw, h1, h2, h4, h5⟩ := loop_done A B dv di pa pb v2 v3 v4 v5 v6 rv0 F hpa hpb (Or.inl (by omega)) hF
    exact ⟨s', pa, pb, hw, by rw [hM]; exact h1, h2, by rw [hM]; rfl, by rw [hM, h4]; exact (splice_nil _ _).symm,
      by rw [hM, h5]; exact (splice_nil _ _).symm⟩
  | succ m ih =>
    intro pa pb dv di v2 v3 v4 v5 v6 rv0 F hm hF hpa hpb hdv hdi
    by_cases hab : pa < A.length ∧ pb < B.length
    case neg =>
      obtain ⟨hM, s', hw, h1, h2, h4, h5⟩ := loop_done A B dv di pa pb v2 v3 v4 v5 v6 rv0 F hpa hpb (by omega) (by omega)
      exact ⟨s', pa, pb, hw, by rw [hM]; exact h1, h2, by rw [hM]; rfl, by rw [hM, h4]; exact (splice_nil _ _).symm,
        by rw [hM, h5]; exact (splice_nil _ _).symm⟩
    obtain ⟨ha, hb⟩ := hab
    obtain ⟨F', rfl⟩ : ∃ F', F = F' + 1 := ⟨F - 1, by omega⟩
    have hlt : pa + pb < A.length + B.length := Nat.add_lt_add ha hb
    have hg : decide (((pa + pb : Nat) : Int) < ((A.length + B.length : Nat) : Int)) = true := decide_eq_true (Int.ofNat_lt.mpr hlt)
    have hrv : pa + pb < dv.length := hdv ▸ Nat.lt_of_lt_of_le hlt hcap
    have hri : pa + pb < di.length := hdi ▸ Nat.lt_of_lt_of_le hlt hcap
    obtain ⟨pa1, pb1, z, w2, w3, w4, w5, w6, hsum, hpa1, hpb1, hM, hbody⟩ := emit_step A B dv di pa pb v2 v3 v4 v5 v6 rv0 ha hb hrv hri
    obtain ⟨s', pa', pb', hw, h1, h2, h3, h4, h5⟩ := ih pa1 pb1 (dv.set (pa + pb) z.1) (di.set (pa + pb) z.2)
      w2 w3 w4 w5 w6 rv0 F' (by rw [hsum, Nat.add_assoc (pa + pb), Nat.add_comm 1 m]; exact hm) (Nat.lt_of_succ_lt_succ hF) hpa1 hpb1
      (by rw [List.length_set]; exact hdv) (by rw [List.length_set]; exact hdi)
    rw [hsum, Nat.add_assoc (pa + pb), Nat.add_comm 1] at h1 h3
    rw [hsum] at h4 h5
    rw [whileE, guard_st, hg, if_pos rfl, hbody, hM, List.length_cons, List.map_cons, List.map_cons,
      ← splice_cons dv _ _ _ hrv, ← splice_cons di _ _ _ hri]
    exact ⟨s', pa', pb', hw, h1, h2, h3, h4, h5⟩

end SSort
/-- **two chunks** of (value, row index) pairs, positions `[0, 0]`, destination buffers with room for both chunks: the translated kernel
    returns the number of rows of `mergeUntil A B`, the new chunk positions, and the two destination buffers holding the merged
    values / row indices followed by their untouched rest — no subscript out of range or negative, within len(A) + len(B) + 1
    iterations of the outer loop -/
theorem streaming_sort_two_chunks (A B : List (Int × Int)) (dv di : List Int) (cap : Nat) (hdv : dv.length = cap)
    (hdi : di.length = cap) (hcap : A.length + B.length ≤ cap) (fuel : Nat) (hf : A.length + B.length < fuel) :
    ∃ pa pb : Nat, pa + pb = (mergeUntil A B).length ∧
      streaming_sort_partial.run [0, 0] [(A.length : Int), (B.length : Int)] [A.map (·.1), B.map (·.1)] [A.map (·.2), B.map (·.2)]
          dv di fuel
        = .ok (((mergeUntil A B).length : Int), [(pa : Int), (pb : Int)],
            (mergeUntil A B).map (·.1) ++ dv.drop (mergeUntil A B).length,
            (mergeUntil A B).map (·.2) ++ di.drop (mergeUntil A B).length) := by
  obtain ⟨s', pa', pb', hw, h1, h2, h3, h4, h5⟩ := SSort.loop A B cap hcap (A.length + B.length) 0 0 dv di 0 0 0 0 0 0 fuel
    (by omega) hf (Nat.zero_le _) (Nat.zero_le _) hdv hdi
  simp only [List.drop_zero, Nat.add_zero, Nat.zero_add, SSort.splice, List.take_zero, List.nil_append, List.length_map] at h1 h3 h4 h5
  refine ⟨pa', pb', h3, ?_⟩
  unfold streaming_sort_partial.run
  have hsum : ([(A.length : Int), (B.length : Int)].foldl (· + ·) 0) = ((A.length + B.length : Nat) : Int) := by
    simp [List.foldl]
  simp only [hsum]
  simp only [SSort.st, SSort.mk, Nat.add_zero, Int.natCast_zero] at hw
  simp only [hw, bindE_ok]
  cases hr : s'.ret
  · simp only [hr, Bool.false_eq_true, if_false] at h1 ⊢
    rw [h1, h2, h4, h5]
  · simp only [hr, if_true] at h1 ⊢
    rw [h1, h2, h4, h5]

example : streaming_sort_partial.run [0, 0] [3, 3] [[1, 4, 6], [2, 4, 9]] [[0, 1, 2], [100, 101, 102]] [0, 0, 0, 0, 0, 0]
    [0, 0, 0, 0, 0, 0] 7 = .ok (5, [3, 2], [1, 2, 4, 4, 6, 0], [0, 100, 1, 101, 2, 0]) := rfl
example : mergeUntil [(1, 0), (4, 1), (6, 2)] [(2, 100), (4, 101), (9, 102)] = [(1, 0), (2, 100), (4, 1), (4, 101), (6, 2)] := by
  simp [mergeUntil]

end Exetera.GenK
