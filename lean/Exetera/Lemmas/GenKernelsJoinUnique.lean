import Exetera.Gen.Kernels
import Exetera.Model.Join
import Exetera.Lemmas.GenKernels
import Exetera.Lemmas.GenKernelsJoin
/-!
  The TRANSLATED uniqueness-specialised `_partial` kernels against the guard/body model `uniqueBody` of `Model/Join.lean`:

    generate_ordered_map_to_left_left_unique_partial     ~  runPartial .leftLU   (both result buffers)
    generate_ordered_map_to_left_right_unique_partial    ~  runPartial .leftRU   (r_result only: the model's `lb` is not observed)
    generate_ordered_map_to_inner_both_unique_partial    ~  runPartial .innerBU
    generate_ordered_map_to_inner_left_unique_partial    ~  runPartial .innerLU
    generate_ordered_map_to_inner_right_unique_partial   ~  runPartial .innerRU

  Same simulation relation as for the other kernels (`Buf` for each buffer the kernel has, loop variables equal); `whileE_sim`
  lifts the one-iteration lemmas. The loop guard supplies the room for the one row an iteration may write.
-/
namespace Exetera.GenK

open Exetera Exetera.PyRt Exetera.Gen.Kernels Exetera.Join

namespace LLU

abbrev St := generate_ordered_map_to_left_left_unique_partial.St

abbrev mk (p : P) (l3 l4 : List Int) (i j r : Int) : St :=
  ⟨p.left, p.right, (p.jMax : Int), l3, l4, p.inv, (p.iOff : Int), (p.jOff : Int), i, j, r⟩

def R (p : P) (s : St) (k : K) : Prop :=
  ∃ l3 l4 r, s = mk p l3 l4 k.i k.j (r : Nat) ∧ Buf p.cap r l3 k.lb ∧ Buf p.cap r l4 k.rb

theorem guard_eq (p : P) (s : St) (k : K) (h : R p s k) :
    generate_ordered_map_to_left_left_unique_partial.guard_L1 s = partialGuard .leftLU p k := by
  obtain ⟨l3, l4, r, rfl, h3, h4⟩ := h
  rw [Bool.eq_iff_iff]
  simp only [generate_ordered_map_to_left_left_unique_partial.guard_L1, partialGuard, pyLen, Bool.and_eq_true, decide_eq_true_eq,
    Int.ofNat_lt, K.r, h3.1, h4.2.1, and_assoc]

theorem body_sim (p : P) (s : St) (k k' : K) (h : R p s k) (hg : partialGuard .leftLU p k = true)
    (hb : partialBody .leftLU p k = .ok k') :
    ∃ s', generate_ordered_map_to_left_left_unique_partial.body_L1 s = .ok s' ∧ R p s' k' := by
  obtain ⟨l3, l4, r, rfl, h3, h4⟩ := h
  have hcap : r < p.cap := h4.2.1 ▸ partialGuard_room hg
  refine (?_ : OkFollows (R p) _ _) k' hb
  simp only [partialBody, uniqueBody, Except.bind_eq_bindE, pure, Except.pure, Variant.isLeft, push, h4.2.1, hcap, if_true,
    Int.natCast_add, generate_ordered_map_to_left_left_unique_partial.body_L1, setIdxE_of_lt _ _ (h3.lt hcap),
    setIdxE_of_lt _ _ (h4.lt hcap), bindE_ok, bindE_assoc, idxE_nat, idxE_nat_succ]
  refine .getE _ _ _ _ fun a ha => .getE _ _ _ _ fun b hbb => ?_
  simp only [getE_of_some _ ha, getE_of_some _ hbb, bindE_ok]
  refine .ite_decide rfl (fun _ => .ok ⟨_, _, r + 1, rfl, h3.push hcap _, h4.push hcap _⟩) fun _ => ?_
  refine .ite_decide rfl (fun _ => .ok ⟨l3, l4, r, rfl, h3, h4⟩) fun _ => ?_
  exact .lookahead (decide_eq_decide.mpr (by omega)) _ _ (.ok ⟨_, _, r + 1, rfl, h3.push hcap _, h4.push hcap _⟩)
    (.ok ⟨_, _, r + 1, rfl, h3.push hcap _, h4.push hcap _⟩)

end LLU

theorem left_left_unique_partial_ok (p : P) (k k' : K) (lbuf rbuf : List Int)
    (hl : Buf p.cap k.rb.length lbuf k.lb) (hr : Buf p.cap k.rb.length rbuf k.rb) (h : runPartial .leftLU p k = .ok k') :
    ∃ lbuf' rbuf', generate_ordered_map_to_left_left_unique_partial.run p.left p.right p.jMax lbuf rbuf p.inv p.iOff p.jOff
        k.i k.j k.rb.length (partialFuel p) = .ok ((k'.i : Int), (k'.j : Int), (k'.rb.length : Int), lbuf', rbuf') ∧
      Buf p.cap k'.rb.length lbuf' k'.lb ∧ Buf p.cap k'.rb.length rbuf' k'.rb := by
  obtain ⟨_, hw, l3, l4, r, rfl, h3, h4⟩ := whileE_sim (LLU.R p) generate_ordered_map_to_left_left_unique_partial.guard_L1
    generate_ordered_map_to_left_left_unique_partial.body_L1 _ (partialBody .leftLU p) (LLU.guard_eq p) (LLU.body_sim p)
    (partialFuel p) (LLU.mk p lbuf rbuf k.i k.j k.rb.length) k k' ⟨lbuf, rbuf, _, rfl, hl, hr⟩ h
  obtain rfl := h4.2.1
  exact ⟨l3, l4, by simp only [generate_ordered_map_to_left_left_unique_partial.run, hw, bindE_ok], h3, h4⟩

namespace LRU

abbrev St := generate_ordered_map_to_left_right_unique_partial.St

abbrev mk (p : P) (l3 : List Int) (i j r : Int) : St :=
  ⟨p.left, (p.iMax : Int), p.right, l3, p.inv, (p.jOff : Int), i, j, r⟩

def R (p : P) (s : St) (k : K) : Prop :=
  ∃ l3 r, s = mk p l3 k.i k.j (r : Nat) ∧ Buf p.cap r l3 k.rb

theorem guard_eq (p : P) (s : St) (k : K) (h : R p s k) :
    generate_ordered_map_to_left_right_unique_partial.guard_L1 s = partialGuard .leftRU p k := by
  obtain ⟨l3, r, rfl, h3⟩ := h
  rw [Bool.eq_iff_iff]
  simp only [generate_ordered_map_to_left_right_unique_partial.guard_L1, partialGuard, pyLen, Bool.and_eq_true, decide_eq_true_eq,
    Int.ofNat_lt, K.r, h3.1, h3.2.1, and_assoc]

theorem body_sim (p : P) (s : St) (k k' : K) (h : R p s k) (hg : partialGuard .leftRU p k = true)
    (hb : partialBody .leftRU p k = .ok k') :
    ∃ s', generate_ordered_map_to_left_right_unique_partial.body_L1 s = .ok s' ∧ R p s' k' := by
  obtain ⟨l3, r, rfl, h3⟩ := h
  have hcap : r < p.cap := h3.2.1 ▸ partialGuard_room hg
  refine (?_ : OkFollows (R p) _ _) k' hb
  simp only [partialBody, uniqueBody, Except.bind_eq_bindE, pure, Except.pure, Variant.isLeft, push, h3.2.1, hcap, if_true,
    Int.natCast_add, generate_ordered_map_to_left_right_unique_partial.body_L1, setIdxE_of_lt _ _ (h3.lt hcap), bindE_ok,
    bindE_assoc, idxE_nat, idxE_nat_succ]
  refine .getE _ _ _ _ fun a ha => .getE _ _ _ _ fun b hbb => ?_
  simp only [getE_of_some _ ha, getE_of_some _ hbb, bindE_ok]
  refine .ite_decide rfl (fun _ => .ok ⟨_, r + 1, rfl, h3.push hcap _⟩) fun _ => ?_
  refine .ite_decide rfl (fun _ => .ok ⟨l3, r, rfl, h3⟩) fun _ => ?_
  exact .lookahead (decide_eq_decide.mpr (by omega)) _ _ (.ok ⟨_, r + 1, rfl, h3.push hcap _⟩)
    (.ok ⟨_, r + 1, rfl, h3.push hcap _⟩)

end LRU

theorem left_right_unique_partial_ok (p : P) (k k' : K) (rbuf : List Int)
    (hr : Buf p.cap k.rb.length rbuf k.rb) (h : runPartial .leftRU p k = .ok k') :
    ∃ rbuf', generate_ordered_map_to_left_right_unique_partial.run p.left p.iMax p.right rbuf p.inv p.jOff
        k.i k.j k.rb.length (partialFuel p) = .ok ((k'.i : Int), (k'.j : Int), (k'.rb.length : Int), rbuf') ∧
      Buf p.cap k'.rb.length rbuf' k'.rb := by
  obtain ⟨_, hw, l3, r, rfl, h3⟩ := whileE_sim (LRU.R p) generate_ordered_map_to_left_right_unique_partial.guard_L1
    generate_ordered_map_to_left_right_unique_partial.body_L1 _ (partialBody .leftRU p) (LRU.guard_eq p) (LRU.body_sim p)
    (partialFuel p) (LRU.mk p rbuf k.i k.j k.rb.length) k k' ⟨rbuf, _, rfl, hr⟩ h
  obtain rfl := h3.2.1
  exact ⟨l3, by simp only [generate_ordered_map_to_left_right_unique_partial.run, hw, bindE_ok], h3⟩

namespace IBU

abbrev St := generate_ordered_map_to_inner_both_unique_partial.St

abbrev mk (p : P) (l4 l5 : List Int) (i j r : Int) : St :=
  ⟨p.left, (p.iMax : Int), p.right, (p.jMax : Int), l4, l5, (p.iOff : Int), (p.jOff : Int), i, j, r⟩

def R (p : P) (s : St) (k : K) : Prop :=
  ∃ l4 l5 r, s = mk p l4 l5 k.i k.j (r : Nat) ∧ Buf p.cap r l4 k.lb ∧ Buf p.cap r l5 k.rb

theorem guard_eq (p : P) (s : St) (k : K) (h : R p s k) :
    generate_ordered_map_to_inner_both_unique_partial.guard_L1 s = partialGuard .innerBU p k := by
  obtain ⟨l4, l5, r, rfl, h4, h5⟩ := h
  rw [Bool.eq_iff_iff]
  simp only [generate_ordered_map_to_inner_both_unique_partial.guard_L1, partialGuard, pyLen, Bool.and_eq_true, decide_eq_true_eq,
    Int.ofNat_lt, K.r, h4.1, h5.2.1, and_assoc]

theorem body_sim (p : P) (s : St) (k k' : K) (h : R p s k) (hg : partialGuard .innerBU p k = true)
    (hb : partialBody .innerBU p k = .ok k') :
    ∃ s', generate_ordered_map_to_inner_both_unique_partial.body_L1 s = .ok s' ∧ R p s' k' := by
  obtain ⟨l4, l5, r, rfl, h4, h5⟩ := h
  have hcap : r < p.cap := h5.2.1 ▸ partialGuard_room hg
  refine (?_ : OkFollows (R p) _ _) k' hb
  simp only [partialBody, uniqueBody, Except.bind_eq_bindE, pure, Except.pure, Variant.isLeft, push, h5.2.1, hcap, if_true,
    Bool.false_eq_true, if_false, Int.natCast_add, generate_ordered_map_to_inner_both_unique_partial.body_L1, setIdxE_of_lt _ _ (h4.lt hcap),
    setIdxE_of_lt _ _ (h5.lt hcap), bindE_ok, idxE_nat]
  refine .getE _ _ _ _ fun a ha => .getE _ _ _ _ fun b hbb => ?_
  simp only [getE_of_some _ ha, getE_of_some _ hbb, bindE_ok]
  refine .ite_decide rfl (fun _ => .ok ⟨l4, l5, r, rfl, h4, h5⟩) fun _ => ?_
  refine .ite_decide rfl (fun _ => .ok ⟨l4, l5, r, rfl, h4, h5⟩) fun _ => ?_
  exact .ok ⟨_, _, r + 1, rfl, h4.push hcap _, h5.push hcap _⟩

end IBU

theorem inner_both_unique_partial_ok (p : P) (k k' : K) (lbuf rbuf : List Int)
    (hl : Buf p.cap k.rb.length lbuf k.lb) (hr : Buf p.cap k.rb.length rbuf k.rb) (h : runPartial .innerBU p k = .ok k') :
    ∃ lbuf' rbuf', generate_ordered_map_to_inner_both_unique_partial.run p.left p.iMax p.right p.jMax lbuf rbuf p.iOff p.jOff
        k.i k.j k.rb.length (partialFuel p) = .ok ((k'.i : Int), (k'.j : Int), (k'.rb.length : Int), lbuf', rbuf') ∧
      Buf p.cap k'.rb.length lbuf' k'.lb ∧ Buf p.cap k'.rb.length rbuf' k'.rb := by
  obtain ⟨_, hw, l4, l5, r, rfl, h4, h5⟩ := whileE_sim (IBU.R p) generate_ordered_map_to_inner_both_unique_partial.guard_L1
    generate_ordered_map_to_inner_both_unique_partial.body_L1 _ (partialBody .innerBU p) (IBU.guard_eq p) (IBU.body_sim p)
    (partialFuel p) (IBU.mk p lbuf rbuf k.i k.j k.rb.length) k k' ⟨lbuf, rbuf, _, rfl, hl, hr⟩ h
  obtain rfl := h5.2.1
  exact ⟨l4, l5, by simp only [generate_ordered_map_to_inner_both_unique_partial.run, hw, bindE_ok], h4, h5⟩

namespace ILU

abbrev St := generate_ordered_map_to_inner_left_unique_partial.St

abbrev mk (p : P) (l4 l5 : List Int) (i j r : Int) : St :=
  ⟨p.left, (p.iMax : Int), p.right, (p.jMax : Int), l4, l5, (p.iOff : Int), (p.jOff : Int), i, j, r⟩

def R (p : P) (s : St) (k : K) : Prop :=
  ∃ l4 l5 r, s = mk p l4 l5 k.i k.j (r : Nat) ∧ Buf p.cap r l4 k.lb ∧ Buf p.cap r l5 k.rb

theorem guard_eq (p : P) (s : St) (k : K) (h : R p s k) :
    generate_ordered_map_to_inner_left_unique_partial.guard_L1 s = partialGuard .innerLU p k := by
  obtain ⟨l4, l5, r, rfl, h4, h5⟩ := h
  rw [Bool.eq_iff_iff]
  simp only [generate_ordered_map_to_inner_left_unique_partial.guard_L1, partialGuard, pyLen, Bool.and_eq_true, decide_eq_true_eq,
    Int.ofNat_lt, K.r, h4.1, h5.2.1, and_assoc]

theorem body_sim (p : P) (s : St) (k k' : K) (h : R p s k) (hg : partialGuard .innerLU p k = true)
    (hb : partialBody .innerLU p k = .ok k') :
    ∃ s', generate_ordered_map_to_inner_left_unique_partial.body_L1 s = .ok s' ∧ R p s' k' := by
  obtain ⟨l4, l5, r, rfl, h4, h5⟩ := h
  have hcap : r < p.cap := h5.2.1 ▸ partialGuard_room hg
  refine (?_ : OkFollows (R p) _ _) k' hb
  simp only [partialBody, uniqueBody, Except.bind_eq_bindE, pure, Except.pure, Variant.isLeft, push, h5.2.1, hcap, if_true,
    Bool.false_eq_true, if_false, Int.natCast_add, generate_ordered_map_to_inner_left_unique_partial.body_L1, setIdxE_of_lt _ _ (h4.lt hcap),
    setIdxE_of_lt _ _ (h5.lt hcap), bindE_ok, bindE_assoc, idxE_nat, idxE_nat_succ]
  refine .getE _ _ _ _ fun a ha => .getE _ _ _ _ fun b hbb => ?_
  simp only [getE_of_some _ ha, getE_of_some _ hbb, bindE_ok]
  refine .ite_decide rfl (fun _ => .ok ⟨l4, l5, r, rfl, h4, h5⟩) fun _ => ?_
  refine .ite_decide rfl (fun _ => .ok ⟨l4, l5, r, rfl, h4, h5⟩) fun _ => ?_
  exact .lookahead (decide_eq_decide.mpr (by omega)) _ _ (.ok ⟨_, _, r + 1, rfl, h4.push hcap _, h5.push hcap _⟩)
    (.ok ⟨_, _, r + 1, rfl, h4.push hcap _, h5.push hcap _⟩)

end ILU

theorem inner_left_unique_partial_ok (p : P) (k k' : K) (lbuf rbuf : List Int)
    (hl : Buf p.cap k.rb.length lbuf k.lb) (hr : Buf p.cap k.rb.length rbuf k.rb) (h : runPartial .innerLU p k = .ok k') :
    ∃ lbuf' rbuf', generate_ordered_map_to_inner_left_unique_partial.run p.left p.iMax p.right p.jMax lbuf rbuf p.iOff p.jOff
        k.i k.j k.rb.length (partialFuel p) = .ok ((k'.i : Int), (k'.j : Int), (k'.rb.length : Int), lbuf', rbuf') ∧
      Buf p.cap k'.rb.length lbuf' k'.lb ∧ Buf p.cap k'.rb.length rbuf' k'.rb := by
  obtain ⟨_, hw, l4, l5, r, rfl, h4, h5⟩ := whileE_sim (ILU.R p) generate_ordered_map_to_inner_left_unique_partial.guard_L1
    generate_ordered_map_to_inner_left_unique_partial.body_L1 _ (partialBody .innerLU p) (ILU.guard_eq p) (ILU.body_sim p)
    (partialFuel p) (ILU.mk p lbuf rbuf k.i k.j k.rb.length) k k' ⟨lbuf, rbuf, _, rfl, hl, hr⟩ h
  obtain rfl := h5.2.1
  exact ⟨l4, l5, by simp only [generate_ordered_map_to_inner_left_unique_partial.run, hw, bindE_ok], h4, h5⟩

namespace IRU

abbrev St := generate_ordered_map_to_inner_right_unique_partial.St

abbrev mk (p : P) (l4 l5 : List Int) (i j r : Int) : St :=
  ⟨p.left, (p.iMax : Int), p.right, (p.jMax : Int), l4, l5, (p.iOff : Int), (p.jOff : Int), i, j, r⟩

def R (p : P) (s : St) (k : K) : Prop :=
  ∃ l4 l5 r, s = mk p l4 l5 k.i k.j (r : Nat) ∧ Buf p.cap r l4 k.lb ∧ Buf p.cap r l5 k.rb

theorem guard_eq (p : P) (s : St) (k : K) (h : R p s k) :
    generate_ordered_map_to_inner_right_unique_partial.guard_L1 s = partialGuard .innerRU p k := by
  obtain ⟨l4, l5, r, rfl, h4, h5⟩ := h
  rw [Bool.eq_iff_iff]
  simp only [generate_ordered_map_to_inner_right_unique_partial.guard_L1, partialGuard, pyLen, Bool.and_eq_true, decide_eq_true_eq,
    Int.ofNat_lt, K.r, h4.1, h5.2.1, and_assoc]

theorem body_sim (p : P) (s : St) (k k' : K) (h : R p s k) (hg : partialGuard .innerRU p k = true)
    (hb : partialBody .innerRU p k = .ok k') :
    ∃ s', generate_ordered_map_to_inner_right_unique_partial.body_L1 s = .ok s' ∧ R p s' k' := by
  obtain ⟨l4, l5, r, rfl, h4, h5⟩ := h
  have hcap : r < p.cap := h5.2.1 ▸ partialGuard_room hg
  refine (?_ : OkFollows (R p) _ _) k' hb
  simp only [partialBody, uniqueBody, Except.bind_eq_bindE, pure, Except.pure, Variant.isLeft, push, h5.2.1, hcap, if_true,
    Bool.false_eq_true, if_false, Int.natCast_add, generate_ordered_map_to_inner_right_unique_partial.body_L1, setIdxE_of_lt _ _ (h4.lt hcap),
    setIdxE_of_lt _ _ (h5.lt hcap), bindE_ok, bindE_assoc, idxE_nat, idxE_nat_succ]
  refine .getE _ _ _ _ fun a ha => .getE _ _ _ _ fun b hbb => ?_
  simp only [getE_of_some _ ha, getE_of_some _ hbb, bindE_ok]
  refine .ite_decide rfl (fun _ => .ok ⟨l4, l5, r, rfl, h4, h5⟩) fun _ => ?_
  refine .ite_decide rfl (fun _ => .ok ⟨l4, l5, r, rfl, h4, h5⟩) fun _ => ?_
  exact .lookahead (decide_eq_decide.mpr (by omega)) _ _ (.ok ⟨_, _, r + 1, rfl, h4.push hcap _, h5.push hcap _⟩)
    (.ok ⟨_, _, r + 1, rfl, h4.push hcap _, h5.push hcap _⟩)

end IRU

theorem inner_right_unique_partial_ok (p : P) (k k' : K) (lbuf rbuf : List Int)
    (hl : Buf p.cap k.rb.length lbuf k.lb) (hr : Buf p.cap k.rb.length rbuf k.rb) (h : runPartial .innerRU p k = .ok k') :
    ∃ lbuf' rbuf', generate_ordered_map_to_inner_right_unique_partial.run p.left p.iMax p.right p.jMax lbuf rbuf p.iOff p.jOff
        k.i k.j k.rb.length (partialFuel p) = .ok ((k'.i : Int), (k'.j : Int), (k'.rb.length : Int), lbuf', rbuf') ∧
      Buf p.cap k'.rb.length lbuf' k'.lb ∧ Buf p.cap k'.rb.length rbuf' k'.rb := by
  obtain ⟨_, hw, l4, l5, r, rfl, h4, h5⟩ := whileE_sim (IRU.R p) generate_ordered_map_to_inner_right_unique_partial.guard_L1
    generate_ordered_map_to_inner_right_unique_partial.body_L1 _ (partialBody .innerRU p) (IRU.guard_eq p) (IRU.body_sim p)
    (partialFuel p) (IRU.mk p lbuf rbuf k.i k.j k.rb.length) k k' ⟨lbuf, rbuf, _, rfl, hl, hr⟩ h
  obtain rfl := h5.2.1
  exact ⟨l4, l5, by simp only [generate_ordered_map_to_inner_right_unique_partial.run, hw, bindE_ok], h4, h5⟩

end Exetera.GenK
