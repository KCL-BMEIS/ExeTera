import Exetera.Spec.GroupBy
/-! Strict total orders given as Boolean relations.  The lexicographic order on lists over one (a proper prefix is smaller) is
    again one; `lexLt` on byte strings and `tupleLt` on key tuples are the two instances the development compares rows with.
    Facts are stated for an arbitrary relation, so that a maximum is a minimum for the reversed relation. -/
namespace Exetera.Spec

structure StrictTotal {α} (lt : α → α → Bool) : Prop where
  irrefl : ∀ a, lt a a = false
  trans : ∀ {a b c}, lt a b = true → lt b c = true → lt a c = true
  total : ∀ a b, lt a b = true ∨ a = b ∨ lt b a = true

namespace StrictTotal
variable {α} {lt : α → α → Bool} (h : StrictTotal lt)
include h

theorem flip : StrictTotal (fun a b => lt b a) :=
  ⟨h.irrefl, fun h1 h2 => h.trans h2 h1, fun a b => (h.total b a).imp id (Or.imp Eq.symm id)⟩

theorem asymm {a b : α} (hab : lt a b = true) : lt b a = false := by
  cases hba : lt b a with
  | false => rfl
  | true => rw [← h.irrefl a, ← h.trans hab hba]

theorem ne_of_lt {a b : α} (hab : lt a b = true) : a ≠ b := by
  rintro rfl; rw [h.irrefl] at hab; cases hab

/-- `a ≤ b`, written `¬ b < a` -/
theorem not_lt_iff {a b : α} : lt b a = false ↔ lt a b = true ∨ a = b := by
  constructor
  · intro hba
    rcases h.total a b with hab | hab | hab
    · exact Or.inl hab
    · exact Or.inr hab
    · rw [hba] at hab; cases hab
  · rintro (hab | rfl)
    · exact h.asymm hab
    · exact h.irrefl a

theorem eq_iff {a b : α} : (lt a b = false ∧ lt b a = false) ↔ a = b :=
  ⟨fun ⟨h1, h2⟩ => ((h.not_lt_iff.1 h1).resolve_left (by rw [h2]; exact Bool.false_ne_true)).symm,
    fun hab => hab ▸ ⟨h.irrefl a, h.irrefl a⟩⟩

theorem lt_of_lt_of_not_lt {c m s : α} (hcm : lt c m = true) (hsm : lt s m = false) : lt c s = true := by
  rcases h.total c s with hcs | rfl | hsc
  · exact hcs
  · rw [hcm] at hsm; cases hsm
  · rw [h.trans hsc hcm] at hsm; cases hsm

theorem not_lt_trans {r m s : α} (hmr : lt m r = false) (hsm : lt s m = false) : lt s r = false := by
  rcases h.total r m with hrm | rfl | hmr'
  · exact h.asymm (h.lt_of_lt_of_not_lt hrm hsm)
  · exact hsm
  · rw [hmr] at hmr'; cases hmr'

/-- the lexicographic order on lists: any relation `L` with its four defining equations -/
theorem lex (L : List α → List α → Bool) (nil_nil : L [] [] = false) (nil_cons : ∀ b bs, L [] (b :: bs) = true)
    (cons_nil : ∀ a as, L (a :: as) [] = false)
    (cons_cons : ∀ a as b bs, L (a :: as) (b :: bs) = true ↔ lt a b = true ∨ (a = b ∧ L as bs = true)) :
    StrictTotal L where
  irrefl := by
    intro l
    induction l with
    | nil => exact nil_nil
    | cons a as ih =>
      rw [Bool.eq_false_iff, Ne, cons_cons, h.irrefl, ih]
      simp
  trans := by
    intro a
    induction a with
    | nil =>
      intro b c h1 h2
      cases c with
      | nil => cases b <;> simp_all
      | cons c cs => exact nil_cons c cs
    | cons a as ih =>
      intro b c h1 h2
      cases b with
      | nil => rw [cons_nil] at h1; cases h1
      | cons b bs =>
        cases c with
        | nil => rw [cons_nil] at h2; cases h2
        | cons c cs =>
          rw [cons_cons] at h1 h2 ⊢
          rcases h1 with h1 | ⟨rfl, h1⟩
          · rcases h2 with h2 | ⟨rfl, _⟩
            · exact Or.inl (h.trans h1 h2)
            · exact Or.inl h1
          · exact h2.imp id (And.imp id (ih h1))
  total := by
    intro a
    induction a with
    | nil => intro b; cases b with
      | nil => exact Or.inr (Or.inl rfl)
      | cons b bs => exact Or.inl (nil_cons b bs)
    | cons a as ih =>
      intro b
      cases b with
      | nil => exact Or.inr (Or.inr (nil_cons a as))
      | cons b bs =>
        rw [cons_cons, cons_cons]
        rcases h.total a b with hab | rfl | hba
        · exact Or.inl (Or.inl hab)
        · rcases ih bs with h' | rfl | h'
          · exact Or.inl (Or.inr ⟨rfl, h'⟩)
          · exact Or.inr (Or.inl rfl)
          · exact Or.inr (Or.inr (Or.inr ⟨rfl, h'⟩))
        · exact Or.inr (Or.inr (Or.inl hba))

end StrictTotal

theorem lexLt_strictTotal : StrictTotal lexLt :=
  StrictTotal.lex (lt := fun a b : Nat => decide (a < b))
    ⟨by simp, fun h1 h2 => by simp only [decide_eq_true_eq] at *; omega, fun a b => by simp only [decide_eq_true_eq]; omega⟩
    lexLt rfl (fun _ _ => rfl) (fun _ _ => rfl) (fun a as b bs => by simp [lexLt])

@[simp] theorem tupleLt_cons (a b : Int) (as bs : List Int) :
    tupleLt (a :: as) (b :: bs) = (decide (a < b) || (a == b && tupleLt as bs)) := rfl

theorem tupleLt_cons_iff (a b : Int) (as bs : List Int) :
    tupleLt (a :: as) (b :: bs) = true ↔ a < b ∨ (a = b ∧ tupleLt as bs = true) := by
  simp

theorem tupleLt_strictTotal : StrictTotal tupleLt :=
  StrictTotal.lex (lt := fun a b : Int => decide (a < b))
    ⟨by simp, fun h1 h2 => by simp only [decide_eq_true_eq] at *; omega, fun a b => by simp only [decide_eq_true_eq]; omega⟩
    tupleLt rfl (fun _ _ => rfl) (fun _ _ => rfl) (fun a as b bs => by simp)

theorem tupleLt_of_lt_of_le {a b c : List Int} (h1 : tupleLt a b = true) (h2 : tupleLt c b = false) : tupleLt a c = true :=
  tupleLt_strictTotal.lt_of_lt_of_not_lt h1 h2

theorem tupleLt_of_le_of_lt {a b c : List Int} (h1 : tupleLt b a = false) (h2 : tupleLt b c = true) : tupleLt a c = true :=
  tupleLt_strictTotal.flip.lt_of_lt_of_not_lt h2 h1

end Exetera.Spec
