import Exetera.Model.StreamFuel
import Exetera.Lemmas.WhileFuel
/-! C12, `Session.apply_spans_concat`: every batch handles at least one span, so the batch loop makes at most one kernel call
    per span. -/
namespace Exetera.Concat
open Exetera

variable {α : Type} [DecidableEq α]

theorem spanLoop_advances (P : Params α) : ∀ (n s : Nat) (st : Buf α) (s' : Nat) (st' : Buf α),
    spanLoop P n s st = .ok (s', st') → (0 < n → s < s') ∧ s ≤ s' ∧ s' ≤ s + n := by
  intro n
  induction n with
  | zero =>
    intro s st s' st' h
    simp only [spanLoop, Except.ok.injEq, Prod.mk.injEq] at h
    obtain ⟨h1, _⟩ := h
    omega
  | succ n ih =>
    intro s st s' st' h
    unfold spanLoop at h
    split at h
    · cases h
    · split at h
      · simp only [Except.ok.injEq, Prod.mk.injEq] at h
        obtain ⟨h1, _⟩ := h
        omega
      · have := ih _ _ _ _ h
        omega

theorem kernel_advances (P : Params α) (spStart s' : Nat) (buf : Buf α) (h : kernel P spStart = .ok (s', buf)) :
    spStart < s' ∧ s' ≤ P.spans.length - 1 := by
  unfold kernel at h
  simp only [] at h
  split at h
  · rename_i hlt
    have := spanLoop_advances P _ _ _ _ _ h
    omega
  · cases h

theorem batchBody_advances (v : Variant) (sep delim : α) (spans idx : List Nat) (vals : List α) (srcChunk valueCap : Nat)
    (st st' : S α) (h : batchBody v sep delim spans idx vals srcChunk valueCap st = .ok st') :
    st.s < st'.s ∧ st'.s ≤ spans.length - 1 ∧ st'.calls = st.calls + 1 ∧
      st.dest.indices <+: st'.dest.indices ∧ st.dest.values <+: st'.dest.values := by
  unfold batchBody at h
  split at h
  · cases h
  · rename_i s' buf hk
    have hadv := kernel_advances _ _ _ _ hk
    simp only [Except.ok.injEq] at h
    subst h
    refine ⟨hadv.1, hadv.2, rfl, ?_, ?_⟩
    · simp only []
      split
      · exact List.prefix_append _ _
      · exact List.prefix_refl _
    · simp only []
      split
      · exact List.prefix_append _ _
      · exact List.prefix_refl _

/-- an `.ok` run of the batch loop with the model's budget is the run with any fuel `≥` the number of spans, and it makes at
    most one kernel call per span -/
theorem runBatches_fuel (v : Variant) (sep delim : α) (spans idx : List Nat) (vals : List α) (srcChunk valueCap : Nat)
    (st : S α) (h : runBatches v sep delim spans idx vals srcChunk valueCap = .ok st) (fuel : Nat)
    (hfuel : spans.length - 1 ≤ fuel) :
    runBatchesF fuel v sep delim spans idx vals srcChunk valueCap = .ok st ∧ st.calls ≤ spans.length - 1 := by
  have step : ∀ s s' : S α, True → batchGuard spans s = true →
      batchBody v sep delim spans idx vals srcChunk valueCap s = .ok s' →
      True ∧ (spans.length - 1 - s'.s) < (spans.length - 1 - s.s) ∧ s'.calls = s.calls + 1 := by
    intro s s' _ hg hb
    obtain ⟨h1, _, h3, _⟩ := batchBody_advances v sep delim spans idx vals srcChunk valueCap s s' hb
    simp only [batchGuard, decide_eq_true_eq] at hg
    exact ⟨trivial, by omega, h3⟩
  rw [runBatches_eq_F] at h
  refine ⟨?_, ?_⟩
  · exact whileE_tighten_ok _ _ (fun _ => True) (fun s : S α => spans.length - 1 - s.s)
      (fun s s' hI hg hb => ⟨trivial, (step s s' hI hg hb).2.1⟩) spans.length _ st trivial h fuel (by simpa using hfuel)
  · have := whileE_counter_le_measure _ _ (fun _ => True) (fun s : S α => spans.length - 1 - s.s) (fun s => s.calls)
      step spans.length _ st trivial h
    simp only [] at this
    omega
/-- a run of `Session.apply_spans_concat` that ended normally with the model's budget ends the same way with any fuel `≥`
    the number of output entries, and made at most one kernel call per entry -/
theorem applySpansConcatS_fuel (v : Variant) (sep delim : α) (spans idx : List Nat) (vals : List α)
    (srcChunk destChunk mult : Nat) (st : S α)
    (h : applySpansConcatS v sep delim spans idx vals srcChunk destChunk mult = .ok st) (fuel : Nat)
    (hfuel : spans.length - 1 ≤ fuel) :
    applySpansConcatSF fuel v sep delim spans idx vals srcChunk destChunk mult = .ok st ∧ st.calls ≤ spans.length - 1 := by
  revert h
  unfold applySpansConcatS applySpansConcatSF
  cases valueCap v spans idx destChunk mult with
  | error e => intro h; cases h
  | ok cap => exact fun h => runBatches_fuel v sep delim spans idx vals srcChunk cap st h fuel hfuel

end Exetera.Concat
