import Exetera.Lemmas.JoinRU
import Exetera.Lemmas.JoinInnerSpec
import Exetera.Model.JoinFlat
/-!
  Spec side of the two-pointer merge walks of C19 (flat kernels and legacy streamed drivers alike). A walk stands at a
  position `(I, J)` with every right row before `J` below the left key at `I` (`Below`); comparing `L[I]` with `R[J]`
  tells what the next rows of the relational join are (`Below.lt`, `Below.gt`, `Below.matched`, `rest_run`) and the
  position after them satisfies `Below` again. Each kernel proof is then a case split on its own body plus the
  bookkeeping of what it has written.
-/
namespace Exetera.JoinFlat
open Exetera Exetera.Spec Exetera.Join

/-- the predicate `Join.BelowAt` of the chunked kernels, so the lemmas about `BelowAt` apply to it as they stand -/
def Below (L R : List Int) (I J : Nat) : Prop := ∀ j b a, j < J → R[j]? = some b → L[I]? = some a → b < a

theorem Below.zero (L R : List Int) (I : Nat) : Below L R I 0 := BelowAt.zero

theorem Below.step_left {L R : List Int} {I J : Nat} (hL : Sorted L) (h : Below L R I J) : Below L R (I + 1) J :=
  BelowAt.left_succ hL h

theorem Below.add_left {L R : List Int} {I J : Nat} (hL : Sorted L) (h : Below L R I J) : ∀ n, Below L R (I + n) J
  | 0 => h
  | n + 1 => (h.add_left hL n).step_left hL

theorem Below.of_ge {L R : List Int} {I J : Nat} (hI : L.length ≤ I) : Below L R I J := by
  intro j b a _ _ ha
  have := (List.getElem?_eq_some_iff.mp ha).1
  omega

theorem Below.lt {L R : List Int} {I J : Nat} (hL : Sorted L) (hR : Sorted R) (h : Below L R I J) (hI : I < L.length)
    (hJ : J < R.length) (hlt : L[I] < R[J]) :
    rest L R I = (I, none) :: rest L R (I + 1) ∧ Below L R (I + 1) J :=
  ⟨BelowAt.rest_none hR h (get?_some_of_lt hI) (fun b hb => by
    rw [get?_some_of_lt hJ] at hb; cases hb; exact hlt), h.step_left hL⟩

theorem Below.gt {L R : List Int} {I J : Nat} (h : Below L R I J) (hI : I < L.length) (hJ : J < R.length)
    (hgt : R[J] < L[I]) : Below L R I (J + 1) :=
  BelowAt.right_succ h (get?_some_of_lt hI) (get?_some_of_lt hJ) hgt

theorem Below.matched {L R : List Int} {I J : Nat} (hR : R.Pairwise (· < ·)) (h : Below L R I J) (hI : I < L.length)
    (hJ : J < R.length) (heq : L[I] = R[J]) : rest L R I = (I, some J) :: rest L R (I + 1) :=
  RU.rest_eq1 hR (get?_some_of_lt hI) (by rw [get?_some_of_lt hJ, heq])
    (fun j b hj hb => h j b _ hj hb (get?_some_of_lt hI))

theorem rest_tail {L R : List Int} (inv : Int) (hL : Sorted L) (hR : Sorted R) :
    ∀ (n I : Nat), I + n ≤ L.length → Below L R I R.length →
      encR inv (rest L R I) = List.replicate n inv ++ encR inv (rest L R (I + n))
  | 0, I, _, _ => by simp
  | n + 1, I, hI, hb => by
    have hlt : I < L.length := by omega
    have hr := rest_allBelow hR hlt hb
    have ih := rest_tail inv hL hR n (I + 1) (by omega) (Below.step_left hL hb)
    rw [hr, encR, List.map_cons, ← encR, ih, List.replicate_succ, Nat.add_assoc, Nat.add_comm 1 n]
    rfl

theorem encR_rest_cons {inv : Int} {out full : List Int} {L R : List Int} {I : Nat} {c : Option Nat}
    (h : out ++ encR inv (rest L R I) = full) (hr : rest L R I = (I, c) :: rest L R (I + 1)) :
    (out ++ [encCell inv c]) ++ encR inv (rest L R (I + 1)) = full := by
  rw [hr, encR, List.map_cons] at h
  rw [List.append_assoc]
  exact h

def walkMu (L R : List Int) (i j : Nat) : Nat := L.length + R.length - (i + j)

theorem walkMu_lt {L R : List Int} {i j : Nat} (hi : i < L.length) (hj : j < R.length) {n m : Nat} (h : 0 < n + m) :
    walkMu L R (i + n) (j + m) < walkMu L R i j :=
  Nat.sub_lt_sub_left (Nat.add_lt_add hi hj) (by omega)

theorem walkMu_lt_left {L R : List Int} {i j : Nat} (hi : i < L.length) (hj : j < R.length) :
    walkMu L R (i + 1) j < walkMu L R i j :=
  walkMu_lt hi hj (n := 1) (m := 0) Nat.one_pos

theorem walkMu_lt_right {L R : List Int} {i j : Nat} (hi : i < L.length) (hj : j < R.length) :
    walkMu L R i (j + 1) < walkMu L R i j :=
  walkMu_lt hi hj (n := 0) (m := 1) Nat.one_pos

theorem walk_exhausted {n m i j : Nat} (hi : i ≤ n) (hj : j ≤ m) (hg : (decide (i < n) && decide (j < m)) = false) :
    i = n ∨ j = m := by
  simp only [Bool.and_eq_false_iff, decide_eq_false_iff_not] at hg
  omega

/-- `[k, k+n)` is the maximal run of the key `a` starting at `k` in a sorted column -/
structure IsRun (xs : List Int) (k n : Nat) (a : Int) : Prop where
  pos : 0 < n
  le : k + n ≤ xs.length
  eq : ∀ t, t < n → xs[k + t]? = some a
  gt : ∀ b, xs[k + n]? = some b → a < b

theorem IsRun.one {xs : List Int} {k : Nat} {a : Int} (hu : xs.Pairwise (· < ·)) (hk : xs[k]? = some a) :
    IsRun xs k 1 a := by
  refine ⟨Nat.one_pos, (List.getElem?_eq_some_iff.mp hk).1, fun t ht => ?_, fun b hb => ?_⟩
  · have : t = 0 := by omega
    subst this; exact hk
  · exact Strict.lt_get? hu (i := k) (j := k + 1) (by omega) hk hb

/-- the kernels' run counting finds the run; a side asserted unique is not scanned -/
theorem runLen_isRun (scan : Bool) {xs : List Int} {k : Nat} {a : Int} (hs : Sorted xs)
    (hu : scan = false → xs.Pairwise (· < ·)) (hk : xs[k]? = some a) :
    ∃ n, runLen scan xs k = .ok n ∧ IsRun xs k n a := by
  obtain ⟨hkl, hka⟩ := List.getElem?_eq_some_iff.mp hk
  cases scan with
  | false => exact ⟨1, rfl, IsRun.one (hu rfl) hk⟩
  | true =>
    obtain ⟨e, h1, h2, h3, h4⟩ := runCount_spec xs xs.length (Nat.le_refl _) xs.length k 1 hkl (by omega)
    refine ⟨1 + e, h1, ⟨by omega, by omega, ?_, ?_⟩⟩
    · intro t ht
      rw [h3 t (by omega)]; exact hk
    · intro b hb
      have hlt : k + (1 + e) < xs.length := (List.getElem?_eq_some_iff.mp hb).1
      have hne := h4 (by omega)
      have e1 : k + e + 1 = k + (1 + e) := by omega
      rw [e1, hb, hk] at hne
      have hle := Sorted.le_get? hs (i := k) (j := k + (1 + e)) (by omega) hk hb
      have : b ≠ a := fun h => hne (by rw [h])
      omega

/-- at a merge position with equal keys the next spec rows are the cartesian block of the two runs, and the merge
    invariant holds again after both runs -/
theorem rest_run {L R : List Int} {I J n m : Nat} {a : Int} (hR : Sorted R) (h : Below L R I J)
    (hl : IsRun L I n a) (hr : IsRun R J m a) :
    rest L R I = blockRows I J m n ++ rest L R (I + n) ∧ Below L R (I + n) (J + m) := by
  have hI : L[I]? = some a := by simpa using hl.eq 0 hl.pos
  constructor
  · simpa only [pendInner_zero _ _ _ _ _ hl.pos, Nat.add_zero, Nat.sub_zero] using
      BelowAt.rest_runs hR h hl.pos hr.pos hl.eq hr.eq hr.gt
  · intro j b a' hj hb ha'
    have haa' : a < a' := hl.gt a' ha'
    by_cases hjJ : j < J
    · have := h j b a hjJ hb hI; omega
    · have := hr.eq (j - J) (by omega)
      have e1 : J + (j - J) = j := by omega
      rw [e1, hb] at this
      cases this; exact haa'

theorem blockRows_length (I J m : Nat) : ∀ n, (blockRows I J m n).length = n * m
  | 0 => by simp [blockRows]
  | n + 1 => by
    have e : (n + 1) * m = m + n * m := by rw [Nat.succ_mul, Nat.add_comm]
    rw [blockRows, List.length_append, blockRows_length (I + 1) J m n, e]
    simp [blockRow]
  termination_by n => n
  decreasing_by all_goals omega

theorem encL_blockRows (J m : Nat) : ∀ n I, encL (blockRows I J m n) = blockL m I n
  | 0, _ => by simp [blockRows, blockL, encL]
  | n + 1, I => by
    have ih := encL_blockRows J m n (I + 1)
    simp only [encL] at ih
    simp only [blockRows, blockL, encL, List.map_append, ih, blockRow, List.map_map]
    congr 1
    rw [List.eq_replicate_iff]
    constructor
    · simp
    · intro b hb
      simp only [List.mem_map] at hb
      obtain ⟨_, _, rfl⟩ := hb
      rfl

theorem encR_blockRows (inv : Int) (J m : Nat) : ∀ n I, encR inv (blockRows I J m n) = blockR J m n
  | 0, _ => by simp [blockRows, blockR, encR]
  | n + 1, I => by
    have ih := encR_blockRows inv J m n (I + 1)
    simp only [encR] at ih
    simp only [blockRows, blockR, encR, List.map_append, ih, blockRow, List.map_map]
    congr 1

end Exetera.JoinFlat
