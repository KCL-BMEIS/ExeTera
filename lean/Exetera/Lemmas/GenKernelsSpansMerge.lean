import Exetera.Gen.Kernels
import Exetera.Lemmas.GenKernels
import Exetera.Lemmas.GenKernelsSpans
/-!
  The TRANSLATED `_get_spans_for_2_fields_by_spans` (a `for` loop around a `while` loop whose guard subscripts, appending
  to a list) refines the hand-written model `Spans.getSpansFor2FieldsBySpans` (= `mergeLoop`, a recursion on the two
  remaining suffixes) for every fuel ≥ len(span1).
-/
namespace Exetera.GenK

open Exetera Exetera.PyRt Exetera.Spans Exetera.Gen.Kernels

namespace Merge

open _get_spans_for_2_fields_by_spans

abbrev St := _get_spans_for_2_fields_by_spans.St

/-- the `if j < len(span1)` block of one iteration, once `j < len(span1)` is known: the `while`, then the `==` test -/
def advBlock (fuel : Nat) (s : St) : Except Err St :=
  bindE (whileG guardE_L2 body_L2 fuel s) fun s =>
  bindE (idxE s.p1 s.v1 "p1[v1]") fun t4 =>
  bindE (idxE s.p0 s.v2 "p0[v2]") fun t5 =>
  if (t4 == t5) then .ok { s with v1 := (s.v1 + 1) } else .ok s

theorem body_eq (fuel : Nat) (s : St) : body_L1 fuel s =
    bindE (if decide (s.v1 < pyLen s.p1) then advBlock fuel s else .ok s) fun s =>
      bindE (idxE s.p0 s.v2 "p0[v2]") fun t6 => .ok { s with v0 := s.v0 ++ [t6] } := rfl

theorem mergeLoop_cons (x : Nat) (xs l : List Nat) : mergeLoop (x :: xs) l =
    bindE (if l = [] then .ok ([], []) else mergeAdvance x l) fun ar =>
      bindE (mergeLoop xs ar.2) fun t => .ok (ar.1 ++ x :: t) := by
  cases l with
  | nil =>
    rw [mergeLoop, if_pos rfl, bindE_ok]
    cases mergeLoop xs [] <;> rfl
  | cons y rest =>
    rw [mergeLoop, if_neg (List.cons_ne_nil _ _)]
    cases mergeAdvance x (y :: rest) with
    | error e => rfl
    | ok ar =>
      obtain ⟨app, r⟩ := ar
      simp only [bindE_ok]
      cases mergeLoop xs r <;> rfl

/-- after the `if j < len(span1)` block: the entries `ar.1` appended, `j` moved to the start of the suffix `ar.2` -/
abbrev Adv (s1 : List Nat) (s s' : St) (ar : List Nat × List Nat) : Prop :=
  ∃ j' : Nat, s' = { s with v0 := s.v0 ++ ints ar.1, v1 := (j' : Int) } ∧ ar.2 = s1.drop j'

section
variable {s0 s1 : List Nat} {i x : Nat} (hx : s0[i]? = some x)
include hx

theorem guard_eq (j : Nat) {s : St} (h0 : s.p0 = ints s0) (h1 : s.p1 = ints s1) (hj : s.v1 = (j : Int)) (hi : s.v2 = (i : Int)) :
    guardE_L2 s = bindE (getE (ints s1) j "p1[v1]") fun y => .ok (decide (y < (x : Int))) := by
  simp only [guardE_L2, h0, h1, hj, hi, idxE_nat, getE_ints _ _ _ hx, bindE_ok]

/-- the `while` and the `==` test against `mergeAdvance` on the suffix `span1[j:]`; reading `span1[j]` past the end fails on
    both sides -/
theorem adv : ∀ (fuel j : Nat) (s : St), s.p0 = ints s0 → s.p1 = ints s1 → s.v1 = (j : Int) → s.v2 = (i : Int) →
    s1.length - j ≤ fuel → Follows (Adv s1 s) (advBlock fuel s) (mergeAdvance x (s1.drop j)) := by
  have oob : ∀ (fuel j : Nat) (s : St), s.p0 = ints s0 → s.p1 = ints s1 → s.v1 = (j : Int) → s.v2 = (i : Int) →
      s1.length ≤ j → Follows (Adv s1 s) (advBlock fuel s) (mergeAdvance x (s1.drop j)) := by
    intro fuel j s h0 h1 hj hi hjl
    have hg := guard_eq hx j h0 h1 hj hi
    rw [getE_of_none _ (List.getElem?_eq_none (by rw [ints_length]; exact hjl)), bindE_error] at hg
    rw [List.drop_eq_nil_of_le hjl, mergeAdvance, advBlock, whileG_error hg, bindE_error]
    exact .error rfl rfl
  intro fuel
  induction fuel with
  | zero => exact fun j s h0 h1 hj hi hf => oob 0 j s h0 h1 hj hi (by omega)
  | succ F ih =>
    intro j s h0 h1 hj hi hf
    by_cases hjl : s1.length ≤ j
    · exact oob _ j s h0 h1 hj hi hjl
    have hjl' : j < s1.length := by omega
    have hy : s1[j]? = some s1[j] := List.getElem?_eq_getElem hjl'
    have hg := guard_eq hx j h0 h1 hj hi
    rw [getE_ints _ _ _ hy, bindE_ok] at hg
    rw [List.drop_eq_getElem_cons hjl', mergeAdvance]
    by_cases hlt : s1[j] < x
    · -- the guard holds: append span1[j], j += 1, go round again
      rw [if_pos hlt]
      have hb : body_L2 s = .ok { s with v0 := s.v0 ++ [(s1[j] : Int)], v1 := ((j + 1 : Nat) : Int) } := by
        simp only [body_L2, h1, hj, idxE_nat, getE_ints _ _ _ hy, bindE_ok]
        rfl
      rw [advBlock, whileG_step (by rw [hg, decide_eq_true (Int.ofNat_lt.mpr hlt)]) hb]
      have hrec := ih (j + 1) { s with v0 := s.v0 ++ [(s1[j] : Int)], v1 := ((j + 1 : Nat) : Int) } h0 h1 rfl hi (by omega)
      cases hm : mergeAdvance x (s1.drop (j + 1)) with
      | error e => rw [hm] at hrec; exact hrec
      | ok ar =>
        obtain ⟨app, r⟩ := ar
        rw [hm] at hrec
        obtain ⟨s', hs', j', rfl, hr⟩ := hrec
        exact ⟨_, hs', j', by simp [ints], hr⟩
    · -- the guard fails: the loop is over; `if span1[j] == span0[i]: j += 1`
      rw [if_neg hlt]
      rw [decide_eq_false (by omega)] at hg
      have hw := whileG_done (body := body_L2) hg (F + 1)
      simp only [advBlock, hw, bindE_ok, h0, h1, hj, hi, idxE_nat, getE_ints _ _ _ hy, getE_ints _ _ _ hx]
      by_cases heq : s1[j] = x
      · have h1' : (s1[j] == x) = true := beq_iff_eq.mpr heq
        have h2' : ((s1[j] : Int) == (x : Int)) = true := beq_iff_eq.mpr (congrArg _ heq)
        simp only [h1', h2', if_true]
        exact .ok rfl ⟨j + 1, by simp [ints, ← h0, ← h1, ← hi], rfl⟩
      · have h1' : (s1[j] == x) = false := beq_false_of_ne heq
        have h2' : ((s1[j] : Int) == (x : Int)) = false := beq_false_of_ne (by omega)
        simp only [h1', h2', Bool.false_eq_true, if_false]
        exact .ok rfl ⟨j, by simp [ints, ← hj], (List.drop_eq_getElem_cons hjl').symm⟩

end

/-- the span loop against `mergeLoop`; what is left of `span1` is the trailing `extend` -/
theorem loop (s0 s1 : List Nat) (fuel : Nat) (hf : s1.length ≤ fuel) :
    ∀ (n i j : Nat) (s : St), i + n = s0.length → s.p0 = ints s0 → s.p1 = ints s1 → s.v1 = (j : Int) →
      Follows (fun s' t => ∃ j' : Nat, s'.v0 ++ ints (s1.drop j') = s.v0 ++ ints t ∧ s'.v1 = (j' : Int) ∧ s'.p1 = ints s1)
        (forRangeAux (fun _ => false) (fun k s => body_L1 fuel { s with v2 := k }) n (i : Int) s)
        (mergeLoop (s0.drop i) (s1.drop j)) := by
  intro n
  induction n with
  | zero =>
    intro i j s hi h0 h1 hj
    rw [List.drop_eq_nil_of_le (by omega), mergeLoop]
    exact .ok rfl ⟨j, rfl, hj, h1⟩
  | succ n ih =>
    intro i j s hi h0 h1 hj
    have hil : i < s0.length := by omega
    have hx : s0[i]? = some s0[i] := List.getElem?_eq_getElem hil
    rw [List.drop_eq_getElem_cons hil, mergeLoop_cons, forRangeAux_succ, body_eq, bindE_assoc]
    refine Follows.bind (R := Adv s1 { s with v2 := (i : Int) }) ?_ ?_
    · by_cases hjl : s1.length ≤ j
      · rw [if_neg (by simp only [h1, hj, pyLen, ints_length, decide_eq_true_eq]; omega), if_pos (List.drop_eq_nil_of_le hjl)]
        exact .ok rfl ⟨j, by simp [ints, ← hj], (List.drop_eq_nil_of_le hjl).symm⟩
      · rw [if_pos (by simp only [h1, hj, pyLen, ints_length, decide_eq_true_eq]; omega),
          if_neg (by rw [List.drop_eq_nil_iff]; exact hjl)]
        exact adv hx fuel j _ h0 h1 hj rfl (by omega)
    · rintro s' ⟨app, r⟩ ⟨j', rfl, rfl⟩
      simp only [h0, idxE_ints _ hx, bindE_ok, Bool.false_eq_true, if_false]
      refine Follows.map_right _ (ih (i + 1) j' _ (by omega) rfl h1 rfl) ?_
      rintro s'' t ⟨j'', hv0, hv1, hp1⟩
      exact ⟨j'', by rw [hv0]; simp [ints], hv1, hp1⟩

end Merge

theorem get_spans_for_2_fields_by_spans_refines (s0 s1 : List Nat) (fuel : Nat) (hf : s1.length ≤ fuel) :
    Sim (_get_spans_for_2_fields_by_spans.run (ints s0) (ints s1) fuel)
      ((getSpansFor2FieldsBySpans s0 s1).map ints) := by
  unfold _get_spans_for_2_fields_by_spans.run getSpansFor2FieldsBySpans
  have h := Merge.loop s0 s1 fuel hf s0.length 0 0
    { p0 := ints s0, p1 := ints s1, v0 := [], v1 := 0, v2 := 0 } (by omega) rfl rfl rfl
  simp only [List.drop_zero] at h
  simp only [forRangeE, pyLen, ints_length, Int.sub_zero, Int.toNat_natCast]
  cases hm : mergeLoop s0 s1 with
  | error e =>
    rw [hm] at h
    obtain ⟨e', hrun, ht⟩ := h
    have : forRangeAux (fun _ => false) (fun k s => _get_spans_for_2_fields_by_spans.body_L1 fuel { s with v2 := k })
        s0.length (0 : Int) { p0 := ints s0, p1 := ints s1, v0 := [], v1 := 0, v2 := 0 } = .error e' := hrun
    simp [this, Sim, ht, Except.map]
  | ok t =>
    rw [hm] at h
    obtain ⟨s', hrun, j', hv0, hv1, hp1⟩ := h
    have : forRangeAux (fun _ => false) (fun k s => _get_spans_for_2_fields_by_spans.body_L1 fuel { s with v2 := k })
        s0.length (0 : Int) { p0 := ints s0, p1 := ints s1, v0 := [], v1 := 0, v2 := 0 } = .ok s' := hrun
    simp only [this, bindE_ok, hv1, hp1, ints_length, pySlice_drop, Except.map]
    simp only [List.nil_append] at hv0
    by_cases hj : j' < s1.length
    · have hd : decide ((j' : Int) < (s1.length : Int)) = true := by simp; exact hj
      simp only [hd, if_true, bindE_ok, Sim]
      rw [← hv0]
      simp [ints, List.map_drop]
    · have hd : decide ((j' : Int) < (s1.length : Int)) = false := by simp; omega
      simp only [hd, Bool.false_eq_true, if_false, bindE_ok, Sim]
      rw [← hv0, List.drop_eq_nil_of_le (by omega)]
      simp [ints]

end Exetera.GenK
