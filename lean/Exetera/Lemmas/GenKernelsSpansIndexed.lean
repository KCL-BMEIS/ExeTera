import Exetera.Gen.Kernels
import Exetera.Lemmas.GenKernels
import Exetera.Lemmas.GenKernelsSpans
/-!
  The TRANSLATED `_get_spans_for_index_string_field` (list built with `append`, early `return result`, `continue`,
  `np.array_equal` of two slices) refines the hand model `getSpansForIndexStringField .repaired` / `scanIndexed` of
  `Model/Spans.lean`, for every pair (indices, values) of arrays of naturals.
-/
namespace Exetera.GenK

open Exetera Exetera.PyRt Exetera.Spans Exetera.Gen.Kernels

/-- the row test of `scanIndexed`: row `i` differs from row `i - 1` in length or in content -/
def idxTest (indices values : List Nat) (i : Nat) : Except Err Bool :=
  bindE (getE indices (i - 1) "indices[i - 1]") fun last =>
  bindE (getE indices i "indices[i]") fun current =>
  bindE (getE indices (i + 1) "indices[i + 1]") fun next =>
  .ok (((next : Int) - current != (current : Int) - last) || (slice values last current != slice values current next))

theorem scanIndexed_succ (indices values : List Nat) (k i : Nat) :
    scanIndexed indices values (k + 1) i = bindE (idxTest indices values i) fun d =>
      if d then consE i (scanIndexed indices values k (i + 1)) else scanIndexed indices values k (i + 1) := by
  rw [scanIndexed, idxTest]
  cases getE indices (i - 1) "indices[i - 1]" with
  | error e => cases getE indices i "indices[i]" <;> cases getE indices (i + 1) "indices[i + 1]" <;> rfl
  | ok last =>
    cases getE indices i "indices[i]" with
    | error e => cases getE indices (i + 1) "indices[i + 1]" <;> rfl
    | ok current =>
      cases getE indices (i + 1) "indices[i + 1]" with
      | error e => rfl
      | ok next =>
        dsimp only [bindE_ok]
        generalize ((next : Int) - current != (current : Int) - last) = A
        generalize (slice values last current != slice values current next) = B
        cases A <;> cases B <;> rfl

namespace GIS

abbrev St := _get_spans_for_index_string_field.St

def R (indices values : List Nat) (s : St) (acc : List Int) : Prop :=
  s.p0 = ints indices ∧ s.p1 = ints values ∧ s.v0 = acc

theorem body_follows (indices values : List Nat) :
    ∀ (i : Nat) (s : St) (acc : List Int), 1 ≤ i → R indices values s acc →
      Follows (fun s' d => R indices values s' (if d then acc ++ [(i : Int)] else acc))
        (_get_spans_for_index_string_field.body_L1 { s with v1 := (i : Int) }) (idxTest indices values i) := by
  rintro i ⟨_, _, acc, _, _, _, _⟩ _ hi ⟨rfl, rfl, rfl⟩
  have hi1 : (i : Int) - 1 = ((i - 1 : Nat) : Int) := by omega
  simp only [_get_spans_for_index_string_field.body_L1, idxE_nat, idxE_nat_succ, hi1, idxTest]
  refine Follows.getE_ints _ _ _ _ fun last _ => ?_
  refine Follows.getE_ints _ _ _ _ fun current _ => ?_
  refine Follows.getE_ints _ _ _ _ fun next _ => ?_
  simp only [pySlice_nat, slice_ints, ints_beq]
  generalize ((next : Int) - current != (current : Int) - last) = A
  generalize hB : (slice values last current != slice values current next) = B
  have hB' : (!(slice values last current == slice values current next)) = B := hB
  rw [hB']
  cases A <;> cases B <;> exact .ok rfl ⟨rfl, rfl, rfl⟩

theorem scan_follows (indices values : List Nat) :
    ∀ (k i : Nat) (s : St) (acc : List Int), 1 ≤ i → R indices values s acc →
      Follows (fun s' vs => s'.p0 = ints indices ∧ s'.v0 ++ [((indices.length - 1 : Nat) : Int)] = acc ++ ints vs)
        (forRangeAux (fun _ => false) (fun k s => _get_spans_for_index_string_field.body_L1 { s with v1 := k }) k (i : Int) s)
        (scanIndexed indices values k i) := by
  intro k
  induction k with
  | zero => intro i s acc _ h; exact .ok rfl ⟨h.1, by rw [h.2.2]; rfl⟩
  | succ k ih =>
    intro i s acc hi h
    rw [scanIndexed_succ, forRangeAux_succ]
    refine (body_follows indices values i s acc hi h).bind fun s' d h' => ?_
    cases d with
    | false => exact ih (i + 1) s' acc (Nat.le_succ_of_le hi) h'
    | true =>
      exact (ih (i + 1) s' (acc ++ [(i : Int)]) (Nat.le_succ_of_le hi) h').consE i fun o l ⟨hp, hv⟩ =>
        ⟨hp, by rw [hv, List.append_assoc]; rfl⟩

end GIS

theorem get_spans_for_index_string_field_refines (indices values : List Nat) :
    Sim (_get_spans_for_index_string_field.run (ints indices) (ints values))
      ((getSpansForIndexStringField .repaired indices values).map ints) := by
  unfold _get_spans_for_index_string_field.run getSpansForIndexStringField
  by_cases hlt : indices.length < 2
  · have h1 : decide (pyLen (ints indices) < 2) = true := by rw [decide_eq_true_eq, pyLen, ints_length]; omega
    rw [if_pos h1, if_pos (by rw [decide_eq_true hlt]; rfl)]
    exact rfl
  · have h1 : ¬ decide (pyLen (ints indices) < 2) = true := by rw [decide_eq_true_eq, pyLen, ints_length]; omega
    rw [if_neg h1, if_neg (by rw [decide_eq_false hlt]; exact Bool.false_ne_true)]
    have h := GIS.scan_follows indices values (indices.length - 2) 1
      { p0 := ints indices, p1 := ints values, v0 := [] ++ [0], v1 := 0, v2 := 0, v3 := 0, v4 := 0 } _ (Nat.le_refl 1)
      ⟨rfl, rfl, rfl⟩
    have hn : (pyLen (ints indices) - 1 - 1).toNat = indices.length - 2 := by rw [pyLen, ints_length]; omega
    revert h
    unfold forRangeE
    rw [hn]
    cases scanIndexed indices values (indices.length - 2) 1 with
    | error e => rintro ⟨e', he, ht⟩; erw [he]; exact ht
    | ok vs =>
      rintro ⟨s', hs, hp, hv⟩
      erw [hs]
      have hlast : pyLen s'.p0 - 1 = ((indices.length - 1 : Nat) : Int) := by rw [hp, pyLen, ints_length]; omega
      show s'.v0 ++ [pyLen s'.p0 - 1] = ints (0 :: vs)
      rw [hlast, hv]; rfl

end Exetera.GenK
