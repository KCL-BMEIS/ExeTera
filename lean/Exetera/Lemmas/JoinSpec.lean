import Exetera.Spec.Join
/-!
  Spec-side lemmas for C03: what the relational join of *sorted* key columns looks like at a merge position.
  Chunk-independent; used by every variant's kernel invariant. Last, for arbitrary columns: the rows of the join name
  existing rows with equal keys (the value ranges of C11).
-/
namespace Exetera.Spec

def Sorted (xs : List Int) : Prop := xs.Pairwise (· ≤ ·)

theorem Sorted.le_of_lt {xs : List Int} (h : Sorted xs) {i j : Nat} (hij : i ≤ j) (hj : j < xs.length) :
    xs[i]'(by omega) ≤ xs[j] := by
  rcases Nat.lt_or_eq_of_le hij with h1 | h1
  · exact (List.pairwise_iff_getElem.mp h) i j (by omega) hj h1
  · subst h1; exact Int.le_refl _

theorem Sorted.tail {a : Int} {xs : List Int} (h : Sorted (a :: xs)) : Sorted xs := (List.pairwise_cons.mp h).2

theorem Sorted.head_le {a : Int} {xs : List Int} (h : Sorted (a :: xs)) : ∀ x ∈ xs, a ≤ x := (List.pairwise_cons.mp h).1

theorem matchRows_eq_nil {k : Int} : ∀ {r : List Int} {base : Nat}, (∀ x ∈ r, x ≠ k) → matchRows k r base = []
  | [], _, _ => rfl
  | b :: bs, base, h => by
    have hb : b ≠ k := h b (by simp)
    simp only [matchRows, beq_iff_eq, hb, if_false]
    exact matchRows_eq_nil (fun x hx => h x (by simp [hx]))

theorem matchRows_all {k : Int} : ∀ {r : List Int} {base : Nat}, (∀ x ∈ r, x = k) →
    matchRows k r base = List.range' base r.length
  | [], _, _ => rfl
  | b :: bs, base, h => by
    have hb : b = k := h b (by simp)
    simp only [matchRows, beq_iff_eq, hb, if_true, List.length_cons, List.range'_succ]
    rw [matchRows_all (fun x hx => h x (by simp [hx]))]

theorem matchRows_append {k : Int} : ∀ (r s : List Int) (base : Nat),
    matchRows k (r ++ s) base = matchRows k r base ++ matchRows k s (base + r.length)
  | [], s, base => by simp [matchRows]
  | b :: bs, s, base => by
    simp only [List.cons_append, matchRows, List.length_cons, matchRows_append bs s (base + 1), Nat.add_assoc,
      Nat.add_comm 1]
    split <;> rfl

theorem matchRows_drop {r : List Int} {a : Int} {J : Nat} (hJ : J ≤ r.length)
    (hlt : ∀ j (h : j < J), r[j]'(by omega) ≠ a) : matchRows a r 0 = matchRows a (r.drop J) J := by
  have h : matchRows a (r.take J) 0 = [] := matchRows_eq_nil fun x hx => by
    obtain ⟨i, hi, rfl⟩ := List.getElem_of_mem hx
    rw [List.getElem_take]
    exact hlt i (by simp only [List.length_take] at hi; omega)
  rw [show matchRows a r 0 = matchRows a (r.take J ++ r.drop J) 0 by rw [List.take_append_drop], matchRows_append, h,
    List.nil_append, List.length_take, Nat.zero_add, Nat.min_eq_left hJ]

theorem matchRows_drop_nil {r : List Int} (hs : Sorted r) {a : Int} {J : Nat}
    (hgt : ∀ (h : J < r.length), a < r[J]) (base : Nat) : matchRows a (r.drop J) base = [] :=
  matchRows_eq_nil fun x hx => by
    obtain ⟨i, hi, rfl⟩ := List.getElem_of_mem hx
    simp only [List.length_drop] at hi
    rw [List.getElem_drop]
    exact (Int.ne_of_lt (Int.lt_of_lt_of_le (hgt (by omega)) (hs.le_of_lt (Nat.le_add_right J i) (by omega)))).symm

/-- The matches of `a` in a sorted column `r`, given a merge position `J` (everything before is smaller) and the length
    `m` of the run of `a` starting at `J` (`m = 0` when `a` does not occur). -/
theorem matchRows_sorted {r : List Int} (hs : Sorted r) {a : Int} {J m : Nat} (hJm : J + m ≤ r.length)
    (hlt : ∀ j (h : j < J), r[j]'(by omega) < a)
    (heq : ∀ t (h : t < m), r[J + t]'(by omega) = a)
    (hgt : ∀ (h : J + m < r.length), a < r[J + m]) :
    matchRows a r 0 = List.range' J m := by
  have hrun : matchRows a ((r.drop J).take m) J = List.range' J m := by
    rw [matchRows_all, List.length_take, List.length_drop, Nat.min_eq_left (by omega)]
    intro x hx
    obtain ⟨i, hi, rfl⟩ := List.getElem_of_mem hx
    rw [List.getElem_take, List.getElem_drop]
    exact heq i (by simp only [List.length_take] at hi; omega)
  rw [matchRows_drop (by omega) fun j h => Int.ne_of_lt (hlt j h), ← List.take_append_drop m (r.drop J),
    matchRows_append, hrun, List.drop_drop, matchRows_drop_nil hs hgt, List.append_nil]

/-- the spec rows for left rows `≥ I` -/
def rest (l r : List Int) (I : Nat) : List (Nat × Option Nat) := leftJoinFrom r (l.drop I) I

theorem rest_zero (l r : List Int) : rest l r 0 = leftJoin l r := by simp [rest, leftJoin]

theorem rest_of_ge (l r : List Int) {I : Nat} (h : l.length ≤ I) : rest l r I = [] := by
  simp [rest, List.drop_eq_nil_of_le h, leftJoinFrom]

theorem rest_unfold (l r : List Int) {I : Nat} (h : I < l.length) :
    rest l r I = leftRow I (matchRows l[I] r 0) ++ rest l r (I + 1) := by
  simp only [rest]
  rw [List.drop_eq_getElem_cons h]
  simp [leftJoinFrom]

theorem rest_lt {l r : List Int} (hr : Sorted r) {I J : Nat} (hI : I < l.length) (hJ : J ≤ r.length)
    (hlt : ∀ j (h : j < J), r[j]'(by omega) < l[I])
    (hgt : ∀ (h : J < r.length), l[I] < r[J]) :
    rest l r I = (I, none) :: rest l r (I + 1) := by
  rw [rest_unfold l r hI]
  have : matchRows l[I] r 0 = List.range' J 0 :=
    matchRows_sorted hr (m := 0) (by omega) hlt (fun t h => by omega) (by simpa using hgt)
  rw [this]; simp [leftRow]

/-- one row of a cartesian block: left row `I` against right rows `J … J+m-1` -/
def blockRow (I J m : Nat) : List (Nat × Option Nat) := (List.range' J m).map (fun j => (I, some j))

def blockRows (I J m : Nat) : Nat → List (Nat × Option Nat)
  | 0 => []
  | n + 1 => blockRow I J m ++ blockRows (I + 1) J m n

/-- matched run: left rows `I … I+n-1` all carry the key `a` whose right run is `J … J+m-1`, `m ≥ 1` -/
theorem rest_block {l r : List Int} (hr : Sorted r) {a : Int} {J m : Nat} (hm : 0 < m) (hJm : J + m ≤ r.length)
    (hlt : ∀ j (h : j < J), r[j]'(by omega) < a)
    (heq : ∀ t (h : t < m), r[J + t]'(by omega) = a)
    (hgt : ∀ (h : J + m < r.length), a < r[J + m]) :
    ∀ (n I : Nat) (hIn : I + n ≤ l.length), (∀ t (h : t < n), l[I + t]'(Nat.lt_of_lt_of_le (Nat.add_lt_add_left h I) hIn) = a) →
      rest l r I = blockRows I J m n ++ rest l r (I + n) := by
  have hrow : ∀ I, leftRow I (List.range' J m) = blockRow I J m := fun I => by
    cases m with
    | zero => omega
    | succ k => rfl
  intro n
  induction n with
  | zero => intro I _ _; rfl
  | succ n ih =>
    intro I hIn hl
    have h0 : l[I] = a := hl 0 (Nat.succ_pos n)
    rw [rest_unfold l r (I := I) (by omega), h0, matchRows_sorted hr hJm hlt heq hgt, hrow, blockRows, List.append_assoc,
      ih (I + 1) (by omega) fun t h => by simpa only [Nat.add_assoc, Nat.add_comm 1] using hl (t + 1) (by omega),
      Nat.add_assoc, Nat.add_comm 1]

/-! ### rows of the join name existing rows with equal keys -/

theorem matchRows_key {k : Int} : ∀ (r : List Int) (base j : Nat), j ∈ matchRows k r base →
    base ≤ j ∧ r[j - base]? = some k
  | [], _, _, h => by simp [matchRows] at h
  | b :: bs, base, j, h => by
    have tail : j ∈ matchRows k bs (base + 1) → base ≤ j ∧ (b :: bs)[j - base]? = some k := fun h' => by
      obtain ⟨h1, h2⟩ := matchRows_key bs (base + 1) j h'
      rw [← Nat.sub_add_cancel (Nat.le_sub_of_add_le' h1), List.getElem?_cons_succ, Nat.sub_sub]
      exact ⟨Nat.le_of_succ_le h1, h2⟩
    simp only [matchRows] at h
    split at h
    · rename_i hbk
      rcases List.mem_cons.mp h with rfl | h
      · rw [Nat.sub_self]
        exact ⟨Nat.le_refl _, congrArg some (by simpa using hbk)⟩
      · exact tail h
    · exact tail h

theorem matchRows_lt (k : Int) : ∀ (r : List Int) (base j : Nat), j ∈ matchRows k r base → j < base + r.length
  | [], _, _, h => by cases h
  | b :: bs, base, j, h => by
    rw [matchRows] at h
    have ih := matchRows_lt k bs (base + 1) j
    simp only [List.length_cons]
    split at h
    · rcases List.mem_cons.mp h with rfl | h
      · omega
      · have := ih h; omega
    · have := ih h; omega

theorem mem_leftRow {base : Nat} {ms : List Nat} {p : Nat × Option Nat} (h : p ∈ leftRow base ms) :
    p.1 = base ∧ ∀ j, p.2 = some j → j ∈ ms := by
  cases ms with
  | nil => cases List.mem_singleton.mp h; exact ⟨rfl, nofun⟩
  | cons m ms =>
    obtain ⟨j, hj, rfl⟩ := List.mem_map.mp h
    exact ⟨rfl, fun j' h' => by cases h'; exact hj⟩

/-- every row of the relational left join names existing rows -/
theorem leftJoinFrom_bounds (r : List Int) : ∀ (l : List Int) (base : Nat),
    ∀ p ∈ leftJoinFrom r l base, base ≤ p.1 ∧ p.1 < base + l.length ∧ ∀ j, p.2 = some j → j < r.length
  | [], _, p, hp => by cases hp
  | a :: as, base, p, hp => by
    rw [leftJoinFrom, List.mem_append] at hp
    simp only [List.length_cons]
    rcases hp with hp | hp
    · obtain ⟨h1, h2⟩ := mem_leftRow hp
      exact ⟨by omega, by omega, fun j hj => by simpa using matchRows_lt a r 0 j (h2 j hj)⟩
    · have := leftJoinFrom_bounds r as (base + 1) p hp
      exact ⟨by omega, by omega, this.2.2⟩

theorem matchRows_nodup_length {k : Int} : ∀ {r : List Int} {base : Nat}, r.Nodup → (matchRows k r base).length ≤ 1
  | [], _, _ => by simp [matchRows]
  | b :: bs, base, h => by
    have hb := List.nodup_cons.mp h
    simp only [matchRows]
    split
    · rename_i hbk
      have hbk' : b = k := by simpa using hbk
      rw [matchRows_eq_nil (fun x hx hxk => hb.1 (by rw [hbk', ← hxk]; exact hx))]
      simp
    · exact matchRows_nodup_length hb.2

end Exetera.Spec
