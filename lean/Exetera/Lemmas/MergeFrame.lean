import Exetera.Lemmas.MergeSpec
/-! C02, the destination frame as a whole: the validating front end of `merge`, the sequential creation of destination
    fields (`addAll`), and the frame both paths build — two column loops between auxiliary fields of `merge`'s own
    (`frame_of_loops`), of which `orderedMerge_frame` and `unorderedMerge_frame` are the two instances. -/
namespace Exetera.Merge

open Exetera Exetera.Spec Exetera.MapValid

/-- `left_fields_to_map = left.keys() if left_fields is None else left_fields` -/
def leftToMap (i : Input) : List String := i.leftFields.getD (names i.left)
def rightToMap (i : Input) : List String := i.rightFields.getD (names i.right)

/-- the documented naming: a left column keeps its name unless the right side maps a column of the same name -/
def leftName (i : Input) (k : String) : String := if (rightToMap i).contains k then k ++ i.leftSuffix else k
def rightName (i : Input) (k : String) : String := if (leftToMap i).contains k then k ++ i.rightSuffix else k

theorem getCol_of_look {f : Frame} {n : String} {c : Col} (h : look f n = some c) : getCol f n = .ok c := by
  simp [getCol, h]

theorem validateKeyFields_ok (df : Frame) (n : Nat) : ∀ (on : List String),
    (∀ k ∈ on, ∃ c, look df k = some c ∧ c.isIndexed = false ∧ c.len = n) →
    ∃ cs, validateKeyFields df on = .ok cs ∧ cs.length = on.length ∧ ∀ c ∈ cs, c.len = n
  | [], _ => ⟨[], rfl, rfl, by simp⟩
  | k :: ks, h => by
    obtain ⟨c, hc, hi, hl⟩ := h k (by simp)
    obtain ⟨cs, h1, h2, h3⟩ := validateKeyFields_ok df n ks (fun x hx => h x (by simp [hx]))
    refine ⟨c :: cs, ?_, by simp [h2], ?_⟩
    · simp [validateKeyFields, getCol_of_look hc, hi, h1]
    · intro x hx
      rcases List.mem_cons.mp hx with hx | hx
      · subst hx; exact hl
      · exact h3 x hx

theorem addLen_same (n : Nat) : addLen [n] n = [n] := by simp [addLen]

theorem foldl_addLen_same (n : Nat) : ∀ (cs : List Col), (∀ c ∈ cs, c.len = n) →
    cs.foldl (fun s c => addLen s c.len) [n] = [n]
  | [], _ => rfl
  | c :: cs, h => by
    rw [List.foldl_cons, h c List.mem_cons_self, addLen_same]
    exact foldl_addLen_same n cs (fun x hx => h x (List.mem_cons_of_mem _ hx))

theorem validateKeyLengths_ok (cs : List Col) (n : Nat) (hne : cs ≠ []) (h : ∀ c ∈ cs, c.len = n) :
    validateKeyLengths cs = .ok [n] := by
  cases cs with
  | nil => exact absurd rfl hne
  | cons c rest =>
    have h0 : addLen [] n = [n] := by simp [addLen]
    simp only [validateKeyLengths, List.foldl_cons, h c List.mem_cons_self, h0]
    rw [foldl_addLen_same n rest (fun x hx => h x (List.mem_cons_of_mem _ hx))]
    simp

theorem validateFieldLengths_ok (df : Frame) (n : Nat) : ∀ (ns : List String),
    (∀ k ∈ ns, ∃ c, look df k = some c ∧ c.len = n) → validateFieldLengths [n] df ns = .ok [n]
  | [], _ => by simp [validateFieldLengths]
  | k :: ks, h => by
    obtain ⟨c, hc, hl⟩ := h k (by simp)
    simp only [validateFieldLengths, getCol_of_look hc, hl, addLen_same]
    exact validateFieldLengths_ok df n ks (fun x hx => h x (by simp [hx]))

theorem allDistinct_iff : ∀ (l : List String), allDistinct l = true ↔ l.Nodup
  | [] => by simp [allDistinct]
  | x :: xs => by simp [allDistinct, allDistinct_iff xs]

/-- **the front end of `merge`**: arguments of the right shape pass every validator, `left_len` / `right_len` are the
    lengths of the key columns; a clash among the destination names is a `ValueError` before anything is written (fix
    NC02b) — whatever the hints; otherwise the call is handed to `_ordered_merge` exactly when both ordered hints are given,
    the key is single and the mode is left / right / inner -/
theorem merge_front (pandas : String → List Int → List Int → Except Err Pairs) (i : Input) (cs vf fuel : Nat)
    (hhow : supportedModes.contains i.how = true)
    (htup : i.leftTuple = i.rightTuple) (htl : i.leftTuple = true → i.leftOn.length = i.rightOn.length)
    (hlne : i.leftOn ≠ []) (hrne : i.rightOn ≠ [])
    (hlk : ∀ k ∈ i.leftOn, ∃ c, look i.left k = some c ∧ c.isIndexed = false ∧ c.len = i.lk.length)
    (hrk : ∀ k ∈ i.rightOn, ∃ c, look i.right k = some c ∧ c.isIndexed = false ∧ c.len = i.rk.length)
    (hlc : ∀ k ∈ leftToMap i, ∃ c, look i.left k = some c ∧ c.len = i.lk.length)
    (hrc : ∀ k ∈ rightToMap i, ∃ c, look i.right k = some c ∧ c.len = i.rk.length) :
    merge pandas i cs vf fuel =
      if !(allDistinct (allDestNames i (leftToMap i) (rightToMap i))) then
        .error (.valueError "merge would write more than one destination field named …")
      else if isOrdered i then
        orderedMerge i (leftToMap i) (rightToMap i) i.lk.length i.rk.length (i.hintLU.getD false) (i.hintRU.getD false)
          cs vf fuel
      else unorderedMerge pandas i (leftToMap i) (rightToMap i) := by
  obtain ⟨lkf, a1, a2, a3⟩ := validateKeyFields_ok i.left i.lk.length i.leftOn hlk
  obtain ⟨rkf, b1, b2, b3⟩ := validateKeyFields_ok i.right i.rk.length i.rightOn hrk
  have a4 := validateKeyLengths_ok lkf i.lk.length (by intro h; rw [h] at a2; exact hlne (List.length_eq_zero_iff.mp a2.symm)) a3
  have b4 := validateKeyLengths_ok rkf i.rk.length (by intro h; rw [h] at b2; exact hrne (List.length_eq_zero_iff.mp b2.symm)) b3
  have a5 := validateFieldLengths_ok i.left i.lk.length (leftToMap i) hlc
  have b5 := validateFieldLengths_ok i.right i.rk.length (rightToMap i) hrc
  have hkc : validateKeyConsistency i.leftTuple i.rightTuple i.leftOn i.rightOn = .ok () := by
    simp only [validateKeyConsistency, htup, bne_self_eq_false, Bool.false_eq_true, if_false]
    cases ht : i.rightTuple with
    | false => simp
    | true =>
      have := htl (by rw [htup, ht])
      simp [this]
  simp only [leftToMap, rightToMap] at a5 b5
  simp only [merge, hhow, Bool.not_true, Bool.false_eq_true, if_false, hkc, a1, b1, a4, b4, a5, b5, List.head?_cons,
    leftToMap, rightToMap]
  rfl

def okCols (cols : List (String × Col)) : List (String × Except Err Col) := cols.map (fun e => (e.1, Except.ok e.2))

theorem okCols_nil : okCols [] = [] := rfl

/-- **`addAll` succeeds and appends exactly the listed columns** when every listed column was produced without error
    and the names (those already in the destination and the new ones) are pairwise distinct -/
theorem addAll_ok : ∀ (cols : List (String × Col)) (d : Frame), (names d ++ names cols).Nodup →
    addAll (okCols cols) d = .ok (d ++ cols)
  | [], d, _ => by simp [okCols, addAll]
  | (n, c) :: rest, d, h => by
    have hn : ¬ n ∈ names d := fun hmem => (List.nodup_append.mp h).2.2 n hmem n (by simp [names]) rfl
    have hany : d.any (fun e => e.1 == n) = false := by
      rw [Bool.eq_false_iff]
      intro hc
      obtain ⟨e, he, hen⟩ := List.any_eq_true.mp hc
      exact hn (List.mem_map.mpr ⟨e, he, by simpa using hen⟩)
    have hrest : (names (d ++ [(n, c)]) ++ names rest).Nodup := by
      rw [names, List.map_append, List.append_assoc]
      exact h
    simp only [okCols, List.map_cons, addAll, hany, Bool.false_eq_true, if_false]
    rw [← okCols, addAll_ok rest (d ++ [(n, c)]) hrest, List.append_assoc]
    rfl

theorem look_mem {f : Frame} {n : String} {c : Col} (h : look f n = some c) : (n, c) ∈ f := by
  simp only [look, Option.map_eq_some_iff] at h
  obtain ⟨e, he, rfl⟩ := h
  have hm := List.mem_of_find?_eq_some he
  have hn := List.find?_some he
  have : e.1 = n := by simpa using hn
  rw [← this]; exact hm

theorem look_of_mem : ∀ {f : Frame} {n : String} {c : Col}, (names f).Nodup → (n, c) ∈ f → look f n = some c
  | [], _, _, _, h => by simp at h
  | (m, d) :: rest, n, c, hnd, h => by
    have hnd' : ¬ m ∈ rest.map (·.1) ∧ (rest.map (·.1)).Nodup := List.nodup_cons.mp hnd
    rcases List.mem_cons.mp h with h | h
    · cases h
      simp [look, List.find?]
    · have hne : m ≠ n := by
        intro hmn
        apply hnd'.1
        rw [hmn]
        exact List.mem_map.mpr ⟨(n, c), h, rfl⟩
      have := look_of_mem (f := rest) hnd'.2 h
      simp only [look, List.find?] at this ⊢
      have hb : (m == n) = false := by simpa using hne
      simp only [hb]
      exact this

theorem destName_left (k : String) (ltm rtm : List String) (ls rs : String) :
    destName "left" k ltm rtm ls rs = .ok (if rtm.contains k then k ++ ls else k) := by
  simp [destName, Gen.MergeDispatch.extracted, Gen.MergeDispatch.suffixRule]
theorem destName_right (k : String) (ltm rtm : List String) (ls rs : String) :
    destName "right" k ltm rtm ls rs = .ok (if ltm.contains k then k ++ rs else k) := by
  simp [destName, Gen.MergeDispatch.extracted, Gen.MergeDispatch.suffixRule]

/-- what a column loop lists for one field: its destination name, and the mapped column if the field exists -/
def loopEntry (src : Frame) (f : Col → Except Err Col) (name : String → String) (k : String) : String × Except Err Col :=
  (name k, match getCol src k with | .ok c => f c | .error e => .error e)

theorem loopCols_eq {side : String} {ltm rtm : List String} {ls rs : String} {name : String → String}
    (h : ∀ k, destName side k ltm rtm ls rs = .ok (name k)) (src : Frame) (toMap : List String) (f : Col → Except Err Col) :
    loopCols side src toMap ltm rtm ls rs f = toMap.map (loopEntry src f name) := by
  simp only [loopCols, h]
  rfl

theorem loop_good {src : Frame} {f : Col → Except Err Col} {sel : List (Option Nat)} (name : String → String) :
    ∀ (keys : List String), (∀ k ∈ keys, ∃ c out, look src k = some c ∧ f c = .ok out ∧ selectCol c sel = some out) →
      ∃ cols : List (String × Col), keys.map (loopEntry src f name) = okCols cols ∧ names cols = keys.map name ∧
        (∀ e ∈ cols, e.2.len = sel.length) ∧
        ∀ k ∈ keys, ∀ c, look src k = some c → ∃ out, (name k, out) ∈ cols ∧ selectCol c sel = some out
  | [], _ => ⟨[], rfl, rfl, nofun, nofun⟩
  | k :: ks, h => by
    obtain ⟨c, out, h1, h2, h3⟩ := h k List.mem_cons_self
    obtain ⟨cols, g1, g2, g3, g4⟩ := loop_good name ks (fun x hx => h x (List.mem_cons_of_mem _ hx))
    refine ⟨(name k, out) :: cols, ?_, by simp [names, ← g2], ?_, ?_⟩
    · simp only [List.map_cons, okCols, loopEntry, getCol_of_look h1, h2]
      exact congrArg _ g1
    · intro e he
      rcases List.mem_cons.mp he with rfl | he
      · exact selectCol_len h3
      · exact g3 e he
    · intro x hx c' hc'
      rcases List.mem_cons.mp hx with rfl | hx
      · rw [h1] at hc'
        cases hc'
        exact ⟨out, List.mem_cons_self, h3⟩
      · obtain ⟨o, ho, hs⟩ := g4 x hx c' hc'
        exact ⟨o, List.mem_cons_of_mem _ ho, hs⟩

/-- `dest` holds, under the name `name k`, the rows `sel` of every field `k ∈ keys` of `src` -/
def HoldsRows (src : Frame) (keys : List String) (name : String → String) (sel : List (Option Nat)) (dest : Frame) : Prop :=
  ∀ k ∈ keys, ∀ c, look src k = some c → ∃ out, look dest (name k) = some out ∧ selectCol c sel = some out

/-- **the frame both paths of `merge` build**: two column loops, each over fields that exist and map without error to
    the rows its selection names, with auxiliary fields of `N` rows before, between and after them, all added to the
    empty destination. If the auxiliary names are among `aux` and `aux` and the destination names of the two loops are
    pairwise distinct, the destination exists, holds the selected rows of every mapped field under its name, all its
    columns have `N` rows, and it has no column besides these. -/
theorem frame_of_loops {src₁ src₂ : Frame} {f₁ f₂ : Col → Except Err Col} {sel₁ sel₂ : List (Option Nat)} {N : Nat}
    (name₁ name₂ : String → String) (keys₁ keys₂ : List String) (pre mid post : List (String × Col)) (aux : List String)
    (h₁ : ∀ k ∈ keys₁, ∃ c out, look src₁ k = some c ∧ f₁ c = .ok out ∧ selectCol c sel₁ = some out)
    (h₂ : ∀ k ∈ keys₂, ∃ c out, look src₂ k = some c ∧ f₂ c = .ok out ∧ selectCol c sel₂ = some out)
    (hn₁ : sel₁.length = N) (hn₂ : sel₂.length = N)
    (hlen : ∀ e ∈ pre ++ mid ++ post, e.2.len = N) (hsub : (names (pre ++ mid ++ post)).Sublist aux)
    (hnd : (aux ++ keys₁.map name₁ ++ keys₂.map name₂).Nodup) :
    ∃ dest, addAll (okCols pre ++ keys₁.map (loopEntry src₁ f₁ name₁) ++ okCols mid ++ keys₂.map (loopEntry src₂ f₂ name₂)
        ++ okCols post) [] = .ok dest ∧
      HoldsRows src₁ keys₁ name₁ sel₁ dest ∧ HoldsRows src₂ keys₂ name₂ sel₂ dest ∧
      (∀ n c, look dest n = some c → c.len = N) ∧
      (∀ n ∈ names dest, n ∈ aux ∨ n ∈ keys₁.map name₁ ∨ n ∈ keys₂.map name₂) := by
  obtain ⟨L, l1, l2, l3, l4⟩ := loop_good name₁ keys₁ h₁
  obtain ⟨R, r1, r2, r3, r4⟩ := loop_good name₂ keys₂ h₂
  have hnames : names (pre ++ L ++ mid ++ R ++ post)
      = names pre ++ keys₁.map name₁ ++ names mid ++ keys₂.map name₂ ++ names post := by
    rw [← l2, ← r2]; simp only [names, List.map_append]
  -- the destination lists the names in creation order, `hnd` lists the auxiliary ones first
  have hnd' : (names (pre ++ L ++ mid ++ R ++ post)).Nodup := by
    refine (List.Nodup.sublist ((hsub.append (List.Sublist.refl _)).append (List.Sublist.refl _)) hnd).perm ?_
    rw [hnames]
    simp only [names, List.map_append]
    exact List.perm_iff_count.mpr (fun a => by simp only [List.count_append]; omega)
  refine ⟨pre ++ L ++ mid ++ R ++ post, ?_, ?_, ?_, ?_, ?_⟩
  · rw [l1, r1]
    simp only [okCols, ← List.map_append]
    exact addAll_ok _ [] hnd'
  · intro k hk c hc
    obtain ⟨out, hm, hs⟩ := l4 k hk c hc
    exact ⟨out, look_of_mem hnd' (List.mem_append_left _ (List.mem_append_left _ (List.mem_append_left _
      (List.mem_append_right _ hm)))), hs⟩
  · intro k hk c hc
    obtain ⟨out, hm, hs⟩ := r4 k hk c hc
    exact ⟨out, look_of_mem hnd' (List.mem_append_left _ (List.mem_append_right _ hm)), hs⟩
  · have : ∀ e ∈ pre ++ L ++ mid ++ R ++ post, e.2.len = N := by
      simp only [List.forall_mem_append] at hlen ⊢
      exact ⟨⟨⟨⟨hlen.1.1, fun e he => (l3 e he).trans hn₁⟩, hlen.1.2⟩, fun e he => (r3 e he).trans hn₂⟩, hlen.2⟩
    exact fun n c hl => this _ (look_mem hl)
  · have hs : ∀ n ∈ names pre ++ names mid ++ names post, n ∈ aux := fun n h =>
      hsub.subset (by simpa only [names, List.map_append] using h)
    rw [hnames]
    simp only [List.forall_mem_append] at hs ⊢
    exact ⟨⟨⟨⟨fun n h => Or.inl (hs.1.1 n h), fun n h => Or.inr (Or.inl h)⟩, fun n h => Or.inl (hs.1.2 n h)⟩,
      fun n h => Or.inr (Or.inr h)⟩, fun n h => Or.inl (hs.2 n h)⟩

/-- the map fields `_ordered_merge` leaves in the destination -/
def mapFields (leftMap rightMap : Option (List Int)) : List (String × Col) :=
  (leftMap.map (fun m => ("_left_map", intCol m))).toList ++ (rightMap.map (fun m => ("_right_map", intCol m))).toList

theorem okCols_mapFields (lm rm : Option (List Int)) : okCols (mapFields lm rm) =
    (match lm with | some m => [("_left_map", Except.ok (intCol m))] | none => []) ++
    (match rm with | some m => [("_right_map", Except.ok (intCol m))] | none => []) := by
  cases lm <;> cases rm <;> rfl

theorem mapFields_len {lm rm : Option (List Int)} {N : Nat} (hl : ∀ m, lm = some m → m.length = N)
    (hr : ∀ m, rm = some m → m.length = N) : ∀ e ∈ mapFields lm rm, e.2.len = N := by
  intro e he
  rcases List.mem_append.mp he with he | he
  · obtain ⟨m, hm, rfl⟩ := Option.map_eq_some_iff.mp (Option.mem_toList.mp he)
    exact (intCol_len m).trans (hl m hm)
  · obtain ⟨m, hm, rfl⟩ := Option.map_eq_some_iff.mp (Option.mem_toList.mp he)
    exact (intCol_len m).trans (hr m hm)

theorem mapFields_names (lm rm : Option (List Int)) : (names (mapFields lm rm)).Sublist ["_left_map", "_right_map"] := by
  cases lm <;> cases rm <;> simp [mapFields, names]

/-- **the destination frame of `_ordered_merge`**, given what the dispatch, the generator and every column mapping
    produce (supplied by the C02 theorems): it exists, holds under the documented names the selected rows of every
    mapped column, all its columns (the map fields included) have the same number of rows, and it has no other columns.
    `aux` is any list of reserved names that has the two map fields among it. -/
theorem orderedMerge_frame (i : Input) (ll rl : Nat) (lu ru : Bool) (cs vf fuel : Nat) (inv : Int) (p : Plan)
    (o : Join.Out) (lmap rmap : Option (List Int)) (lsel rsel : List (Option Nat)) (N : Nat) (aux : List String)
    (hhow : ["left", "right", "inner"].contains i.how = true)
    (hs : sentinel lu ru ll rl = .ok inv) (hp : plan i.how lu ru = .ok p)
    (ho : Join.streamed p.variant fuel cs inv (if p.aLeft then i.lk else i.rk) (if p.aLeft then i.rk else i.lk) = .ok o)
    (hlmap : p.leftMap.map (fun isL => if isL then o.lout else o.rout) = lmap)
    (hrmap : p.rightMap.map (fun isL => if isL then o.lout else o.rout) = rmap)
    (hlm : ∀ m, lmap = some m → m.length = N) (hrm : ∀ m, rmap = some m → m.length = N)
    (hln : lsel.length = N) (hrn : rsel.length = N)
    (hL : ∀ k ∈ leftToMap i, ∃ c out, look i.left k = some c ∧ mapColumn "left" c lmap inv cs vf = .ok out ∧
      selectCol c lsel = some out)
    (hR : ∀ k ∈ rightToMap i, ∃ c out, look i.right k = some c ∧ mapColumn "right" c rmap inv cs vf = .ok out ∧
      selectCol c rsel = some out)
    (haux : ["_left_map", "_right_map"].Sublist aux)
    (hnd : (aux ++ (leftToMap i).map (leftName i) ++ (rightToMap i).map (rightName i)).Nodup) :
    ∃ dest, orderedMerge i (leftToMap i) (rightToMap i) ll rl lu ru cs vf fuel = .ok dest ∧
      HoldsRows i.left (leftToMap i) (leftName i) lsel dest ∧ HoldsRows i.right (rightToMap i) (rightName i) rsel dest ∧
      (∀ n c, look dest n = some c → c.len = N) ∧
      (∀ n ∈ names dest, n ∈ aux ∨ n ∈ (leftToMap i).map (leftName i) ∨ n ∈ (rightToMap i).map (rightName i)) := by
  obtain ⟨dest, hd, hrest⟩ := frame_of_loops (leftName i) (rightName i) _ _ (mapFields lmap rmap) [] [] aux hL hR hln hrn
    (by simpa using mapFields_len hlm hrm) (by simpa using (mapFields_names lmap rmap).trans haux) hnd
  refine ⟨dest, ?_, hrest⟩
  simp only [okCols_mapFields, okCols_nil, List.append_nil] at hd
  simp only [orderedMerge, hhow, Bool.not_true, Bool.false_eq_true, if_false, hs, hp, ho, hlmap, hrmap,
    loopCols_eq (name := leftName i) (destName_left · _ _ _ _), loopCols_eq (name := rightName i) (destName_right · _ _ _ _)]
  exact hd

/-- the validity flag `_unordered_merge` writes for a side: only when some row of that side is missing (irreducible: used
    through the three lemmas below; applying `frame_of_loops` otherwise unfolds the `if` and takes a second to unify) -/
@[irreducible] def validField (suffix : String) (sel : List (Option Nat)) : List (String × Col) :=
  if (filtOf sel).all id then [] else [("valid" ++ suffix, boolCol (filtOf sel))]

theorem okCols_validField (suffix : String) (sel : List (Option Nat)) : okCols (validField suffix sel) =
    if (filtOf sel).all id then [] else [("valid" ++ suffix, Except.ok (boolCol (filtOf sel)))] := by
  unfold validField; split <;> rfl

theorem validField_len (suffix : String) (sel : List (Option Nat)) : ∀ e ∈ validField suffix sel, e.2.len = sel.length := by
  intro e he
  unfold validField at he
  split at he
  · cases he
  · cases List.mem_singleton.mp he
    simp [boolCol_len, filtOf]

theorem validField_names (suffix : String) (sel : List (Option Nat)) :
    (names (validField suffix sel)).Sublist ["valid" ++ suffix] := by
  unfold validField; split <;> simp [names]

/-- **the destination frame of `_unordered_merge`** for the row pairs `pandas.merge` returns, when every pair names existing
    rows: every mapped column is the selected rows of its source under the documented name, `valid_l` / `valid_r` and all
    other columns have one row per pair, there are no other columns -/
theorem unorderedMerge_frame (pandas : String → List Int → List Int → Except Err Pairs) (i : Input) (pairs : Pairs)
    (aux : List String) (hpd : pandas i.how i.lk i.rk = .ok pairs)
    (hsel : ∀ p ∈ pairs, (∀ x, p.1 = some x → x < i.lk.length) ∧ (∀ y, p.2 = some y → y < i.rk.length))
    (hL : ∀ k ∈ leftToMap i, ∃ c, look i.left k = some c ∧ ColWF c i.lk.length)
    (hR : ∀ k ∈ rightToMap i, ∃ c, look i.right k = some c ∧ ColWF c i.rk.length)
    (haux : ["valid" ++ i.leftSuffix, "valid" ++ i.rightSuffix].Sublist aux)
    (hnd : (aux ++ (leftToMap i).map (leftName i) ++ (rightToMap i).map (rightName i)).Nodup) :
    ∃ dest, unorderedMerge pandas i (leftToMap i) (rightToMap i) = .ok dest ∧
      HoldsRows i.left (leftToMap i) (leftName i) (pairs.map (·.1)) dest ∧
      HoldsRows i.right (rightToMap i) (rightName i) (pairs.map (·.2)) dest ∧
      (∀ n c, look dest n = some c → c.len = pairs.length) ∧
      (∀ n ∈ names dest, n ∈ aux ∨ n ∈ (leftToMap i).map (leftName i) ∨ n ∈ (rightToMap i).map (rightName i)) := by
  have hcol {src : Frame} {n : Nat} {sel : List (Option Nat)} (hsel : ∀ x, some x ∈ sel → x < n) {keys : List String}
      (h : ∀ k ∈ keys, ∃ c, look src k = some c ∧ ColWF c n) :
      ∀ k ∈ keys, ∃ c out, look src k = some c ∧ safeMapColumn c sel = .ok out ∧ selectCol c sel = some out := by
    intro k hk
    obtain ⟨c, h1, h2⟩ := h k hk
    obtain ⟨out, g1, g2⟩ := safeMapColumn_spec c n sel h2 hsel
    exact ⟨c, out, h1, g1, g2⟩
  have hsub : (names ([] ++ validField i.leftSuffix (pairs.map (·.1)) ++ validField i.rightSuffix (pairs.map (·.2)))).Sublist aux := by
    have := ((validField_names i.leftSuffix (pairs.map (·.1))).append
      (validField_names i.rightSuffix (pairs.map (·.2)))).trans haux
    simpa [names] using this
  obtain ⟨dest, hd, hrest⟩ := frame_of_loops (leftName i) (rightName i) _ _ [] _ _ aux
    (hcol (fun x hx => by obtain ⟨p, hp, e⟩ := List.mem_map.mp hx; exact (hsel p hp).1 x e) hL)
    (hcol (fun x hx => by obtain ⟨p, hp, e⟩ := List.mem_map.mp hx; exact (hsel p hp).2 x e) hR)
    (List.length_map _) (List.length_map _)
    (fun e he => (List.mem_append.mp he).elim (fun h => (validField_len _ _ e h).trans (List.length_map _))
      (fun h => (validField_len _ _ e h).trans (List.length_map _)))
    hsub hnd
  refine ⟨dest, ?_, hrest⟩
  simp only [okCols_validField, okCols_nil, List.nil_append] at hd
  simp only [unorderedMerge, hpd]
  exact hd

end Exetera.Merge
