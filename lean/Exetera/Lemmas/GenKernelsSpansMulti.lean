import Exetera.Gen.Kernels
import Exetera.Lemmas.GenKernels
import Exetera.Lemmas.GenKernelsSpans
import Exetera.Lemmas.GenKernelsSpans2Fields
/-!
  The TRANSLATED `_get_spans_for_multi_fields_njit` (2-D argument passed as the list of its rows; `for f_d in fields_data` with
  `break`; early `return spans[:1]`; stores into the caller-supplied `spans` buffer) refines the hand model
  `getSpansForMultiFieldsNjit .repaired` / `scanMulti` / `rowNe` of `Model/Spans.lean`, for every list of columns and EVERY buffer.
  The scan itself is `scan_follows` of GenKernelsSpans2Fields, with `rowNe` as the row test.
-/
namespace Exetera.GenK

open Exetera Exetera.PyRt Exetera.Spans Exetera.Gen.Kernels

theorem scanMulti_succ (fs : List (List Int)) (n cap k i count : Nat) :
    scanMulti fs n cap (k + 1) i count = bindE (scanStep (rowNe i fs) cap count) fun d =>
      if d then consE i (scanMulti fs n cap k (i + 1) (count + 1)) else scanMulti fs n cap k (i + 1) count := by
  rw [scanMulti, scanStep]
  cases rowNe i fs with
  | error e => rfl
  | ok d =>
    cases d with
    | false => rfl
    | true => dsimp only [bindE_ok, if_true]; split <;> rfl

theorem rowNe_cons (i : Nat) (f : List Int) (fs : List (List Int)) :
    rowNe i (f :: fs) = bindE (bindE (getE f i "f_d[i]") fun x => bindE (getE f (i - 1) "f_d[i - 1]") fun x' => .ok (x != x'))
      fun d => if d then .ok true else rowNe i fs := by
  rw [rowNe]
  cases getE f i "f_d[i]" with
  | error e => cases getE f (i - 1) "f_d[i - 1]" <;> rfl
  | ok x => cases getE f (i - 1) "f_d[i - 1]" <;> rfl

namespace GMF

abbrev St := _get_spans_for_multi_fields_njit.St

theorem body2_follows (i : Nat) (hi : 1 ≤ i) (f : List Int) :
    ∀ s : St, s.v2 = (i : Int) →
      Follows (fun s' d => s' = if d then { s with v3 := true, brk2 := true, v4 := f } else { s with v4 := f })
        (_get_spans_for_multi_fields_njit.body_L2 { s with v4 := f })
        (bindE (getE f i "f_d[i]") fun x => bindE (getE f (i - 1) "f_d[i - 1]") fun x' => .ok (x != x')) := by
  rintro ⟨⟩ rfl
  have hi1 : (i : Int) - 1 = ((i - 1 : Nat) : Int) := by omega
  simp only [_get_spans_for_multi_fields_njit.body_L2, idxE_nat, hi1]
  refine Follows.getE _ _ _ _ fun x _ => ?_
  refine Follows.getE _ _ _ _ fun x' _ => ?_
  split <;> exact .ok rfl (by simp only [*, if_true, Bool.false_eq_true, if_false])

/-- `for f_d in fields_data: if f_d[i] != f_d[i - 1]: not_equal = True; break` against `rowNe`: the flag `not_equal` ends up
    set exactly when a column differs; `w4` is the loop variable `f_d` -/
theorem rowNe_follows (i : Nat) (hi : 1 ≤ i) :
    ∀ (fs : List (List Int)) (s : St), s.v2 = (i : Int) → s.brk2 = false →
      Follows (fun s' b => ∃ w4, s' = { s with v3 := (s.v3 || b), brk2 := b, v4 := w4 })
        (forEachAux (fun s => s.brk2) (fun k s => _get_spans_for_multi_fields_njit.body_L2 { s with v4 := k }) fs s)
        (rowNe i fs) := by
  intro fs
  induction fs with
  | nil =>
    rintro ⟨⟩ _ rfl
    exact .ok rfl ⟨_, by rw [Bool.or_false]⟩
  | cons f fs ih =>
    rintro ⟨⟩ rfl rfl
    rw [rowNe_cons, forEachAux_cons]
    refine (body2_follows i hi f _ rfl).bind fun s' d hs' => ?_
    subst hs'
    cases d with
    | true => exact .ok rfl ⟨f, by rw [Bool.or_true]; rfl⟩
    | false => exact (ih _ rfl rfl).mono fun s'' b ⟨w, h⟩ => ⟨w, h⟩

/-- what follows the loop: `spans[count + 1] = length; return spans[:count + 2]` -/
def fin (s : St) : Except Err (List Int × List Int) :=
  bindE (setIdxE s.p1 (s.v0 + 1) s.v1 "p1[v0 + 1]") fun t6 =>
  let s := { s with p1 := t6 }
  .ok ((pySlice s.p1 none (some (s.v0 + 2))), s.p1)

def R (fs : List (List Int)) (n : Nat) (s : St) (c : Nat) (buf : List Int) : Prop :=
  s.p0 = fs ∧ s.p1 = buf ∧ s.v0 = (c : Int) ∧ s.v1 = (n : Int) ∧ s.brk2 = false

theorem body_follows (fs : List (List Int)) (n cap : Nat) :
    ∀ (i c : Nat) (buf : List Int) (s : St), 1 ≤ i → R fs n s c buf → buf.length = cap →
      Follows (fun s' d => if d then c + 1 < cap ∧ R fs n s' (c + 1) (buf.set (c + 1) i) else R fs n s' c buf)
        (_get_spans_for_multi_fields_njit.body_L1 { s with v2 := (i : Int) }) (scanStep (rowNe i fs) cap c) := by
  rintro i c _ ⟨fs, buf, _, _, _, _, _, _⟩ hi ⟨rfl, rfl, rfl, rfl, rfl⟩ rfl
  simp only [_get_spans_for_multi_fields_njit.body_L1, forEachB, bindE_assoc, bindE_ok, scanStep]
  refine (rowNe_follows i hi fs _ rfl rfl).bind fun s' d ⟨w4, hs'⟩ => ?_
  subst hs'
  cases d with
  | false => exact .ok rfl ⟨rfl, rfl, rfl, rfl, rfl⟩
  | true =>
    simp only [Bool.or_true, if_true, setIdxE_nat_succ, setE]
    split
    · exact .ok rfl ⟨‹_›, rfl, rfl, rfl, rfl, rfl⟩
    · exact .error rfl rfl

theorem fin_follows (fs : List (List Int)) (n cap : Nat) :
    ∀ (c : Nat) (buf : List Int) (s : St), R fs n s c buf → buf.length = cap →
      Follows (fun out (_ : Unit) => out.1 = buf.take (c + 1) ++ [(n : Int)]) (fin s)
        (if c + 1 < cap then .ok () else .error (.oob "spans[count + 1]")) := by
  rintro c _ ⟨fs, buf, _, _, _, _, _, _⟩ ⟨rfl, rfl, rfl, rfl, rfl⟩ rfl
  simp only [fin, setIdxE_nat_succ, setE]
  split
  · refine .ok rfl ?_
    show pySlice _ none (some ((c + 1 + 1 : Nat) : Int)) = _
    rw [pySlice_take, take_succ_set _ _ _ ‹_›]
  · exact .error rfl rfl

end GMF

theorem get_spans_for_multi_fields_njit_refines (fs : List (List Int)) (buf : List Int) :
    Sim ((_get_spans_for_multi_fields_njit.run fs buf).map Prod.fst)
      ((getSpansForMultiFieldsNjit .repaired fs buf.length).map ints) := by
  unfold _get_spans_for_multi_fields_njit.run getSpansForMultiFieldsNjit
  cases fs with
  | nil => exact rfl
  | cons f0 ft =>
    cases buf with
    | nil => exact rfl
    | cons b0 bt =>
      cases f0 with
      | nil => exact rfl
      | cons x0 xt =>
        have h := scan_follows (GMF.R ((x0 :: xt) :: ft) (xt.length + 1))
          (fun k s => _get_spans_for_multi_fields_njit.body_L1 { s with v2 := k }) GMF.fin
          (fun i => rowNe i ((x0 :: xt) :: ft)) (scanMulti ((x0 :: xt) :: ft) (xt.length + 1) (bt.length + 1)) (xt.length + 1)
          (bt.length + 1) (fun _ _ => rfl) (scanMulti_succ _ _ _) (GMF.body_follows _ _ _) (GMF.fin_follows _ _ _) xt.length 1 0
          (0 :: bt)
          { p0 := (x0 :: xt) :: ft, p1 := 0 :: bt, v0 := 0, v1 := ((xt.length + 1 : Nat) : Int), v2 := 0, v3 := false, v4 := [],
            brk2 := false }
          (Nat.le_refl 1) ⟨rfl, rfl, rfl, rfl, rfl⟩ rfl
        revert h
        show Follows _ _ _ → Sim (Except.map Prod.fst (bindE (forRangeAux _ _ (((xt.length + 1 : Nat) : Int) - 1).toNat 1 _) GMF.fin))
          (Except.map ints (consE 0 (scanMulti ((x0 :: xt) :: ft) (xt.length + 1) (bt.length + 1) xt.length 1 0)))
        rw [toNat_natCast_sub_one]
        cases scanMulti ((x0 :: xt) :: ft) (xt.length + 1) (bt.length + 1) xt.length 1 0 with
        | error e => rintro ⟨e', he, ht⟩; erw [he]; exact ht
        | ok vs => rintro ⟨out, ho, hout⟩; erw [ho]; exact hout

end Exetera.GenK
