import Exetera.Gen.Kernels
import Exetera.Lemmas.GenKernels
import Exetera.Lemmas.GenKernelsSpans
/-!
  The TRANSLATED `apply_spans_max` / `apply_spans_min` (nested loops: the span loop and the running-extremum loop) refine
  the hand-written models `Spans.applySpansMax` / `Spans.applySpansMin`.
-/
namespace Exetera.GenK

open Exetera Exetera.PyRt Exetera.Spans Exetera.Gen.Kernels

theorem spanMax_eq (src : List Int) (cur next : Nat) :
    spanMax src cur next = bindE (getE src cur "src_array[cur]") fun v =>
      if next == cur + 1 then .ok v else maxLoop src (next - (cur + 1)) (cur + 1) v := by
  rw [spanMax]; cases getE src cur "src_array[cur]" <;> rfl

theorem spanMin_eq (src : List Int) (cur next : Nat) :
    spanMin src cur next = bindE (getE src cur "src_array[cur]") fun v =>
      if next == cur + 1 then .ok v else minLoop src (next - (cur + 1)) (cur + 1) v := by
  rw [spanMin]; cases getE src cur "src_array[cur]" <;> rfl

theorem apply_spans_max_refines (sp : List Nat) (src : List Int) :
    Sim (apply_spans_max.run (ints sp) src none) (applySpansMax sp src) :=
  forSpans_sim sp (spanMax src) (fun k s => apply_spans_max.body_L1 { s with v0 := k })
    (fun d => { p0 := ints sp, p1 := src, p2 := d, v0 := 0, v1 := 0, v2 := 0, v3 := 0, v4 := 0 }) (·.p2)
    (fun d s => s.p0 = ints sp ∧ s.p1 = src ∧ s.p2 = d)
    (by
      rintro k cur next _ ⟨_, src, dest, _, _, _, _, _⟩ hc hn ⟨rfl, rfl, rfl⟩ hk
      simp only [apply_spans_max.body_L1, idxE_ints_succ _ hn, idxE_ints _ hc, bindE_ok, sub_beq_one, spanMax_eq, idxE_nat]
      split
      · exact Follows.getE _ _ _ _ fun v _ => by rw [setIdxE_of_lt _ _ hk]; exact .ok rfl ⟨rfl, rfl, rfl⟩
      · refine Follows.getE _ _ _ _ fun v _ => ?_
        rw [forRangeE_succ_nat]
        -- the inner loop keeps everything but the running maximum `v3` (and its own counter)
        refine (forRange_follows
          (fun (s : apply_spans_max.St) m => s.p0 = ints sp ∧ s.p1 = src ∧ s.p2 = dest ∧ s.v0 = k ∧ s.v3 = m) _
          (maxLoop src) (fun i m => bindE (getE src i "src_array[idx]") fun v => .ok (if v > m then v else m)) id
          (fun _ _ => rfl) (fun n i m => by rw [maxLoop]; cases getE src i "src_array[idx]" <;> rfl)
          ?_ _ _ _ v (by exact ⟨rfl, rfl, rfl, rfl, rfl⟩)).bind_ok ?_
        · rintro i ⟨_, _, _, _, _, _, m, _⟩ _ ⟨rfl, rfl, rfl, rfl, rfl⟩
          simp only [apply_spans_max.body_L2, idxE_nat, decide_eq_true_eq]
          refine Follows.getE _ _ _ _ fun x hx => ?_
          split
          · rw [getE_eq_ok.mpr hx]; exact .ok rfl ⟨rfl, rfl, rfl, rfl, rfl⟩
          · exact .ok rfl ⟨rfl, rfl, rfl, rfl, rfl⟩
        · rintro ⟨⟩ _ ⟨m, ⟨rfl, rfl, rfl, rfl, rfl⟩, rfl⟩
          simp only [setIdxE_of_lt _ _ hk, bindE_ok]
          exact .ok rfl ⟨rfl, rfl, rfl⟩)
    (fun _ => ⟨rfl, rfl, rfl⟩) (fun _ _ h => h.2.2)

theorem apply_spans_min_refines (sp : List Nat) (src : List Int) :
    Sim (apply_spans_min.run (ints sp) src none) (applySpansMin sp src) :=
  forSpans_sim sp (spanMin src) (fun k s => apply_spans_min.body_L1 { s with v0 := k })
    (fun d => { p0 := ints sp, p1 := src, p2 := d, v0 := 0, v1 := 0, v2 := 0, v3 := 0, v4 := 0 }) (·.p2)
    (fun d s => s.p0 = ints sp ∧ s.p1 = src ∧ s.p2 = d)
    (by
      rintro k cur next _ ⟨_, src, dest, _, _, _, _, _⟩ hc hn ⟨rfl, rfl, rfl⟩ hk
      simp only [apply_spans_min.body_L1, idxE_ints_succ _ hn, idxE_ints _ hc, bindE_ok, sub_beq_one, spanMin_eq, idxE_nat]
      split
      · exact Follows.getE _ _ _ _ fun v _ => by rw [setIdxE_of_lt _ _ hk]; exact .ok rfl ⟨rfl, rfl, rfl⟩
      · refine Follows.getE _ _ _ _ fun v _ => ?_
        rw [forRangeE_succ_nat]
        refine (forRange_follows
          (fun (s : apply_spans_min.St) m => s.p0 = ints sp ∧ s.p1 = src ∧ s.p2 = dest ∧ s.v0 = k ∧ s.v3 = m) _
          (minLoop src) (fun i m => bindE (getE src i "src_array[idx]") fun v => .ok (if v < m then v else m)) id
          (fun _ _ => rfl) (fun n i m => by rw [minLoop]; cases getE src i "src_array[idx]" <;> rfl)
          ?_ _ _ _ v (by exact ⟨rfl, rfl, rfl, rfl, rfl⟩)).bind_ok ?_
        · rintro i ⟨_, _, _, _, _, _, m, _⟩ _ ⟨rfl, rfl, rfl, rfl, rfl⟩
          simp only [apply_spans_min.body_L2, idxE_nat, decide_eq_true_eq]
          refine Follows.getE _ _ _ _ fun x hx => ?_
          split
          · rw [getE_eq_ok.mpr hx]; exact .ok rfl ⟨rfl, rfl, rfl, rfl, rfl⟩
          · exact .ok rfl ⟨rfl, rfl, rfl, rfl, rfl⟩
        · rintro ⟨⟩ _ ⟨m, ⟨rfl, rfl, rfl, rfl, rfl⟩, rfl⟩
          simp only [setIdxE_of_lt _ _ hk, bindE_ok]
          exact .ok rfl ⟨rfl, rfl, rfl⟩)
    (fun _ => ⟨rfl, rfl, rfl⟩) (fun _ _ h => h.2.2)

end Exetera.GenK
