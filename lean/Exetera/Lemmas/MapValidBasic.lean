import Exetera.Model.MapValid
import Exetera.Spec.MapValid
import Exetera.Lemmas.While
/-! Loop rules for `forE` and for `foldE` over the pieces of a tiling (also with an admitted error outcome), tilings of a
    range by consecutive pieces, the sub-chunk splitter `get_map_subchunks_based_on_index_lengths` (its pieces tile the map
    chunk; inside a piece the valid entries are non-decreasing and span less than the chunk size, whatever the map) and
    `get_valid_value_extents`. -/
namespace Exetera.MapValid

open Exetera

theorem exists_getElem? {α} (l : List α) {i : Nat} (h : i < l.length) : ∃ x, l[i]? = some x :=
  ⟨l[i], List.getElem?_eq_getElem h⟩

theorem forE_rule {σ} (body : Nat → σ → Except Err σ) (Inv : Nat → σ → Prop) :
    ∀ (n i0 : Nat) (s0 : σ), Inv i0 s0 →
      (∀ i s, i0 ≤ i → i < i0 + n → Inv i s → ∃ s', body i s = .ok s' ∧ Inv (i + 1) s') →
      ∃ s', forE body i0 n s0 = .ok s' ∧ Inv (i0 + n) s' := by
  intro n
  induction n with
  | zero => intro i0 s0 h0 _; exact ⟨s0, rfl, by simpa using h0⟩
  | succ n ih =>
    intro i0 s0 h0 hstep
    obtain ⟨s1, hb, h1⟩ := hstep i0 s0 (Nat.le_refl _) (by omega) h0
    obtain ⟨s2, hf, h2⟩ := ih (i0 + 1) s1 h1 (fun i s hi hlt hI => hstep i s (by omega) (by omega) hI)
    refine ⟨s2, ?_, ?_⟩
    · simp only [forE, hb]; exact hf
    · have : i0 + 1 + n = i0 + (n + 1) := by omega
      rw [← this]; exact h2

/-- a list of `(start, end)` pairs tiles `[a, b)`: consecutive, non-empty pieces -/
def Tiles : List (Nat × Nat) → Nat → Nat → Prop
  | [], a, b => a = b
  | se :: rest, a, b => se.1 = a ∧ a < se.2 ∧ Tiles rest se.2 b

theorem Tiles.le : ∀ {subs : List (Nat × Nat)} {a b : Nat}, Tiles subs a b → a ≤ b
  | [], _, _, h => by simp [Tiles] at h; omega
  | _ :: rest, _, _, h => by
    obtain ⟨h1, h2, h3⟩ := h
    have := Tiles.le h3
    omega

theorem Tiles.append : ∀ {l1 l2 : List (Nat × Nat)} {a b c : Nat}, Tiles l1 a b → Tiles l2 b c →
    Tiles (l1 ++ l2) a c
  | [], l2, a, b, c, h1, h2 => by
    simp only [Tiles] at h1; subst h1; simpa using h2
  | se :: rest, l2, a, b, c, h1, h2 => by
    obtain ⟨x, y, z⟩ := h1
    exact ⟨x, y, Tiles.append z h2⟩

theorem Tiles.single {a b : Nat} (h : a < b) : Tiles [(a, b)] a b := ⟨rfl, h, rfl⟩

theorem Tiles.getElem? : ∀ {subs : List (Nat × Nat)} {a c : Nat}, Tiles subs a c →
    ∀ (j : Nat) (x y : Nat), subs[j]? = some (x, y) →
      a ≤ x ∧ x < y ∧ y ≤ c ∧ (y < c → ∃ z, subs[j + 1]? = some (y, z))
  | [], _, _, _, j, x, y, h => by simp at h
  | se :: rest, a, c, ht, j, x, y, h => by
    obtain ⟨h1, h2, h3⟩ := ht
    have hle := Tiles.le h3
    cases j with
    | zero =>
      simp at h
      subst h
      simp only at h1 h2 h3 hle
      refine ⟨by omega, by omega, hle, ?_⟩
      intro hyc
      cases rest with
      | nil => simp [Tiles] at h3; omega
      | cons se2 rest2 =>
        obtain ⟨g1, _, _⟩ := h3
        refine ⟨se2.2, ?_⟩
        simp only [List.getElem?_cons_succ, List.getElem?_cons_zero]
        cases se2; simp_all
    | succ j =>
      simp only [List.getElem?_cons_succ] at h
      obtain ⟨r1, r2, r3, r4⟩ := Tiles.getElem? h3 j x y h
      refine ⟨by omega, r2, r3, ?_⟩
      intro hyc
      obtain ⟨z, hz⟩ := r4 hyc
      exact ⟨z, by simpa using hz⟩

theorem Tiles.head {subs : List (Nat × Nat)} {a c : Nat} (h : Tiles subs a c) (hac : a < c) :
    ∃ y, subs[0]? = some (a, y) := by
  cases subs with
  | nil => simp [Tiles] at h; omega
  | cons se rest =>
    obtain ⟨h1, _, _⟩ := h
    exact ⟨se.2, by cases se; simp_all⟩

theorem Tiles.mem_bounds {subs : List (Nat × Nat)} {a b : Nat} (h : Tiles subs a b) (se : Nat × Nat) (hse : se ∈ subs) :
    a ≤ se.1 ∧ se.1 < se.2 ∧ se.2 ≤ b := by
  obtain ⟨j, hj⟩ := List.getElem?_of_mem hse
  obtain ⟨h1, h2, h3, _⟩ := Tiles.getElem? h j se.1 se.2 hj
  exact ⟨h1, h2, h3⟩

/-- Hoare rule for `for (s, e) in tiles`: a predicate `P` indexed by the position reached; a piece, which the step may use
    to be one of the list, may also fail with an error satisfying `Q` -/
theorem foldE_tiles_err_mem {σ} (body : Nat × Nat → σ → Except Err σ) (P : Nat → σ → Prop) (Q : Err → Prop) (b : Nat) :
    ∀ (subs : List (Nat × Nat)) (a : Nat) (s : σ), Tiles subs a b → P a s →
      (∀ x y s, (x, y) ∈ subs → a ≤ x → x < y → y ≤ b → P x s →
        (∃ s', body (x, y) s = .ok s' ∧ P y s') ∨ (∃ e, body (x, y) s = .error e ∧ Q e)) →
      (∃ s', foldE body subs s = .ok s' ∧ P b s') ∨ (∃ e, foldE body subs s = .error e ∧ Q e) := by
  intro subs
  induction subs with
  | nil =>
    intro a s ht hp _
    simp only [Tiles] at ht; subst ht
    exact Or.inl ⟨s, rfl, hp⟩
  | cons se rest ih =>
    intro a s ht hp hstep
    obtain ⟨x, y⟩ := se
    obtain ⟨rfl, h2, h3⟩ := ht
    rcases hstep x y s List.mem_cons_self (Nat.le_refl _) h2 (Tiles.le h3) hp with ⟨s1, hb, hp1⟩ | ⟨e, hb, hq⟩
    · rcases ih y s1 h3 hp1
          (fun x' y' s hmem hx hxy hy hP => hstep x' y' s (List.mem_cons_of_mem _ hmem) (by omega) hxy hy hP) with
        ⟨s2, hf, hp2⟩ | ⟨e, hf, hq⟩
      · exact Or.inl ⟨s2, by simp only [foldE, hb, hf], hp2⟩
      · exact Or.inr ⟨e, by simp only [foldE, hb, hf], hq⟩
    · exact Or.inr ⟨e, by simp only [foldE, hb], hq⟩

theorem foldE_tiles_err {σ} (body : Nat × Nat → σ → Except Err σ) (P : Nat → σ → Prop) (Q : Err → Prop) (b : Nat) :
    ∀ (subs : List (Nat × Nat)) (a : Nat) (s : σ), Tiles subs a b → P a s →
      (∀ x y s, a ≤ x → x < y → y ≤ b → P x s →
        (∃ s', body (x, y) s = .ok s' ∧ P y s') ∨ (∃ e, body (x, y) s = .error e ∧ Q e)) →
      (∃ s', foldE body subs s = .ok s' ∧ P b s') ∨ (∃ e, foldE body subs s = .error e ∧ Q e) :=
  fun subs a s ht hp hstep => foldE_tiles_err_mem body P Q b subs a s ht hp (fun x y s _ => hstep x y s)

theorem foldE_tiles_mem {σ} (body : Nat × Nat → σ → Except Err σ) (P : Nat → σ → Prop) (b : Nat) :
    ∀ (subs : List (Nat × Nat)) (a : Nat) (s : σ), Tiles subs a b → P a s →
      (∀ x y s, (x, y) ∈ subs → a ≤ x → x < y → y ≤ b → P x s → ∃ s', body (x, y) s = .ok s' ∧ P y s') →
      ∃ s', foldE body subs s = .ok s' ∧ P b s' := by
  intro subs a s ht hp hstep
  rcases foldE_tiles_err_mem body P (fun _ => False) b subs a s ht hp
      (fun x y s hm h1 h2 h3 h4 => Or.inl (hstep x y s hm h1 h2 h3 h4)) with h | ⟨_, _, h⟩
  · exact h
  · exact h.elim

theorem foldE_tiles {σ} (body : Nat × Nat → σ → Except Err σ) (P : Nat → σ → Prop) (b : Nat) :
    ∀ (subs : List (Nat × Nat)) (a : Nat) (s : σ), Tiles subs a b → P a s →
      (∀ x y s, a ≤ x → x < y → y ≤ b → P x s → ∃ s', body (x, y) s = .ok s' ∧ P y s') →
      ∃ s', foldE body subs s = .ok s' ∧ P b s' :=
  fun subs a s ht hp hstep => foldE_tiles_mem body P b subs a s ht hp (fun x y s _ => hstep x y s)

/-- the valid (non-marker) entries at the positions `[s, e)` of a map chunk are non-decreasing — what one sub-chunk of
    the splitter guarantees for ANY map (NC02a), and all that the per-sub-chunk mapping needs -/
def MonoOn (m : List Int) (inv : Int) (s e : Nat) : Prop :=
  ∀ (i j : Nat) (a b : Int), s ≤ i → i ≤ j → j < e → m[i]? = some a → m[j]? = some b → a ≠ inv → b ≠ inv → a ≤ b

theorem MonoOn.of_validMonotone {m : List Int} {inv : Int} (h : Spec.ValidMonotone m inv) (s e : Nat) : MonoOn m inv s e :=
  fun i j a b _ hij _ hi hj ha hb => h i j a b hij hi hj ha hb

theorem mem_slice_of_getElem? {α} {xs : List α} {a b p : Nat} {x : α} (ha : a ≤ p) (hb : p < b) (h : xs[p]? = some x) :
    x ∈ slice xs a b := by
  apply List.mem_of_getElem? (i := p - a)
  rw [slice_getElem?, if_pos (Nat.sub_lt_sub_right ha hb), Nat.add_sub_cancel' ha, h]

theorem MonoOn.of_pairwise {m : List Int} {inv : Int} {s e : Nat}
    (h : (slice m s e).Pairwise (fun a b => a ≠ inv → b ≠ inv → a ≤ b)) : MonoOn m inv s e := by
  intro i j a b hi hij hj hia hjb ha hb
  rcases Nat.eq_or_lt_of_le hij with rfl | hlt
  · rw [hia] at hjb; cases hjb; exact Int.le_refl _
  · have hsj : s ≤ j := Nat.le_trans hi hij
    have h1 : (slice m s e)[i - s]? = some a := by
      rw [slice_getElem?, if_pos (Nat.sub_lt_sub_right hi (Nat.lt_trans hlt hj)), Nat.add_sub_cancel' hi, hia]
    have h2 : (slice m s e)[j - s]? = some b := by
      rw [slice_getElem?, if_pos (Nat.sub_lt_sub_right hsj hj), Nat.add_sub_cancel' hsj, hjb]
    obtain ⟨l1, r1⟩ := List.getElem?_eq_some_iff.mp h1
    obtain ⟨l2, r2⟩ := List.getElem?_eq_some_iff.mp h2
    have := List.pairwise_iff_getElem.mp h (i - s) (j - s) l1 l2 (Nat.sub_lt_sub_right hi hlt)
    rw [r1, r2] at this
    exact this ha hb

/-! ### `next_map_subchunk`

Both loops of the splitter are characterised by the prefix they take of the list they scan. -/

/-- the first loop takes the longest prefix on which `p` holds -/
theorem scanWhile_take (p : Int → Bool) : ∀ (l : List Int) (sm : Nat),
    ∃ n, scanWhile p l sm = sm + n ∧ n ≤ l.length ∧ (∀ x ∈ l.take n, p x = true) ∧ ∀ x, l[n]? = some x → p x = false
  | [], sm => ⟨0, rfl, Nat.le_refl _, by simp, by simp⟩
  | y :: ys, sm => by
    by_cases hp : p y = true
    · obtain ⟨n, h1, h2, h3, h4⟩ := scanWhile_take p ys (sm + 1)
      refine ⟨n + 1, by simp only [scanWhile, hp, if_true, h1]; omega, Nat.succ_le_succ h2, ?_, by simpa using h4⟩
      intro x hx
      rw [List.take_succ_cons, List.mem_cons] at hx
      rcases hx with rfl | hx
      · exact hp
      · exact h3 x hx
    · exact ⟨0, by simp only [scanWhile, hp, Bool.false_eq_true, if_false]; rfl, Nat.zero_le _, by simp, by simpa using hp⟩

theorem scanWhile_ge (p : Int → Bool) (l : List Int) (sm : Nat) : sm ≤ scanWhile p l sm := by
  obtain ⟨n, h, _⟩ := scanWhile_take p l sm
  omega

theorem scanWhile_head_true (p : Int → Bool) (x : Int) (xs : List Int) (sm : Nat) (h : p x = true) :
    sm + 1 ≤ scanWhile p (x :: xs) sm := by
  simp only [scanWhile, h, if_true]
  exact scanWhile_ge p xs (sm + 1)

theorem scanWhile_stop (p : Int → Bool) : ∀ (l : List Int) (sm : Nat) (x : Int),
    l[scanWhile p l sm - sm]? = some x → p x = false := by
  intro l sm x h
  obtain ⟨n, e, _, _, hstop⟩ := scanWhile_take p l sm
  rw [e, Nat.add_sub_cancel_left] at h
  exact hstop x h

/-- the second loop takes a prefix of entries that are each within `chunksize` of `start`, whose valid entries are at least
    `prev` and non-decreasing among themselves -/
theorem scanAsc_take (inv start : Int) (cs : Nat) : ∀ (l : List Int) (prev : Int) (sm : Nat),
    ∃ n, scanAsc inv start cs prev l sm = sm + n ∧ n ≤ l.length ∧
      (∀ x ∈ l.take n, x - start < cs ∧ (x ≠ inv → prev ≤ x)) ∧
      (l.take n).Pairwise (fun a b => a ≠ inv → b ≠ inv → a ≤ b)
  | [], _, sm => ⟨0, rfl, Nat.le_refl _, by simp, by simp⟩
  | y :: ys, prev, sm => by
    have stop : scanAsc inv start cs prev (y :: ys) sm = sm →
        ∃ n, scanAsc inv start cs prev (y :: ys) sm = sm + n ∧ n ≤ (y :: ys).length ∧
          (∀ x ∈ (y :: ys).take n, x - start < cs ∧ (x ≠ inv → prev ≤ x)) ∧
          ((y :: ys).take n).Pairwise (fun a b => a ≠ inv → b ≠ inv → a ≤ b) :=
      fun h => ⟨0, h, Nat.zero_le _, by simp, by simp⟩
    by_cases hspan : y - start < (cs : Int)
    · by_cases hval : y = inv
      · -- a marker inside the sub-chunk: taken, `prev` unchanged
        subst hval
        obtain ⟨n, h1, h2, h3, h4⟩ := scanAsc_take y start cs ys prev (sm + 1)
        refine ⟨n + 1, by simp [scanAsc, hspan, h1, Nat.add_assoc, Nat.add_comm 1 n], Nat.succ_le_succ h2, ?_, ?_⟩
        · intro x hx
          rw [List.take_succ_cons, List.mem_cons] at hx
          rcases hx with rfl | hx
          · exact ⟨hspan, fun h => absurd rfl h⟩
          · exact h3 x hx
        · rw [List.take_succ_cons, List.pairwise_cons]
          exact ⟨fun b _ h => absurd rfl h, h4⟩
      · by_cases hdesc : y < prev
        · -- a step back: the sub-chunk ends here
          exact stop (by simp [scanAsc, hspan, hval, hdesc])
        · obtain ⟨n, h1, h2, h3, h4⟩ := scanAsc_take inv start cs ys y (sm + 1)
          refine ⟨n + 1, by simp [scanAsc, hspan, hval, hdesc, h1, Nat.add_assoc, Nat.add_comm 1 n],
            Nat.succ_le_succ h2, ?_, ?_⟩
          · intro x hx
            rw [List.take_succ_cons, List.mem_cons] at hx
            rcases hx with rfl | hx
            · exact ⟨hspan, fun _ => Int.not_lt.mp hdesc⟩
            · exact ⟨(h3 x hx).1, fun h => Int.le_trans (Int.not_lt.mp hdesc) ((h3 x hx).2 h)⟩
          · rw [List.take_succ_cons, List.pairwise_cons]
            exact ⟨fun b hb _ hbi => (h3 b hb).2 hbi, h4⟩
    · exact stop (by simp [scanAsc, hspan])

/-- the first entry of the second loop is `start` itself (`prev = start`): it is always taken when `chunksize ≥ 1` -/
theorem scanAsc_head (inv start : Int) (cs : Nat) (xs : List Int) (sm : Nat) (hcs : 1 ≤ cs) :
    sm + 1 ≤ scanAsc inv start cs start (start :: xs) sm := by
  have h0 : start - start < (cs : Int) := by omega
  simp only [scanAsc, h0, if_true, Int.lt_irrefl, if_false]
  split
  · obtain ⟨n, h, _⟩ := scanAsc_take inv start cs xs start (sm + 1); omega
  · obtain ⟨n, h, _⟩ := scanAsc_take inv start cs xs start (sm + 1); omega

theorem nextMapSubchunk_eq (m : List Int) (sm : Nat) (inv : Int) (cs : Nat) :
    nextMapSubchunk m sm inv cs =
      match m[scanWhile (fun x => x == inv) (m.drop sm) sm]? with
      | none => scanWhile (fun x => x == inv) (m.drop sm) sm
      | some start => scanAsc inv start cs start
          (m.drop (scanWhile (fun x => x == inv) (m.drop sm) sm)) (scanWhile (fun x => x == inv) (m.drop sm) sm) := rfl

theorem nextMapSubchunk_bounds (m : List Int) (sm : Nat) (inv : Int) (cs : Nat) (hsm : sm < m.length) (hcs : 1 ≤ cs) :
    sm < nextMapSubchunk m sm inv cs ∧ nextMapSubchunk m sm inv cs ≤ m.length := by
  rw [nextMapSubchunk_eq]
  obtain ⟨n1, e1, l1, _⟩ := scanWhile_take (fun x => x == inv) (m.drop sm) sm
  rw [List.length_drop] at l1
  generalize scanWhile (fun x => x == inv) (m.drop sm) sm = sm1 at e1 ⊢
  split
  · rename_i hg
    have : m.length ≤ sm1 := by simpa using hg
    omega
  · rename_i start hg
    obtain ⟨hlt, rfl⟩ := List.getElem?_eq_some_iff.mp hg
    obtain ⟨n2, e2, l2, _⟩ := scanAsc_take inv m[sm1] cs (m.drop sm1) m[sm1] sm1
    rw [List.length_drop] at l2
    have h5 := scanAsc_head inv m[sm1] cs (m.drop (sm1 + 1)) sm1 hcs
    rw [← List.drop_eq_getElem_cons hlt] at h5
    omega

/-- one sub-chunk `[sm, next_map_subchunk(sm))`, for ANY map: its valid entries are non-decreasing (the NC02a repair: the
    sub-chunk ends where the map steps back) and any two of them differ by less than `chunksize`. The sub-chunk is a run
    of markers followed by what the second loop takes, `start` being the first valid entry. -/
theorem nextMapSubchunk_piece (m : List Int) (sm : Nat) (inv : Int) (cs : Nat) :
    (slice m sm (nextMapSubchunk m sm inv cs)).Pairwise (fun a b => a ≠ inv → b ≠ inv → a ≤ b) ∧
    ∀ a ∈ slice m sm (nextMapSubchunk m sm inv cs), ∀ b ∈ slice m sm (nextMapSubchunk m sm inv cs),
      a ≠ inv → b ≠ inv → b - a < cs := by
  rw [nextMapSubchunk_eq]
  obtain ⟨n1, e1, _, hall, _⟩ := scanWhile_take (fun x => x == inv) (m.drop sm) sm
  generalize scanWhile (fun x => x == inv) (m.drop sm) sm = sm1 at e1 ⊢
  subst e1
  have hmark : ∀ x ∈ (m.drop sm).take n1, x = inv := fun x hx => by simpa using hall x hx
  have hpw1 : ((m.drop sm).take n1).Pairwise (fun a b => a ≠ inv → b ≠ inv → a ≤ b) :=
    List.pairwise_of_forall_mem_list (fun a ha _ _ hai => absurd (hmark a ha) hai)
  split
  · rw [slice, Nat.add_sub_cancel_left]
    exact ⟨hpw1, fun a ha _ _ hai => absurd (hmark a ha) hai⟩
  · rename_i start _
    obtain ⟨n2, e2, _, hin, hpw2⟩ := scanAsc_take inv start cs (m.drop (sm + n1)) start (sm + n1)
    rw [e2, slice, show sm + n1 + n2 - sm = n1 + n2 by omega, List.take_add, List.drop_drop]
    refine ⟨List.pairwise_append.mpr ⟨hpw1, hpw2, fun a ha _ _ hai => absurd (hmark a ha) hai⟩, ?_⟩
    intro a ha b hb hai hbi
    rw [List.mem_append] at ha hb
    have h1 := (hin a (ha.resolve_left fun h => hai (hmark a h))).2 hai
    have h2 := (hin b (hb.resolve_left fun h => hbi (hmark b h))).1
    omega

theorem nextMapSubchunk_span (m : List Int) (sm : Nat) (inv : Int) (cs : Nat)
    (p q : Nat) (a b : Int) (hp1 : sm ≤ p) (hp2 : p < nextMapSubchunk m sm inv cs)
    (hq1 : sm ≤ q) (hq2 : q < nextMapSubchunk m sm inv cs)
    (hpa : m[p]? = some a) (hqb : m[q]? = some b) (ha : a ≠ inv) (hb : b ≠ inv) : b - a < cs :=
  (nextMapSubchunk_piece m sm inv cs).2 a (mem_slice_of_getElem? hp1 hp2 hpa) b (mem_slice_of_getElem? hq1 hq2 hqb) ha hb

theorem nextMapSubchunk_monoOn (m : List Int) (sm : Nat) (inv : Int) (cs : Nat) :
    MonoOn m inv sm (nextMapSubchunk m sm inv cs) :=
  MonoOn.of_pairwise (nextMapSubchunk_piece m sm inv cs).1

structure SCInv (m : List Int) (inv : Int) (cs : Nat) (s : SC) : Prop where
  tiles : Tiles s.acc 0 s.sm
  le : s.sm ≤ m.length
  made : ∀ t ∈ s.acc, t.2 = nextMapSubchunk m t.1 inv cs

theorem subchunks_made (m : List Int) (inv : Int) (cs : Nat) (hcs : 1 ≤ cs) :
    ∃ subs, subchunks m inv cs = .ok subs ∧ Tiles subs 0 m.length ∧
      ∀ t ∈ subs, t.2 = nextMapSubchunk m t.1 inv cs := by
  have h := whileE_rule (fun s : SC => decide (s.sm < m.length)) (subchunksBody m inv cs)
    (SCInv m inv cs) (fun s => m.length - s.sm)
    (by
      intro s hI hg
      have hg' : s.sm < m.length := by simpa using hg
      have hb := nextMapSubchunk_bounds m s.sm inv cs hg' hcs
      refine ⟨_, rfl, ⟨hI.tiles.append (Tiles.single hb.1), hb.2, ?_⟩, ?_⟩
      · intro t ht
        simp only [List.mem_append, List.mem_singleton] at ht
        rcases ht with ht | ht
        · exact hI.made t ht
        · subst ht; rfl
      · simp only []
        omega)
    m.length ⟨0, []⟩ ⟨by simp [Tiles], by simp, by simp⟩ (by simp)
  obtain ⟨s', hw, hI, hg⟩ := h
  have hge : m.length ≤ s'.sm := by simpa using hg
  have : s'.sm = m.length := by have := hI.le; omega
  refine ⟨s'.acc, ?_, ?_, hI.made⟩
  · simp only [subchunks, hw]
  · rw [← this]; exact hI.tiles

theorem subchunks_tiles (m : List Int) (inv : Int) (cs : Nat) (hcs : 1 ≤ cs) :
    ∃ subs, subchunks m inv cs = .ok subs ∧ Tiles subs 0 m.length :=
  let ⟨subs, h1, h2, _⟩ := subchunks_made m inv cs hcs
  ⟨subs, h1, h2⟩

theorem subchunks_mono (m : List Int) (inv : Int) (cs : Nat) (hcs : 1 ≤ cs) :
    ∃ subs, subchunks m inv cs = .ok subs ∧ Tiles subs 0 m.length ∧ ∀ t ∈ subs, MonoOn m inv t.1 t.2 := by
  obtain ⟨subs, h1, h2, h3⟩ := subchunks_made m inv cs hcs
  refine ⟨subs, h1, h2, ?_⟩
  intro t ht
  rw [h3 t ht]
  exact nextMapSubchunk_monoOn m t.1 inv cs

theorem firstValidFrom_spec (m : List Int) (inv : Int) :
    ∀ (n i : Nat), i + n ≤ m.length →
      (firstValidFrom m inv i n = .ok none ∧ ∀ p, i ≤ p → p < i + n → m[p]? = some inv) ∨
      (∃ p x, firstValidFrom m inv i n = .ok (some (p, x)) ∧ i ≤ p ∧ p < i + n ∧ m[p]? = some x ∧ x ≠ inv ∧
        ∀ q, i ≤ q → q < p → m[q]? = some inv) := by
  intro n
  induction n with
  | zero => exact fun i _ => Or.inl ⟨rfl, fun p h1 h2 => by omega⟩
  | succ n ih =>
    intro i hle
    obtain ⟨x, hget⟩ := exists_getElem? m (show i < m.length by omega)
    by_cases hx : x = inv
    · subst hx
      have hstep : firstValidFrom m x i (n + 1) = firstValidFrom m x (i + 1) n := by simp [firstValidFrom, hget]
      rw [hstep]
      rcases ih (i + 1) (by omega) with ⟨h1, h2⟩ | ⟨p, y, h1, h2, h3, h4, h5, h6⟩
      · exact Or.inl ⟨h1, fun p hp1 hp2 =>
          (Nat.eq_or_lt_of_le hp1).elim (fun h => h ▸ hget) (fun h => h2 p h (by omega))⟩
      · exact Or.inr ⟨p, y, h1, by omega, by omega, h4, h5, fun q hq1 hq2 =>
          (Nat.eq_or_lt_of_le hq1).elim (fun h => h ▸ hget) (fun h => h6 q h hq2)⟩
    · exact Or.inr ⟨i, x, by simp [firstValidFrom, hget, hx], Nat.le_refl _, by omega, hget, hx,
        fun q h1 h2 => by omega⟩

theorem lastValidDown_spec (m : List Int) (inv : Int) (i : Nat) :
    ∀ (n : Nat), i + n ≤ m.length →
      (lastValidDown m inv i n = .ok none ∧ ∀ p, i ≤ p → p < i + n → m[p]? = some inv) ∨
      (∃ p x, lastValidDown m inv i n = .ok (some x) ∧ i ≤ p ∧ p < i + n ∧ m[p]? = some x ∧ x ≠ inv ∧
        ∀ q, p < q → q < i + n → m[q]? = some inv) := by
  intro n
  induction n with
  | zero => exact fun _ => Or.inl ⟨rfl, fun p h1 h2 => by omega⟩
  | succ n ih =>
    intro hle
    obtain ⟨x, hget⟩ := exists_getElem? m (show i + n < m.length by omega)
    by_cases hx : x = inv
    · subst hx
      have hstep : lastValidDown m x i (n + 1) = lastValidDown m x i n := by simp [lastValidDown, hget]
      rw [hstep]
      rcases ih (by omega) with ⟨h1, h2⟩ | ⟨p, y, h1, h2, h3, h4, h5, h6⟩
      · exact Or.inl ⟨h1, fun p hp1 hp2 =>
          (Nat.eq_or_lt_of_le (Nat.le_of_lt_succ hp2)).elim (fun h => h ▸ hget) (fun h => h2 p hp1 h)⟩
      · exact Or.inr ⟨p, y, h1, h2, by omega, h4, h5, fun q hq1 hq2 =>
          (Nat.eq_or_lt_of_le (Nat.le_of_lt_succ hq2)).elim (fun h => h ▸ hget) (fun h => h6 q hq1 h)⟩
    · exact Or.inr ⟨i + n, x, by simp [lastValidDown, hget, hx], by omega, by omega, hget, hx,
        fun q h1 h2 => by omega⟩

/-- `get_valid_value_extents` on a non-empty range inside the chunk: either every entry is the marker and the marker
    is returned, or the values at the first and the last valid position are returned -/
theorem extents_spec (m : List Int) (s e : Nat) (inv : Int) (hse : s < e) (he : e ≤ m.length) :
    ∃ d, getValidValueExtents m s e inv = .ok d ∧
      ((d.1 = inv ∧ ∀ p, s ≤ p → p < e → m[p]? = some inv) ∨
       (d.1 ≠ inv ∧ d.2 ≠ inv ∧ ∃ p0 p1, s ≤ p0 ∧ p0 ≤ p1 ∧ p1 < e ∧ m[p0]? = some d.1 ∧ m[p1]? = some d.2 ∧
          ∀ q x, s ≤ q → q < e → m[q]? = some x → x ≠ inv → p0 ≤ q ∧ q ≤ p1)) := by
  unfold getValidValueExtents
  rw [if_neg (Nat.not_le.mpr hse)]
  have clash : ∀ {q : Nat} {x : Int}, m[q]? = some x → x ≠ inv → m[q]? = some inv → False :=
    fun hqx hx hq => hx (Option.some.inj (hqx.symm.trans hq))
  have hes : s + (e - s) = e := Nat.add_sub_cancel' (Nat.le_of_lt hse)
  rcases firstValidFrom_spec m inv (e - s) s (by rw [hes]; exact he) with
    ⟨h1, h2⟩ | ⟨p0, x0, h1, h2, h3, h4, h5, h6⟩
  · -- all invalid: the downward scan starts at `e - 1` and finds nothing either
    rw [hes] at h2
    rw [h1]
    simp only []
    have he1 : e - 1 + (e - (e - 1)) = e := Nat.add_sub_cancel' (Nat.sub_le e 1)
    rcases lastValidDown_spec m inv (e - 1) (e - (e - 1)) (by rw [he1]; exact he) with
      ⟨g1, _⟩ | ⟨p, x, _, g2, g3, g4, g5, _⟩
    · rw [g1]
      exact ⟨(inv, inv), rfl, Or.inl ⟨rfl, h2⟩⟩
    · rw [he1] at g3
      exact (clash g4 g5 (h2 p (by omega) g3)).elim
  · rw [hes] at h3
    rw [h1]
    simp only []
    have hp0 : p0 + (e - p0) = e := Nat.add_sub_cancel' (Nat.le_of_lt h3)
    rcases lastValidDown_spec m inv p0 (e - p0) (by rw [hp0]; exact he) with
      ⟨g1, g2⟩ | ⟨p1, x1, g1, g2, g3, g4, g5, g6⟩
    · exact (clash h4 h5 (g2 p0 (Nat.le_refl _) (by rw [hp0]; exact h3))).elim
    · rw [hp0] at g3 g6
      rw [g1]
      refine ⟨(x0, x1), rfl, Or.inr ⟨h5, g5, p0, p1, h2, g2, g3, h4, g4, fun q x hq1 hq2 hqx hxinv => ⟨?_, ?_⟩⟩⟩
      · exact Nat.le_of_not_lt fun hlt => clash hqx hxinv (h6 q hq1 hlt)
      · exact Nat.le_of_not_lt fun hgt => clash hqx hxinv (g6 q hgt hq2)

/-- on a piece whose valid entries are non-decreasing and are row numbers of a source with `n` rows,
    `get_valid_value_extents` returns the marker when the piece holds no valid entry, and otherwise a window
    `[first, last]` of rows of the source that holds every valid entry of the piece -/
theorem extents_window (m : List Int) (s e : Nat) (inv : Int) (n : Nat) (hse : s < e) (he : e ≤ m.length)
    (hr : Spec.InRange n m inv) (hm : MonoOn m inv s e) :
    ∃ d, getValidValueExtents m s e inv = .ok d ∧
      ((d.1 = inv ∧ ∀ p, s ≤ p → p < e → m[p]? = some inv) ∨
       (d.1 ≠ inv ∧ 0 ≤ d.1 ∧ d.1 ≤ d.2 ∧ d.2 < n ∧
          ∀ p k, s ≤ p → p < e → m[p]? = some k → k ≠ inv → d.1 ≤ k ∧ k ≤ d.2)) := by
  obtain ⟨d, hd, hcase⟩ := extents_spec m s e inv hse he
  refine ⟨d, hd, hcase.imp id ?_⟩
  rintro ⟨hne, hne2, p0, p1, hp0, hp01, hp1, hm0, hm1, hbetween⟩
  refine ⟨hne, (hr p0 d.1 hm0 hne).1, hm p0 p1 d.1 d.2 hp0 hp01 hp1 hm0 hm1 hne hne2, (hr p1 d.2 hm1 hne2).2, ?_⟩
  intro p k hp1' hp2' hpk hki
  obtain ⟨b1, b2⟩ := hbetween p k hp1' hp2' hpk hki
  exact ⟨hm p0 p d.1 k hp0 b1 hp2' hm0 hpk hne hki, hm p p1 k d.2 hp1' b2 hp1 hpk hm1 hki hne2⟩

end Exetera.MapValid
