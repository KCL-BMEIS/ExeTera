import Exetera.Lemmas.CsvStep
/-! Runs of bytes inside one cell, and the staging buffers (C05). A run is bare text or the content of a quoted cell, as one
    statement; it may reach the end of the window, so `done = (index == len(source))` is carried along instead of assuming
    that something follows. What runs write composes by appending (`RunEff.trans`). `Staged` says what `column_inds` /
    `column_vals` / `column_offsets` hold column by column, `Staged.close` is the one place where a cell is added. -/
namespace Exetera.Csv
open Exetera Spec

abbrev KSteps (src : Bytes) (offs : List Nat) (maxrow : Nat) := StepsN kguard (step src offs maxrow)

def At (vals : List Nat) (off : Nat) (bs : Bytes) : Prop := ∀ k, k < bs.length → vals[off + k]? = bs[k]?

theorem At.append {vals : List Nat} {off : Nat} {x y : Bytes} (hx : At vals off x) (hy : At vals (off + x.length) y) :
    At vals off (x ++ y) := by
  intro k hk
  by_cases hkx : k < x.length
  · rw [hx k hkx, List.getElem?_append_left hkx]
  · have := hy (k - x.length) (by simp at hk; omega)
    rw [List.getElem?_append_right (by omega), ← this]
    congr 1; omega

theorem At.of_frame {vals vals' : List Nat} {off : Nat} {x : Bytes} (hx : At vals off x)
    (hf : ∀ i, off ≤ i → i < off + x.length → vals'[i]? = vals[i]?) : At vals' off x := by
  intro k hk
  rw [hf (off + k) (by omega) (by omega)]
  exact hx k hk

structure Wrote (vals vals' : List Nat) (p : Nat) (w : Bytes) : Prop where
  len : vals'.length = vals.length
  at_ : At vals' p w
  frame : ∀ i, (i < p ∨ p + w.length ≤ i) → vals'[i]? = vals[i]?

theorem Wrote.nil (vals : List Nat) (p : Nat) : Wrote vals vals p [] :=
  ⟨rfl, fun k hk => by simp at hk, fun _ _ => rfl⟩

theorem Wrote.single {vals : List Nat} {p : Nat} (b : Nat) (hp : p < vals.length) : Wrote vals (vals.set p b) p [b] := by
  refine ⟨by simp, ?_, ?_⟩
  · intro k hk
    have : k = 0 := by simpa using hk
    subst this
    simp [hp]
  · intro i hi
    simp only [List.length_cons, List.length_nil] at hi
    rw [List.getElem?_set_ne (by omega)]

theorem Wrote.append {vals v1 v2 : List Nat} {p : Nat} {w1 w2 : Bytes} (h1 : Wrote vals v1 p w1)
    (h2 : Wrote v1 v2 (p + w1.length) w2) : Wrote vals v2 p (w1 ++ w2) := by
  refine ⟨h2.len.trans h1.len, ?_, ?_⟩
  · exact (h1.at_.of_frame (fun i _ hi => h2.frame i (Or.inl hi))).append h2.at_
  · intro i hi
    simp only [List.length_append] at hi
    rw [h2.frame i (by omega), h1.frame i (by omega)]

theorem ctx_eq {s s' : KS} (h : s'.ctx = s.ctx) :
    s'.nextPos = s.nextPos ∧ s'.col = s.col ∧ s'.hdr = s.hdr ∧ s'.row = s.row ∧ s'.vfc = s.vfc ∧ s'.cstart = s.cstart ∧
    s'.ics = s.ics ∧ s'.indsFull = s.indsFull ∧ s'.valsFull = s.valsFull ∧ s'.colOff = s.colOff ∧ s'.colCnt = s.colCnt ∧
    s'.inds = s.inds := by
  simpa [KS.ctx, Prod.ext_iff] using h

/-- what a run of written bytes does to the cell under construction: nothing while the header is read (`hdr`),
    otherwise `w` is appended at `colOff + cstart + count` -/
def RunEff (s s' : KS) (w : Bytes) : Prop :=
  s'.ctx = s.ctx ∧
  (if s.hdr then s'.count = s.count ∧ s'.vals = s.vals
   else s'.count = s.count + w.length ∧ Wrote s.vals s'.vals (s.colOff + s.cstart + s.count) w)

theorem RunEff.refl (s : KS) : RunEff s s [] := by
  refine ⟨rfl, ?_⟩
  cases s.hdr <;> simp [Wrote.nil]

theorem RunEff.trans {s s1 s2 : KS} {w1 w2 : Bytes} (h1 : RunEff s s1 w1) (h2 : RunEff s1 s2 w2) :
    RunEff s s2 (w1 ++ w2) := by
  obtain ⟨_, _, hh1, _, _, hcs1, _, _, _, hco1, _, _⟩ := ctx_eq h1.1
  refine ⟨h2.1.trans h1.1, ?_⟩
  have e1 := h1.2
  have e2 := h2.2
  rw [hh1, hco1, hcs1] at e2
  cases hh : s.hdr with
  | true =>
    simp only [hh, if_true] at e1 e2 ⊢
    exact ⟨e2.1.trans e1.1, e2.2.trans e1.2⟩
  | false =>
    simp only [hh, Bool.false_eq_true, if_false] at e1 e2 ⊢
    rw [e1.1, ← Nat.add_assoc] at e2
    exact ⟨by rw [e2.1, List.length_append, Nat.add_assoc], e1.2.append e2.2⟩

theorem RunEff.skip {s s1 : KS} (hctx : s1.ctx = s.ctx) (hcnt : s1.count = s.count) (hv : s1.vals = s.vals) :
    RunEff s s1 [] := by
  refine ⟨hctx, ?_⟩
  cases s.hdr <;> simp [hcnt, hv, Wrote.nil]

theorem RunEff.write {s s1 : KS} {b : Nat} (hctx : s1.ctx = s.ctx)
    (hcnt : s1.count = if s.hdr then s.count else s.count + 1)
    (hv : s1.vals = if s.hdr then s.vals else s.vals.set (s.colOff + s.cstart + s.count) b)
    (hp : s.hdr = false → s.colOff + s.cstart + s.count < s.vals.length) : RunEff s s1 [b] := by
  refine ⟨hctx, ?_⟩
  cases hh : s.hdr with
  | true => simpa [hh] using And.intro hcnt hv
  | false =>
    simp only [hh, Bool.false_eq_true, if_false] at hcnt hv ⊢
    exact ⟨hcnt, hv ▸ Wrote.single b (hp hh)⟩

def Room (s : KS) (n : Nat) : Prop :=
  s.hdr = false → s.colOff + s.cstart + s.count + n ≤ s.vals.length ∧ s.cstart + s.count + n < s.colCnt

theorem Room.head {s : KS} {n : Nat} (h : Room s (n + 1)) (hh : s.hdr = false) :
    s.colOff + s.cstart + s.count < s.vals.length ∧ s.cstart + s.count + 1 < s.colCnt := by
  have := h hh
  omega

theorem Room.after {s s1 : KS} {w : Bytes} {n : Nat} (h : Room s (w.length + n)) (he : RunEff s s1 w) : Room s1 n := by
  obtain ⟨_, _, hh1, _, _, hcs1, _, _, _, hco1, hcc1, _⟩ := ctx_eq he.1
  intro hh
  rw [hh1] at hh
  have e := he.2
  simp only [hh, Bool.false_eq_true, if_false] at e
  have := h hh
  rw [hco1, hcs1, hcc1, e.1, e.2.len]
  omega

theorem escape_plain {w : Bytes} (h : ∀ b ∈ w, b ≠ QUOTE) : escape w = w := by
  induction w with
  | nil => rfl
  | cons b w ih => simp [escape, h b (by simp), ih (fun x hx => h x (by simp [hx]))]

/-- a run of text inside a cell, possibly up to the end of the window: the content of a quoted cell (every byte is written, a
    doubled quote once; the run never ends between the two quotes of a doubled quote), or bare text (no quote, separator or
    line break) in whatever quoting state -/
theorem run_text {src : Bytes} {offs : List Nat} {maxrow : Nat} (w : Bytes) :
    ∀ (A R : Bytes) (s : KS), src = A ++ (escape w ++ R) → s.index = A.length → s.done = (s.index == src.length) →
      s.indsFull = false → s.valsFull = false →
      ((s.escaped = true ∧ s.cand = false) ∨ ∀ b ∈ w, b ≠ QUOTE ∧ b ≠ SEP ∧ b ≠ NL) → Room s w.length →
      ∃ n s', KSteps src offs maxrow n s s' ∧ s'.index = A.length + (escape w).length ∧ s'.escaped = s.escaped ∧
        s'.cand = s.cand ∧ s'.done = (s'.index == src.length) ∧ RunEff s s' w := by
  induction w with
  | nil =>
    intro A R s _ hi hd _ _ _ _
    exact ⟨0, s, .refl _, by simpa [escape] using hi, rfl, rfl, hd, .refl s⟩
  | cons b w ih =>
    intro A R s hsrc hi hd hif hvf hmode hroom
    by_cases hb : b = QUOTE
    · -- a doubled quote: the first one only sets the candidate flag, the second one is written
      subst hb
      obtain ⟨he, hcd⟩ : s.escaped = true ∧ s.cand = false := hmode.resolve_right (fun h => (h QUOTE (by simp)).1 rfl)
      have hsrc' : src = A ++ (QUOTE :: QUOTE :: (escape w ++ R)) := by simp [hsrc, escape]
      have hc : src[s.index]? = some QUOTE := by rw [hsrc', hi, getElem?_append_len0]; simp
      have hnx : src[s.index + 1]? = some QUOTE := by rw [hsrc', hi, getElem?_append_len]; simp
      have hd0 : s.done = false := done_false_of_get hd hc
      obtain ⟨s1, hstep1, hi1, he1, hc1, hd1, hctx1, hcnt1, hv1⟩ :=
        step_skip (offs := offs) (maxrow := maxrow) hc (by rw [hnx, he, hcd]; exact lex_pair1 _) hif hvf
      obtain ⟨_, _, _, _, _, _, _, hif1, hvf1, _, _, _⟩ := ctx_eq hctx1
      have e1 : RunEff s s1 [] := .skip hctx1 hcnt1 hv1
      have hroom1 : Room s1 (w.length + 1) := Room.after (w := []) (by simpa using hroom) e1
      have hd10 : s1.done = false := done_false_of_get hd1 (by rw [hi1, hnx])
      obtain ⟨s2, hstep2, hi2, he2, hc2, hd2, hctx2, hcnt2, hv2⟩ :=
        step_write (offs := offs) (maxrow := maxrow) (by rw [hi1, hnx]) (by rw [he1, hc1]; exact lex_pair2 _ _)
          (by rw [hif1, hif]) (by rw [hvf1, hvf]) hroom1.head
      obtain ⟨_, _, _, _, _, _, _, hif2, hvf2, _, _, _⟩ := ctx_eq hctx2
      have e2 : RunEff s1 s2 [QUOTE] := .write hctx2 hcnt2 hv2 (fun hh => (hroom1.head hh).1)
      obtain ⟨n, s3, hsteps, hi3, he3, hc3, hd3, heff⟩ :=
        ih (A ++ [QUOTE, QUOTE]) R s2 (by simp [hsrc']) (by simp [hi2, hi1, hi]) hd2
          (by rw [hif2, hif1, hif]) (by rw [hvf2, hvf1, hvf]) (Or.inl ⟨he2, hc2⟩)
          (Room.after (w := [QUOTE]) (by simpa [Nat.add_comm] using hroom1) e2)
      exact ⟨n + 2, s3, .cons (by simp [kguard, hd0]) hstep1 (.cons (by simp [kguard, hd10]) hstep2 hsteps),
        by simp [hi3, escape]; omega, by rw [he3, he2, he], by rw [hc3, hc2, hcd], hd3, (e1.trans e2).trans heff⟩
    · have hsrc' : src = A ++ (b :: (escape w ++ R)) := by simp [hsrc, escape, hb]
      have hc : src[s.index]? = some b := by rw [hsrc', hi, getElem?_append_len0]; simp
      have hd0 : s.done = false := done_false_of_get hd hc
      obtain ⟨s1, hstep1, hi1, he1, hc1, hd1, hctx1, hcnt1, hv1⟩ :=
        step_write (offs := offs) (maxrow := maxrow) hc
          (lex_write hb (hmode.imp (fun h => h.1) (fun h => (h b (by simp)).2))) hif hvf hroom.head
      obtain ⟨_, _, _, _, _, _, _, hif1, hvf1, _, _, _⟩ := ctx_eq hctx1
      have e1 : RunEff s s1 [b] := .write hctx1 hcnt1 hv1 (fun hh => (hroom.head hh).1)
      obtain ⟨n, s2, hsteps, hi2, he2, hc2, hd2, heff⟩ :=
        ih (A ++ [b]) R s1 (by simp [hsrc']) (by simp [hi1, hi]) hd1 (by rw [hif1, hif]) (by rw [hvf1, hvf])
          (by rw [he1, hc1]; exact hmode.imp id (fun h x hx => h x (by simp [hx])))
          (Room.after (w := [b]) (by simpa [Nat.add_comm] using hroom) e1)
      exact ⟨n + 1, s2, .cons (by simp [kguard, hd0]) hstep1 hsteps, by simp [hi2, escape, hb]; omega, by rw [he2, he1],
        by rw [hc2, hc1], hd2, e1.trans heff⟩

theorem run_plain {src : Bytes} {offs : List Nat} {maxrow : Nat} (w A R : Bytes) (s : KS) (hsrc : src = A ++ (w ++ R))
    (hi : s.index = A.length) (hd : s.done = (s.index == src.length)) (hif : s.indsFull = false) (hvf : s.valsFull = false)
    (hw : ∀ b ∈ w, b ≠ QUOTE ∧ b ≠ SEP ∧ b ≠ NL) (hroom : Room s w.length) :
    ∃ n s', KSteps src offs maxrow n s s' ∧ s'.index = A.length + w.length ∧ s'.escaped = s.escaped ∧ s'.cand = s.cand ∧
      s'.done = (s'.index == src.length) ∧ RunEff s s' w := by
  have he := escape_plain (fun b hb => (hw b hb).1)
  have := run_text (offs := offs) (maxrow := maxrow) w A R s (by rw [he]; exact hsrc) hi hd hif hvf (Or.inr hw) hroom
  rwa [he] at this

/-- `column_offsets[c]` -/
def offAt (offs : List Nat) (c : Nat) : Nat := offs.getD c 0

/-- the shapes the driver guarantees: `ncols` index rows of `maxrow + 1` slots, `ncols + 1` non-decreasing offsets starting
    at 0, the last one within `column_vals` -/
structure Shape (ncols maxrow : Nat) (offs : List Nat) (inds : List (List Nat)) (vals : List Nat) : Prop where
  indsLen : inds.length = ncols
  rowLen : ∀ (c : Nat) (r : List Nat), inds[c]? = some r → r.length = maxrow + 1
  offsLen : offs.length = ncols + 1
  offs0 : offAt offs 0 = 0
  mono : ∀ c, c < ncols → offAt offs c ≤ offAt offs (c + 1)
  last : offAt offs ncols ≤ vals.length

theorem offs_get {offs : List Nat} {n c : Nat} (hl : offs.length = n + 1) (hc : c ≤ n) :
    offs[c]? = some (offAt offs c) := by
  have : c < offs.length := by omega
  simp [offAt, List.getD, List.getElem?_eq_getElem this]

theorem Shape.mono_le {ncols maxrow : Nat} {offs : List Nat} {inds : List (List Nat)} {vals : List Nat}
    (h : Shape ncols maxrow offs inds vals) : ∀ b a, a ≤ b → b ≤ ncols → offAt offs a ≤ offAt offs b := by
  intro b
  induction b with
  | zero => intro a ha _; have : a = 0 := by omega
            subst this; exact Nat.le_refl _
  | succ b ih =>
    intro a ha hb
    by_cases hab : a = b + 1
    · subst hab; exact Nat.le_refl _
    · exact Nat.le_trans (ih a (by omega) (by omega)) (h.mono b (by omega))

theorem get2_eq {inds : List (List Nat)} {c i x : Nat} {r : List Nat} (site : String) (hr : inds[c]? = some r)
    (hx : r[i]? = some x) : get2 inds c i site = .ok x := by
  simp [get2, hr, getE_eq_ok.mpr hx]

theorem set2_eq {inds : List (List Nat)} {c i : Nat} {r : List Nat} (v : Nat) (site : String) (hr : inds[c]? = some r)
    (hi : i < r.length) : set2 inds c i v site = .ok (inds.set c (r.set i v)) := by
  simp [set2, hr, hi]

def endOf (es : List Bytes) (k : Nat) : Nat := (es.take k).flatten.length

theorem endOf_all (es : List Bytes) : endOf es es.length = es.flatten.length := by simp [endOf]

theorem endOf_snoc_le {es : List Bytes} {v : Bytes} {k : Nat} (hk : k ≤ es.length) : endOf (es ++ [v]) k = endOf es k := by
  simp [endOf, List.take_append_of_le_length hk]

theorem endOf_snoc_last (es : List Bytes) (v : Bytes) :
    endOf (es ++ [v]) (es.length + 1) = es.flatten.length + v.length := by
  have : (es ++ [v]).take (es.length + 1) = es ++ [v] := by
    apply List.take_of_length_le; simp
  simp [endOf, this]

/-- column `c` of the staging buffers holds the entries `es`: `column_inds[c, k]` is the end offset of the first `k`
    entries (`k ≤ |es|`) and their bytes sit at `column_offsets[c]` in `column_vals` -/
def ColOK (offs : List Nat) (inds : List (List Nat)) (vals : List Nat) (c : Nat) (es : List Bytes) : Prop :=
  (∃ r, inds[c]? = some r ∧ ∀ k, k ≤ es.length → r[k]? = some (endOf es k)) ∧ At vals (offAt offs c) es.flatten

theorem ColOK.of_wrote {offs : List Nat} {inds : List (List Nat)} {vals vals' : List Nat} {c p : Nat} {es : List Bytes}
    {w : Bytes} (h : ColOK offs inds vals c es) (hw : Wrote vals vals' p w)
    (hdis : offAt offs c + es.flatten.length ≤ p ∨ p + w.length ≤ offAt offs c) : ColOK offs inds vals' c es :=
  ⟨h.1, h.2.of_frame (fun i h1 h2 => hw.frame i (by omega))⟩

theorem ColOK.of_set_other {offs : List Nat} {inds : List (List Nat)} {vals : List Nat} {c j : Nat} {es : List Bytes}
    (r' : List Nat) (h : ColOK offs inds vals c es) (hne : j ≠ c) : ColOK offs (inds.set j r') vals c es := by
  obtain ⟨⟨r, hr, hk⟩, hat⟩ := h
  refine ⟨⟨r, ?_, hk⟩, hat⟩
  rw [List.getElem?_set_ne hne]
  exact hr

theorem ColOK.snoc {offs : List Nat} {inds : List (List Nat)} {vals vals' : List Nat} {j : Nat} {es : List Bytes}
    {v : Bytes} {r : List Nat} (h : ColOK offs inds vals j es) (hr : inds[j]? = some r)
    (hlen : es.length + 1 < r.length)
    (hw : Wrote vals vals' (offAt offs j + es.flatten.length) v) :
    ColOK offs (inds.set j (r.set (es.length + 1) (es.flatten.length + v.length))) vals' j (es ++ [v]) := by
  obtain ⟨⟨r0, hr0, hk⟩, hat⟩ := h
  have : r0 = r := by rw [hr] at hr0; exact (Option.some.inj hr0).symm
  subst this
  have hj : j < inds.length := lt_len_of_get hr
  refine ⟨⟨_, by rw [List.getElem?_set_self hj], ?_⟩, ?_⟩
  · intro k hkl
    simp at hkl
    by_cases hke : k = es.length + 1
    · subst hke
      rw [List.getElem?_set_self hlen, endOf_snoc_last]
    · rw [List.getElem?_set_ne (by omega), endOf_snoc_le (by omega)]
      exact hk k (by omega)
  · rw [List.flatten_append]
    apply At.append
    · exact hat.of_frame (fun i h1 h2 => hw.frame i (Or.inl (by omega)))
    · simpa using hw.at_

theorem ColOK.of_append {offs : List Nat} {inds : List (List Nat)} {vals : List Nat} {c : Nat} {es t : List Bytes}
    (h : ColOK offs inds vals c (es ++ t)) : ColOK offs inds vals c es := by
  obtain ⟨⟨r, hr, hk⟩, hat⟩ := h
  refine ⟨⟨r, hr, ?_⟩, ?_⟩
  · intro k hkl
    have := hk k (by simp; omega)
    rw [this]
    simp [endOf, List.take_append_of_le_length hkl]
  · intro k hkl
    have := hat k (by rw [List.flatten_append, List.length_append]; omega)
    rw [this, List.flatten_append, List.getElem?_append_left hkl]

theorem ColOK.last {offs : List Nat} {inds : List (List Nat)} {vals : List Nat} {c : Nat} {es : List Bytes}
    (h : ColOK offs inds vals c es) : ∃ r, inds[c]? = some r ∧ r[es.length]? = some es.flatten.length := by
  obtain ⟨⟨r, hr, hk⟩, _⟩ := h
  exact ⟨r, hr, by rw [hk _ (Nat.le_refl _), endOf_all]⟩

theorem shape_set {ncols maxrow : Nat} {offs : List Nat} {inds : List (List Nat)} {vals : List Nat} {j i v : Nat}
    {r : List Nat} (h : Shape ncols maxrow offs inds vals) (hr : inds[j]? = some r) :
    Shape ncols maxrow offs (inds.set j (r.set i v)) vals := by
  refine ⟨by simpa using h.indsLen, ?_, h.offsLen, h.offs0, h.mono, h.last⟩
  intro c r' hr'
  by_cases hjc : j = c
  · subst hjc
    rw [List.getElem?_set_self (lt_len_of_get hr)] at hr'
    have := h.rowLen j r hr
    rw [← Option.some.inj hr']; simpa using this
  · rw [List.getElem?_set_ne hjc] at hr'
    exact h.rowLen c r' hr'

def upd (E : Nat → List Bytes) (j : Nat) (v : Bytes) : Nat → List Bytes := fun c => if c = j then E j ++ [v] else E c

theorem upd_self (E : Nat → List Bytes) (j : Nat) (v : Bytes) : upd E j v j = E j ++ [v] := by
  simp [upd]

theorem upd_ne (E : Nat → List Bytes) {j c : Nat} (v : Bytes) (h : c ≠ j) : upd E j v c = E c := by
  simp [upd, h]

theorem upd_flat_self (E : Nat → List Bytes) (j : Nat) (v : Bytes) :
    (upd E j v j).flatten.length = (E j).flatten.length + v.length := by
  simp [upd]

structure Staged (offs : List Nat) (maxrow ncols : Nat) (inds : List (List Nat)) (vals : List Nat) (E : Nat → List Bytes) :
    Prop where
  shape : Shape ncols maxrow offs inds vals
  cols : ∀ c, c < ncols → ColOK offs inds vals c (E c)
  caps : ∀ c, c < ncols → offAt offs c + (E c).flatten.length ≤ offAt offs (c + 1)

/-- bytes written behind the entries of column `j`, within its budget, leave every staged entry intact: the free part of
    column `j` lies between the entries of the columns before and the budgets of the columns after -/
theorem Staged.wrote {offs : List Nat} {maxrow ncols : Nat} {inds : List (List Nat)} {vals vals' : List Nat}
    {E : Nat → List Bytes} {j : Nat} {w : Bytes} (h : Staged offs maxrow ncols inds vals E) (hj : j < ncols)
    (hw : Wrote vals vals' (offAt offs j + (E j).flatten.length) w)
    (hcap : offAt offs j + (E j).flatten.length + w.length ≤ offAt offs (j + 1)) :
    Staged offs maxrow ncols inds vals' E := by
  have hsh := h.shape
  refine ⟨⟨hsh.indsLen, hsh.rowLen, hsh.offsLen, hsh.offs0, hsh.mono, by rw [hw.len]; exact hsh.last⟩, ?_, h.caps⟩
  intro c hc
  refine (h.cols c hc).of_wrote hw ?_
  rcases Nat.lt_trichotomy c j with hlt | heq | hgt
  · left
    have := h.caps c hc
    have := hsh.mono_le j (c + 1) (by omega) (by omega)
    omega
  · left; subst heq; exact Nat.le_refl _
  · right
    have := hsh.mono_le c (j + 1) (by omega) (by omega)
    omega

theorem Staged.close {offs : List Nat} {maxrow ncols : Nat} {inds : List (List Nat)} {vals vals' : List Nat}
    {E : Nat → List Bytes} {j : Nat} {v : Bytes} {rj : List Nat} (h : Staged offs maxrow ncols inds vals E) (hj : j < ncols)
    (hr : inds[j]? = some rj) (hrow : (E j).length < maxrow)
    (hw : Wrote vals vals' (offAt offs j + (E j).flatten.length) v)
    (hcap : offAt offs j + (E j).flatten.length + v.length ≤ offAt offs (j + 1)) :
    Staged offs maxrow ncols (inds.set j (rj.set ((E j).length + 1) ((E j).flatten.length + v.length))) vals' (upd E j v) := by
  have h' := h.wrote hj hw hcap
  refine ⟨shape_set h'.shape hr, ?_, ?_⟩
  · intro c hc
    by_cases hcj : c = j
    · subst hcj
      rw [upd_self]
      exact (h.cols c hc).snoc hr (by rw [h.shape.rowLen _ _ hr]; omega) hw
    · rw [upd_ne _ _ hcj]
      exact (h'.cols c hc).of_set_other _ (Ne.symm hcj)
  · intro c hc
    by_cases hcj : c = j
    · rw [hcj, upd_flat_self, ← Nat.add_assoc]; exact hcap
    · rw [upd_ne _ _ hcj]; exact h.caps c hc

/-- the loop has stopped inside (or right before) record `k` with the given flags: the resume position is the end of the
    last complete record and the staging buffers hold the complete records' entries `E` -/
structure KEnd (offs : List Nat) (maxrow ncols : Nat) (s' : KS) (k np : Nat) (E : Nat → List Bytes)
    (indsFull valsFull : Bool) (vfc : Option Nat) : Prop where
  done : s'.done = true
  np : s'.nextPos = np
  hdr : s'.hdr = false
  row : s'.row = k
  indsFull : s'.indsFull = indsFull
  valsFull : s'.valsFull = valsFull
  vfc : s'.vfc = vfc
  shape : Shape ncols maxrow offs s'.inds s'.vals
  cols : ∀ c, c < ncols → ColOK offs s'.inds s'.vals c (E c)

end Exetera.Csv
