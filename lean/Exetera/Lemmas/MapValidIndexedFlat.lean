import Exetera.Lemmas.MapValidIndexed
/-! `safe_map_indexed_values`: the first pass sums the lengths of the destination entries, the second appends them one by
    one (`Adds.snoc`); `smiv_row` says what both do at one row. -/
namespace Exetera.MapValid

open Exetera Exetera.Spec

theorem take_succ_of_getElem? {α} (xs : List α) (i : Nat) (x : α) (h : xs[i]? = some x) :
    xs.take (i + 1) = xs.take i ++ [x] := by
  rw [List.take_add_one, h]; rfl

theorem entry_read {β} (indices : List Int) (values : List β) (hok : IndexedOK indices values) (k : Int)
    (h0 : 0 ≤ k) (hk : k < (entries indices values).length) (s1 s2 : String) :
    ∃ a b, getI indices k s1 = .ok a ∧ getI indices (k + 1) s2 = .ok b ∧
      (entries indices values)[k.toNat]? = some (pySlice values a b) ∧ ((pySlice values a b).length : Int) = b - a := by
  rw [entries_length] at hk
  obtain ⟨a, b, ha, hb, ga, gb, ha0, hab, hbl, hwe, hwl⟩ :=
    (winOK_of_indexedOK indices values hok).read k h0 (by omega) s1 s2
  have hps := pySlice_nonneg values a b ha0 (by omega) hbl hab
  exact ⟨a, b, ga, gb, by rw [hps]; exact entries_getElem? indices values k.toNat a b ha hb, by rw [hps, ← hwe]; exact hwl⟩

/-- a prefix never holds more bytes than the whole list: the fill position of the second pass stays inside `v_result` -/
theorem sumLen_take_le {β} (es : List (List β)) (i : Nat) : sumLen (es.take i) ≤ sumLen es := by
  have h := sumLen_append (es.take i) (es.drop i)
  rw [List.take_append_drop] at h
  have := sumLen_nonneg (es.drop i)
  omega

/-- what both passes of `safe_map_indexed_values` do at row `i`, whose destination entry `e` is the source entry `map[i]`
    where the filter is set and `empty` elsewhere: the first adds its length, the second appends it (the two bound checks
    of the second pass passing) -/
theorem smiv_row {β} (indices : List Int) (values : List β) (m : List Int) (filt : List Bool) (empty : List β)
    (es : List (List β)) (hok : IndexedOK indices values) (hlen : filt.length = m.length)
    (hr : ∀ (i : Nat) (k : Int), m[i]? = some k → filt[i]? = some true →
      0 ≤ k ∧ k < (entries indices values).length)
    (hes : ∀ (i : Nat) (k : Int) (b : Bool), m[i]? = some k → filt[i]? = some b →
      es[i]? = if b then (entries indices values)[k.toNat]? else some empty)
    (i : Nat) (hi : i < m.length) :
    ∃ e, es[i]? = some e ∧
      (∀ len, smivLenStep indices m filt empty.length i len = .ok (len + e.length)) ∧
      ∀ (capI : Nat) (capV : Int) (s : SI β), i + 1 < capI → s.offset + e.length ≤ capV →
        smivStep indices values m filt empty capI capV i s
          = .ok ⟨s.offset + e.length, s.iRes ++ [s.offset + e.length], s.vRes ++ e⟩ := by
  obtain ⟨k, hk⟩ := exists_getElem? m hi
  obtain ⟨b, hb⟩ := exists_getElem? filt (hlen ▸ hi)
  have hesi := hes i k b hk hb
  cases b with
  | false =>
    refine ⟨empty, hesi, fun len => by simp only [smivLenStep, hb], fun capI capV s h1 h2 => ?_⟩
    simp only [smivStep, hb, Nat.not_le.mpr h1, Int.not_lt.mpr h2, if_false, decide_false, Bool.and_false,
      Bool.false_eq_true]
  | true =>
    obtain ⟨h0, hkl⟩ := hr i k hk hb
    obtain ⟨a, b, ga, gb, hent, hel⟩ := entry_read indices values hok k h0 hkl
      "data_indices[map_field[i]]" "data_indices[map_field[i]+1]"
    refine ⟨pySlice values a b, by rw [hesi, if_pos rfl, hent],
      fun len => by simp only [smivLenStep, hb, hk, ga, gb, hel], fun capI capV s h1 h2 => ?_⟩
    rw [hel] at h2
    simp only [smivStep, hb, hk, ga, gb, Nat.not_le.mpr h1, Int.not_lt.mpr h2, if_false, hel]

/-- `safe_map_indexed_values`: the destination is the stored form of the list of entries `es` in which row `i` is the
    source entry `map[i]` where the filter is set and `empty` elsewhere -/
theorem safeMapIndexedValues_spec {β} (indices : List Int) (values : List β) (m : List Int) (filt : List Bool)
    (empty : List β) (es : List (List β))
    (hok : IndexedOK indices values) (hlen : filt.length = m.length) (hesLen : es.length = m.length)
    (hr : ∀ (i : Nat) (k : Int), m[i]? = some k → filt[i]? = some true →
      0 ≤ k ∧ k < (entries indices values).length)
    (hes : ∀ (i : Nat) (k : Int) (b : Bool), m[i]? = some k → filt[i]? = some b →
      es[i]? = if b then (entries indices values)[k.toNat]? else some empty) :
    safeMapIndexedValues indices values m filt empty = .ok (encodeIndexed es) := by
  have hrow := smiv_row indices values m filt empty es hok hlen hr hes
  -- first pass: the number of bytes of `es`, the size `v_result` is allocated with
  obtain ⟨len, hpass1, hlen1⟩ := forE_rule (smivLenStep indices m filt empty.length)
    (fun i len => len = sumLen (es.take i)) m.length 0 0 (by simp [sumLen])
    (by
      intro i len _ hi hI
      obtain ⟨e, he, hstep, _⟩ := hrow i (by omega)
      exact ⟨_, hstep len, by rw [take_succ_of_getElem? es i e he, sumLen_append, hI]; simp [sumLen]⟩)
  rw [Nat.zero_add, ← hesLen, List.take_length] at hlen1
  subst hlen1
  -- second pass: entry after entry is appended; the fill position never passes the allocated size
  obtain ⟨s, hpass2, hadds⟩ := forE_rule (smivStep indices values m filt empty (m.length + 1) (sumLen es))
    (fun i s => Adds (es.take i) ⟨0, [0], []⟩ ⟨s.offset, s.iRes, s.vRes⟩) m.length 0 ⟨0, [0], []⟩ (Adds.nil _)
    (by
      intro i s _ hi hI
      obtain ⟨e, he, _, hstep⟩ := hrow i (by omega)
      have ht := take_succ_of_getElem? es i e he
      refine ⟨_, hstep _ _ s (by omega) ?_, ht ▸ hI.snoc e⟩
      have h1 : s.offset = 0 + sumLen (es.take i) := hI.1
      have := sumLen_take_le es (i + 1)
      rw [ht, sumLen_append] at this
      simp only [sumLen] at this
      omega)
  rw [Nat.zero_add, ← hesLen, List.take_length] at hadds
  simp only [safeMapIndexedValues, hpass1, hpass2, ← hadds.encode]

/-- with the filter "entry is not the marker" and no `empty_value`, `safe_map_indexed_values` is `mapIndexedSpec` -/
theorem safeMapIndexedValues_mapSpec {β} (indices : List Int) (values : List β) (m : List Int) (inv : Int)
    (hok : IndexedOK indices values) (hr : InRange (entries indices values).length m inv) :
    ∃ out, safeMapIndexedValues indices values m (m.map (fun k => k != inv)) [] = .ok out ∧
      mapIndexedSpec indices values inv m = some out := by
  obtain ⟨es, hspec⟩ : ∃ es, mapSpec (entries indices values) inv [] m = some es := by
    obtain ⟨out, _, h⟩ := safeMapValues_mapSpec (entries indices values) m inv (some []) [] hr
    exact ⟨out, h⟩
  refine ⟨encodeIndexed es, ?_, by simp [mapIndexedSpec, hspec]⟩
  apply safeMapIndexedValues_spec indices values m _ [] es hok (by simp) (mapSpec_length _ _ _ _ _ hspec)
  · intro i k hk hf
    simp only [List.getElem?_map, hk, Option.map_some, Option.some.injEq] at hf
    exact hr i k hk (by simpa using hf)
  · intro i k b hk hf
    simp only [List.getElem?_map, hk, Option.map_some, Option.some.injEq] at hf
    subst hf
    rw [mapSpec_getElem? _ _ _ _ _ hspec i k hk]
    by_cases hki : k = inv
    · simp [lookup, hki]
    · have := (hr i k hk hki).1
      simp [lookup, hki, this]

end Exetera.MapValid
