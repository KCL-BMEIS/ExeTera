import Exetera.Gen.Kernels
import Exetera.Model.Journal
import Exetera.Lemmas.GenKernels
import Exetera.Lemmas.GenKernelsSpans
/-!
  The TRANSLATED `compare_rows_for_journalling` (C17) against `Journal.compareRows`, provided no map entry is below -1: the model
  wraps a negative subscript around once (`getI`), the translation makes it an error branch.

  The models are written in `do` notation; `Except.bind_eq_bindE` turns them into the `bindE` chains of the translation, after
  which kernel and model are compared read by read (`Follows`, GenKernelsSpans).  The rules for a read that the model makes
  through `getI` are here for all the journalling kernels.
-/
namespace Exetera.GenK

open Exetera Exetera.PyRt Exetera.Journal Exetera.Gen.Kernels

theorem forE_succ {τ} (bm : Nat → τ → Except Err τ) (n i : Nat) (t : τ) :
    forE bm (n + 1) i t = bindE (bm i t) (forE bm n (i + 1)) := by
  rw [forE]; cases bm i t <;> rfl

theorem forRange_forE {σ τ} (R : σ → τ → Prop) (bm : Nat → τ → Except Err τ) (bg : Int → σ → Except Err σ)
    (hstep : ∀ (i : Nat) (s : σ) (t : τ), R s t → Follows R (bg (i : Int) s) (bm i t)) (n i : Nat) (s : σ) (t : τ)
    (hR : R s t) : Follows R (forRangeAux (fun _ => false) bg n (i : Int) s) (forE bm n i t) :=
  (forRange_follows R bg (forE bm) bm id (fun _ _ => rfl) (forE_succ bm) hstep n i s t hR).mono fun _ _ ⟨_, h, ht⟩ => ht ▸ h

theorem forRange_forE_ok {σ τ} (R : σ → τ → Prop) (bm : Nat → τ → Except Err τ) (bg : Int → σ → Except Err σ)
    (hstep : ∀ (i : Nat) (s : σ) (t : τ), R s t → OkFollows R (bg (i : Int) s) (bm i t)) :
    ∀ (n i : Nat) (s : σ) (t : τ), R s t → OkFollows R (forRangeAux (fun _ => false) bg n (i : Int) s) (forE bm n i t) := by
  intro n
  induction n with
  | zero => exact fun i s t hR => .ok hR
  | succ n ih =>
    intro i s t hR
    rw [forE_succ, forRangeAux_succ]
    exact (hstep i s t hR).bind fun s' t' hR' => ih (i + 1) s' t' hR'

theorem getI_nonneg_j {α} (xs : List α) (k : Int) (site : String) (h : 0 ≤ k) : getI xs k site = getE xs k.toNat site :=
  if_pos h

theorem Follows.idxE_getI {α β γ} {Q : β → γ → Prop} (xs : List α) {k : Int} (hk : 0 ≤ k) (site site' : String)
    {f : α → Except Err β} {g : α → Except Err γ} (h : ∀ x, Follows Q (f x) (g x)) :
    Follows Q (bindE (idxE xs k site) f) (bindE (getI xs k site') g) := by
  rw [idxE, if_pos hk, getI_nonneg_j _ _ _ hk]
  exact Follows.getE _ _ _ _ fun x _ => h x

theorem Follows.idxE_getI_ints {β γ} {Q : β → γ → Prop} (xs : List Nat) {k : Int} (hk : 0 ≤ k) (site site' : String)
    {f : Int → Except Err β} {g : Nat → Except Err γ} (h : ∀ x : Nat, Follows Q (f (x : Int)) (g x)) :
    Follows Q (bindE (idxE (ints xs) k site) f) (bindE (getI xs k site') g) := by
  rw [idxE, if_pos hk, getI_nonneg_j _ _ _ hk]
  exact Follows.getE_ints _ _ _ _ fun x _ => h x

theorem OkFollows.idxE_getI {α β γ} {Q : β → γ → Prop} (xs : List α) {k : Int} (hk : 0 ≤ k) (site site' : String)
    {f : α → Except Err β} {g : α → Except Err γ} (h : ∀ x, OkFollows Q (f x) (g x)) :
    OkFollows Q (bindE (idxE xs k site) f) (bindE (getI xs k site') g) := by
  rw [idxE, if_pos hk, getI_nonneg_j _ _ _ hk]
  exact OkFollows.getE _ _ _ _ fun x _ => h x

theorem idxE_ints_of_nonneg {xs : List Nat} {k : Int} {x : Nat} (hk : 0 ≤ k) (site : String) (h : xs[k.toNat]? = some x) :
    idxE (ints xs) k site = .ok (x : Int) := by
  rw [idxE, if_pos hk]; exact getE_ints xs _ site h

theorem OkFollows.idxE_getI_ints {β γ} {Q : β → γ → Prop} (xs : List Nat) {k : Int} (hk : 0 ≤ k) (site site' : String)
    {f : Int → Except Err β} {g : Nat → Except Err γ} (h : ∀ x : Nat, xs[k.toNat]? = some x → OkFollows Q (f (x : Int)) (g x)) :
    OkFollows Q (bindE (idxE (ints xs) k site) f) (bindE (getI xs k site') g) := by
  rw [idxE, if_pos hk, getI_nonneg_j _ _ _ hk]
  exact OkFollows.getE_ints _ _ _ _ h

theorem compareBody_eq (om nm : List Int) (differs : Int → Int → Except Err Bool) (i : Nat) (tk : List Bool) :
    compareBody om nm differs i tk = bindE (getE tk i "to_keep[i]") fun t =>
      if t == false then
        bindE (getE om i "old_map[i]") fun o =>
        if o == -1 then setE tk i true "to_keep[i]"
        else bindE (getE nm i "new_map[i]") fun n =>
          if n == -1 then setE tk i false "to_keep[i]" else bindE (differs o n) fun d => setE tk i d "to_keep[i]"
      else .ok tk := by
  simp only [compareBody, Except.bind_eq_bindE, setTk]
  rfl

theorem map_entry_nonneg {m : List Int} (hm : ∀ x ∈ m, -1 ≤ x) {i : Nat} {x : Int} (hx : m[i]? = some x)
    (h1 : ¬ (x == -1) = true) : 0 ≤ x := by
  have := hm x (List.mem_of_getElem? hx)
  have : x ≠ -1 := fun h => h1 (h ▸ beq_self_eq_true _)
  omega

theorem compare_rows_follows (om nm oldF newF : List Int) (hom : ∀ x ∈ om, -1 ≤ x) (hnm : ∀ x ∈ nm, -1 ≤ x) (i : Nat) :
    ∀ (s : compare_rows_for_journalling.St) (tk : List Bool),
      s.p0 = om ∧ s.p1 = nm ∧ s.p2 = oldF ∧ s.p3 = newF ∧ s.p4 = tk →
      Follows (fun s' tk' => s'.p0 = om ∧ s'.p1 = nm ∧ s'.p2 = oldF ∧ s'.p3 = newF ∧ s'.p4 = tk')
        (compare_rows_for_journalling.body_L1 { s with v0 := (i : Int) }) (compareBody om nm (numDiffers oldF newF) i tk) := by
  rintro ⟨om, nm, oldF, newF, tk, _, _, _⟩ _ ⟨rfl, rfl, rfl, rfl, rfl⟩
  simp only [compare_rows_for_journalling.body_L1, idxE_nat, compareBody_eq]
  refine Follows.getE _ _ _ _ fun t _ => Follows.ite (fun _ => ?_) (fun _ => .ok rfl ⟨rfl, rfl, rfl, rfl, rfl⟩)
  refine Follows.getE _ _ _ _ fun o ho => ?_
  refine Follows.ite (fun _ => Follows.setIdxE_ret _ _ _ _ _ (.ok rfl ⟨rfl, rfl, rfl, rfl, rfl⟩)) fun ho1 => ?_
  refine Follows.getE _ _ _ _ fun n hn => ?_
  refine Follows.ite (fun _ => Follows.setIdxE_ret _ _ _ _ _ (.ok rfl ⟨rfl, rfl, rfl, rfl, rfl⟩)) fun hn1 => ?_
  -- the kernel reads `old_map[i]` and `new_map[i]` once more
  simp only [getE_eq_ok.mpr ho, getE_eq_ok.mpr hn, bindE_ok, numDiffers, Except.bind_eq_bindE, bindE_assoc]
  refine Follows.idxE_getI _ (map_entry_nonneg hom ho ho1) _ _ fun a => ?_
  refine Follows.idxE_getI _ (map_entry_nonneg hnm hn hn1) _ _ fun b => ?_
  have hval : (!((a == b) || ((a != a) && (b != b)))) = (a != b) := by simp [bne]
  rw [hval]
  exact Follows.setIdxE_ret _ _ _ _ _ (.ok rfl ⟨rfl, rfl, rfl, rfl, rfl⟩)

theorem compare_rows_ok (om nm oldF newF : List Int) (tk tk' : List Bool)
    (hom : ∀ x ∈ om, -1 ≤ x) (hnm : ∀ x ∈ nm, -1 ≤ x) (h : compareRows om nm oldF newF tk = .ok tk') :
    compare_rows_for_journalling.run om nm oldF newF tk = .ok tk' := by
  obtain ⟨s', hs, _, _, _, _, h4⟩ := (forRange_forE _ _ (fun k s => compare_rows_for_journalling.body_L1 { s with v0 := k })
    (fun i s t => compare_rows_follows om nm oldF newF hom hnm i s t) om.length 0
    { p0 := om, p1 := nm, p2 := oldF, p3 := newF, p4 := tk, v0 := 0, v1 := 0, v2 := 0 } tk ⟨rfl, rfl, rfl, rfl, rfl⟩).of_ok h
  unfold compare_rows_for_journalling.run forRangeE
  have hn : (pyLen om - 0).toNat = om.length := Int.toNat_natCast _
  simp only [hn]
  erw [hs]
  exact congrArg _ h4

end Exetera.GenK
