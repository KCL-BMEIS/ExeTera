import Exetera.Model.Concat
/-! C10 helper lemmas: whatever the arguments, an `.ok` run of `_apply_spans_concat_2` (model: `Concat.kernel`) leaves at
    most `capV` bytes in `dest_values` and at most `capI` offsets in `dest_index`. -/
namespace Exetera.Concat
open Exetera
variable {α : Type} [DecidableEq α]

theorem pushV_len {cap : Nat} {vb vb' : List α} {x : α} {site : String} (h : pushV cap vb x site = .ok vb') :
    vb'.length ≤ cap := by
  unfold pushV at h
  split at h
  · cases h; simp only [List.length_append, List.length_singleton]; omega
  · cases h

theorem copyEsc_len (vals : List α) (delim : α) (cap : Nat) : ∀ (n i : Nat) (vb vb' : List α),
    vb.length ≤ cap → copyEsc vals delim cap n i vb = .ok vb' → vb'.length ≤ cap := by
  intro n
  induction n with
  | zero => intro i vb vb' hl h; simp only [copyEsc] at h; cases h; exact hl
  | succ n ih =>
    intro i vb vb' hl h
    simp only [copyEsc] at h
    split at h
    · cases h
    · split at h
      · split at h
        · cases h
        · split at h
          · cases h
          · rename_i vb2 h2; exact ih _ _ _ (pushV_len h2) h
      · split at h
        · cases h
        · rename_i vb1 h1; exact ih _ _ _ (pushV_len h1) h

theorem emitBody_len (vals : List α) (delim : α) (cap : Nat) (quoted : Bool) (a b : Nat) (vb vb' : List α)
    (hl : vb.length ≤ cap) (h : emitBody vals delim cap quoted a b vb = .ok vb') : vb'.length ≤ cap := by
  unfold emitBody at h
  split at h
  · cases h
  · rename_i vb1 h1
    have hl1 : vb1.length ≤ cap := by
      cases quoted with
      | true => simp only [if_true] at h1; exact pushV_len h1
      | false => simp only [Bool.false_eq_true, if_false] at h1; cases h1; exact hl
    split at h
    · cases h
    · rename_i vb2 h2
      have hl2 := copyEsc_len vals delim cap _ _ _ _ hl1 h2
      split at h
      · exact pushV_len h
      · cases h; exact hl2

theorem multiLoop_len (idx : List Nat) (vals : List α) (sep delim : α) (cap spCur : Nat) :
    ∀ (n e : Nat) (pe : Bool) (vb vb' : List α), vb.length ≤ cap →
      multiLoop idx vals sep delim cap spCur n e pe vb = .ok vb' → vb'.length ≤ cap := by
  intro n
  induction n with
  | zero => intro e pe vb vb' hl h; simp only [multiLoop] at h; cases h; exact hl
  | succ n ih =>
    intro e pe vb vb' hl h
    simp only [multiLoop] at h
    split at h
    · cases h
    · cases h
    · split at h
      · cases h
      · split at h
        · cases h
        · rename_i vb1 h1
          have hl1 : vb1.length ≤ cap := by
            split at h1
            · exact pushV_len h1
            · cases h1; exact hl
          split at h
          · cases h
          · rename_i vb2 h2
            exact ih _ _ _ _ (emitBody_len _ _ _ _ _ _ _ _ hl1 h2) h

theorem spanEmit_len (P : Params α) (spCur spNext curI nextI ne : Nat) (vb vb' : List α) (hl : vb.length ≤ P.capV)
    (h : spanEmit P spCur spNext curI nextI ne vb = .ok vb') : vb'.length ≤ P.capV := by
  unfold spanEmit at h
  split at h
  · split at h
    · cases h
    · exact emitBody_len _ _ _ _ _ _ _ _ hl h
  · split at h
    · exact multiLoop_len _ _ _ _ _ _ _ _ _ _ _ hl h
    · cases h; exact hl

theorem oneSpan_len (P : Params α) (s : Nat) (st st' : Buf α) (hl : st.vb.length ≤ P.capV)
    (h : oneSpan P s st = .ok st') : st'.ib.length ≤ P.capI ∧ st'.vb.length ≤ P.capV := by
  unfold oneSpan at h
  split at h
  · cases h
  · cases h
  · split at h
    · cases h
    · cases h
    · split at h
      · cases h
      · split at h
        · cases h
        · rename_i vb' hvb
          have := spanEmit_len P _ _ _ _ _ _ _ hl hvb
          split at h
          · cases h
            simp only [List.length_append, List.length_singleton]
            exact ⟨by omega, this⟩
          · cases h

theorem spanLoop_len (P : Params α) : ∀ (n s : Nat) (st : Buf α) (s' : Nat) (b : Buf α),
    st.vb.length ≤ P.capV → (st.ib.length ≤ P.capI ∨ 0 < n) → spanLoop P n s st = .ok (s', b) →
      b.ib.length ≤ P.capI ∧ b.vb.length ≤ P.capV := by
  intro n
  induction n with
  | zero =>
    intro s st s' b hv hi h
    simp only [spanLoop] at h
    cases h
    exact ⟨by omega, hv⟩
  | succ n ih =>
    intro s st s' b hv _ h
    simp only [spanLoop] at h
    split at h
    · cases h
    · rename_i st1 h1
      have hb := oneSpan_len P s st st1 hv h1
      split at h
      · cases h; exact hb
      · exact ih _ _ _ _ hb.2 (Or.inl hb.1) h

theorem kernel_len (P : Params α) (spStart s' : Nat) (b : Buf α) (h : kernel P spStart = .ok (s', b)) :
    b.ib.length ≤ P.capI ∧ b.vb.length ≤ P.capV := by
  simp only [kernel] at h
  by_cases hlt : spStart < P.spans.length - 1
  · rw [if_pos hlt] at h
    refine spanLoop_len P _ _ _ _ _ ?_ (Or.inr (by omega)) h
    simp
  · rw [if_neg hlt] at h; cases h

end Exetera.Concat
