import Exetera.Model.Unique
/-!
Order-generic facts behind `unique` (C14), for any value type with a lawful `==` and any total, transitive,
antisymmetric `le`: sorting the distinct values of a column, listed in any order, gives the Spec's `uniques`, and `argsort`
of distinct keys lists their positions.
-/
namespace Exetera.Unique
open Exetera Exetera.Spec

section generic
variable {α : Type} [BEq α] [LawfulBEq α] (le : α → α → Bool)

structure IsOrder : Prop where
  trans : ∀ a b c, le a b = true → le b c = true → le a c = true
  total : ∀ a b, (le a b || le b a) = true
  antisymm : ∀ a b, le a b = true → le b a = true → a = b

variable {le}

omit [BEq α] [LawfulBEq α] in
theorem eq_of_sorted_of_mem_iff (ho : IsOrder le) {l₁ l₂ : List α}
    (h₁ : l₁.Pairwise (fun a b => le a b = true)) (h₂ : l₂.Pairwise (fun a b => le a b = true))
    (n₁ : l₁.Nodup) (n₂ : l₂.Nodup) (hm : ∀ a, a ∈ l₁ ↔ a ∈ l₂) : l₁ = l₂ :=
  List.Perm.eq_of_pairwise (le := fun a b => le a b = true) (fun a b _ _ hab hba => ho.antisymm a b hab hba) h₁ h₂
    ((List.perm_ext_iff_of_nodup n₁ n₂).mpr hm)

omit [BEq α] [LawfulBEq α] in
theorem mergeSort_sorted (ho : IsOrder le) (xs : List α) : (xs.mergeSort le).Pairwise (fun a b => le a b = true) :=
  List.pairwise_mergeSort ho.trans ho.total xs

theorem argsort_eq (ho : IsOrder le) (xs : List α) (hn : xs.Nodup) :
    ((xs.zipIdx.mergeSort (fun a b => le a.1 b.1)).map (·.2)) = (xs.mergeSort le).map (fun x => xs.idxOf x) := by
  have hperm := List.mergeSort_perm xs.zipIdx (fun a b => le a.1 b.1)
  have hsorted : (xs.zipIdx.mergeSort (fun a b => le a.1 b.1)).Pairwise (fun a b => le a.1 b.1 = true) :=
    List.pairwise_mergeSort (fun a b c => ho.trans a.1 b.1 c.1) (fun a b => ho.total a.1 b.1) _
  have hfs : ((xs.zipIdx.mergeSort (fun a b => le a.1 b.1)).map (·.1)).Pairwise (fun a b => le a b = true) :=
    List.pairwise_map.mpr hsorted
  have hfp : ((xs.zipIdx.mergeSort (fun a b => le a.1 b.1)).map (·.1)).Perm xs := by
    have := hperm.map (·.1)
    rwa [List.zipIdx_map_fst] at this
  have heq : (xs.zipIdx.mergeSort (fun a b => le a.1 b.1)).map (·.1) = xs.mergeSort le :=
    List.Perm.eq_of_pairwise (le := fun a b => le a b = true) (fun a b _ _ hab hba => ho.antisymm a b hab hba)
      hfs (mergeSort_sorted ho xs) (hfp.trans (List.mergeSort_perm xs le).symm)
  rw [← heq, List.map_map]
  apply List.map_congr_left
  intro ⟨x, j⟩ hmem
  have hz := List.mem_zipIdx (hperm.mem_iff.mp hmem)
  obtain ⟨_, hj, hx⟩ := hz
  simp only [Nat.sub_zero, Nat.zero_add] at hj hx
  simp only [Function.comp]
  rw [hx]
  exact (hn.idxOf_getElem j hj).symm

theorem mem_insertU (x y : α) (l : List α) : y ∈ insertU le x l ↔ y = x ∨ y ∈ l := by
  induction l with
  | nil => simp [insertU]
  | cons z zs ih =>
    simp only [insertU]
    split
    · rename_i h; have h := eq_of_beq h; subst h; simp
    · split
      · simp
      · simp only [List.mem_cons, ih]
        constructor
        · rintro (h | h | h) <;> simp [h]
        · rintro (h | h | h) <;> simp [h]

def StrictSorted (le : α → α → Bool) (l : List α) : Prop := l.Pairwise (fun a b => le a b = true ∧ a ≠ b)

theorem insertU_strict (ho : IsOrder le) (x : α) (l : List α) (h : StrictSorted le l) : StrictSorted le (insertU le x l) := by
  induction l with
  | nil => simp [insertU, StrictSorted]
  | cons z zs ih =>
    have hz := List.pairwise_cons.mp h
    simp only [insertU]
    split
    · exact h
    · rename_i hxz
      have hxz : x ≠ z := by simpa using hxz
      split
      · rename_i hle
        refine List.pairwise_cons.mpr ⟨?_, h⟩
        intro b hb
        rcases List.mem_cons.mp hb with rfl | hb
        · exact ⟨hle, hxz⟩
        · have := hz.1 b hb
          refine ⟨ho.trans _ _ _ hle this.1, ?_⟩
          intro e; subst e
          exact hxz (ho.antisymm _ _ hle this.1)
      · rename_i hle
        have hzx : le z x = true := by
          have := ho.total x z
          simp only [Bool.or_eq_true] at this
          rcases this with h' | h'
          · exact absurd h' hle
          · exact h'
        refine List.pairwise_cons.mpr ⟨?_, ih hz.2⟩
        intro b hb
        rcases (mem_insertU x b zs).mp hb with rfl | hb
        · exact ⟨hzx, fun e => hxz e.symm⟩
        · exact hz.1 b hb

theorem uniques_strict (ho : IsOrder le) (col : List α) : StrictSorted le (uniques le col) := by
  induction col with
  | nil => simp [uniques, StrictSorted]
  | cons x xs ih => exact insertU_strict ho x _ ih

theorem mem_uniques (col : List α) (x : α) : x ∈ uniques le col ↔ x ∈ col := by
  induction col with
  | nil => simp [uniques]
  | cons y ys ih =>
    have : uniques le (y :: ys) = insertU le y (uniques le ys) := rfl
    rw [this, mem_insertU, ih]; simp

theorem uniques_sorted (ho : IsOrder le) (col : List α) : (uniques le col).Pairwise (fun a b => le a b = true) :=
  (uniques_strict ho col).imp (fun h => h.1)

theorem uniques_nodup (ho : IsOrder le) (col : List α) : (uniques le col).Nodup :=
  List.nodup_iff_pairwise_ne.mpr ((uniques_strict ho col).imp (fun h => h.2))

theorem mergeSort_eq_uniques (ho : IsOrder le) (col d : List α) (hd : d.Nodup) (hm : ∀ x, x ∈ d ↔ x ∈ col) :
    d.mergeSort le = uniques le col := by
  have hp := List.mergeSort_perm d le
  exact eq_of_sorted_of_mem_iff ho (mergeSort_sorted ho d) (uniques_sorted ho col) (hp.nodup_iff.mpr hd)
    (uniques_nodup ho col) (fun a => by rw [hp.mem_iff, hm, mem_uniques])

theorem map_idxOf_self (d : List α) (hd : d.Nodup) : d.map (fun x => d.idxOf x) = List.range d.length := by
  apply List.ext_getElem
  · simp
  · intro i h1 h2
    simp only [List.getElem_map, List.getElem_range]
    exact hd.idxOf_getElem i (by simpa using h1)

theorem idxOf_map_of_inj {β : Type} [BEq β] [LawfulBEq β] (f : α → β) (x : α) : ∀ (l : List α),
    (∀ y ∈ l, f y = f x → y = x) → (l.map f).idxOf (f x) = l.idxOf x := by
  intro l
  induction l with
  | nil => intro _; simp
  | cons y ys ih =>
    intro h
    have hy := h y (List.mem_cons_self)
    have ih' := ih (fun z hz => h z (List.mem_cons_of_mem _ hz))
    simp only [List.map_cons, List.idxOf_cons]
    by_cases e : y = x
    · subst e; simp
    · have h1 : (f y == f x) = false := by simpa using fun e' => e (hy e')
      have h2 : (y == x) = false := by simpa using e
      simp [h1, h2, ih']

theorem not_eq_of_lt_idxOf (col : List α) (u : α) (j : Nat) (h : j < col.length) (hj : j < col.idxOf u) : col[j] ≠ u :=
  fun e => by simpa [e] using List.not_of_lt_findIdx (p := (· == u)) hj

theorem map_idxOf_snoc {p d : List α} (v : α) (h : ∀ u ∈ d, u ∈ p) :
    d.map (fun u => (p ++ [v]).idxOf u) = d.map (fun u => p.idxOf u) :=
  List.map_congr_left fun u hu => by rw [List.idxOf_append, if_pos (h u hu)]

theorem idxOf_snoc_self {p : List α} {v : α} (hv : v ∉ p) : (p ++ [v]).idxOf v = p.length := by
  rw [List.idxOf_append, if_neg hv, List.idxOf_cons_self, Nat.zero_add]

theorem count_snoc_self {p : List α} {v : α} (hv : v ∉ p) : (p ++ [v]).count v = 1 := by
  rw [List.count_append, List.count_eq_zero.mpr hv, List.count_singleton_self]

theorem map_count_snoc_of_ne {p d : List α} {v : α} (hv : v ∉ d) :
    d.map (fun u => (p ++ [v]).count u) = d.map (fun u => p.count u) :=
  List.map_congr_left fun u hu => by
    have : (v == u) = false := beq_false_of_ne fun e => hv (e ▸ hu)
    rw [List.count_append, List.count_singleton, this]; rfl

theorem map_count_snoc_of_mem {p d : List α} {v : α} (hd : d.Nodup) (hv : v ∈ d)
    (hj : d.idxOf v < (d.map (fun u => p.count u)).length) :
    (d.map (fun u => p.count u)).set (d.idxOf v) ((d.map (fun u => p.count u))[d.idxOf v] + 1) =
      d.map (fun u => (p ++ [v]).count u) := by
  have hj' : d.idxOf v < d.length := List.idxOf_lt_length_iff.mpr hv
  apply List.ext_getElem (by simp)
  intro k h1 h2
  rw [List.length_set, List.length_map] at h1
  simp only [List.getElem_set, List.getElem_map, List.count_append, List.count_singleton, List.getElem_idxOf hj']
  by_cases hk : d.idxOf v = k
  · subst hk
    simp [List.getElem_idxOf hj']
  · have : (v == d[k]) = false := beq_false_of_ne fun e => hk (e ▸ hd.idxOf_getElem k h1)
    simp [hk, this]

omit [BEq α] [LawfulBEq α] in
theorem sum_map_add (U : List α) (f g : α → Nat) :
    (U.map (fun u => f u + g u)).sum = (U.map f).sum + (U.map g).sum := by
  induction U with
  | nil => rfl
  | cons u us ih => simp only [List.map_cons, List.sum_cons, ih]; omega

theorem sum_indicator (U : List α) (x : α) : (U.map (fun u => if (x == u) = true then 1 else 0)).sum = U.count x := by
  induction U with
  | nil => rfl
  | cons u us ih =>
    simp only [List.map_cons, List.sum_cons, ih, List.count_cons]
    have : (x == u) = (u == x) := by
      by_cases h : x = u
      · subst h; simp
      · have h1 : (x == u) = false := by simpa using h
        have h2 : (u == x) = false := by simpa using fun e => h e.symm
        rw [h1, h2]
    rw [this]; omega

theorem sum_counts (U : List α) (hU : U.Nodup) : ∀ (col : List α), (∀ x ∈ col, x ∈ U) →
    (U.map (fun u => col.count u)).sum = col.length := by
  intro col
  induction col with
  | nil => intro _; induction U <;> simp_all
  | cons x xs ih =>
    intro h
    have hx : x ∈ U := h x List.mem_cons_self
    have := ih (fun y hy => h y (List.mem_cons_of_mem _ hy))
    simp only [List.count_cons, List.length_cons]
    rw [sum_map_add, this, sum_indicator, hU.count, if_pos hx]

end generic

/-! ### the integer argsort of a permutation is its inverse -/

theorem natLe_isOrder : IsOrder (fun (a b : Nat) => decide (a ≤ b)) :=
  ⟨fun _ _ _ h1 h2 => decide_eq_true (Nat.le_trans (of_decide_eq_true h1) (of_decide_eq_true h2)),
   fun a b => by simp only [Bool.or_eq_true, decide_eq_true_eq]; exact Nat.le_total a b,
   fun _ _ h1 h2 => Nat.le_antisymm (of_decide_eq_true h1) (of_decide_eq_true h2)⟩

theorem npArgsortNat_perm (perm : List Nat) (hp : perm.Perm (List.range perm.length)) :
    npArgsortNat perm = (List.range perm.length).map (fun d => perm.idxOf d) := by
  have hn : perm.Nodup := hp.nodup_iff.mpr List.nodup_range
  unfold npArgsortNat
  rw [argsort_eq natLe_isOrder perm hn]
  congr 1
  have hs := mergeSort_sorted natLe_isOrder perm
  have hr : (List.range perm.length).Pairwise (fun a b => decide (a ≤ b) = true) :=
    List.pairwise_lt_range.imp (fun h => decide_eq_true (Nat.le_of_lt h))
  exact List.Perm.eq_of_pairwise (le := fun a b => decide (a ≤ b) = true)
    (fun a b _ _ hab hba => natLe_isOrder.antisymm a b hab hba) hs hr ((List.mergeSort_perm perm _).trans hp)

theorem gather_map {β : Type} (xs : List Nat) (site : String) (g h : β → Nat) : ∀ (l : List β),
    (∀ a ∈ l, xs[g a]? = some (h a)) → gather xs site (l.map g) = .ok (l.map h) := by
  intro l
  induction l with
  | nil => intro _; rfl
  | cons a as ih =>
    intro hh
    have ha := hh a (List.mem_cons_self)
    simp only [List.map_cons, gather, getE_eq_ok.mpr ha, ih (fun b hb => hh b (List.mem_cons_of_mem _ hb))]

/-! ### the sort permutation

`d` lists the distinct values of `col` in some order (the kernel's discovery order); `(uniques le col).map d.idxOf` is the
permutation that sorts it. -/

section sortPerm
variable {α : Type} [BEq α] [LawfulBEq α] {le : α → α → Bool} {col d : List α}

theorem getElem?_idxOf {a : α} (ha : a ∈ d) : d[d.idxOf a]? = some a := by
  have h : d.idxOf a < d.length := List.idxOf_lt_length_iff.mpr ha
  rw [List.getElem?_eq_getElem h, List.getElem_idxOf h]

theorem gather_through_perm (hm : ∀ x, x ∈ d ↔ x ∈ col) (site : String) (f : α → Nat) :
    gather (d.map f) site ((uniques le col).map (fun u => d.idxOf u)) = .ok ((uniques le col).map f) := by
  apply gather_map
  intro a ha
  rw [List.getElem?_map, getElem?_idxOf ((hm a).mpr ((mem_uniques col a).mp ha))]
  rfl

theorem uniques_perm (ho : IsOrder le) (hd : d.Nodup) (hm : ∀ x, x ∈ d ↔ x ∈ col) : (uniques le col).Perm d :=
  (List.perm_ext_iff_of_nodup (uniques_nodup ho col) hd).mpr fun a => by rw [mem_uniques, hm]

theorem sortPerm_perm (ho : IsOrder le) (hd : d.Nodup) (hm : ∀ x, x ∈ d ↔ x ∈ col) :
    ((uniques le col).map (fun u => d.idxOf u)).Perm
      (List.range ((uniques le col).map (fun u => d.idxOf u)).length) := by
  have h1 := (uniques_perm ho hd hm).map (fun u => d.idxOf u)
  rw [map_idxOf_self _ hd] at h1
  simpa [(uniques_perm ho hd hm).length_eq] using h1

/-- D21 repaired: mapping the row → position-in-`d` inverse through `argsort` of the sort permutation gives, for every
    row, the position of its value among the sorted uniques -/
theorem gather_inverse (ho : IsOrder le) (hd : d.Nodup) (hm : ∀ x, x ∈ d ↔ x ∈ col) (site : String) :
    gather (npArgsortNat ((uniques le col).map (fun u => d.idxOf u))) site (col.map (fun x => d.idxOf x))
      = .ok (col.map (fun x => (uniques le col).idxOf x)) := by
  rw [npArgsortNat_perm _ (sortPerm_perm ho hd hm)]
  apply gather_map
  intro a ha
  have hlt : d.idxOf a < d.length := List.idxOf_lt_length_iff.mpr ((hm a).mpr ha)
  rw [List.getElem?_map, List.length_map, (uniques_perm ho hd hm).length_eq, List.getElem?_range hlt]
  simp only [Option.map_some, Option.some.injEq]
  refine idxOf_map_of_inj (fun u => d.idxOf u) a (uniques le col) fun y hy he => ?_
  -- equal positions in `d` mean equal values
  have h1 := getElem?_idxOf ((hm y).mpr ((mem_uniques col y).mp hy))
  rw [he, getElem?_idxOf ((hm a).mpr ha)] at h1
  exact (Option.some.inj h1).symm

end sortPerm

/-- the hypothesis that excludes finding NC14a: no stored string ends with a zero byte (U+0000) -/
def NoTrailingNul (col : List Bytes) : Prop := ∀ x ∈ col, x.getLast? ≠ some 0

theorem stripNul_eq {x : Bytes} (h : x.getLast? ≠ some 0) : stripNul x = x := by
  rcases List.eq_nil_or_concat x with rfl | ⟨ys, z, rfl⟩
  · rfl
  · have hz : z ≠ 0 := by
      intro e; apply h; simp [e]
    simp [stripNul, hz]

theorem map_stripNul_eq {d : List Bytes} (h : ∀ x ∈ d, x.getLast? ≠ some 0) : d.map stripNul = d := by
  conv => rhs; rw [← List.map_id d]
  exact List.map_congr_left (fun x hx => stripNul_eq (h x hx))

end Exetera.Unique
