import Exetera.Lemmas.JoinDriver
import Exetera.Lemmas.JoinInnerSpec
/-! The both-unique generators (`generate_ordered_map_to_{left,inner}_both_unique_streamed`). Both key columns are strictly
    sorted, both chunks are untrimmed, the kernel has no block state: a matched pair `(I, J)` is the only row of its left
    key, and both sides advance past it. -/
namespace Exetera.Join
open Exetera Exetera.Spec

/-- `true` ↦ `generate_ordered_map_to_left_both_unique_streamed`, `false` ↦ `…inner_both_unique_streamed` -/
def bvariant (emit : Bool) : Variant := if emit then .leftBU else .innerBU

theorem bvariant_isLeft (emit : Bool) : (bvariant emit).isLeft = emit := by cases emit <;> rfl

structure BInv (emit : Bool) (L R : List Int) (cs : Nat) (inv : Int) (d : D) : Prop where
  lok : ChunkOK L d.lch
  rok : ChunkOK R d.rch
  llen : d.lch.data.length = d.lch.hi - d.lch.lo
  rlen : d.rch.data.length = d.rch.hi - d.rch.lo
  ile : d.k.i ≤ d.lch.hi - d.lch.lo
  jle : d.k.j ≤ d.rch.hi - d.rch.lo
  blen : d.k.lb.length = d.k.rb.length
  bcap : d.k.rb.length ≤ cs
  outL : d.lout ++ d.k.lb ++ encL (sel emit (rest L R d.I)) = encL (sel emit (leftJoin L R))
  outR : d.rout ++ d.k.rb ++ encR inv (sel emit (rest L R d.I)) = encR inv (sel emit (leftJoin L R))
  h1 : ∀ j b a, j < d.J → R[j]? = some b → L[d.I]? = some a → b < a

variable {emit : Bool} {L R : List Int} {cs : Nat} {inv : Int} {d : D}

theorem BInv.core (h : BInv emit L R cs inv d) : Core false false emit L R cs inv (rest L R d.I) d :=
  ⟨⟨h.lok, nofun, fun _ => h.llen⟩, ⟨h.rok, nofun, fun _ => h.rlen⟩, h.ile, h.jle, h.blen, h.bcap, h.outL, h.outR⟩

theorem BInv.of_core (c : Core false false emit L R cs inv (rest L R d.I) d) (h : BelowAt L R d.I d.J) :
    BInv emit L R cs inv d :=
  ⟨c.lch.ok, c.rch.ok, c.lch.len rfl, c.rch.len rfl, c.ile, c.jle, c.blen, c.bcap, c.outL, c.outR, h⟩

theorem partialBody_bu (emit : Bool) : partialBody (bvariant emit) = uniqueBody (bvariant emit) := by
  cases emit <;> rfl

/-- with untrimmed chunks (`len(left_) = i_max`) the two kernels have the same loop guard -/
theorem partialGuard_bu (h : BInv emit L R cs inv d) (s : K) :
    partialGuard (bvariant emit) (mkP L R cs inv d) s =
      (decide (s.i < d.lch.hi - d.lch.lo) && decide (s.j < d.rch.hi - d.rch.lo) && decide (s.rb.length < cs)) := by
  cases emit <;> simp only [bvariant, partialGuard, mkP, D.iMax, D.jMax, K.r, h.llen, h.rlen] <;> rfl

theorem bu_step (hL : L.Pairwise (· < ·)) (hR : R.Pairwise (· < ·)) (d : D) (hinv : BInv emit L R cs inv d)
    (hg : partialGuard (bvariant emit) (mkP L R cs inv d) d.k = true) :
    ∃ s', partialBody (bvariant emit) (mkP L R cs inv d) d.k = .ok s' ∧ BInv emit L R cs inv { d with k := s' } ∧
      kmu cs { d with k := s' } < kmu cs d ∧ bgmu L R { d with k := s' } < bgmu L R d := by
  rw [partialGuard_bu hinv] at hg
  simp only [Bool.and_eq_true, decide_eq_true_eq] at hg
  obtain ⟨⟨hi, hj⟩, hr⟩ := hg
  have c := hinv.core
  obtain ⟨a, ha, hga⟩ := chunk_access hinv.lok hi "left[i]"
  obtain ⟨b, hb, hgb⟩ := chunk_access hinv.rok hj "right[j]"
  rw [partialBody_bu]
  by_cases hab : a = b
  · -- both columns are duplicate-free, so `(I, J)` is the only row of this left key
    subst hab
    obtain ⟨h2, h3, h4⟩ := c.match_both (Strict.sorted hR)
      (RU.rest_eq1 hR ha hb fun j b hj hb' => hinv.h1 j b a hj hb' ha) hb
      (fun a' ha' => Strict.lt_get? hL (Nat.lt_succ_self _) ha ha') hi hj hr rfl
    refine ⟨_, ?_, BInv.of_core h2 h3, h4⟩
    cases emit <;> simp [uniqueBody, bvariant, mkP, hga, hgb, push, hr, bind, Except.bind, pure, Except.pure]
  · obtain ⟨s', h1, h2, h3, h4⟩ := unique_ne (bvariant_isLeft emit) (Strict.sorted hL) (Strict.sorted hR) c hinv.h1 hi hj hr
      ha hga hb hgb hab
    exact ⟨s', h1, BInv.of_core h2 h3, h4⟩

theorem bu_partial (hL : L.Pairwise (· < ·)) (hR : R.Pairwise (· < ·)) (d : D) (hinv : BInv emit L R cs inv d) :
    ∃ k', runPartial (bvariant emit) (mkP L R cs inv d) d.k = .ok k' ∧ BInv emit L R cs inv { d with k := k' } ∧
      partialGuard (bvariant emit) (mkP L R cs inv d) k' = false ∧
      bgmu L R { d with k := k' } ≤ bgmu L R d ∧
      (partialGuard (bvariant emit) (mkP L R cs inv d) d.k = true → bgmu L R { d with k := k' } < bgmu L R d) :=
  partial_of_step (bu_step hL hR) d hinv

theorem bu_kernel (hcs : 0 < cs) (hL : L.Pairwise (· < ·)) (hR : R.Pairwise (· < ·)) :
    Kernel (bvariant emit) false false emit L R cs inv (BInv emit L R cs inv) (fun d => rest L R d.I) (bgmu L R) where
  ltrim := by cases emit <;> rfl
  rtrim := by cases emit <;> rfl
  isLeft := bvariant_isLeft emit
  core h := h.core
  init hl hr hl0 hr0 := BInv.of_core (by simp only [D.I, hl0]; exact rest_zero L R ▸ Core.init hl hr)
    (by simp only [D.J, hr0]; exact BelowAt.zero)
  run := bu_partial hL hR
  enter h hf hi hj := by rw [partialGuard_bu h]; simp [hf, hi, hj, hcs]
  frame h f := ⟨BInv.of_core (by rw [f.I]; exact h.core.frame f) (by rw [f.I, f.J]; exact h.h1),
    by simp only [bgmu, f.I, f.J]⟩
  exit h hg := ⟨rfl, BelowAt.allBelow_of_exit hg h.h1⟩

structure BMInv (emit : Bool) (L R : List Int) (cs : Nat) (inv : Int) (d : D) : Prop where
  g : BInv emit L R cs inv d
  li : d.lch.lo + d.k.i < L.length → d.k.i < d.lch.hi - d.lch.lo
  rj : d.rch.lo + d.k.j < R.length → d.k.j < d.rch.hi - d.rch.lo
  flushed : d.k.rb = []

theorem bu_main_step (hcs : 0 < cs) (hL : L.Pairwise (· < ·)) (hR : R.Pairwise (· < ·)) (d : D)
    (hm : BMInv emit L R cs inv d) (hg : mainGuard L R d = true) :
    ∃ d', mainBody (bvariant emit) L R cs inv d = .ok d' ∧ BMInv emit L R cs inv d' ∧ bgmu L R d' < bgmu L R d := by
  obtain ⟨d', h1, h2, h3⟩ := (bu_kernel hcs hL hR).main_step hcs ⟨hm.g, hm.li, hm.rj, hm.flushed⟩ hg
  exact ⟨d', h1, ⟨h2.g, h2.li, h2.rj, h2.flushed⟩, h3⟩

theorem bu_streamed (hcs : 0 < cs) (hL : L.Pairwise (· < ·)) (hR : R.Pairwise (· < ·)) (fuel : Nat)
    (hfuel : L.length + R.length ≤ fuel) :
    ∃ calls, streamed (bvariant emit) fuel cs inv L R =
      .ok ⟨if (bvariant emit).hasL then encL (sel emit (leftJoin L R)) else [],
           encR inv (sel emit (leftJoin L R)), calls⟩ :=
  (bu_kernel hcs hL hR).streamed hcs (Strict.sorted hL) (Strict.sorted hR) fuel
    (fun _ _ => Nat.le_trans (Nat.add_le_add (Nat.sub_le _ _) (Nat.sub_le _ _)) hfuel) (by omega)

/-- `generate_ordered_map_to_left_both_unique_streamed`: for duplicate-free sorted key columns, every chunk size ≥ 1 and
    every marker, the streamed `r_result` is exactly the right map column of the relational left join (this variant
    writes no `l_result`: `Variant.leftBU.hasL = false`). `fuel` bounds the driver-loop iterations. -/
theorem left_both_unique_streamed (inv : Int) (hcs : 0 < cs) (hL : L.Pairwise (· < ·)) (hR : R.Pairwise (· < ·))
    (fuel : Nat) (hfuel : L.length + R.length ≤ fuel) :
    ∃ calls, streamed .leftBU fuel cs inv L R = .ok ⟨[], encR inv (leftJoin L R), calls⟩ :=
  bu_streamed (emit := true) hcs hL hR fuel hfuel

/-- `generate_ordered_map_to_inner_both_unique_streamed`: for duplicate-free sorted key columns and every chunk size ≥ 1
    the streamed maps are exactly the relational inner join. -/
theorem inner_both_unique_streamed_eq (inv : Int) (hcs : 0 < cs) (hL : L.Pairwise (· < ·)) (hR : R.Pairwise (· < ·))
    (fuel : Nat) (hfuel : L.length + R.length ≤ fuel) :
    ∃ calls, streamed .innerBU fuel cs inv L R =
      .ok ⟨(encodeInner (innerJoin L R)).1, (encodeInner (innerJoin L R)).2, calls⟩ := by
  rw [encodeInner_fst, encodeInner_snd inv]
  exact bu_streamed (emit := false) hcs hL hR fuel hfuel

/-- the left join again, with the missing left map written as the driver computes it: `if hasL then … else []` -/
theorem left_both_unique_streamed_eq (inv : Int) (hcs : 0 < cs) (hL : L.Pairwise (· < ·)) (hR : R.Pairwise (· < ·))
    (fuel : Nat) (hfuel : L.length + R.length ≤ fuel) :
    ∃ calls, streamed .leftBU fuel cs inv L R =
      .ok ⟨if Variant.leftBU.hasL then (encodeLeft inv (leftJoin L R)).1 else [], (encodeLeft inv (leftJoin L R)).2, calls⟩ :=
  left_both_unique_streamed inv hcs hL hR fuel hfuel

-- non-vacuity: the hypotheses are met by non-trivial inputs (several chunks on both sides, matched and unmatched rows,
-- a non-empty tail), and the model indeed computes the stated value there
example : [1, 3, 4, 7, 9, 12].Pairwise (· < ·) ∧ [0, 3, 5, 7, 8].Pairwise (· < ·) ∧ 0 < 2 := by decide
example : (streamed .leftBU 11 2 (-1) [1, 3, 4, 7, 9, 12] [0, 3, 5, 7, 8]).toOption.map (fun o => (o.lout, o.rout)) =
    some ([], encR (-1) (leftJoin [1, 3, 4, 7, 9, 12] [0, 3, 5, 7, 8])) := by decide +kernel
example : (streamed .innerBU 11 1 0 [1, 3, 4, 7, 9, 12] [0, 3, 5, 7, 8]).toOption.map (fun o => (o.lout, o.rout)) =
    some (encodeInner (innerJoin [1, 3, 4, 7, 9, 12] [0, 3, 5, 7, 8])) := by decide +kernel

end Exetera.Join
