import Exetera.Gen.Kernels
import Exetera.Model.Journal
import Exetera.Lemmas.GenKernels
import Exetera.Lemmas.GenKernelsSpans
import Exetera.Lemmas.GenKernelsJournal
/-!
  The TRANSLATED `compare_indexed_rows_for_journalling` (three `assert`s, two of them on the constant negative subscript
  `indices[-1]`; slices of the value arrays compared with `np.array_equal`) against `Journal.compareIndexedRows` — transfer form:
  every `.ok` run of the model is a run of the translated kernel with the same `to_keep`, provided no map entry is below -1 (the
  model wraps a negative row number around once, the translation makes a negative subscript an error).
-/
namespace Exetera.GenK

open Exetera Exetera.PyRt Exetera.Journal Exetera.Gen.Kernels

theorem idxNegE_one_ints (xs : List Nat) (site : String) {x : Nat} (h : xs.getLast? = some x) :
    idxNegE (ints xs) 1 site = .ok (x : Int) := by
  rw [List.getLast?_eq_getElem?] at h
  have hlen : 1 ≤ xs.length := by
    cases xs with
    | nil => cases h
    | cons a t => exact Nat.succ_le_succ (Nat.zero_le _)
  simp only [idxNegE, ints_length, hlen, if_true]
  exact getE_ints xs _ site h

theorem compare_indexed_rows_follows (om nm : List Int) (oi : List Nat) (ov : List Int) (ni : List Nat) (nv : List Int)
    (hom : ∀ x ∈ om, -1 ≤ x) (hnm : ∀ x ∈ nm, -1 ≤ x) (i : Nat) :
    ∀ (s : compare_indexed_rows_for_journalling.St) (tk : List Bool),
      s.p0 = om ∧ s.p1 = nm ∧ s.p2 = ints oi ∧ s.p3 = ov ∧ s.p4 = ints ni ∧ s.p5 = nv ∧ s.p6 = tk →
      Follows (fun s' tk' => s'.p0 = om ∧ s'.p1 = nm ∧ s'.p2 = ints oi ∧ s'.p3 = ov ∧ s'.p4 = ints ni ∧ s'.p5 = nv ∧ s'.p6 = tk')
        (compare_indexed_rows_for_journalling.body_L1 { s with v0 := (i : Int) })
        (compareBody om nm (strDiffers oi ov ni nv) i tk) := by
  rintro ⟨om, nm, _, ov, _, nv, tk, _, _, _⟩ _ ⟨rfl, rfl, rfl, rfl, rfl, rfl, rfl⟩
  simp only [compare_indexed_rows_for_journalling.body_L1, idxE_nat, compareBody_eq]
  refine Follows.getE _ _ _ _ fun t _ => Follows.ite (fun _ => ?_) (fun _ => .ok rfl ⟨rfl, rfl, rfl, rfl, rfl, rfl, rfl⟩)
  refine Follows.getE _ _ _ _ fun o ho => ?_
  refine Follows.ite (fun _ => Follows.setIdxE_ret _ _ _ _ _ (.ok rfl ⟨rfl, rfl, rfl, rfl, rfl, rfl, rfl⟩)) fun ho1 => ?_
  refine Follows.getE _ _ _ _ fun n hn => ?_
  refine Follows.ite (fun _ => Follows.setIdxE_ret _ _ _ _ _ (.ok rfl ⟨rfl, rfl, rfl, rfl, rfl, rfl, rfl⟩)) fun hn1 => ?_
  simp only [getE_eq_ok.mpr ho, getE_eq_ok.mpr hn, bindE_ok, strDiffers, rowBytes, Except.bind_eq_bindE, bindE_assoc]
  have ho0 := map_entry_nonneg hom ho ho1
  have hn0 := map_entry_nonneg hnm hn hn1
  refine Follows.idxE_getI_ints _ ho0 _ _ fun a => ?_
  refine Follows.idxE_getI_ints _ (Int.add_nonneg ho0 Int.one_nonneg) _ _ fun b => ?_
  refine Follows.idxE_getI_ints _ hn0 _ _ fun c => ?_
  refine Follows.idxE_getI_ints _ (Int.add_nonneg hn0 Int.one_nonneg) _ _ fun d => ?_
  simp only [pySlice_nat, pure, Except.pure, bindE_ok]
  exact Follows.setIdxE_ret _ _ _ _ _ (.ok rfl ⟨rfl, rfl, rfl, rfl, rfl, rfl, rfl⟩)

theorem eq_of_not_bne {α} [BEq α] [LawfulBEq α] {a b : α} (h : ¬ (a != b) = true) : a = b := by
  simpa using h

theorem compare_indexed_rows_ok (om nm : List Int) (oi : List Nat) (ov : List Int) (ni : List Nat) (nv : List Int)
    (tk tk' : List Bool) (hom : ∀ x ∈ om, -1 ≤ x) (hnm : ∀ x ∈ nm, -1 ≤ x)
    (h : compareIndexedRows om nm oi ov ni nv tk = .ok tk') :
    compare_indexed_rows_for_journalling.run om nm (ints oi) ov (ints ni) nv tk = .ok tk' := by
  unfold compareIndexedRows at h
  split at h
  · cases h
  next hlen =>
    split at h
    next lo ln hlo hln =>
      split at h
      · cases h
      next h1 =>
        split at h
        · cases h
        next h2 =>
          obtain ⟨s', hs, _, _, _, _, _, _, h6⟩ := (forRange_forE _ _
            (fun k s => compare_indexed_rows_for_journalling.body_L1 { s with v0 := k })
            (fun i s t => compare_indexed_rows_follows om nm oi ov ni nv hom hnm i s t) om.length 0
            { p0 := om, p1 := nm, p2 := ints oi, p3 := ov, p4 := ints ni, p5 := nv, p6 := tk, v0 := 0, v1 := [], v2 := [] } tk
            ⟨rfl, rfl, rfl, rfl, rfl, rfl, rfl⟩).of_ok h
          have hn : (pyLen om - 0).toNat = om.length := Int.toNat_natCast _
          unfold compare_indexed_rows_for_journalling.run forRangeE
          simp only [pyLen, ← eq_of_not_bne hlen, beq_self_eq_true, if_true, idxNegE_one_ints oi _ hlo,
            idxNegE_one_ints ni _ hln, bindE_ok, eq_of_not_bne h1, eq_of_not_bne h2] at hn ⊢
          rw [hn]
          erw [hs]
          exact congrArg _ h6
    next => cases h

end Exetera.GenK
