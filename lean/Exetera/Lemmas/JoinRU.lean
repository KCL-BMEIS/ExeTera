import Exetera.Lemmas.JoinDriver
import Exetera.Lemmas.JoinInnerSpec
/-!
  The right-unique generators (`generate_ordered_map_to_{left,inner}_right_unique_streamed`): for every sorted left column
  (runs of equal keys allowed), every duplicate-free sorted right column, every chunk size ≥ 1 and every marker, the
  streamed maps are the relational join. A left row has at most one match; the kernel keeps `j` on that match until the run
  of equal left keys ends (no block state is needed). Left chunks are trimmed (`Boundary`), right chunks are untrimmed
  (the read window is exactly the logical range). `|L| + |R|` driver iterations always suffice.
-/
namespace Exetera.Join.RU
open Exetera Exetera.Spec Exetera.Join

/-- `true` ↦ `left_right_unique`, `false` ↦ `inner_right_unique` -/
def ruvariant (emit : Bool) : Variant := if emit then .leftRU else .innerRU

structure UInv (emit : Bool) (L R : List Int) (cs : Nat) (inv : Int) (d : D) : Prop where
  lok : ChunkOK L d.lch
  rok : ChunkOK R d.rch
  lbd : Boundary L d.lch
  rlen : d.rch.data.length = d.rch.hi - d.rch.lo
  ile : d.k.i ≤ d.lch.hi - d.lch.lo
  jle : d.k.j ≤ d.rch.hi - d.rch.lo
  blen : d.k.lb.length = d.k.rb.length
  bcap : d.k.rb.length ≤ cs
  outL : d.lout ++ d.k.lb ++ encL (sel emit (rest L R d.I)) = encL (sel emit (leftJoin L R))
  outR : d.rout ++ d.k.rb ++ encR inv (sel emit (rest L R d.I)) = encR inv (sel emit (leftJoin L R))
  h1 : ∀ j b a, j < d.J → R[j]? = some b → L[d.I]? = some a → b < a

/-- global variant: every kernel iteration advances `I` or `J` -/
def ugmu (L R : List Int) (d : D) : Nat := (L.length - d.I) + (R.length - d.J)

variable {emit : Bool} {L R : List Int} {cs : Nat} {inv : Int} {d : D}

theorem UInv.core (h : UInv emit L R cs inv d) : Core true false emit L R cs inv (rest L R d.I) d :=
  ⟨⟨h.lok, fun _ => h.lbd, nofun⟩, ⟨h.rok, nofun, fun _ => h.rlen⟩, h.ile, h.jle, h.blen, h.bcap, h.outL, h.outR⟩

theorem UInv.of_core (c : Core true false emit L R cs inv (rest L R d.I) d) (h : BelowAt L R d.I d.J) :
    UInv emit L R cs inv d :=
  ⟨c.lch.ok, c.rch.ok, c.lch.bd rfl, c.rch.len rfl, c.ile, c.jle, c.blen, c.bcap, c.outL, c.outR, h⟩

theorem partialBody_ru (emit : Bool) : partialBody (ruvariant emit) = uniqueBody (ruvariant emit) := by
  cases emit <;> rfl

theorem ruvariant_isLeft (emit : Bool) : (ruvariant emit).isLeft = emit := by cases emit <;> rfl

/-- the two kernels' loop guards (`j < len(right)` resp. `j < j_max`) coincide on an untrimmed right chunk -/
theorem partialGuard_ru (h : UInv emit L R cs inv d) (s : K) :
    partialGuard (ruvariant emit) (mkP L R cs inv d) s =
      (decide (s.i < d.lch.hi - d.lch.lo) && decide (s.j < d.rch.hi - d.rch.lo) && decide (s.rb.length < cs)) := by
  cases emit <;> simp only [ruvariant, partialGuard, mkP, D.iMax, D.jMax, K.r, h.rlen] <;> rfl

theorem ru_step (hL : Sorted L) (hR : R.Pairwise (· < ·)) (d : D) (hinv : UInv emit L R cs inv d)
    (hg : partialGuard (ruvariant emit) (mkP L R cs inv d) d.k = true) :
    ∃ s', partialBody (ruvariant emit) (mkP L R cs inv d) d.k = .ok s' ∧ UInv emit L R cs inv { d with k := s' } ∧
      kmu cs { d with k := s' } < kmu cs d ∧ ugmu L R { d with k := s' } < ugmu L R d := by
  rw [partialGuard_ru hinv] at hg
  simp only [Bool.and_eq_true, decide_eq_true_eq] at hg
  obtain ⟨⟨hi, hj⟩, hr⟩ := hg
  have c := hinv.core
  obtain ⟨a, ha, hga⟩ := chunk_access hinv.lok hi "left[i]"
  obtain ⟨b, hb, hgb⟩ := chunk_access hinv.rok hj "right[j]"
  rw [partialBody_ru]
  by_cases hab : a = b
  · -- `(I, J)` is the only row of left row `I`; `j` moves on only when the run of equal left keys is known to end
    subst hab
    have hrow := RU.rest_eq1 hR ha hb fun j b hj hb' => hinv.h1 j b a hj hb' ha
    have hlt : ¬ a < a := Int.lt_irrefl a
    have adv := fun hnext => c.match_both (Strict.sorted hR) hrow hb hnext hi hj hr rfl
    by_cases hend : d.k.i + 1 < d.lch.hi - d.lch.lo
    · obtain ⟨a1, ha1, hga1⟩ := chunk_access hinv.lok hend "left[i+1]"
      have hnge : ¬ d.lch.hi - d.lch.lo ≤ d.k.i + 1 := Nat.not_le.mpr hend
      by_cases hrun : a1 = a
      · refine ⟨{ d.k with lb := d.k.lb ++ [↑(d.k.i + d.lch.lo)], rb := d.k.rb ++ [↑(d.k.j + d.rch.lo)], i := d.k.i + 1 },
          ?_, UInv.of_core (c.emit_pair hrow hr (by simp only; omega) hinv.jle (by simp only [Nat.add_comm])
            (by simp only [Nat.add_comm])) (BelowAt.left_succ hL hinv.h1),
          c.advance rfl (by simp) (by simp) (by simp) (by simp only; omega) hinv.jle (by simp only; omega)⟩
        cases emit <;> simp [uniqueBody, ruvariant, mkP, D.iMax, hga, hgb, hlt, hnge, hga1, hrun, push, hr, bind,
          Except.bind, pure, Except.pure]
      · obtain ⟨h2, h3, h4⟩ := adv fun a' ha' => by
          rw [show d.I + 1 = d.lch.lo + (d.k.i + 1) from Nat.add_assoc _ _ _, ha1] at ha'
          cases ha'
          have := Sorted.le_get? hL (Nat.le_succ d.I) ha ha1
          omega
        refine ⟨_, ?_, UInv.of_core h2 h3, h4⟩
        cases emit <;> simp [uniqueBody, ruvariant, mkP, D.iMax, hga, hgb, hlt, hnge, hga1, hrun, push, hr, bind,
          Except.bind, pure, Except.pure]
    · -- the trimmed chunk ends here, so the run of `a` ends here
      obtain ⟨h2, h3, h4⟩ := adv fun a' ha' => boundary_gt hL hinv.lbd (by have := hinv.lok.lo_le; omega) ha ha'
      refine ⟨_, ?_, UInv.of_core h2 h3, h4⟩
      have hge : d.lch.hi - d.lch.lo ≤ d.k.i + 1 := Nat.not_lt.mp hend
      cases emit <;> simp [uniqueBody, ruvariant, mkP, D.iMax, hga, hgb, hlt, hge, push, hr, bind, Except.bind, pure,
        Except.pure]
  · obtain ⟨s', h1, h2, h3, h4⟩ := unique_ne (ruvariant_isLeft emit) hL (Strict.sorted hR) c hinv.h1 hi hj hr
      ha hga hb hgb hab
    exact ⟨s', h1, UInv.of_core h2 h3, h4⟩

theorem ru_partial (hL : Sorted L) (hR : R.Pairwise (· < ·)) (d : D) (hinv : UInv emit L R cs inv d) :
    ∃ k', runPartial (ruvariant emit) (mkP L R cs inv d) d.k = .ok k' ∧ UInv emit L R cs inv { d with k := k' } ∧
      partialGuard (ruvariant emit) (mkP L R cs inv d) k' = false ∧
      ugmu L R { d with k := k' } ≤ ugmu L R d ∧
      (partialGuard (ruvariant emit) (mkP L R cs inv d) d.k = true → ugmu L R { d with k := k' } < ugmu L R d) :=
  partial_of_step (ru_step hL hR) d hinv

theorem ru_kernel (hcs : 0 < cs) (hL : Sorted L) (hR : R.Pairwise (· < ·)) :
    Kernel (ruvariant emit) true false emit L R cs inv (UInv emit L R cs inv) (fun d => rest L R d.I) (ugmu L R) where
  ltrim := by cases emit <;> rfl
  rtrim := by cases emit <;> rfl
  isLeft := ruvariant_isLeft emit
  core h := h.core
  init hl hr hl0 hr0 := UInv.of_core (by simp only [D.I, hl0]; exact rest_zero L R ▸ Core.init hl hr)
    (by simp only [D.J, hr0]; exact BelowAt.zero)
  run := ru_partial hL hR
  enter h hf hi hj := by rw [partialGuard_ru h]; simp [hf, hi, hj, hcs]
  frame h f := ⟨UInv.of_core (by rw [f.I]; exact h.core.frame f) (by rw [f.I, f.J]; exact h.h1),
    by simp only [ugmu, f.I, f.J]⟩
  exit h hg := ⟨rfl, BelowAt.allBelow_of_exit hg h.h1⟩

structure UMInv (emit : Bool) (L R : List Int) (cs : Nat) (inv : Int) (d : D) : Prop where
  g : UInv emit L R cs inv d
  li : d.lch.lo + d.k.i < L.length → d.k.i < d.lch.hi - d.lch.lo
  rj : d.rch.lo + d.k.j < R.length → d.k.j < d.rch.hi - d.rch.lo
  flushed : d.k.rb = []

theorem ru_main_step (hcs : 0 < cs) (hL : Sorted L) (hR : R.Pairwise (· < ·)) (d : D) (hm : UMInv emit L R cs inv d)
    (hg : mainGuard L R d = true) :
    ∃ d', mainBody (ruvariant emit) L R cs inv d = .ok d' ∧ UMInv emit L R cs inv d' ∧ ugmu L R d' < ugmu L R d := by
  obtain ⟨d', h1, h2, h3⟩ := (ru_kernel hcs hL hR).main_step hcs ⟨hm.g, hm.li, hm.rj, hm.flushed⟩ hg
  exact ⟨d', h1, ⟨h2.g, h2.li, h2.rj, h2.flushed⟩, h3⟩

theorem ru_streamed (hcs : 0 < cs) (hL : Sorted L) (hR : R.Pairwise (· < ·)) (fuel : Nat)
    (hfuel : L.length + R.length ≤ fuel) :
    ∃ calls, streamed (ruvariant emit) fuel cs inv L R =
      .ok ⟨if (ruvariant emit).hasL then encL (sel emit (leftJoin L R)) else [],
           encR inv (sel emit (leftJoin L R)), calls⟩ :=
  (ru_kernel hcs hL hR).streamed hcs hL (Strict.sorted hR) fuel
    (fun _ _ => Nat.le_trans (Nat.add_le_add (Nat.sub_le _ _) (Nat.sub_le _ _)) hfuel) (by omega)

/-- `generate_ordered_map_to_left_right_unique_streamed` (writes `r_result` only): for every sorted `L` (duplicates
    allowed), duplicate-free sorted `R`, chunk size ≥ 1 and marker, the map written is the relational left join -/
theorem left_right_unique_streamed_eq (hcs : 0 < cs) (hL : Sorted L) (hR : R.Pairwise (· < ·)) (fuel : Nat)
    (hfuel : L.length + R.length ≤ fuel) :
    ∃ calls, streamed .leftRU fuel cs inv L R = .ok ⟨[], (encodeLeft inv (leftJoin L R)).2, calls⟩ :=
  ru_streamed (emit := true) hcs hL hR fuel hfuel

/-- `generate_ordered_map_to_inner_right_unique_streamed`: the two maps written are the relational inner join -/
theorem inner_right_unique_streamed_eq (hcs : 0 < cs) (hL : Sorted L) (hR : R.Pairwise (· < ·)) (fuel : Nat)
    (hfuel : L.length + R.length ≤ fuel) :
    ∃ calls, streamed .innerRU fuel cs inv L R =
      .ok ⟨(encodeInner (innerJoin L R)).1, (encodeInner (innerJoin L R)).2, calls⟩ := by
  rw [encodeInner_fst, encodeInner_snd inv]
  exact ru_streamed (emit := false) hcs hL hR fuel hfuel

-- non-vacuity: a left column with runs longer than the chunk, against a duplicate-free right column
example : Sorted [1, 1, 1, 2, 4, 4, 7] ∧ ([1, 3, 4, 5] : List Int).Pairwise (· < ·) ∧ 0 < 2 := by simp [Sorted]
example : (streamed .leftRU 11 2 (-1) [1, 1, 1, 2, 4, 4, 7] [1, 3, 4, 5]).toOption.map (fun o => (o.lout, o.rout)) =
    some ([], (encodeLeft (-1) (leftJoin [1, 1, 1, 2, 4, 4, 7] [1, 3, 4, 5])).2) := by decide +kernel
example : (streamed .innerRU 11 1 0 [1, 1, 1, 2, 4, 4, 7] [1, 3, 4, 5]).toOption.map (fun o => (o.lout, o.rout)) =
    some (encodeInner (innerJoin [1, 1, 1, 2, 4, 4, 7] [1, 3, 4, 5])) := by decide +kernel

end Exetera.Join.RU
