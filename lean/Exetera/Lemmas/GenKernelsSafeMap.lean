import Exetera.Gen.Kernels
import Exetera.Model.MapValid
import Exetera.Lemmas.GenKernels
import Exetera.Lemmas.GenKernelsMapValid
/-!
  The TRANSLATED `safe_map_values` (optional scalar parameter `empty_value`, tested with `is not None` inside the loop) against
  `MapValid.safeMapValues` — transfer form: every `.ok` run of the model is a run of the translated kernel with the same result,
  provided no mapped row number is negative where the filter is set (the model wraps a negative subscript, the translation rejects it).
-/
namespace Exetera.GenK

open Exetera Exetera.PyRt Exetera.Gen.Kernels
open Exetera.MapValid (forE getI safeMapValuesStep safeMapValues)

namespace SMV

abbrev St := safe_map_values.St

theorem step (data m : List Int) (filt : List Bool) (e : Option Int) (i : Nat) (res res' : List Int) (s : St)
    (h0 : s.p0 = data) (h1 : s.p1 = m) (h2 : s.p2 = filt) (h3 : s.p3 = e.getD 0) (h3s : s.p3_some = e.isSome) (hv : s.v0 = res)
    (hpos : ∀ k, filt[i]? = some true → m[i]? = some k → 0 ≤ k)
    (h : safeMapValuesStep data m filt e i res = .ok res') :
    safe_map_values.body_L1 { s with v1 := (i : Int) } = .ok { s with v1 := (i : Int), v0 := res' } := by
  obtain ⟨q0, q1, q2, q3, q3s, w0, w1⟩ := s
  simp only at h0 h1 h2 h3 h3s hv
  subst h0 h1 h2 h3 h3s hv
  unfold safeMapValuesStep at h
  cases hf : q2[i]? with
  | none => simp [hf] at h
  | some f =>
    simp only [hf] at h
    have hgf : ∀ site, getE q2 i site = .ok f := fun site => by simp [getE, hf]
    simp only [safe_map_values.body_L1, idxE_nat, hgf, bindE_ok]
    cases f with
    | true =>
      simp only [if_true] at h ⊢
      cases hm : q1[i]? with
      | none => simp [hm] at h
      | some k =>
        simp only [hm] at h
        have hgm : ∀ site, getE q1 i site = .ok k := fun site => by simp [getE, hm]
        simp only [hgm, bindE_ok]
        cases hg : getI q0 k "data_field[map_field[i]]" with
        | error er => simp [hg] at h
        | ok v =>
          simp only [hg] at h
          rw [getI_nonneg q0 k _ "p0[p1[v1]]" v (hpos k hf hm) hg]
          simp only [bindE_ok, setIdxE_nat]
          rw [setE_ok_site "v0[v1]" h]
          rfl
    | false =>
      simp only [Bool.false_eq_true, if_false] at h ⊢
      cases e with
      | none =>
        simp only [Except.ok.injEq] at h
        subst h
        simp only [Option.isSome_none, Bool.false_eq_true, if_false]
      | some ev =>
        simp only at h
        simp only [Option.isSome_some, if_true, readOptE, Option.getD_some, bindE_ok, setIdxE_nat]
        rw [setE_ok_site "v0[v1]" h]
        rfl

theorem loop (data m : List Int) (filt : List Bool) (e : Option Int)
    (hpos : ∀ (i : Nat) (k : Int), filt[i]? = some true → m[i]? = some k → 0 ≤ k) (n i : Nat) (res r : List Int) (s : St)
    (h0 : s.p0 = data) (h1 : s.p1 = m) (h2 : s.p2 = filt) (h3 : s.p3 = e.getD 0) (h3s : s.p3_some = e.isSome) (hv : s.v0 = res)
    (h : forE (safeMapValuesStep data m filt e) i n res = .ok r) :
    ∃ s', forRangeAux (fun _ => false) (fun k s => safe_map_values.body_L1 { s with v1 := k }) n (i : Int) s = .ok s' ∧
      s'.v0 = r := by
  obtain ⟨s', hrun, -, -, -, -, -, hv0⟩ := forRangeAux_forE (body := fun k s => safe_map_values.body_L1 { s with v1 := k })
    (fun _ (s : St) (res : List Int) =>
      s.p0 = data ∧ s.p1 = m ∧ s.p2 = filt ∧ s.p3 = e.getD 0 ∧ s.p3_some = e.isSome ∧ s.v0 = res)
    (fun i s res res' ⟨h0, h1, h2, h3, h3s, hv⟩ hs =>
      ⟨{ s with v1 := (i : Int), v0 := res' }, step data m filt e i res res' s h0 h1 h2 h3 h3s hv (hpos i) hs,
        h0, h1, h2, h3, h3s, rfl⟩)
    n i s res r ⟨h0, h1, h2, h3, h3s, hv⟩ h
  exact ⟨s', hrun, hv0⟩

end SMV

theorem safe_map_values_ok (data m : List Int) (filt : List Bool) (e : Option Int) (r : List Int)
    (hpos : ∀ (i : Nat) (k : Int), filt[i]? = some true → m[i]? = some k → 0 ≤ k)
    (h : safeMapValues data m filt e 0 = .ok r) :
    safe_map_values.run data m filt e = .ok r := by
  unfold safeMapValues at h
  unfold safe_map_values.run
  simp only [forRangeE, pyLen, Int.sub_zero, Int.toNat_natCast]
  obtain ⟨s', hrun, hv⟩ := SMV.loop data m filt e hpos m.length 0 _ r
    (⟨data, m, filt, e.getD 0, e.isSome, List.replicate m.length 0, 0⟩ : SMV.St) rfl rfl rfl rfl rfl rfl h
  have hrun' : forRangeAux (fun _ => false) (fun k s => safe_map_values.body_L1 { s with v1 := k }) m.length (0 : Int)
      (⟨data, m, filt, e.getD 0, e.isSome, List.replicate m.length 0, 0⟩ : SMV.St) = .ok s' := hrun
  simp only [hrun', bindE_ok, hv]

end Exetera.GenK
