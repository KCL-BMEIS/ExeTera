import Exetera.Gen.Kernels
import Exetera.Model.JoinFlat
import Exetera.Lemmas.While
import Exetera.Lemmas.JoinKernel
import Exetera.Lemmas.GenKernels
import Exetera.Lemmas.GenKernelsJoin
/-!
  The TRANSLATED kernel `ordered_left_map_result_size(left, right)`.

  The kernel has NO caller in the library (only tests/ call it) and no hand model elsewhere: the theorems below are NOT
  obligations of any property (an edit to dead code must not raise a semantic alarm); they are re-checked by
  `lake build Exetera` only. The translation itself is validated differentially under C10 (checks/harness/genkernels.py).

  In the source a `return result_size` is the last statement of the BODY of the outer `while` loop (one level too deep), so the
  function returns after the first iteration; the statements after the loop run only when the loop is not entered.
  `leftSizeAsWritten` is what it computes as written: 0 for an empty left column, len(left) for an empty right column, and
  otherwise the contribution of the first comparison only (1 when left[0] < right[0], 0 when left[0] > right[0], the product of
  the two leading run lengths when they are equal). The translated kernel returns exactly that on EVERY pair of arrays. It is NOT
  the number of rows of the left join (examples at the end): a defect of dead code, no property speaks about it.
-/
namespace Exetera.GenK

open Exetera Exetera.PyRt Exetera.Gen.Kernels Exetera.Join Exetera.JoinFlat

def leftSizeAsWritten (L R : List Int) : Except Err Nat :=
  match L, R with
  | [], _ => .ok 0
  | _ :: l, [] => .ok (l.length + 1)
  | a :: _, b :: _ =>
    if a < b then .ok 1
    else if a > b then .ok 0
    else
      match runCount L L.length L.length 0 1, runCount R R.length R.length 0 1 with
      | .ok n, .ok m => .ok (n * m)
      | .error e, _ => .error e
      | _, .error e => .error e

theorem left_size_as_written_ok (L R : List Int) (n fuel : Nat) (hf : L.length + R.length ≤ fuel)
    (h : leftSizeAsWritten L R = .ok n) : ordered_left_map_result_size.run L R fuel = .ok (n : Int) := by
  unfold ordered_left_map_result_size.run
  cases L with
  | nil =>
    simp only [leftSizeAsWritten, Except.ok.injEq] at h
    subst h
    have hg : ordered_left_map_result_size.guard_L1 ⟨[], R, 0, 0, 0, 0, 0, false, 0⟩ = false := by
      simp [ordered_left_map_result_size.guard_L1, pyLen]
    simp [whileE_of_guard_false hg, pyLen]
  | cons a l =>
    cases R with
    | nil =>
      simp only [leftSizeAsWritten, Except.ok.injEq] at h
      subst h
      have hg : ordered_left_map_result_size.guard_L1 ⟨a :: l, [], 0, 0, 0, 0, 0, false, 0⟩ = false := by
        simp [ordered_left_map_result_size.guard_L1, pyLen]
      simp [whileE_of_guard_false hg, pyLen]
    | cons b r =>
      obtain ⟨F, rfl⟩ : ∃ F, fuel = F + 1 := ⟨fuel - 1, by simp only [List.length_cons] at hf; omega⟩
      -- the first iteration ends by `return`, so it is the only one
      suffices H : OkFollows (fun (s' : ordered_left_map_result_size.St) (n : Nat) => s'.ret = true ∧ s'.rv0 = (n : Int))
          (ordered_left_map_result_size.body_L1 (F + 1) ⟨a :: l, b :: r, 0, 0, 0, 0, 0, false, 0⟩)
          (leftSizeAsWritten (a :: l) (b :: r)) by
        obtain ⟨s', hb', hr', hv'⟩ := H n h
        have hg : ordered_left_map_result_size.guard_L1 ⟨a :: l, b :: r, 0, 0, 0, 0, 0, false, 0⟩ = true := by
          simp [ordered_left_map_result_size.guard_L1, pyLen]
        have hw : whileE ordered_left_map_result_size.guard_L1 (ordered_left_map_result_size.body_L1 (F + 1)) (F + 1)
            ⟨a :: l, b :: r, 0, 0, 0, 0, 0, false, 0⟩ = .ok s' := by
          rw [whileE, hg, if_pos rfl, hb']
          exact whileE_of_guard_false (by simp [ordered_left_map_result_size.guard_L1, hr']) F
        simp only [hw, bindE_ok, hr', if_true, hv']
      have hM : leftSizeAsWritten (a :: l) (b :: r) = if a < b then .ok 1 else if a > b then .ok 0 else
          bindE (runCount (a :: l) (a :: l).length (a :: l).length 0 1) fun n =>
          bindE (runCount (b :: r) (b :: r).length (b :: r).length 0 1) fun m => .ok (n * m) := by
        simp only [leftSizeAsWritten]
        cases runCount (a :: l) (a :: l).length (a :: l).length 0 1 <;>
          cases runCount (b :: r) (b :: r).length (b :: r).length 0 1 <;> rfl
      simp only [hM, ordered_left_map_result_size.body_L1, show idxE (a :: l) 0 "p0[v0]" = .ok a from rfl,
        show idxE (b :: r) 0 "p1[v1]" = .ok b from rfl, bindE_ite, bindE_assoc, bindE_ok]
      refine .ite_decide rfl (fun _ => .ok ⟨rfl, rfl⟩) fun _ => .ite_decide rfl (fun _ => .ok ⟨rfl, rfl⟩) fun _ => ?_
      refine .runCount ordered_left_map_result_size.guardE_L2 ordered_left_map_result_size.body_L2
        (a :: l) (a :: l).length _ _ (fun k c => ⟨a :: l, b :: r, (k : Int), 0, 0, (c : Int), 0, false, 0⟩)
        (fun _ _ => rfl) (fun _ _ => rfl) (F + 1) 0 1 (Nat.le_trans (Nat.le_add_right _ _) hf) fun cn _ => ?_
      refine .runCount ordered_left_map_result_size.guardE_L3 ordered_left_map_result_size.body_L3
        (b :: r) (b :: r).length _ _
        (fun k c => ⟨a :: l, b :: r, ((0 + (cn - 1) : Nat) : Int), (k : Int), 0, (cn : Int), (c : Int), false, 0⟩)
        (fun _ _ => rfl) (fun _ _ => rfl) (F + 1) 0 1 (Nat.le_trans (Nat.le_add_left _ _) hf) fun cm _ => ?_
      exact .ok ⟨rfl, by simp only [Int.zero_add, Int.natCast_mul]⟩

/-- the run counts stay inside their arrays -/
theorem leftSizeAsWritten_total (L R : List Int) : ∃ n, leftSizeAsWritten L R = .ok n := by
  cases L with
  | nil => exact ⟨0, rfl⟩
  | cons a l =>
    cases R with
    | nil => exact ⟨l.length + 1, rfl⟩
    | cons b r =>
      simp only [leftSizeAsWritten]
      by_cases hlt : a < b
      · exact ⟨1, by simp [hlt]⟩
      · by_cases hgt : a > b
        · exact ⟨0, by simp [hlt, hgt]⟩
        · obtain ⟨e1, h1, _⟩ := runCount_spec (a :: l) (a :: l).length (Nat.le_refl _) (a :: l).length 0 1 (by simp) (by omega)
          obtain ⟨e2, h2, _⟩ := runCount_spec (b :: r) (b :: r).length (Nat.le_refl _) (b :: r).length 0 1 (by simp) (by omega)
          exact ⟨(1 + e1) * (1 + e2), by simp only [hlt, hgt, if_false, h1, h2]⟩

theorem left_size_as_written_eq (L R : List Int) (fuel : Nat) (hf : L.length + R.length ≤ fuel) :
    ∃ n : Nat, leftSizeAsWritten L R = .ok n ∧ ordered_left_map_result_size.run L R fuel = .ok (n : Int) := by
  obtain ⟨n, hn⟩ := leftSizeAsWritten_total L R
  exact ⟨n, hn, left_size_as_written_ok L R n fuel hf hn⟩

-- the left join of [1, 2] with [1] has 2 rows, of [1, 1, 3] with [1, 1, 2] has 5; the function returns after the first iteration
example : ordered_left_map_result_size.run [1, 2] [1] 3 = .ok 1 := rfl
example : ordered_left_map_result_size.run [1, 1, 3] [1, 1, 2] 6 = .ok 4 := rfl
example : leftSizeAsWritten [1, 1, 3] [1, 1, 2] = .ok 4 := rfl

end Exetera.GenK
