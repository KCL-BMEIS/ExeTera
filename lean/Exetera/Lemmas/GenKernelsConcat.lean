import Exetera.Gen.Kernels
import Exetera.Model.Concat
import Exetera.Lemmas.GenKernels
import Exetera.Lemmas.GenKernelsSpans
/-!
  The TRANSLATED `_apply_spans_concat_2` (seven `for` loops, the outer one with `break`; the loop variable read after the loop)
  against `Concat.kernel` over bytes (`α := Nat`) — transfer form. The model keeps the PREFIXES of `dest_index` / `dest_values`
  written in this call (`Buf.ib`, `Buf.vb`) and the capacities; the kernel keeps the buffers and positions: the translated kernel's
  buffers start with the model's prefixes (`CC.Holds`).
-/
namespace Exetera.GenK

open Exetera Exetera.PyRt Exetera.Concat Exetera.Gen.Kernels

namespace CC

abbrev St := _apply_spans_concat_2.St

abbrev loopOf (body : St → Except Err St) (set : St → Int → St) (n : Nat) (i : Int) (s : St) : Except Err St :=
  forRangeAux (fun _ => false) (fun k s => body (set s k)) n i s

/-! ### `for e in range(sp_cur, sp_next): … non_empties += 1` -/

theorem count_sim (idx : List Nat) (s : St) (h1 : s.p1 = ints idx) (acc : Nat) (h8 : s.v8 = (acc : Int)) (n e r : Nat)
    (h : countNonEmpty idx n e acc = .ok r) :
    ∃ s', forRangeAux (fun _ => false) (fun k s => _apply_spans_concat_2.body_L2 { s with v9 := k }) n (e : Int) s = .ok s' ∧
      ∃ k9 a b, s' = { s with v8 := (r : Int), v9 := k9, v10 := a, v11 := b } := by
  refine forRangeAux_rule
    (fun n e t => ∃ acc : Nat, (∃ k9 a b, t = { s with v8 := (acc : Int), v9 := k9, v10 := a, v11 := b }) ∧
      countNonEmpty idx n e acc = .ok r) _ ?_ ?_ n e s ⟨acc, ⟨_, _, _, by rw [← h8]⟩, h⟩
  · rintro e t ⟨acc, ⟨k9, a, b, rfl⟩, h⟩
    cases h
    exact ⟨k9, a, b, rfl⟩
  · rintro n e t ⟨acc, ⟨k9, a, b, rfl⟩, h⟩
    simp only [countNonEmpty] at h
    split at h
    · cases h
    · cases h
    · rename_i x y ha hb
      rw [getE_eq_ok] at ha hb
      simp only [_apply_spans_concat_2.body_L2, idxE_nat, idxE_nat_succ, getE_ofNat h1 ha, getE_ofNat h1 hb, bindE_ok,
        natCast_sub_pos]
      by_cases hab : y > x
      · rw [if_pos hab] at h
        simp only [hab, decide_true, if_true]
        exact ⟨_, rfl, acc + 1, ⟨_, _, _, rfl⟩, h⟩
      · rw [if_neg hab] at h
        simp only [hab, decide_false, Bool.false_eq_true, if_false]
        exact ⟨_, rfl, acc, ⟨_, _, _, rfl⟩, h⟩

/-! ### `for i_c in range(a, b): if src_values[i_c] == separator: comma = True elif … == delimiter: quotes = True` -/

theorem scan_sim (vals : List Nat) (sep delim : Nat) (s : St) (h2 : s.p2 = ints vals) (h7 : s.p7 = (sep : Int))
    (h8 : s.p8 = (delim : Int)) (n i : Nat) (c' q' : Bool) (h : scanFlags vals sep delim n i s.v13 s.v14 = .ok (c', q')) :
    ∃ s', forRangeAux (fun _ => false) (fun k s => _apply_spans_concat_2.body_L3 { s with v15 := k }) n (i : Int) s = .ok s' ∧
      ∃ k15, s' = { s with v13 := c', v14 := q', v15 := k15 } := by
  refine forRangeAux_rule
    (fun n i t => ∃ c q, (∃ k15, t = { s with v13 := c, v14 := q, v15 := k15 }) ∧
      scanFlags vals sep delim n i c q = .ok (c', q')) _ ?_ ?_ n i s ⟨_, _, ⟨_, rfl⟩, h⟩
  · rintro i t ⟨c, q, ⟨k15, rfl⟩, h⟩
    cases h
    exact ⟨k15, rfl⟩
  · rintro n i t ⟨c, q, ⟨k15, rfl⟩, h⟩
    simp only [scanFlags] at h
    split at h
    · cases h
    · rename_i x hx
      rw [getE_eq_ok] at hx
      have e7 : ((x : Int) == s.p7) = (x == sep) := by rw [h7, natCast_beq]
      have e8 : ((x : Int) == s.p8) = (x == delim) := by rw [h8, natCast_beq]
      simp only [_apply_spans_concat_2.body_L3, idxE_nat, getE_ofNat h2 hx, bindE_ok, e7, e8]
      split at h
      · rename_i hs
        simp only [hs, beq_self_eq_true, if_true]
        exact ⟨_, rfl, _, _, ⟨_, rfl⟩, h⟩
      · rename_i hs
        simp only [beq_eq_false_iff_ne.mpr hs, Bool.false_eq_true, if_false]
        split at h
        · rename_i hd
          simp only [hd, beq_self_eq_true, if_true]
          exact ⟨_, rfl, _, _, ⟨_, rfl⟩, h⟩
        · rename_i hd
          simp only [beq_eq_false_iff_ne.mpr hd, Bool.false_eq_true, if_false]
          exact ⟨_, rfl, _, _, ⟨_, rfl⟩, h⟩

/-! ### writes to `dest_values`: `dest_values[d_index_v + delta] = x; delta += 1` -/

/-- the kernel's buffer of capacity `cap` starts with what the model has written -/
def Holds (cap : Nat) (p4 : List Int) (vb : List Nat) : Prop := p4.length = cap ∧ p4.take vb.length = ints vb

/-- one `pushV` of the model is one checked store of the kernel at position `len(vb)` -/
theorem push_sim {cap : Nat} {vb vb' : List Nat} {x : Nat} {site : String} {p4 : List Int} (hH : Holds cap p4 vb)
    (h : pushV cap vb x site = .ok vb') {k v : Int} (hk : k = (vb.length : Int)) (hv : v = (x : Int)) (site' : String) :
    setIdxE p4 k v site' = .ok (p4.set vb.length v) ∧ Holds cap (p4.set vb.length v) vb' ∧
      (vb'.length : Int) = (vb.length : Int) + 1 := by
  obtain ⟨hlen, htake⟩ := hH
  simp only [pushV] at h
  split at h
  · rename_i hlt
    cases h
    have hlt' : vb.length < p4.length := hlen ▸ hlt
    refine ⟨by rw [setIdxE_at hk, setE_ok _ _ _ _ hlt'], ⟨by rw [List.length_set, hlen], ?_⟩, by simp⟩
    rw [List.length_append, List.length_singleton, take_succ_set _ _ _ hlt', htake, hv]
    simp [ints]
  · cases h

/-! ### `for i_c in range(a, b): if src_values[i_c] == delimiter: emit delimiter; emit src_values[i_c]` -/

theorem copy_sim (vals : List Nat) (delim cap : Nat) (s : St) (h2 : s.p2 = ints vals) (h8 : s.p8 = (delim : Int))
    (vb : List Nat) (hH : Holds cap s.p4 vb) (hpos : s.v1 + s.v12 = (vb.length : Int)) (n i : Nat) (vb' : List Nat)
    (h : copyEsc vals delim cap n i vb = .ok vb') :
    ∃ s', forRangeAux (fun _ => false) (fun k s => _apply_spans_concat_2.body_L4 { s with v15 := k }) n (i : Int) s = .ok s' ∧
      ∃ b4 k15, s' = { s with p4 := b4, v12 := (vb'.length : Int) - s.v1, v15 := k15 } ∧ Holds cap b4 vb' := by
  refine forRangeAux_rule
    (fun n i t => ∃ (vb : List Nat) (b4 : List Int) (k15 : Int),
      t = { s with p4 := b4, v12 := (vb.length : Int) - s.v1, v15 := k15 } ∧ Holds cap b4 vb ∧
      copyEsc vals delim cap n i vb = .ok vb') _ ?_ ?_ n i s
    ⟨vb, s.p4, s.v15, by rw [← hpos, int_add_sub_cancel_left], hH, h⟩
  · rintro i t ⟨vb, b4, k15, rfl, hH, h⟩
    cases h
    exact ⟨b4, k15, rfl, hH⟩
  · rintro n i t ⟨vb, b4, k15, rfl, hH, h⟩
    simp only [copyEsc] at h
    split at h
    · cases h
    · rename_i x hx
      rw [getE_eq_ok] at hx
      have e8 : ((x : Int) == s.p8) = (x == delim) := by rw [h8, natCast_beq]
      simp only [_apply_spans_concat_2.body_L4, idxE_nat, getE_ofNat h2 hx, bindE_ok, e8, int_add_sub_cancel]
      split at h
      · rename_i hd
        subst hd
        split at h
        · cases h
        · rename_i vb1 hp1
          split at h
          · cases h
          · rename_i vb2 hp2
            obtain ⟨hs1, hH1, hn1⟩ := push_sim hH hp1 rfl rfl "p4[v1 + v12]"
            have hk : s.v1 + ((vb.length : Int) - s.v1 + 1) = (vb1.length : Int) := by rw [hn1]; omega
            obtain ⟨hs2, hH2, hn2⟩ := push_sim hH1 hp2 rfl rfl "p4[v1 + v12]"
            simp only [beq_self_eq_true, if_true, h8, hs1, bindE_ok, hk, idxE_nat, getE_ofNat h2 hx, hs2]
            refine ⟨_, rfl, vb2, _, (i : Int), ?_, hH2, h⟩
            rw [int_sub_add_one _ hn1, int_sub_add_one _ hn2]
      · rename_i hd
        split at h
        · cases h
        · rename_i vb1 hp1
          obtain ⟨hs1, hH1, hn1⟩ := push_sim hH hp1 rfl rfl "p4[v1 + v12]"
          simp only [beq_eq_false_iff_ne.mpr hd, Bool.false_eq_true, if_false, bindE_ok, int_add_sub_cancel, idxE_nat,
            getE_ofNat h2 hx, hs1]
          refine ⟨_, rfl, vb1, _, (i : Int), ?_, hH1, h⟩
          rw [int_sub_add_one _ hn1]

/-! ### the quoting block: `if comma or quotes: emit delimiter`, the escaped copy, `if comma or quotes: emit delimiter` -/

/-- the block as it stands (twice) in the kernel, for the row `src_values[lo s : hi s]` (`lo`, `hi`: the two locals that hold
    the bounds — `cur_src_i`, `next_src_i` in the single-entry branch, `src_start`, `src_end` in the multi-entry loop) -/
abbrev emitK (lo hi : St → Int) (s : St) : Except Err St :=
  bindE (if (s.v13 || s.v14) then
      bindE (setIdxE s.p4 (s.v1 + s.v12) s.p8 "p4[v1 + v12]") fun t =>
      .ok { s with p4 := t, v12 := s.v12 + 1 }
    else
      .ok s) fun s =>
  bindE (forRangeE (lo s) (hi s) (fun k s => _apply_spans_concat_2.body_L4 { s with v15 := k }) s) fun s =>
  if (s.v13 || s.v14) then
    bindE (setIdxE s.p4 (s.v1 + s.v12) s.p8 "p4[v1 + v12]") fun t =>
    .ok { s with p4 := t, v12 := s.v12 + 1 }
  else
    .ok s

theorem emit_sim (vals : List Nat) (delim cap : Nat) (a b : Nat) (vb vb' : List Nat) (lo hi : St → Int) (s : St)
    (hlo : ∀ (p4 : List Int) (v12 : Int), lo { s with p4 := p4, v12 := v12 } = (a : Int))
    (hhi : ∀ (p4 : List Int) (v12 : Int), hi { s with p4 := p4, v12 := v12 } = (b : Int))
    (h2 : s.p2 = ints vals) (h8 : s.p8 = (delim : Int)) (hH : Holds cap s.p4 vb)
    (hpos : s.v1 + s.v12 = (vb.length : Int)) (h : emitBody vals delim cap (s.v13 || s.v14) a b vb = .ok vb') :
    ∃ b4 k15, emitK lo hi s = .ok { s with p4 := b4, v12 := (vb'.length : Int) - s.v1, v15 := k15 } ∧ Holds cap b4 vb' := by
  simp only [emitBody] at h
  cases hq : (s.v13 || s.v14)
  · rw [hq] at h
    simp only [Bool.false_eq_true, if_false] at h
    split at h
    · cases h
    · rename_i vb2 hc
      cases h
      obtain ⟨s', hrun, b4, k15, rfl, hH'⟩ := copy_sim vals delim cap s h2 h8 vb hH hpos _ _ _ (toNat_natCast_sub a b ▸ hc)
      refine ⟨b4, k15, ?_, hH'⟩
      have hlo' : lo s = (a : Int) := hlo s.p4 s.v12
      have hhi' : hi s = (b : Int) := hhi s.p4 s.v12
      simp only [emitK, hq, Bool.false_eq_true, if_false, bindE_ok, hlo', hhi', forRangeE_nat, hrun]
  · rw [hq] at h
    simp only [if_true] at h
    split at h
    · cases h
    · rename_i vb1 hp1
      split at h
      · cases h
      · rename_i vb2 hc
        obtain ⟨hs1, hH1, hn1⟩ := push_sim hH hp1 hpos h8 "p4[v1 + v12]"
        obtain ⟨s', hrun, b4, k15, rfl, hH2⟩ := copy_sim vals delim cap
          { s with p4 := s.p4.set vb.length s.p8, v12 := s.v12 + 1 } h2 h8 vb1 hH1
          (by rw [hn1, ← hpos]; exact (Int.add_assoc _ _ _).symm) _ _ _ (toNat_natCast_sub a b ▸ hc)
        obtain ⟨hs3, hH3, hn3⟩ := push_sim hH2 h (int_add_sub_cancel s.v1 _) h8 "p4[v1 + v12]"
        refine ⟨_, k15, ?_, hH3⟩
        simp only [emitK, hq, if_true, hs1, bindE_ok, hlo, hhi, forRangeE_nat, hrun, hs3]
        rw [int_sub_add_one _ hn3]

theorem body_L6_eq : _apply_spans_concat_2.body_L6 = _apply_spans_concat_2.body_L3 := rfl
theorem body_L7_eq : _apply_spans_concat_2.body_L7 = _apply_spans_concat_2.body_L4 := rfl

/-! ### the `non_empties > 1` branch: `for e in range(sp_cur, sp_next)` with the carried `prev_empty` -/

theorem multi_sim (idx vals : List Nat) (sep delim cap spCur : Nat) (s : St) (h1 : s.p1 = ints idx) (h2 : s.p2 = ints vals)
    (h7 : s.p7 = (sep : Int)) (h8 : s.p8 = (delim : Int)) (h4 : s.v4 = (spCur : Int)) (vb : List Nat) (hH : Holds cap s.p4 vb)
    (hpos : s.v1 + s.v12 = (vb.length : Int)) (n e : Nat) (vb' : List Nat)
    (h : multiLoop idx vals sep delim cap spCur n e s.v16 vb = .ok vb') :
    ∃ s', forRangeAux (fun _ => false) (fun k s => _apply_spans_concat_2.body_L5 { s with v9 := k }) n (e : Int) s = .ok s' ∧
      ∃ b4 k9 c13 c14 k15 c16 k17 k18 c19, s' =
        { s with p4 := b4, v9 := k9, v12 := (vb'.length : Int) - s.v1, v13 := c13, v14 := c14, v15 := k15, v16 := c16,
                 v17 := k17, v18 := k18, v19 := c19 } ∧ Holds cap b4 vb' := by
  refine forRangeAux_rule
    (fun n e t => ∃ (pe : Bool) (vb : List Nat) (b4 : List Int) (k9 : Int) (c13 c14 : Bool) (k15 k17 k18 : Int) (c19 : Bool), t =
        { s with p4 := b4, v9 := k9, v12 := (vb.length : Int) - s.v1, v13 := c13, v14 := c14, v15 := k15, v16 := pe,
                 v17 := k17, v18 := k18, v19 := c19 } ∧ Holds cap b4 vb ∧
      multiLoop idx vals sep delim cap spCur n e pe vb = .ok vb') _ ?_ ?_ n e s
    ⟨_, vb, _, _, _, _, _, _, _, _, by rw [← hpos, int_add_sub_cancel_left], hH, h⟩
  · rintro e t ⟨pe, vb, b4, k9, c13, c14, k15, k17, k18, c19, rfl, hH, h⟩
    cases h
    exact ⟨_, _, _, _, _, _, _, _, _, rfl, hH⟩
  · rintro n e t ⟨pe, vb, b4, k9, c13, c14, k15, k17, k18, c19, rfl, hH, h⟩
    simp only [multiLoop] at h
    split at h
    · cases h
    · cases h
    · rename_i a b ha hb
      rw [getE_eq_ok] at ha hb
      split at h
      · cases h
      · rename_i comma quotes hsc
        obtain ⟨s1, hrun1, k15', rfl⟩ := scan_sim vals sep delim
          { s with p4 := b4, v9 := (e : Int), v12 := (vb.length : Int) - s.v1, v13 := false, v14 := false, v15 := k15, v16 := pe,
                   v17 := (a : Int), v18 := (b : Int), v19 := (b == a) }
          h2 h7 h8 _ a comma quotes (toNat_natCast_sub a b ▸ hsc)
        have hcond : ((pe == false && (b == a) == false) && decide ((e : Int) > s.v4))
            = (!pe && !(b == a) && decide (e > spCur)) := by
          rw [h4]; cases pe <;> cases (b == a) <;> simp
        have hpe : (if (b == a) = true then pe else false) = (if ((b == a) == false) = true then (b == a) else pe) := by
          cases (b == a) <;> rfl
        rw [hpe] at h
        simp only [_apply_spans_concat_2.body_L5, body_L6_eq, body_L7_eq, idxE_nat, idxE_nat_succ, getE_ofNat h1 ha,
          getE_ofNat h1 hb, bindE_ok, natCast_beq, forRangeE_nat, hrun1, ite_ite_and, hcond]
        cases hC : (!pe && !(b == a) && decide (e > spCur))
        · rw [hC] at h
          simp only [Bool.false_eq_true, if_false] at h ⊢
          split at h
          · cases h
          · rename_i vb2 hem
            obtain ⟨b4', k15'', hE, hH2⟩ := emit_sim vals delim cap a b vb vb2 (fun s => s.v17) (fun s => s.v18)
              { s with p4 := b4, v9 := (e : Int), v12 := (vb.length : Int) - s.v1, v13 := comma, v14 := quotes, v15 := k15',
                       v16 := (if ((b == a) == false) = true then (b == a) else pe), v17 := (a : Int), v18 := (b : Int),
                       v19 := (b == a) }
              (fun _ _ => rfl) (fun _ _ => rfl) h2 h8 hH (int_add_sub_cancel _ _) hem
            simp only [bindE_ok, hE]
            exact ⟨_, rfl, _, vb2, _, _, _, _, _, _, _, _, rfl, hH2, h⟩
        · rw [hC] at h
          simp only [if_true] at h ⊢
          split at h
          · cases h
          · rename_i vb1 hp
            split at h
            · cases h
            · rename_i vb2 hem
              obtain ⟨hs1, hH1, hn1⟩ := push_sim hH hp (int_add_sub_cancel s.v1 _) h7 "p4[v1 + v12]"
              obtain ⟨b4', k15'', hE, hH2⟩ := emit_sim vals delim cap a b vb1 vb2 (fun s => s.v17) (fun s => s.v18)
                { s with p4 := b4.set vb.length s.p7, v9 := (e : Int), v12 := (vb.length : Int) - s.v1 + 1, v13 := comma,
                         v14 := quotes, v15 := k15', v16 := (if ((b == a) == false) = true then (b == a) else pe),
                         v17 := (a : Int), v18 := (b : Int), v19 := (b == a) }
                (fun _ _ => rfl) (fun _ _ => rfl) h2 h8 hH1 (by rw [int_sub_add_one _ hn1]; exact int_add_sub_cancel _ _) hem
              simp only [hs1, bindE_ok, hE]
              exact ⟨_, rfl, _, vb2, _, _, _, _, _, _, _, _, rfl, hH2, h⟩

/-! ### one span: `body_L1` against `oneSpan` -/

/-- the kernel's buffers and positions against the model's written prefixes -/
structure ORel (P : Params Nat) (s : St) (st : Concat.Buf Nat) : Prop where
  h0 : s.p0 = ints P.spans
  h1 : s.p1 = ints P.idx
  h2 : s.p2 = ints P.vals
  h5 : s.p5 = (P.maxI : Int)
  h6 : s.p6 = (P.maxV : Int)
  h7 : s.p7 = (P.sep : Int)
  h8 : s.p8 = (P.delim : Int)
  h10 : s.p10 = (P.destStartV : Int)
  hI : Holds P.capI s.p3 st.ib
  hv0 : s.v0 = (st.ib.length : Int)
  hV : Holds P.capV s.p4 st.vb
  hv1 : s.v1 = (st.vb.length : Int)

theorem step_sim (P : Params Nat) (sp : Nat) (s : St) (st st' : Concat.Buf Nat) (hR : ORel P s st) (hb : s.brk1 = false)
    (h : oneSpan P sp st = .ok st') :
    ∃ s', _apply_spans_concat_2.body_L1 { s with v3 := (sp : Int), v3_def := true } = .ok s' ∧
      (ORel P s' st' ∧ s'.v3 = (sp : Int) ∧ s'.v3_def = true ∧
        s'.brk1 = (decide (st'.ib.length ≥ P.maxI) || decide (st'.vb.length ≥ P.maxV))) := by
  obtain ⟨h0, h1, h2, h5, h6, h7, h8, h10, hI, hv0, hV, hv1⟩ := hR
  simp only [oneSpan] at h
  split at h
  · cases h
  · cases h
  · rename_i spCur spNext hg1 hg2
    split at h
    · cases h
    · cases h
    · rename_i curI nextI hg3 hg4
      rw [getE_eq_ok] at hg1 hg2 hg3 hg4
      split at h
      · cases h
      · rename_i ne hne
        split at h
        · cases h
        · rename_i vb' hem
          split at h
          · rename_i hcapI
            cases h
            simp only [_apply_spans_concat_2.body_L1, idxE_nat, idxE_nat_succ, getE_ofNat h0 hg1, getE_ofNat h0 hg2,
              getE_ofNat h1 hg3, getE_ofNat h1 hg4, bindE_ok, natCast_sub_beq_one, natCast_sub_gt_one, natCast_sub_pos]
            -- `non_empties`
            refine bindE_exists (fun s1 => ∃ k9 a b, s1 =
              { s with v3 := (sp : Int), v3_def := true, v4 := (spCur : Int), v5 := (spNext : Int), v6 := (curI : Int),
                       v7 := (nextI : Int), v8 := (ne : Int), v9 := k9, v10 := a, v11 := b }) ?_ ?_
            · simp only [spanNonEmpties] at hne
              split at hne
              · rename_i hc1
                cases hne
                simp only [hc1, decide_true, if_true]
                by_cases hc2 : nextI > curI
                · simp only [hc2, decide_true, if_true]
                  exact ⟨_, rfl, _, _, _, rfl⟩
                · simp only [hc2, decide_false, Bool.false_eq_true, if_false]
                  exact ⟨_, rfl, _, _, _, rfl⟩
              · rename_i hc1
                simp only [hc1, decide_false, Bool.false_eq_true, if_false]
                split at hne
                · rename_i hc3
                  simp only [hc3, decide_true, if_true, forRangeE_nat]
                  obtain ⟨s1, hrun, k9, a, b, rfl⟩ := count_sim P.idx
                    { s with v3 := (sp : Int), v3_def := true, v4 := (spCur : Int), v5 := (spNext : Int), v6 := (curI : Int),
                             v7 := (nextI : Int), v8 := 0 } h1 0 rfl _ spCur ne (toNat_natCast_sub spCur spNext ▸ hne)
                  exact ⟨_, hrun, _, _, _, rfl⟩
                · rename_i hc3
                  cases hne
                  simp only [hc3, decide_false, Bool.false_eq_true, if_false]
                  exact ⟨_, rfl, _, _, _, rfl⟩
            · rintro _ ⟨k9, a, b, rfl⟩
              simp only [natCast_beq_one, natCast_gt_one]
              -- what the span appends to `dest_values`
              refine bindE_exists (fun s2 => ∃ b4 k9' c13 c14 k15 c16 k17 k18 c19, s2 =
                { s with p4 := b4, v3 := (sp : Int), v3_def := true, v4 := (spCur : Int), v5 := (spNext : Int),
                         v6 := (curI : Int), v7 := (nextI : Int), v8 := (ne : Int), v9 := k9', v10 := a, v11 := b,
                         v12 := (vb'.length : Int) - s.v1, v13 := c13, v14 := c14, v15 := k15, v16 := c16, v17 := k17,
                         v18 := k18, v19 := c19 } ∧ Holds P.capV b4 vb') ?_ ?_
              · simp only [spanEmit] at hem
                split at hem
                · rename_i hn1
                  subst hn1
                  split at hem
                  · cases hem
                  · rename_i comma quotes hsc
                    obtain ⟨s3, hrun, k15, rfl⟩ := scan_sim P.vals P.sep P.delim
                      { s with v3 := (sp : Int), v3_def := true, v4 := (spCur : Int), v5 := (spNext : Int), v6 := (curI : Int),
                               v7 := (nextI : Int), v8 := ((1 : Nat) : Int), v9 := k9, v10 := a, v11 := b, v12 := 0, v13 := false,
                               v14 := false } h2 h7 h8 _ curI comma quotes (toNat_natCast_sub curI nextI ▸ hsc)
                    obtain ⟨b4, k15', hE, hH2⟩ := emit_sim P.vals P.delim P.capV curI nextI st.vb vb' (fun s => s.v6)
                      (fun s => s.v7)
                      { s with v3 := (sp : Int), v3_def := true, v4 := (spCur : Int), v5 := (spNext : Int), v6 := (curI : Int),
                               v7 := (nextI : Int), v8 := ((1 : Nat) : Int), v9 := k9, v10 := a, v11 := b, v12 := 0,
                               v13 := comma, v14 := quotes, v15 := k15 }
                      (fun _ _ => rfl) (fun _ _ => rfl) h2 h8 hV (by rw [hv1]; exact Int.add_zero _) hem
                    simp only [beq_self_eq_true, if_true, forRangeE_nat, hrun, bindE_ok, hE]
                    exact ⟨_, rfl, _, _, _, _, _, _, _, _, _, rfl, hH2⟩
                · rename_i hn1
                  simp only [beq_eq_false_iff_ne.mpr hn1, Bool.false_eq_true, if_false]
                  split at hem
                  · rename_i hn2
                    obtain ⟨s3, hrun, b4, k9', c13, c14, k15, c16, k17, k18, c19, rfl, hH2⟩ := multi_sim P.idx P.vals P.sep
                      P.delim P.capV spCur
                      { s with v3 := (sp : Int), v3_def := true, v4 := (spCur : Int), v5 := (spNext : Int), v6 := (curI : Int),
                               v7 := (nextI : Int), v8 := (ne : Int), v9 := k9, v10 := a, v11 := b, v12 := 0, v16 := true }
                      h1 h2 h7 h8 rfl st.vb hV (by rw [hv1]; exact Int.add_zero _) _ spCur vb'
                      (toNat_natCast_sub spCur spNext ▸ hem)
                    simp only [hn2, decide_true, if_true, forRangeE_nat, hrun]
                    exact ⟨_, rfl, _, _, _, _, _, _, _, _, _, rfl, hH2⟩
                  · rename_i hn2
                    cases hem
                    simp only [hn2, decide_false, Bool.false_eq_true, if_false]
                    exact ⟨_, rfl, _, _, _, _, _, _, _, _, _, by rw [hv1, Int.sub_self], hV⟩
              · rintro _ ⟨b4, k9', c13, c14, k15, c16, k17, k18, c19, rfl, hH2⟩
                have hp : pushV P.capI st.ib (vb'.length + P.destStartV) "dest_index[d_index_i]"
                    = .ok (st.ib ++ [vb'.length + P.destStartV]) := if_pos hcapI
                have hval : (vb'.length : Int) + s.p10 = ((vb'.length + P.destStartV : Nat) : Int) := by
                  rw [h10, Int.natCast_add]
                have hps := push_sim hI hp hv0 hval "p3[v0]"
                obtain ⟨hs, hI', hn⟩ := hps
                have hv0' : s.v0 + 1 = ((st.ib ++ [vb'.length + P.destStartV]).length : Int) := by rw [hn, hv0]
                simp only [int_add_sub_cancel, hs, bindE_ok, hv0', h5, h6, natCast_ge]
                cases hbk : (decide ((st.ib ++ [vb'.length + P.destStartV]).length ≥ P.maxI) || decide (vb'.length ≥ P.maxV))
                · simp only [Bool.false_eq_true, if_false]
                  exact ⟨_, rfl, ⟨h0, h1, h2, rfl, rfl, h7, h8, h10, hI', rfl, hH2, rfl⟩, rfl, rfl, hb⟩
                · simp only [if_true]
                  exact ⟨_, rfl, ⟨h0, h1, h2, rfl, rfl, h7, h8, h10, hI', rfl, hH2, rfl⟩, rfl, rfl, rfl⟩
          · cases h

/-! ### the span loop with its `break`, and the kernel -/

abbrev loop1 (n : Nat) (k : Int) (s : St) : Except Err St :=
  forRangeAux (fun s => s.brk1) (fun k s => _apply_spans_concat_2.body_L1 { s with v3 := k, v3_def := true }) n k s

/-- the span loop; after at least one iteration the loop variable holds the model's `s`, one less than the value returned -/
theorem span_sim (P : Params Nat) (N sp : Nat) (st : Concat.Buf Nat) (s : St) (sp' : Nat) (st' : Concat.Buf Nat) (hR : ORel P s st)
    (hb : s.brk1 = false) (h : spanLoop P N sp st = .ok (sp', st')) :
    ∃ s', loop1 N (sp : Int) s = .ok s' ∧ ORel P s' st' ∧ (0 < N → s'.v3 + 1 = (sp' : Int) ∧ s'.v3_def = true) := by
  refine forRangeAux_rule
    (fun n sp t => ∃ st, ORel P t st ∧ t.brk1 = false ∧ spanLoop P n sp st = .ok (sp', st') ∧
      (n < N → t.v3 + 1 = (sp : Int) ∧ t.v3_def = true)) _ ?_ ?_ N sp s ⟨st, hR, hb, h, fun hn => absurd hn (Nat.lt_irrefl N)⟩
  · rintro sp t ⟨st, hR, -, h, hv⟩
    cases h
    exact ⟨hR, hv⟩
  · rintro n sp t ⟨st, hR, hb, h, -⟩
    simp only [spanLoop] at h
    split at h
    · cases h
    · rename_i st1 ho
      obtain ⟨s1, hrun, hR1, hv3, hdef, hbrk⟩ := step_sim P sp t st st1 hR hb ho
      refine ⟨s1, hrun, ?_⟩
      split at h
      · rename_i hc
        cases h
        rw [if_pos (hbrk.trans hc)]
        exact ⟨hR1, fun _ => ⟨by rw [hv3]; rfl, hdef⟩⟩
      · rename_i hc
        have hb1 : s1.brk1 = false := hbrk.trans (Bool.eq_false_iff.mpr hc)
        rw [if_neg (by rw [hb1]; exact Bool.false_ne_true)]
        exact ⟨st1, hR1, hb1, h, fun _ => ⟨by rw [hv3]; rfl, hdef⟩⟩

/-- the kernel from the state it has after choosing `d_index_i` -/
theorem run_sim (P : Params Nat) (spStart : Nat) (s : St) (st : Concat.Buf Nat) (hR : ORel P s st) (hb : s.brk1 = false)
    (h9 : s.p9 = (spStart : Int)) (hlt : spStart < P.spans.length - 1) (sp' : Nat) (buf : Concat.Buf Nat)
    (h : spanLoop P (P.spans.length - 1 - spStart) spStart st = .ok (sp', buf)) :
    ∃ bI bV,
      (bindE (bindE (forRangeB s.p9 (pyLen s.p0 - 1) (fun s => s.brk1)
            (fun k s => _apply_spans_concat_2.body_L1 { s with v3 := k, v3_def := true }) { s with v2 := pyLen s.p0 - 1 })
          fun s => .ok { s with brk1 := false }) fun s =>
        bindE (readDefE s.v3_def s.v3 "v3") fun t27 => .ok ((t27 + 1), s.v0, s.v1, s.p3, s.p4))
        = .ok ((sp' : Int), (buf.ib.length : Int), (buf.vb.length : Int), bI, bV) ∧
      Holds P.capI bI buf.ib ∧ Holds P.capV bV buf.vb := by
  obtain ⟨s', hrun, hR', hv⟩ := span_sim P _ spStart st { s with v2 := pyLen s.p0 - 1 } sp' buf
    ⟨hR.h0, hR.h1, hR.h2, hR.h5, hR.h6, hR.h7, hR.h8, hR.h10, hR.hI, hR.hv0, hR.hV, hR.hv1⟩ hb h
  obtain ⟨hv3, hdef⟩ := hv (Nat.sub_pos_of_lt hlt)
  have hcnt : (pyLen s.p0 - 1 - (spStart : Int)).toNat = P.spans.length - 1 - spStart := by
    rw [hR.h0, pyLen, ints_length]; omega
  refine ⟨s'.p3, s'.p4, ?_, hR'.hI, hR'.hV⟩
  simp only [forRangeB_at h9, hcnt, hrun, bindE_ok, readDefE, hdef, if_true, hv3, hR'.hv0, hR'.hv1]

/-- the state `run` starts the span loop from (`d0` = the initial `d_index_i`) -/
def initSt (P : Params Nat) (spStart : Nat) (bufI bufV : List Int) (d0 : Int) : St :=
  { p0 := ints P.spans, p1 := ints P.idx, p2 := ints P.vals, p3 := bufI, p4 := bufV, p5 := P.maxI, p6 := P.maxV, p7 := P.sep,
    p8 := P.delim, p9 := spStart, p10 := P.destStartV, v0 := d0, v1 := 0, v2 := 0, v3 := 0, v3_def := false, v4 := 0, v5 := 0,
    v6 := 0, v7 := 0, v8 := 0, v9 := 0, v10 := 0, v11 := 0, v12 := 0, v13 := false, v14 := false, v15 := 0, v16 := false,
    v17 := 0, v18 := 0, v19 := false, brk1 := false }

end CC

/-- every `.ok` run of the model kernel is a run of the translated `_apply_spans_concat_2` on buffers of the model's capacities (whose
    entry 0 of `dest_index` is the model's `index0` in the first batch): it returns the model's `s + 1` and the two positions, and
    the buffers start with the prefixes the model has written -/
theorem apply_spans_concat_2_ok (P : Params Nat) (spStart : Nat) (bufI bufV : List Int) (hI : bufI.length = P.capI)
    (hV : bufV.length = P.capV) (hI0 : spStart = 0 → bufI[0]? = some (P.index0 : Int)) (sp' : Nat) (buf : Concat.Buf Nat)
    (h : kernel P spStart = .ok (sp', buf)) :
    ∃ bI bV, _apply_spans_concat_2.run (ints P.spans) (ints P.idx) (ints P.vals) bufI bufV P.maxI P.maxV P.sep P.delim spStart
        P.destStartV = .ok ((sp' : Int), (buf.ib.length : Int), (buf.vb.length : Int), bI, bV) ∧
      bI.length = P.capI ∧ bI.take buf.ib.length = ints buf.ib ∧ bV.length = P.capV ∧ bV.take buf.vb.length = ints buf.vb := by
  simp only [kernel] at h
  split at h
  · rename_i hlt
    have hV0 : CC.Holds P.capV bufV [] := ⟨hV, by simp [ints]⟩
    by_cases h0 : spStart = 0
    · subst h0
      rw [if_pos rfl] at h
      have hI1 : CC.Holds P.capI bufI [P.index0] := by
        refine ⟨hI, ?_⟩
        cases bufI with
        | nil => exact absurd (hI0 rfl) (by simp)
        | cons x t => have := hI0 rfl; simp at this; simp [ints, this]
      obtain ⟨bI, bV, hrun, ⟨h1, h2⟩, h3, h4⟩ := CC.run_sim P 0 (CC.initSt P 0 bufI bufV 1) ⟨[P.index0], []⟩
        ⟨rfl, rfl, rfl, rfl, rfl, rfl, rfl, rfl, hI1, rfl, hV0, rfl⟩ rfl rfl hlt sp' buf h
      refine ⟨bI, bV, ?_, h1, h2, h3, h4⟩
      have hp9 : (((0 : Nat) : Int) == 0) = true := rfl
      simp only [_apply_spans_concat_2.run, hp9, if_true, bindE_ok]
      exact hrun
    · rw [if_neg h0] at h
      obtain ⟨bI, bV, hrun, ⟨h1, h2⟩, h3, h4⟩ := CC.run_sim P spStart (CC.initSt P spStart bufI bufV 0) ⟨[], []⟩
        ⟨rfl, rfl, rfl, rfl, rfl, rfl, rfl, rfl, ⟨hI, by simp [ints]⟩, rfl, hV0, rfl⟩ rfl rfl hlt sp' buf h
      refine ⟨bI, bV, ?_, h1, h2, h3, h4⟩
      have hne : ((spStart : Int) == 0) = false := by rw [beq_eq_false_iff_ne]; omega
      simp only [_apply_spans_concat_2.run, hne, Bool.false_eq_true, if_false, bindE_ok]
      exact hrun
  · cases h

end Exetera.GenK
