import Exetera.Lemmas.TransformsBasic
/-! C06, timestamps. Three independent parts: CPython's day-number arithmetic is the plain count of days; `int()` reads a
fixed-width decimal group as its number; `parse_timestamp_bytes` and `strptime(…, '%Y-%m-%d')` on the accepted layouts,
written as texts rendered from field values (`L19`, `L10`), so that the results can be stated in terms of the fields. -/
namespace Exetera.Transforms
open Exetera Exetera.Spec.Transforms

theorem daysInMonth_le (y m : Int) : daysInMonth y m ≤ 31 := by
  unfold daysInMonth; split <;> (try split) <;> omega

theorem daysBeforeYear_succ (y : Int) : daysBeforeYear (y + 1) = daysBeforeYear y + yearLength y := by
  simp only [daysBeforeYear, yearLength, isLeap, Bool.and_eq_true, Bool.or_eq_true, beq_iff_eq, bne_iff_ne, ne_eq,
    Int.add_sub_cancel]
  split <;> omega

theorem daysToYear_eq (n : Nat) (hn : 1 ≤ n) : daysToYear n = daysBeforeYear n := by
  induction n with
  | zero => omega
  | succ n ih =>
    cases n with
    | zero => simp [daysToYear, daysBeforeYear]
    | succ n =>
      rw [daysToYear, ih (by omega)]
      have := daysBeforeYear_succ ((n : Int) + 1)
      push_cast at this ⊢
      rw [this]

theorem daysToMonth_congr {y y' : Int} (h : isLeap y = isLeap y') (m : Nat) :
    daysToMonth y m = daysToMonth y' m ∧ daysBeforeMonth y m = daysBeforeMonth y' m := by
  refine ⟨?_, by simp only [daysBeforeMonth, h]⟩
  fun_induction daysToMonth y m with
  | case1 => rfl
  | case2 => rfl
  | case3 n ih => rw [daysToMonth, ih]; simp only [daysInMonth, h]

theorem daysToMonth_eq (y : Int) (m : Nat) (h1 : 1 ≤ m) (h12 : m ≤ 12) : daysToMonth y m = daysBeforeMonth y m := by
  -- both month tables see the year only through `isLeap`: compare them in one common year and one leap year
  have key : ∀ y' : Int, isLeap y = isLeap y' → (∀ m < 13, 1 ≤ m → daysToMonth y' m = daysBeforeMonth y' m) →
      daysToMonth y m = daysBeforeMonth y m := fun y' h hy' => by
    obtain ⟨e1, e2⟩ := daysToMonth_congr h m
    rw [e1, e2]; exact hy' m (by omega) h1
  cases h : isLeap y
  · exact key 1 h (by decide)
  · exact key 4 h (by decide)

theorem ymd2ord_eq_count (y m d : Nat) (hy : 1 ≤ y) (h1 : 1 ≤ m) (h12 : m ≤ 12) :
    ymd2ord y m d - epochOrd = daysFromCivil y m d := by
  unfold ymd2ord daysFromCivil
  rw [daysToYear_eq y hy, daysToMonth_eq y m h1 h12, daysToYear_eq 1970 (by omega)]
  have : daysBeforeYear ((1970 : Nat) : Int) = 719162 := by decide
  rw [this]; unfold epochOrd; omega

theorem mkTimestamp_valid (Y M D h mi s us : Nat) (off : Int) (hY : 1 ≤ Y ∧ Y ≤ 9999) (hM : 1 ≤ M ∧ M ≤ 12)
    (hD : 1 ≤ D ∧ (D : Int) ≤ daysInMonth Y M) (hh : h ≤ 23) (hmi : mi ≤ 59) (hs : s ≤ 59) (hus : us ≤ 999999) :
    mkTimestamp Y M D h mi s us off = .ok (utcMicros Y M D h mi s us off) := by
  unfold mkTimestamp
  have e1 : (1 ≤ (Y : Int) && (Y : Int) ≤ 9999) = true := by simp; omega
  have e2 : (1 ≤ (M : Int) && (M : Int) ≤ 12) = true := by simp; omega
  have e3 : (1 ≤ (D : Int) && (D : Int) ≤ daysInMonth Y M) = true := by simp; omega
  have e4 : (0 ≤ (h : Int) && (h : Int) ≤ 23) = true := by simp; omega
  have e5 : (0 ≤ (mi : Int) && (mi : Int) ≤ 59) = true := by simp; omega
  have e6 : (0 ≤ (s : Int) && (s : Int) ≤ 59) = true := by simp; omega
  have e7 : (0 ≤ (us : Int) && (us : Int) ≤ 999999) = true := by simp; omega
  simp only [e1, e2, e3, e4, e5, e6, e7, Bool.not_true, Bool.false_eq_true, if_false]
  congr 1
  have := ymd2ord_eq_count Y M D hY.1 hM.1 hM.2
  unfold utcMicros
  rw [← this]
  push_cast
  omega

def natOfDigits (ds : Bytes) (acc : Nat) : Nat := ds.foldl (fun a d => a * 10 + (d - 48)) acc

theorem digitsVal_digits (ds : Bytes) (acc : Nat) (prev : Bool) (h : ∀ d ∈ ds, isDigit d = true)
    (hne : ds ≠ [] ∨ prev = true) : digitsVal ds acc prev = some (natOfDigits ds acc) := by
  induction ds generalizing acc prev with
  | nil =>
    rcases hne with h | h
    · exact absurd rfl h
    · simp [digitsVal, natOfDigits, h]
  | cons d ds ih =>
    have hd := h d (by simp)
    simp only [digitsVal, hd, if_true]
    rw [ih _ true (fun x hx => h x (by simp [hx])) (Or.inr rfl)]
    rfl

theorem isSpace_of_isDigit (d : Nat) (h : isDigit d = true) : isSpaceByte d = false := by
  simp only [isDigit, Bool.and_eq_true, decide_eq_true_eq] at h
  simp only [isSpaceByte, Bool.or_eq_false_iff, beq_eq_false_iff_ne, Bool.and_eq_false_iff, decide_eq_false_iff_not]
  omega

theorem dropWhile_of_head {p : Nat → Bool} (l : Bytes) (h : ∀ d ∈ l.head?, p d = false) : l.dropWhile p = l := by
  cases l with
  | nil => rfl
  | cons d l => simp [List.dropWhile, h d rfl]

theorem stripSpace_id (ds : Bytes) (hh : ∀ d ∈ ds.head?, isSpaceByte d = false)
    (hl : ∀ d ∈ ds.getLast?, isSpaceByte d = false) : stripSpace ds = ds := by
  rw [stripSpace, dropWhile_of_head ds hh, dropWhile_of_head ds.reverse (by simpa using hl), List.reverse_reverse]

theorem parseIntPy_of_strip (bs ds : Bytes) (hstrip : stripSpace bs = ds) (h : ∀ d ∈ ds, isDigit d = true) (hne : ds ≠ []) :
    parseIntPy bs = some ((natOfDigits ds 0 : Nat) : Int) := by
  unfold parseIntPy
  rw [hstrip]
  cases ds with
  | nil => exact absurd rfl hne
  | cons d ds' =>
    have hd := h d (by simp)
    simp only [isDigit, Bool.and_eq_true, decide_eq_true_eq] at hd
    split
    · rename_i heq; cases heq
    · rename_i heq; simp only [List.cons.injEq] at heq; omega
    · rename_i heq; simp only [List.cons.injEq] at heq; omega
    · rw [digitsVal_digits _ 0 false h (Or.inl (by simp))]; rfl

theorem parseIntPy_digits (ds : Bytes) (h : ∀ d ∈ ds, isDigit d = true) (hne : ds ≠ []) :
    parseIntPy ds = some ((natOfDigits ds 0 : Nat) : Int) :=
  parseIntPy_of_strip ds ds
    (stripSpace_id ds (fun d hd => isSpace_of_isDigit d (h d (List.mem_of_mem_head? hd)))
      (fun d hd => isSpace_of_isDigit d (h d (List.mem_of_mem_getLast? hd)))) h hne

theorem intAt_digits {v : Bytes} {a b : Nat} {ds : Bytes} {n : Nat} (hs : slice v a b = ds)
    (hd : (∀ d ∈ ds, isDigit d = true) ∧ natOfDigits ds 0 = n) (hne : ds ≠ []) : intAt v a b = .ok (n : Int) := by
  simp [intAt, hs, parseIntPy_digits ds hd.1 hne, hd.2]

def digits : Nat → Nat → Bytes
  | 0, _ => []
  | k + 1, n => digits k (n / 10) ++ [48 + n % 10]

theorem digits_ok (k n : Nat) (hn : n < 10 ^ k) :
    (∀ d ∈ digits k n, isDigit d = true) ∧ natOfDigits (digits k n) 0 = n := by
  induction k generalizing n with
  | zero => simp only [Nat.pow_zero, Nat.lt_one_iff] at hn; subst hn; simp [digits, natOfDigits]
  | succ k ih =>
    obtain ⟨h1, h2⟩ := ih (n / 10) (by rw [Nat.pow_succ] at hn; omega)
    have hd : isDigit (48 + n % 10) = true := by simp only [isDigit, Bool.and_eq_true, decide_eq_true_eq]; omega
    refine ⟨fun d hm => ?_, ?_⟩
    · rcases List.mem_append.mp hm with h | h
      · exact h1 d h
      · rw [List.mem_singleton.mp h]; exact hd
    simp only [natOfDigits] at h2
    simp only [digits, natOfDigits, List.foldl_append, List.foldl, h2]
    omega

def d1' (n : Nat) : Bytes := [48 + n % 10]
def d1 (n : Nat) : Bytes := d1' n
def d2 (n : Nat) : Bytes := [48 + n / 10 % 10, 48 + n % 10]
def d3 (n : Nat) : Bytes := [48 + n / 100 % 10, 48 + n / 10 % 10, 48 + n % 10]
def d4 (n : Nat) : Bytes := [48 + n / 1000 % 10, 48 + n / 100 % 10, 48 + n / 10 % 10, 48 + n % 10]
def d6 (n : Nat) : Bytes :=
  [48 + n / 100000 % 10, 48 + n / 10000 % 10, 48 + n / 1000 % 10, 48 + n / 100 % 10, 48 + n / 10 % 10, 48 + n % 10]

theorem d1_ok (n : Nat) (hn : n < 10) : (∀ d ∈ d1 n, isDigit d = true) ∧ natOfDigits (d1 n) 0 = n := digits_ok 1 n hn
theorem d2_ok (n : Nat) (hn : n < 100) : (∀ d ∈ d2 n, isDigit d = true) ∧ natOfDigits (d2 n) 0 = n := digits_ok 2 n hn
theorem d3_ok (n : Nat) (hn : n < 1000) : (∀ d ∈ d3 n, isDigit d = true) ∧ natOfDigits (d3 n) 0 = n := by
  simpa only [digits, d3, Nat.div_div_eq_div_mul, Nat.reduceMul, List.nil_append, List.cons_append] using digits_ok 3 n hn
theorem d4_ok (n : Nat) (hn : n < 10000) : (∀ d ∈ d4 n, isDigit d = true) ∧ natOfDigits (d4 n) 0 = n := by
  simpa only [digits, d4, Nat.div_div_eq_div_mul, Nat.reduceMul, List.nil_append, List.cons_append] using digits_ok 4 n hn
theorem d6_ok (n : Nat) (hn : n < 1000000) : (∀ d ∈ d6 n, isDigit d = true) ∧ natOfDigits (d6 n) 0 = n := by
  simpa only [digits, d6, Nat.div_div_eq_div_mul, Nat.reduceMul, List.nil_append, List.cons_append] using digits_ok 6 n hn

/-- the `.f UTC` layout reads its fraction from `value[20:22]`, the digit and the blank after it (`int(b'1 ')`) -/
theorem parseIntPy_digit_blank (f : Nat) (hf : f < 10) : parseIntPy (d1' f ++ [32]) = some (f : Int) := by
  have hd := d1_ok f hf
  have hstrip : stripSpace (d1' f ++ [32]) = d1 f := by
    have hsp := isSpace_of_isDigit _ (hd.1 _ (List.mem_singleton_self _))
    have h32 : isSpaceByte 32 = true := by decide
    simp [stripSpace, d1, d1', List.dropWhile, hsp, h32]
  rw [parseIntPy_of_strip _ _ hstrip hd.1 (List.cons_ne_nil _ _), hd.2]

/-- `YYYY-MM-DD HH:MM:SS` -/
def L19 (Y M D h mi s : Nat) : Bytes :=
  d4 Y ++ 45 :: d2 M ++ 45 :: d2 D ++ 32 :: d2 h ++ 58 :: d2 mi ++ 58 :: d2 s

/-- `+HH:MM` / `-HH:MM` -/
def offText (neg : Bool) (oh om : Nat) : Bytes := (if neg then 45 else 43) :: d2 oh ++ 58 :: d2 om

def offMinutes (neg : Bool) (oh om : Nat) : Int := if neg then -((oh * 60 + om : Nat) : Int) else ((oh * 60 + om : Nat) : Int)

def utcSuffix : Bytes := [32, 85, 84, 67]

structure FieldBounds (Y M D h mi s : Nat) : Prop where
  hY : Y < 10000
  hM : M < 100
  hD : D < 100
  hh : h < 100
  hmi : mi < 100
  hs : s < 100

theorem L19_length (Y M D h mi s : Nat) : (L19 Y M D h mi s).length = 19 := rfl

section
variable {Y M D h mi s : Nat}

theorem ymdhms_L19 (hb : FieldBounds Y M D h mi s) (suf : Bytes) :
    ymdhms (L19 Y M D h mi s ++ suf) = .ok ((Y : Int), (M : Int), (D : Int), (h : Int), (mi : Int), (s : Int)) := by
  unfold ymdhms
  rw [intAt_digits (a := 0) (b := 4) (ds := d4 Y) rfl (d4_ok Y hb.hY) (List.cons_ne_nil _ _),
    intAt_digits (a := 5) (b := 7) (ds := d2 M) rfl (d2_ok M hb.hM) (List.cons_ne_nil _ _),
    intAt_digits (a := 8) (b := 10) (ds := d2 D) rfl (d2_ok D hb.hD) (List.cons_ne_nil _ _),
    intAt_digits (a := 11) (b := 13) (ds := d2 h) rfl (d2_ok h hb.hh) (List.cons_ne_nil _ _),
    intAt_digits (a := 14) (b := 16) (ds := d2 mi) rfl (d2_ok mi hb.hmi) (List.cons_ne_nil _ _),
    intAt_digits (a := 17) (b := 19) (ds := d2 s) rfl (d2_ok s hb.hs) (List.cons_ne_nil _ _)]

/-- `a = b` stands for a layout without fraction -/
theorem stampWith_L19 (hb : FieldBounds Y M D h mi s) (suf : Bytes) {a b : Nat} {scale f o : Int} {off : Except Err Int}
    (hf : (if a == b then Except.ok 0 else intAt (L19 Y M D h mi s ++ suf) a b) = .ok f) (ho : off = .ok o) :
    stampWith (L19 Y M D h mi s ++ suf) a b scale off = mkTimestamp Y M D h mi s (f * scale) o := by
  simp only [stampWith, ymdhms_L19 hb suf, hf, ho]

theorem stampWith_L19_whole (hb : FieldBounds Y M D h mi s) (suf : Bytes) {o : Int} {off : Except Err Int} (ho : off = .ok o) :
    stampWith (L19 Y M D h mi s ++ suf) 0 0 0 off = mkTimestamp Y M D h mi s 0 o :=
  (stampWith_L19 hb suf (f := 0) rfl ho).trans (by rw [Int.mul_zero])

theorem utcOffsetMin_spec (pre : Bytes) (neg : Bool) (oh om : Nat) (hoh : oh < 100) (hom : om < 100)
    (hlt : oh * 60 + om < 1440) :
    utcOffsetMin (pre ++ offText neg oh om) = .ok (offMinutes neg oh om) := by
  have hn : (pre ++ offText neg oh om).length = pre.length + 6 := by simp [offText, d2]
  have s1 : slice (pre ++ offText neg oh om) (pre.length + 0) (pre.length + 1) = [if neg then 45 else 43] := by
    rw [slice_append_right]; rfl
  have s2 : slice (pre ++ offText neg oh om) (pre.length + 1) (pre.length + 3) = d2 oh := by
    rw [slice_append_right]; rfl
  have s3 : slice (pre ++ offText neg oh om) (pre.length + 4) (pre.length + 6) = d2 om := by
    rw [slice_append_right]; rfl
  simp only [utcOffsetMin, hn, Nat.add_sub_cancel, show pre.length + 6 - 5 = pre.length + 1 by omega,
    show pre.length + 6 - 3 = pre.length + 3 by omega, show pre.length + 6 - 2 = pre.length + 4 by omega,
    Nat.add_zero _ ▸ s1, intAt_digits s2 (d2_ok oh hoh) (List.cons_ne_nil _ _),
    intAt_digits s3 (d2_ok om hom) (List.cons_ne_nil _ _)]
  cases neg <;> simp [offMinutes] <;> omega

theorem parseTimestamp_eq (v : Bytes) (n : Nat) (z : Bool) (hn : v.length = n)
    (hz : (slice v (n - 3) n == [85, 84, 67]) = z) :
    parseTimestamp v =
      if z then
        if n == 27 then stampWith v 20 23 1000 (.ok 0)
        else if n == 26 then stampWith v 20 22 10000 (.ok 0)
        else if n == 25 then stampWith v 20 22 100000 (.ok 0)
        else if n == 23 then stampWith v 0 0 0 (.ok 0)
        else .error (.valueError "unexpected format")
      else
        if n == 32 then stampWith v 20 26 1 (utcOffsetMin v)
        else if n == 25 then stampWith v 0 0 0 (utcOffsetMin v)
        else if n == 19 then stampWith v 0 0 0 (.ok 0)
        else .error (.valueError "unexpected format") := by
  subst hn hz; rfl

/-- `YYYY-MM-DD HH:MM:SS` (19 bytes) -/
theorem parse_plain (hb : FieldBounds Y M D h mi s) :
    parseTimestamp (L19 Y M D h mi s) = mkTimestamp Y M D h mi s 0 0 := by
  have := stampWith_L19_whole hb [] (off := .ok 0) rfl
  rw [List.append_nil] at this
  rw [parseTimestamp_eq _ 19 false rfl rfl]
  simpa only [reduceIte, Nat.reduceBEq, Bool.false_eq_true] using this

/-- `YYYY-MM-DD HH:MM:SS UTC` (23 bytes) -/
theorem parse_utc (hb : FieldBounds Y M D h mi s) :
    parseTimestamp (L19 Y M D h mi s ++ utcSuffix) = mkTimestamp Y M D h mi s 0 0 := by
  rw [parseTimestamp_eq _ 23 true rfl rfl]
  simpa only [reduceIte, Nat.reduceBEq, Bool.false_eq_true] using stampWith_L19_whole hb utcSuffix (off := .ok 0) rfl

/-- `YYYY-MM-DD HH:MM:SS.f UTC` (25 bytes) -/
theorem parse_utc1 (hb : FieldBounds Y M D h mi s) (f : Nat) (hf : f < 10) :
    parseTimestamp (L19 Y M D h mi s ++ (46 :: d1 f ++ utcSuffix)) = mkTimestamp Y M D h mi s ((f : Int) * 100000) 0 := by
  have hs : slice (L19 Y M D h mi s ++ (46 :: d1 f ++ utcSuffix)) 20 22 = d1' f ++ [32] := rfl
  rw [parseTimestamp_eq _ 25 true rfl rfl]
  simp only [reduceIte, Nat.reduceBEq, Bool.false_eq_true]
  exact stampWith_L19 hb _ ((if_neg (by decide)).trans (by simp only [intAt, hs, parseIntPy_digit_blank f hf])) rfl

/-- `YYYY-MM-DD HH:MM:SS.ff UTC` (26 bytes) -/
theorem parse_utc2 (hb : FieldBounds Y M D h mi s) (f : Nat) (hf : f < 100) :
    parseTimestamp (L19 Y M D h mi s ++ (46 :: d2 f ++ utcSuffix)) = mkTimestamp Y M D h mi s ((f : Int) * 10000) 0 := by
  rw [parseTimestamp_eq _ 26 true rfl rfl]
  simp only [reduceIte, Nat.reduceBEq, Bool.false_eq_true]
  exact stampWith_L19 hb _ ((if_neg (by decide)).trans (intAt_digits (ds := d2 f) rfl (d2_ok f hf) (List.cons_ne_nil _ _))) rfl

/-- `YYYY-MM-DD HH:MM:SS.fff UTC` (27 bytes) -/
theorem parse_utc3 (hb : FieldBounds Y M D h mi s) (f : Nat) (hf : f < 1000) :
    parseTimestamp (L19 Y M D h mi s ++ (46 :: d3 f ++ utcSuffix)) = mkTimestamp Y M D h mi s ((f : Int) * 1000) 0 := by
  rw [parseTimestamp_eq _ 27 true rfl rfl]
  simp only [reduceIte, Nat.reduceBEq, Bool.false_eq_true]
  exact stampWith_L19 hb _ ((if_neg (by decide)).trans (intAt_digits (ds := d3 f) rfl (d3_ok f hf) (List.cons_ne_nil _ _))) rfl

/-- `YYYY-MM-DD HH:MM:SS±HH:MM` (25 bytes): the written offset is honoured (fix D29) -/
theorem parse_offset (hb : FieldBounds Y M D h mi s) (neg : Bool) (oh om : Nat) (hoh : oh < 100) (hom : om < 100)
    (hlt : oh * 60 + om < 1440) :
    parseTimestamp (L19 Y M D h mi s ++ offText neg oh om) = mkTimestamp Y M D h mi s 0 (offMinutes neg oh om) := by
  rw [parseTimestamp_eq _ 25 false rfl (by cases neg <;> rfl)]
  simpa only [reduceIte, Nat.reduceBEq, Bool.false_eq_true] using
    stampWith_L19_whole hb (offText neg oh om) (utcOffsetMin_spec (L19 Y M D h mi s) neg oh om hoh hom hlt)

/-- `YYYY-MM-DD HH:MM:SS.ffffff±HH:MM` (32 bytes): microseconds and the written offset -/
theorem parse_frac_offset (hb : FieldBounds Y M D h mi s) (f : Nat) (hf : f < 1000000) (neg : Bool) (oh om : Nat)
    (hoh : oh < 100) (hom : om < 100) (hlt : oh * 60 + om < 1440) :
    parseTimestamp (L19 Y M D h mi s ++ (46 :: d6 f ++ offText neg oh om))
      = mkTimestamp Y M D h mi s (f : Int) (offMinutes neg oh om) := by
  have ho := utcOffsetMin_spec (L19 Y M D h mi s ++ 46 :: d6 f) neg oh om hoh hom hlt
  rw [List.append_assoc] at ho
  have := stampWith_L19 hb (46 :: d6 f ++ offText neg oh om) (scale := 1)
    ((if_neg (by decide)).trans (intAt_digits (ds := d6 f) (a := 20) (b := 26) rfl (d6_ok f hf) (List.cons_ne_nil _ _))) ho
  rw [Int.mul_one] at this
  rw [parseTimestamp_eq _ 32 false rfl (by cases neg <;> rfl)]
  simpa only [reduceIte, Nat.reduceBEq, Bool.false_eq_true] using this

end

/-- `YYYY-MM-DD` -/
def L10 (Y M D : Nat) : Bytes := d4 Y ++ 45 :: d2 M ++ 45 :: d2 D

theorem strptimeMonth_d2 (M : Nat) (h1 : 1 ≤ M) (h12 : M ≤ 12) (r : Bytes) :
    strptimeMonth (d2 M ++ 45 :: r) = some ((M : Int), r) := by
  have : M = 1 ∨ M = 2 ∨ M = 3 ∨ M = 4 ∨ M = 5 ∨ M = 6 ∨ M = 7 ∨ M = 8 ∨ M = 9 ∨ M = 10 ∨ M = 11 ∨ M = 12 := by omega
  rcases this with rfl | rfl | rfl | rfl | rfl | rfl | rfl | rfl | rfl | rfl | rfl | rfl <;> rfl

theorem strptimeDay_d2 (D : Nat) (h1 : 1 ≤ D) (h31 : D ≤ 31) : strptimeDay (d2 D) = some (D : Int) := by
  have : ∀ D < 32, 1 ≤ D → strptimeDay (d2 D) = some (D : Int) := by decide
  exact this D (by omega) h1

theorem strptimeYmd_L10 (Y M D : Nat) (hY : Y < 10000) (hM : 1 ≤ M ∧ M ≤ 12) (hD : 1 ≤ D ∧ D ≤ 31) :
    strptimeYmd (L10 Y M D) = some ((Y : Int), (M : Int), (D : Int)) := by
  have e : L10 Y M D = (48 + Y / 1000 % 10) :: (48 + Y / 100 % 10) :: (48 + Y / 10 % 10) :: (48 + Y % 10) :: 45 ::
      (d2 M ++ 45 :: d2 D) := rfl
  obtain ⟨hd, hv⟩ := d4_ok Y hY
  simp only [d4, List.mem_cons, List.not_mem_nil, or_false, forall_eq_or_imp, forall_eq] at hd
  simp only [e, strptimeYmd, hd, Bool.and_self, if_true, strptimeMonth_d2 M hM.1 hM.2, strptimeDay_d2 D hD.1 hD.2]
  -- the year is the value of its four digits (`hv`), whatever they are
  simp only [natOfDigits, d4, List.foldl] at hv
  generalize 48 + Y / 1000 % 10 = a, 48 + Y / 100 % 10 = b, 48 + Y / 10 % 10 = c, 48 + Y % 10 = d at hv ⊢
  congr 2
  omega

theorem stripSpace_L10 (Y M D : Nat) : stripSpace (L10 Y M D) = L10 Y M D := by
  have hd : ∀ x, isSpaceByte (48 + x % 10) = false := fun x =>
    isSpace_of_isDigit _ (by simp only [isDigit, Bool.and_eq_true, decide_eq_true_eq]; omega)
  apply stripSpace_id
  · intro d h; cases h; exact hd _
  · intro d h
    have : (L10 Y M D).getLast? = some (48 + D % 10) := rfl
    rw [this] at h; cases h; exact hd _

/-- `D ≤ 31` is what `strptime` checks; whether the month has that day is left to the `datetime` constructor
    (30 February raises) -/
theorem dateCell_L10 (Y M D : Nat) (hY : Y < 10000) (hM : 1 ≤ M ∧ M ≤ 12) (hD : 1 ≤ D ∧ D ≤ 31) :
    dateCell (L10 Y M D) = (mkTimestamp Y M D 0 0 0 0 0).map (·, L10 Y M D, true) := by
  have hne : (L10 Y M D).isEmpty = false := rfl
  have hpad : padTo 10 (L10 Y M D) = L10 Y M D := by
    have hl : (L10 Y M D).length = 10 := rfl
    simp [padTo, hl, List.take_of_length_le]
  simp only [dateCell, stripSpace_L10, hne, Bool.false_eq_true, if_false, strptimeYmd_L10 Y M D hY hM hD, hpad]
  cases mkTimestamp Y M D 0 0 0 0 0 <;> rfl

end Exetera.Transforms
