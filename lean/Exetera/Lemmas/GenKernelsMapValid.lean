import Exetera.Gen.Kernels
import Exetera.Model.MapValid
import Exetera.Lemmas.GenKernels
/-!
  The TRANSLATED `map_valid` and `ordered_map_valid_partial` (C04) against the hand-written models of `Model/MapValid.lean`.

  The model lets a negative source subscript count from the end (`getI`); the translation makes it an error branch.  The tie is
  therefore the transfer of every success:  model = .ok r, and no valid map entry addresses a negative source position
  →  translated kernel = .ok r   (for ALL inputs, any fuel ≥ the trip count).
-/
namespace Exetera.GenK

open Exetera Exetera.PyRt Exetera.Gen.Kernels
open Exetera.MapValid (forE getI mapValidStep mapValid mapPartialStep orderedMapValidPartial)

theorem getI_nonneg {α} (xs : List α) (k : Int) (site site' : String) (v : α) (hk : 0 ≤ k)
    (h : getI xs k site = .ok v) : idxE xs k site' = .ok v := by
  unfold getI at h
  rw [if_pos hk] at h
  unfold idxE
  rw [if_pos hk]
  simp only [getE] at h ⊢
  cases hx : xs[k.toNat]? with
  | none => simp [hx] at h
  | some x => simp [hx] at h ⊢; exact h

/-- A translated `for i in range(…)` loop against the models' `forE`: if one iteration of the kernel follows one step of the model
    and keeps the relation `R` (indexed by the loop counter), the loop follows `forE`. -/
theorem forRangeAux_forE {σ τ} {body : Int → σ → Except Err σ} {step : Nat → τ → Except Err τ} (R : Nat → σ → τ → Prop)
    (hstep : ∀ i s t t', R i s t → step i t = .ok t' → ∃ s', body (i : Int) s = .ok s' ∧ R (i + 1) s' t')
    (n i : Nat) (s : σ) (t r : τ) (hR : R i s t) (h : forE step i n t = .ok r) :
    ∃ s', forRangeAux (fun _ => false) body n (i : Int) s = .ok s' ∧ R (i + n) s' r := by
  refine forRangeAux_rule (fun m j s => ∃ t, R j s t ∧ forE step j m t = .ok r ∧ j + m = i + n) _ ?_ ?_ n i s ⟨t, hR, h, rfl⟩
  · rintro j s ⟨t, hR, h, hj⟩
    cases h
    rw [← hj]
    exact hR
  · rintro m j s ⟨t, hR, h, hj⟩
    simp only [forE] at h
    split at h
    · rename_i t1 hs
      obtain ⟨s1, hb, hR1⟩ := hstep j s t t1 hR hs
      exact ⟨s1, hb, t1, hR1, h, by omega⟩
    · cases h

namespace MV

abbrev St := map_valid.St

theorem step (data m : List Int) (inv : Int) (i : Nat) (res res' : List Int) (s : St)
    (h0 : s.p0 = data) (h1 : s.p1 = m) (h2 : s.p2 = res) (h3 : s.p3 = inv)
    (hpos : ∀ k, m[i]? = some k → k ≠ inv → 0 ≤ k)
    (h : mapValidStep data m inv i res = .ok res') :
    map_valid.body_L1 { s with v0 := (i : Int) } = .ok { s with v0 := (i : Int), p2 := res' } := by
  subst h0 h1 h2 h3
  unfold mapValidStep at h
  cases hm : s.p1[i]? with
  | none => simp [hm] at h
  | some k =>
    simp only [hm] at h
    simp only [map_valid.body_L1, idxE_nat, getE_of_some _ hm, bindE_ok]
    by_cases hk : k = s.p3
    · subst hk
      simp only [bne_self_eq_false, Bool.false_eq_true, if_false, Except.ok.injEq] at h ⊢
      subst h
      rfl
    · have hne : (k != s.p3) = true := by simp [hk]
      simp only [hne, if_true] at h ⊢
      cases hg : getI s.p0 k "data_field[map_field[i]]" with
      | error e => simp [hg] at h
      | ok v =>
        simp only [hg] at h
        rw [getI_nonneg s.p0 k _ "p0[p1[v0]]" v (hpos k hm hk) hg]
        simp only [bindE_ok, setIdxE_nat]
        rw [setE_ok_site "p2[v0]" h]
        rfl

theorem loop (data m : List Int) (inv : Int)
    (hpos : ∀ (i : Nat) (k : Int), m[i]? = some k → k ≠ inv → 0 ≤ k) (n i : Nat) (res r : List Int) (s : St)
    (h0 : s.p0 = data) (h1 : s.p1 = m) (h2 : s.p2 = res) (h3 : s.p3 = inv)
    (h : forE (mapValidStep data m inv) i n res = .ok r) :
    ∃ s', forRangeAux (fun _ => false) (fun k s => map_valid.body_L1 { s with v0 := k }) n (i : Int) s = .ok s' ∧
      s'.p2 = r := by
  obtain ⟨s', hrun, -, -, hp2, -⟩ := forRangeAux_forE (body := fun k s => map_valid.body_L1 { s with v0 := k })
    (fun _ (s : St) (res : List Int) => s.p0 = data ∧ s.p1 = m ∧ s.p2 = res ∧ s.p3 = inv)
    (fun i s res res' ⟨h0, h1, h2, h3⟩ hs =>
      ⟨{ s with v0 := (i : Int), p2 := res' }, step data m inv i res res' s h0 h1 h2 h3 (hpos i) hs, h0, h1, rfl, h3⟩)
    n i s res r ⟨h0, h1, h2, h3⟩ h
  exact ⟨s', hrun, hp2⟩

end MV

theorem map_valid_ok (data m : List Int) (result : Option (List Int)) (inv : Int) (r : List Int)
    (hpos : ∀ (i : Nat) (k : Int), m[i]? = some k → k ≠ inv → 0 ≤ k)
    (h : mapValid data m result inv 0 = .ok r) :
    map_valid.run data m result inv = .ok r := by
  unfold mapValid at h
  unfold map_valid.run
  cases result with
  | none =>
    simp only [Option.getD_none] at h
    simp only [bindE_ok, forRangeE, pyLen, Int.sub_zero, Int.toNat_natCast]
    obtain ⟨s', hrun, hp2⟩ := MV.loop data m inv hpos m.length 0 _ r
      (⟨data, m, List.replicate m.length 0, inv, 0⟩ : MV.St) rfl rfl rfl rfl h
    have hrun' : forRangeAux (fun _ => false) (fun k s => map_valid.body_L1 { s with v0 := k }) m.length (0 : Int)
        (⟨data, m, List.replicate m.length 0, inv, 0⟩ : MV.St) = .ok s' := hrun
    simp only [hrun', bindE_ok, hp2]
  | some a =>
    simp only [Option.getD_some] at h
    simp only [bindE_ok, forRangeE, pyLen, Int.sub_zero, Int.toNat_natCast]
    obtain ⟨s', hrun, hp2⟩ := MV.loop data m inv hpos m.length 0 _ r
      (⟨data, m, a, inv, 0⟩ : MV.St) rfl rfl rfl rfl h
    have hrun' : forRangeAux (fun _ => false) (fun k s => map_valid.body_L1 { s with v0 := k }) m.length (0 : Int)
        (⟨data, m, a, inv, 0⟩ : MV.St) = .ok s' := hrun
    simp only [hrun', bindE_ok, hp2]

namespace OMV

abbrev St := ordered_map_valid_partial.St

theorem step (values m : List Int) (dStart inv empty : Int) (sm : Nat) (res res' : List Int) (s : St)
    (h0 : s.p0 = values) (h1 : s.p1 = m) (h4 : s.p4 = dStart) (h5 : s.p5 = res) (h6 : s.p6 = inv) (h7 : s.p7 = empty)
    (hv : s.v0 = (sm : Int))
    (hpos : ∀ k, m[sm]? = some k → k ≠ inv → 0 ≤ k - dStart)
    (h : mapPartialStep values m dStart inv empty sm res = .ok res') :
    ordered_map_valid_partial.body_L1 s = .ok { s with p5 := res', v0 := ((sm + 1 : Nat) : Int) } := by
  subst h0 h1 h4 h5 h6 h7
  unfold mapPartialStep at h
  cases hm : s.p1[sm]? with
  | none => simp [hm] at h
  | some k =>
    simp only [hm] at h
    have hc : s.v0 + 1 = ((sm + 1 : Nat) : Int) := by rw [hv]; rfl
    simp only [ordered_map_valid_partial.body_L1, idxE_at hv, setIdxE_at hv, getE_of_some _ hm, bindE_ok]
    by_cases hk : k = s.p6
    · subst hk
      simp only [beq_self_eq_true, if_true] at h ⊢
      simp only [setE_ok_site "p5[v0]" h, bindE_ok, hc]
    · have hne : (k == s.p6) = false := by simp [hk]
      simp only [hne, Bool.false_eq_true, if_false] at h ⊢
      cases hg : getI s.p0 (k - s.p4) "values[map_values[sm]-d_start]" with
      | error e => simp [hg] at h
      | ok v =>
        simp only [hg] at h
        rw [getI_nonneg s.p0 (k - s.p4) _ "p0[p1[v0] - p4]" v (hpos k hm hk) hg]
        simp only [bindE_ok, setE_ok_site "p5[v0]" h, hc]

theorem loop (values m : List Int) (dStart inv empty : Int) (lo smEnd : Nat)
    (hpos : ∀ (sm : Nat) (k : Int), lo ≤ sm → sm < smEnd → m[sm]? = some k → k ≠ inv → 0 ≤ k - dStart)
    (n fuel sm : Nat) (res r : List Int) (s : St) (hlo : lo ≤ sm) (hsm : sm + n = smEnd) (hf : n ≤ fuel)
    (h0 : s.p0 = values) (h1 : s.p1 = m) (h3 : s.p3 = (smEnd : Int)) (h4 : s.p4 = dStart) (h5 : s.p5 = res) (h6 : s.p6 = inv)
    (h7 : s.p7 = empty) (hv : s.v0 = (sm : Int))
    (h : forE (mapPartialStep values m dStart inv empty) sm n res = .ok r) :
    ∃ s', whileE ordered_map_valid_partial.guard_L1 ordered_map_valid_partial.body_L1 fuel s = .ok s' ∧
      s'.p5 = r ∧ s'.v0 = (smEnd : Int) := by
  subst h0 h1 h4 h5 h6 h7
  rw [whileE_eq_whileG]
  refine whileG_rule
    (fun n t => ∃ (sm : Nat) (res : List Int), t = { s with p5 := res, v0 := (sm : Int) } ∧ lo ≤ sm ∧ sm + n = smEnd ∧
      forE (mapPartialStep s.p0 s.p1 s.p4 s.p6 s.p7) sm n res = .ok r)
    (fun o => ∃ s', o = .ok s' ∧ s'.p5 = r ∧ s'.v0 = (smEnd : Int)) ?_ fuel n s ⟨sm, s.p5, by rw [← hv], hlo, hsm, h⟩ hf
  rintro n t ⟨sm, res, rfl, hlo, hsm, h⟩
  have hg : ordered_map_valid_partial.guard_L1 { s with p5 := res, v0 := (sm : Int) } = decide (sm < smEnd) := by
    simp only [ordered_map_valid_partial.guard_L1, h3, Int.ofNat_lt]
  rw [hg]
  cases n with
  | zero =>
    cases h
    rw [decide_eq_false (by omega)]
    exact ⟨_, rfl, rfl, congrArg _ hsm⟩
  | succ n =>
    rw [decide_eq_true (by omega)]
    refine ⟨Nat.succ_pos n, ?_⟩
    simp only [forE] at h
    split at h
    · rename_i res' hs
      rw [step s.p0 s.p1 s.p4 s.p6 s.p7 sm res res' { s with p5 := res, v0 := (sm : Int) } rfl rfl rfl rfl rfl rfl rfl
        (fun k => hpos sm k hlo (by omega)) hs]
      exact ⟨sm + 1, res', rfl, by omega, by omega, h⟩
    · cases h

end OMV

theorem ordered_map_valid_partial_ok (values m : List Int) (smStart smEnd : Nat) (dStart : Int) (res : List Int)
    (inv empty : Int) (r : List Int) (fuel : Nat) (hse : smStart ≤ smEnd) (hf : smEnd - smStart ≤ fuel)
    (hpos : ∀ (sm : Nat) (k : Int), smStart ≤ sm → sm < smEnd → m[sm]? = some k → k ≠ inv → 0 ≤ k - dStart)
    (h : orderedMapValidPartial values m smStart smEnd dStart res inv empty = .ok r) :
    ordered_map_valid_partial.run values m smStart smEnd dStart res inv empty fuel = .ok ((smEnd : Int), r) := by
  unfold orderedMapValidPartial at h
  unfold ordered_map_valid_partial.run
  obtain ⟨s', hrun, hp5, hv0⟩ := OMV.loop values m dStart inv empty smStart smEnd hpos (smEnd - smStart) fuel smStart res r
    (⟨values, m, smStart, smEnd, dStart, res, inv, empty, smStart⟩ : OMV.St) (Nat.le_refl _) (by omega) hf rfl rfl rfl rfl rfl rfl rfl rfl h
  have hrun' : whileE ordered_map_valid_partial.guard_L1 ordered_map_valid_partial.body_L1 fuel
      (⟨values, m, smStart, smEnd, dStart, res, inv, empty, smStart⟩ : OMV.St) = .ok s' := hrun
  simp only [hrun', bindE_ok, hp5, hv0]

end Exetera.GenK
