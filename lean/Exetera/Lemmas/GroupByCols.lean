import Exetera.Lemmas.GroupByStacked
import Exetera.Lemmas.SpansEntryN
/-!
  `DataFrame.groupby` with fix D20 (`groupbyCols`: every key column compared in its own dtype) returns a grouping of the
  frame, with no hypothesis on casts.  On key columns whose stacking casts are faithful (in particular: all of one dtype)
  the stacked code returns the very same grouping, for every value of the hint: the fix is conservative.
-/
namespace Exetera.GroupBy
open Exetera Exetera.Spec Exetera.Spans Exetera.SortIndex List

theorem adjacent_length (op : Int → Int → Bool) (d : List Int) : (adjacent op d).length = d.length - 1 := by
  simp [adjacent, length_zipWith]

theorem getElem?_adjacent (op : Int → Int → Bool) (d : List Int) (i : Nat) (h : i + 1 < d.length) :
    (adjacent op d)[i]? = some (op (d.getD i 0) (d.getD (i + 1) 0)) := by
  have h1 : d.dropLast[i]? = some (d.getD i 0) := by
    rw [getElem?_dropLast]
    simp [show i < d.length - 1 by omega, List.getD_eq_getElem?_getD, List.getElem?_eq_getElem (show i < d.length by omega)]
  have h2 : d.tail[i]? = some (d.getD (i + 1) 0) := by
    rw [getElem?_tail]
    simp [List.getD_eq_getElem?_getD, List.getElem?_eq_getElem h]
  simp only [adjacent, getElem?_zipWith, h1, h2]

theorem any_zipWith_iff (f : Bool → Bool → Bool) (us gs : List Bool) :
    (zipWith f us gs).any id = true ↔ ∃ (i : Nat) (u g : Bool), us[i]? = some u ∧ gs[i]? = some g ∧ f u g = true := by
  rw [any_eq_true]
  constructor
  · rintro ⟨x, hx, hxt⟩
    obtain ⟨i, hi⟩ := mem_iff_getElem?.1 hx
    rw [getElem?_zipWith] at hi
    cases hu : us[i]? with
    | none => simp [hu] at hi
    | some u =>
      cases hg : gs[i]? with
      | none => simp [hu, hg] at hi
      | some g =>
        simp only [hu, hg, Option.some.injEq] at hi
        exact ⟨i, u, g, hu, hg, by rw [hi]; exact hxt⟩
  · rintro ⟨i, u, g, hu, hg, hf⟩
    refine ⟨f u g, mem_iff_getElem?.2 ⟨i, ?_⟩, hf⟩
    rw [getElem?_zipWith, hu, hg]

theorem sortedLoop_spec (n : Nat) : ∀ (cols : List (List Int)) (und : List Bool), Rect n cols → und.length = n - 1 →
    (sortedLoop und cols = true ↔
      ∀ i, i + 1 < n → und[i]? = some true → tupleLt (keyAt cols (i + 1)) (keyAt cols i) = false)
  | [], und, _, _ => by simp [sortedLoop, keyAt, tupleLt]
  | d :: ds, und, hrect, hund => by
    have hd : d.length = n := hrect d (by simp)
    have hds : Rect n ds := fun c hc => hrect c (by simp [hc])
    have hadj : ∀ (op : Int → Int → Bool) (i : Nat), i + 1 < n →
        (adjacent op d)[i]? = some (op (d.getD i 0) (d.getD (i + 1) 0)) :=
      fun op i hi => getElem?_adjacent op d i (by omega)
    have hundi : ∀ i, i + 1 < n → ∃ u, und[i]? = some u := fun i hi =>
      ⟨und[i]'(by omega), List.getElem?_eq_getElem (by omega)⟩
    have hrange : ∀ {l : List Bool} {i : Nat} {x : Bool}, l.length = n - 1 → l[i]? = some x → i + 1 < n := by
      intro l i x hl hx
      have := (List.getElem?_eq_some_iff.1 hx).1
      omega
    unfold sortedLoop
    by_cases hany : (zipWith (fun u g => u && g) und (adjacent (fun a b => decide (a > b)) d)).any id = true
    · rw [if_pos hany]
      simp only [Bool.false_eq_true, false_iff]
      intro hall
      obtain ⟨i, u, g, hu, hg, hug⟩ := (any_zipWith_iff _ _ _).1 hany
      have hi : i + 1 < n := hrange hund hu
      rw [hadj _ i hi] at hg
      simp only [Option.some.injEq] at hg
      simp only [Bool.and_eq_true] at hug
      obtain ⟨rfl, rfl⟩ := hug
      have hgt : d.getD i 0 > d.getD (i + 1) 0 := by simpa using hg.symm
      have := hall i hi hu
      rw [keyAt_cons, keyAt_cons] at this
      have hlt := (tupleLt_cons_iff (d.getD (i + 1) 0) (d.getD i 0) (keyAt ds (i + 1)) (keyAt ds i)).2 (Or.inl hgt)
      rw [this] at hlt; cases hlt
    · rw [if_neg hany]
      have hno : ∀ i, i + 1 < n → und[i]? = some true → ¬ d.getD i 0 > d.getD (i + 1) 0 := by
        intro i hi hu hgt
        exact hany ((any_zipWith_iff _ _ _).2 ⟨i, true, _, hu, hadj _ i hi, by simpa using hgt⟩)
      have hlen' : (zipWith (fun u l => u && !l) und (adjacent (fun a b => decide (a < b)) d)).length = n - 1 := by
        rw [length_zipWith, adjacent_length, hund, hd]; omega
      rw [sortedLoop_spec n ds _ hds hlen']
      have hund' : ∀ i, i + 1 < n → ∀ u, und[i]? = some u →
          (zipWith (fun u l => u && !l) und (adjacent (fun a b => decide (a < b)) d))[i]? =
            some (u && !decide (d.getD i 0 < d.getD (i + 1) 0)) := by
        intro i hi u hu
        rw [getElem?_zipWith, hu, hadj _ i hi]
      constructor
      · intro h i hi hu
        have hng := hno i hi hu
        rw [keyAt_cons, keyAt_cons]
        cases hc : tupleLt (d.getD (i + 1) 0 :: keyAt ds (i + 1)) (d.getD i 0 :: keyAt ds i) with
        | false => rfl
        | true =>
          rcases (tupleLt_cons_iff _ _ _ _).1 hc with hlt | ⟨heq, hrest⟩
          · exact absurd hlt hng
          · have := h i hi (by rw [hund' i hi true hu, ← heq]; simp)
            rw [this] at hrest; cases hrest
      · intro h i hi hu'
        obtain ⟨u, hu⟩ := hundi i hi
        rw [hund' i hi u hu] at hu'
        simp only [Option.some.injEq, Bool.and_eq_true, Bool.not_eq_eq_eq_not, Bool.not_true,
          decide_eq_false_iff_not] at hu'
        obtain ⟨rfl, hnlt⟩ := hu'
        have hng := hno i hi hu
        have heq : d.getD (i + 1) 0 = d.getD i 0 := by omega
        have := h i hi hu
        rw [keyAt_cons, keyAt_cons] at this
        cases hc : tupleLt (keyAt ds (i + 1)) (keyAt ds i) with
        | false => rfl
        | true =>
          have hlt := (tupleLt_cons_iff (d.getD (i + 1) 0) (d.getD i 0) (keyAt ds (i + 1)) (keyAt ds i)).2
            (Or.inr ⟨heq, hc⟩)
          rw [this] at hlt; cases hlt

theorem keysSorted_spec (d0 : List Int) (ds : List (List Int)) (n : Nat) (h : Rect n (d0 :: ds)) :
    keysSorted (d0 :: ds) = true ↔ SortedRows (d0 :: ds) n := by
  have h0 : d0.length = n := h d0 (by simp)
  unfold keysSorted
  rw [sortedLoop_spec n (d0 :: ds) _ h (by simp [h0])]
  constructor
  · intro hadj i j hij hj
    refine sorted_of_adjacent (keyAt (d0 :: ds)) n (fun j h1 h2 => ?_) j i hij hj
    have := hadj (j - 1) (by omega) (by rw [List.getElem?_replicate]; simp; omega)
    rwa [show j - 1 + 1 = j by omega] at this
  · intro hs i hi _
    exact hs i (i + 1) (by omega) hi

theorem any_congr_mem {α} {p q : α → Bool} : ∀ {l : List α}, (∀ a ∈ l, p a = q a) → l.any p = l.any q
  | [], _ => rfl
  | a :: l, h => by
    rw [any_cons, any_cons, h a (by simp), any_congr_mem (fun b hb => h b (by simp [hb]))]

theorem neq_keyAt (i j : Nat) : ∀ cols : List (List Int),
    neq (keyAt cols i) (keyAt cols j) = cols.any (fun c => c.getD i 0 != c.getD j 0)
  | [] => by simp [keyAt, neq]
  | c :: cs => by
    have ih := neq_keyAt i j cs
    simp only [neq] at ih
    rw [keyAt_cons, keyAt_cons, any_cons, ← ih]
    simp only [neq, bne, List.cons_beq_cons, Bool.not_and]

/-- the same fold as in `Session.get_spans(fields=…)` after fix NC08d -/
theorem colSpans_joint (d0 : List Int) (ds : List (List Int)) (hl : ∀ a ∈ ds, a.length = d0.length) :
    colSpans (d0 :: ds) = .ok (spans neq (jointCols ((d0 :: ds).map .numeric) d0.length)) := by
  have h := sessionGetSpansFields_all (.numeric d0) (ds.map .numeric)
    (fun c hc => by
      rcases List.mem_cons.1 hc with h | h
      · subst h; trivial
      · obtain ⟨a, _, rfl⟩ := List.mem_map.1 h; trivial)
    (fun c hc => by
      obtain ⟨a, ha, rfl⟩ := List.mem_map.1 hc
      rw [numeric_rows_length, numeric_rows_length]; exact hl a ha)
  rw [numeric_rows_length] at h
  simp only [sessionGetSpansFields, columnSpans] at h
  simp only [colSpans]
  rw [foldArraySpans_eq]; exact h

/-- a row starts a group iff some key column changes there -/
theorem colSpans_spec (d0 : List Int) (ds : List (List Int)) (n : Nat) (h : Rect n (d0 :: ds)) :
    colSpans (d0 :: ds) = .ok (spans neq (rowsBy (d0 :: ds) n)) := by
  have h0 : d0.length = n := h d0 (by simp)
  rw [colSpans_joint d0 ds (fun a ha => by rw [h0]; exact h a (by simp [ha])), h0]
  congr 1
  apply spans_congr
  · simp [jointCols_length, rowsBy]
  · intro i
    rw [isBoundary_jointCols _ n (by
      intro c hc
      obtain ⟨a, ha, rfl⟩ := List.mem_map.1 hc
      rw [numeric_rows_length]; exact h a ha)]
    rw [any_map]
    have hnum : ∀ c : List Int, isBoundary neq (Column.numeric c).rows i = isBoundary neq c i := fun c => by
      simp only [Column.rows]
      exact isBoundary_map Row.num (fun a b hab => by injection hab) c i
    simp only [Function.comp_def, hnum]
    cases i with
    | zero => simp [isBoundary_zero]
    | succ j =>
      by_cases hj : j + 1 < n
      · rw [isBoundary_succ, getElem?_rowsBy _ n j (by omega), getElem?_rowsBy _ n (j + 1) hj]
        simp only []
        rw [neq_keyAt]
        refine any_congr_mem (fun c hc => ?_)
        have hc' : c.length = n := h c hc
        rw [isBoundary_succ, List.getElem?_eq_getElem (show j < c.length by omega),
          List.getElem?_eq_getElem (show j + 1 < c.length by omega)]
        simp [neq, List.getD_eq_getElem?_getD, List.getElem?_eq_getElem (show j < c.length by omega),
          List.getElem?_eq_getElem (show j + 1 < c.length by omega)]
      · rw [isBoundary_false_of_ge _ _ _ (by simp [rowsBy]; omega), List.any_eq_false]
        intro c hc
        rw [isBoundary_false_of_ge _ _ _ (by have := h c hc; omega)]
        simp

theorem readKeys_ok (k0 : KeyCol) (ks : List KeyCol) (n : Nat) (h : Rect n ((k0 :: ks).map (·.data))) :
    readKeys (k0 :: ks) = .ok ((k0 :: ks).map (·.data)) := by
  unfold readKeys
  have : ks.all (fun k => k.data.length == k0.data.length) = true := by
    rw [all_eq_true]
    intro k hk
    have h1 : k.data.length = n := h k.data (by simp; exact Or.inr ⟨k, hk, rfl⟩)
    have h2 : k0.data.length = n := h k0.data (by simp)
    simp [h1, h2]
  simp [this]

theorem gatherCols_ok (n : Nat) (idx : List Nat) (hidx : ∀ i ∈ idx, i < n) : ∀ (cols : List (List Int)),
    Rect n cols → gatherCols cols idx = .ok (colsAlong cols idx)
  | [], _ => rfl
  | c :: cs, h => by
    have hc : c.length = n := h c (by simp)
    have ih := gatherCols_ok n idx hidx cs (fun d hd => h d (by simp [hd]))
    simp only [gatherCols, gather_ok c 0 idx (fun i hi => by rw [hc]; exact hidx i hi), ih, SortIndex.consE_ok]
    rfl

/-- `hhint`: the code takes `hint_keys_is_sorted=True` on trust, so it has to be true.  No hypothesis on the key columns'
    dtypes. -/
theorem groupbyCols_grouping (k0 : KeyCol) (ks : List KeyCol) (hint : Bool) (n : Nat)
    (hrect : Rect n ((k0 :: ks).map (·.data)))
    (hhint : hint = true → SortedRows ((k0 :: ks).map (·.data)) n) :
    ∃ g, groupbyCols (k0 :: ks) hint = .ok g ∧ IsGrouping ((k0 :: ks).map (·.data)) n g := by
  have hk0 : k0.data.length = n := hrect k0.data (by simp)
  have hrect' : Rect n (k0.data :: ks.map (·.data)) := by simpa using hrect
  unfold groupbyCols
  rw [readKeys_ok k0 ks n hrect]
  simp only [map_cons]
  by_cases hb : (hint || keysSorted (k0.data :: ks.map (·.data))) = true
  · have hsorted : SortedRows (k0.data :: ks.map (·.data)) n := by
      rcases Bool.or_eq_true_iff.1 hb with h | h
      · simpa using hhint h
      · exact (keysSorted_spec k0.data (ks.map (·.data)) n hrect').1 h
    refine ⟨⟨none, spans neq (rowsBy (colsAlong (k0.data :: ks.map (·.data)) (List.range n)) n)⟩, ?_, List.range n, Perm.refl _, range_sorted_index _ n hsorted, Or.inl ⟨rfl, rfl⟩, rfl⟩
    rw [if_pos hb, colSpans_spec k0.data (ks.map (·.data)) n hrect', colsAlong_range _ n hrect']
  · rw [if_neg hb]
    obtain ⟨idx, hidx, hperm, hs⟩ := datasetSortIndex_spec k0.data (ks.map (·.data)) n (fun c hc => hrect' c hc)
    have hra : Rect n (colsAlong (k0.data :: ks.map (·.data)) idx) := by
      rw [← perm_range_length hperm]; exact rect_colsAlong _ idx
    refine ⟨⟨some idx, spans neq (rowsBy (colsAlong (k0.data :: ks.map (·.data)) idx) n)⟩, ?_, idx, hperm, hs, Or.inr rfl, rfl⟩
    simp only [nrows, hk0, hidx, gatherCols_ok n idx (perm_range_lt hperm) _ hrect']
    rw [show colsAlong (k0.data :: ks.map (·.data)) idx =
        idx.map (k0.data.getD · 0) :: colsAlong (ks.map (·.data)) idx from rfl] at hra ⊢
    rw [colSpans_spec _ _ n hra]

theorem groupbyCols_hint_irrelevant (k0 : KeyCol) (ks : List KeyCol) (n : Nat)
    (hrect : Rect n ((k0 :: ks).map (·.data))) (hsorted : SortedRows ((k0 :: ks).map (·.data)) n) :
    groupbyCols (k0 :: ks) true = groupbyCols (k0 :: ks) false := by
  have hrect' : Rect n (k0.data :: ks.map (·.data)) := by simpa using hrect
  have hs : keysSorted (k0.data :: ks.map (·.data)) = true :=
    (keysSorted_spec k0.data (ks.map (·.data)) n hrect').2 (by simpa using hsorted)
  unfold groupbyCols
  rw [readKeys_ok k0 ks n hrect]
  simp only [map_cons, hs, Bool.or_true]

theorem groupbyStacked_eq_groupbyCols (k0 : KeyCol) (ks : List KeyCol) (hint : Bool) (n : Nat)
    (hrect : Rect n ((k0 :: ks).map (·.data))) (hf : Faithful (k0 :: ks)) :
    groupbyStacked .repaired (k0 :: ks) hint = groupbyCols (k0 :: ks) hint := by
  have hk0 : k0.data.length = n := hrect k0.data (by simp)
  have hrect' : Rect n (k0.data :: ks.map (·.data)) := by simpa using hrect
  obtain ⟨b, hb, hspec⟩ := checkIfSorted_stacked k0 ks n hrect hf
  have hbs : b = keysSorted (k0.data :: ks.map (·.data)) := by
    rw [map_cons] at hspec
    exact Bool.eq_iff_iff.2 (hspec.trans (keysSorted_spec k0.data (ks.map (·.data)) n hrect').symm)
  have hsp1 := spans_stacked k0 ks n hrect hf
  have hsp2 := colSpans_spec k0.data (ks.map (·.data)) n hrect'
  simp only [map_cons] at hsp1 hsp2 hb
  simp only [groupbyStacked, groupbyCols, stack_ok k0 ks n hrect, readKeys_ok k0 ks n hrect, map_cons]
  cases hint with
  | true => simp only [if_true, Bool.true_or, hsp1, hsp2]
  | false =>
    simp only [Bool.false_eq_true, if_false, Bool.false_or, hb, ← hbs]
    cases b with
    | true => simp only [if_true, hsp1, hsp2]
    | false =>
      -- sort first: both compute the sort index from the field data, so they gather along the same index
      simp only [Bool.false_eq_true, if_false]
      obtain ⟨idx, hidx, hperm, _⟩ := datasetSortIndex_spec k0.data (ks.map (·.data)) n (fun c hc => hrect' c hc)
      have hlt := perm_range_lt hperm
      have hra : Rect n ((keysAlong (k0 :: ks) idx).map (·.data)) := by
        rw [keysAlong_data, ← perm_range_length hperm]; exact rect_colsAlong _ idx
      have hsp := spans_stacked ⟨k0.cast, idx.map (k0.data.getD · 0)⟩ (keysAlong ks idx) n hra
        (faithful_keysAlong hf hrect idx hlt)
      have hsc := colSpans_spec (idx.map (k0.data.getD · 0)) (colsAlong (ks.map (·.data)) idx) n
        (by rw [← keysAlong_data]; exact hra)
      simp only [nrows, hk0, hidx, gatherKeys_ok n idx hlt (k0 :: ks) hrect, gatherCols_ok n idx hlt _ hrect']
      rw [show keysAlong (k0 :: ks) idx = ⟨k0.cast, idx.map (k0.data.getD · 0)⟩ :: keysAlong ks idx from rfl,
        stack_ok ⟨k0.cast, idx.map (k0.data.getD · 0)⟩ (keysAlong ks idx) n hra, show colsAlong (k0.data :: ks.map (·.data)) idx =
          idx.map (k0.data.getD · 0) :: colsAlong (ks.map (·.data)) idx from rfl]
      simp only [map_cons, keysAlong_data] at hsp
      simp only [hsp, hsc, map_cons]

/-- the stacked `DataFrame.groupby` (as found with respect to D20, span kernel repaired) under faithful casts -/
theorem groupby_paths (k0 : KeyCol) (ks : List KeyCol) (hint : Bool) (n : Nat)
    (hrect : Rect n ((k0 :: ks).map (·.data))) (hf : Faithful (k0 :: ks))
    (hhint : hint = true → SortedRows ((k0 :: ks).map (·.data)) n) :
    ∃ idx si, idx.Perm (List.range n) ∧ idx.Pairwise (ltBy ((k0 :: ks).map (·.data))) ∧
      ((si = none ∧ idx = List.range n) ∨ si = some idx) ∧
      groupbyStacked .repaired (k0 :: ks) hint =
        .ok ⟨si, spans neq (rowsBy (colsAlong ((k0 :: ks).map (·.data)) idx) n)⟩ := by
  rw [groupbyStacked_eq_groupbyCols k0 ks hint n hrect hf]
  obtain ⟨⟨si, sp⟩, hg, idx, hperm, hs, hsi, hsp⟩ := groupbyCols_grouping k0 ks hint n hrect hhint
  exact ⟨idx, si, hperm, hs, hsi, by rw [hg, show sp = _ from hsp]⟩

end Exetera.GroupBy
