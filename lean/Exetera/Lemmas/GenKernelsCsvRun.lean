import Exetera.Lemmas.GenKernelsCsv
import Exetera.Lemmas.While
/-!
  The TRANSLATED `fast_csv_reader` against the hand model `Csv.fastCsvReader`, part 2: the simulation relation between the
  model's loop state `Csv.KS` and the translated state, one iteration of `while True:`, the loop, the call.
-/
namespace Exetera.GenK.CsvK

open Exetera Exetera.PyRt Exetera.Csv Exetera.Gen.Kernels

/-- `val_full_col_idx`: `-1` for "none" -/
def vfcInt : Option Nat → Int
  | none => -1
  | some c => (c : Int)

/-- `row_index`: `-1` on the header line -/
def rowInt (hdr : Bool) (row : Nat) : Int := if hdr then (-1 : Int) else (row : Int)

/-- everything of the simulation relation except `index`, and the `return` slots -/
structure Rel0 (src : Bytes) (offs : List Nat) (L : Nat) (k : KS) (t : St) : Prop where
  p0 : t.p0 = ints src
  p4 : t.p4 = ints offs
  p6 : t.p6 = ((QUOTE : Nat) : Int)
  p7 : t.p7 = ((SEP : Nat) : Int)
  p8 : t.p8 = ((NL : Nat) : Int)
  p9 : t.p9 = ((WS : Nat) : Int)
  v1 : t.v1 = (L : Int)
  v3 : t.v3 = (k.nextPos : Int) - 1
  v4 : t.v4 = (k.col : Int)
  v5 : t.v5 = rowInt k.hdr k.row
  v6 : t.v6 = vfcInt k.vfc
  v7 : t.v7 = k.escaped
  v10 : t.v10 = k.cand
  v11 : t.v11 = (k.count : Int)
  v12 : t.v12 = (k.cstart : Int)
  v13 : t.v13 = k.indsFull
  v14 : t.v14 = k.valsFull
  v15 : t.v15 = (k.colOff : Int)
  v16 : k.colCnt = t.v16.toNat
  v17 : t.v17 = (k.ics : Int)
  p2 : t.p2 = ints2 k.inds
  p3 : t.p3 = ints k.vals
  rect : ∀ r ∈ k.inds, r.length = L + 1

structure Rel (src : Bytes) (offs : List Nat) (L : Nat) (k : KS) (t : St) : Prop extends Rel0 src offs L k t where
  v2 : t.v2 = (k.index : Int)
  ret : t.ret = k.done
  rv : k.done = true → t.rv0 = t.v3 + 1 ∧ t.rv1 = t.v5 ∧ t.rv2 = t.v13 ∧ t.rv3 = t.v14 ∧ t.rv4 = t.v6

/-- the relation does not mention the flags and the byte a classification sets (`end_cell`, `end_line`, `write_char`, `c`);
    `escaped` and the escape candidate go along on both sides -/
theorem Rel0.lex {src : Bytes} {offs : List Nat} {L : Nat} {k : KS} {t : St} (h : Rel0 src offs L k t) (esc cd : Bool)
    (np : Nat) (hnp : np = k.nextPos) (b8 b9 b18 : Bool) (c : Int) :
    Rel0 src offs L { k with escaped := esc, cand := cd, nextPos := np }
      { t with v7 := esc, v8 := b8, v9 := b9, v10 := cd, v18 := b18, v19 := c } :=
  { p0 := h.p0, p4 := h.p4, p6 := h.p6, p7 := h.p7, p8 := h.p8, p9 := h.p9, v1 := h.v1, v3 := hnp ▸ h.v3, v4 := h.v4, v5 := h.v5,
    v6 := h.v6, v7 := rfl, v10 := rfl, v11 := h.v11, v12 := h.v12, v13 := h.v13, v14 := h.v14, v15 := h.v15, v16 := h.v16,
    v17 := h.v17, p2 := h.p2, p3 := h.p3, rect := h.rect }

def k1 (k : KS) (lx : Lex) : KS :=
  { k with escaped := lx.escaped, cand := lx.cand, nextPos := if lx.ev = .endLine then k.index + 1 else k.nextPos }

def eff (src : Bytes) (offs : List Nat) (L : Nat) (k : KS) (lx : Lex) (c : Nat) : Except Err KS :=
  match lx.ev with
  | .write => writeChar (k1 k lx) c
  | .endCell => endCell src offs L (k1 k lx) false
  | .endLine => endCell src offs L (k1 k lx) true
  | .skip => .ok (k1 k lx)

def bump (src : Bytes) (k2 : KS) : KS :=
  { k2 with index := k2.index + 1, done := (k2.index + 1 == src.length) || k2.indsFull || k2.valsFull }

theorem step_eq (src : Bytes) (offs : List Nat) (L : Nat) (k : KS) : step src offs L k =
    (match getE src k.index "source[index]" with
     | .error e => .error e
     | .ok c =>
       match lexByte src[k.index + 1]? (k.index == k.ics) k.escaped k.cand c with
       | .error e => .error e
       | .ok lx =>
         match eff src offs L k lx c with
         | .error e => .error e
         | .ok k2 => .ok (bump src k2)) := rfl

theorem endCell_inv (src : Bytes) (offs : List Nat) (L : Nat) (s : KS) (el : Bool) (k2 : KS)
    (h : endCell src offs L s el = .ok k2) :
    ∃ inds' o o1 cs,
      (if s.hdr then Except.ok s.inds else set2 s.inds s.col (s.row + 1) (s.cstart + s.count) "column_inds[col_index,row_index+1]") = .ok inds' ∧
      offs[(if el then 0 else s.col + 1)]? = some o ∧ offs[(if el then 0 else s.col + 1) + 1]? = some o1 ∧
      get2 inds' (if el then 0 else s.col + 1)
        (if (if el then false else s.hdr) then L else (if el then (if s.hdr then 0 else s.row + 1) else s.row))
        "column_inds[col_index,row_index]" = .ok cs ∧
      k2 = { s with inds := inds', hdr := (if el then false else s.hdr),
                    row := (if el then (if s.hdr then 0 else s.row + 1) else s.row), col := (if el then 0 else s.col + 1),
                    colOff := o, colCnt := o1 - o,
                    indsFull := s.indsFull || (el && (if el then (if s.hdr then 0 else s.row + 1) else s.row) == L),
                    cstart := cs, count := 0, index := skipAfter src s.index, ics := skipAfter src s.index + 1 } := by
  unfold endCell at h
  split at h
  · cases h
  · rename_i inds' h1
    dsimp only at h
    split at h
    · cases h
    · rename_i o h2
      split at h
      · cases h
      · rename_i o1 h3
        split at h
        · cases h
        · rename_i cs h4
          simp only [Except.ok.injEq] at h
          exact ⟨inds', o, o1, cs, h1, getE_eq_ok.mp h2, getE_eq_ok.mp h3, h4, h.symm⟩

theorem fin_rel (src : Bytes) (offs : List Nat) (L : Nat) (k : KS) (t : St) (h : Rel0 src offs L k t)
    (h2 : t.v2 = (k.index : Int)) (hret : t.ret = false) :
    Rel src offs L (bump src k) (fin t) := by
  unfold bump
  have hc : (t.v2 + 1 == pyLen t.p0) = (k.index + 1 == src.length) := by
    rw [h2, h.p0, pyLen_ints]
    have : ((k.index : Int) + 1) = ((k.index + 1 : Nat) : Int) := by omega
    rw [this, beq_cast]
    by_cases hh : k.index + 1 = src.length <;> simp [hh]
  have hcond : ((t.v2 + 1 == pyLen t.p0) || (t.v13 || t.v14)) =
      ((k.index + 1 == src.length) || (k.indsFull || k.valsFull)) := by rw [hc, h.v13, h.v14]
  unfold fin
  rw [hcond]
  by_cases hd : ((k.index + 1 == src.length) || (k.indsFull || k.valsFull)) = true
  · have hd' : ((k.index + 1 == src.length) || k.indsFull || k.valsFull) = true := by rw [Bool.or_assoc]; exact hd
    simp only [hd, if_true]
    exact { p0 := h.p0, p4 := h.p4, p6 := h.p6, p7 := h.p7, p8 := h.p8, p9 := h.p9, v1 := h.v1, v3 := h.v3, v4 := h.v4, v5 := h.v5,
            v6 := h.v6, v7 := h.v7, v10 := h.v10, v11 := h.v11, v12 := h.v12, v13 := h.v13, v14 := h.v14, v15 := h.v15, v16 := h.v16,
            v17 := h.v17, p2 := h.p2, p3 := h.p3, rect := h.rect,
            v2 := by show t.v2 + 1 = _; rw [h2]; simp,
            ret := by show true = _; exact hd'.symm,
            rv := fun _ => ⟨rfl, rfl, rfl, rfl, rfl⟩ }
  · have hd' : ((k.index + 1 == src.length) || k.indsFull || k.valsFull) = false := by
      rw [Bool.or_assoc]; simpa using hd
    simp only [hd, Bool.false_eq_true, if_false]
    exact { p0 := h.p0, p4 := h.p4, p6 := h.p6, p7 := h.p7, p8 := h.p8, p9 := h.p9, v1 := h.v1, v3 := h.v3, v4 := h.v4, v5 := h.v5,
            v6 := h.v6, v7 := h.v7, v10 := h.v10, v11 := h.v11, v12 := h.v12, v13 := h.v13, v14 := h.v14, v15 := h.v15, v16 := h.v16,
            v17 := h.v17, p2 := h.p2, p3 := h.p3, rect := h.rect,
            v2 := by show t.v2 + 1 = _; rw [h2]; simp,
            ret := by show t.ret = _; rw [hret]; exact hd'.symm,
            rv := fun hh => by rw [hd'] at hh; cases hh }

theorem rect_after (inds inds' : List (List Nat)) (L col row v : Nat) (hdr : Bool) (site0 : String)
    (hrect : ∀ r ∈ inds, r.length = L + 1)
    (h : (if hdr then Except.ok inds else set2 inds col row v site0) = .ok inds') : ∀ r ∈ inds', r.length = L + 1 := by
  cases hdr with
  | true => simp only [if_true, Except.ok.injEq] at h; subst h; exact hrect
  | false => simp only [Bool.false_eq_true, if_false] at h; exact set2_rect inds inds' L col row v site0 hrect h

theorem step_sim (src : Bytes) (offs : List Nat) (L fuel : Nat) (hf : src.length ≤ fuel) (k k' : KS) (t : St)
    (hR : Rel src offs L k t) (hg : k.done = false) (hs : step src offs L k = .ok k') :
    ∃ t', fast_csv_reader.body_L2 fuel t = .ok t' ∧ Rel src offs L k' t' := by
  have hret : t.ret = false := by rw [hR.ret, hg]
  rw [step_eq] at hs
  cases hc : getE src k.index "source[index]" with
  | error e => rw [hc] at hs; cases hs
  | ok c =>
    rw [hc] at hs
    dsimp only at hs
    have hc' : src[k.index]? = some c := getE_eq_ok.mp hc
    cases hl : lexByte src[k.index + 1]? (k.index == k.ics) k.escaped k.cand c with
    | error e => rw [hl] at hs; cases hs
    | ok lx =>
      rw [hl] at hs
      dsimp only at hs
      cases hE : eff src offs L k lx c with
      | error e => rw [hE] at hs; cases hs
      | ok k2 =>
        rw [hE] at hs
        dsimp only at hs
        cases hs
        have hread : idxE t.p0 t.v2 "p0[v2]" = .ok (c : Int) := by rw [hR.p0, hR.v2]; exact idx_src src _ c hc' _
        have h1 := ph1_eq src k.index k.ics c (pre t (c : Int)) hR.p0 hR.v2 hR.v17 rfl hR.p6 hR.p7 hR.p8 hc' (lx := lx)
          (by show lexByte _ _ t.v7 t.v10 c = _; rw [hR.v7, hR.v10]; exact hl)
        rw [body_split, hread, bindE_ok, h1, bindE_ok]
        suffices h : ∃ s2 s3, ph2 (upd1 (pre t (c : Int)) lx) = .ok s2 ∧ ph3 fuel s2 = .ok s3 ∧ Rel0 src offs L k2 s3 ∧
            s3.v2 = (k2.index : Int) ∧ s3.ret = false by
          obtain ⟨s2, s3, e2, e3, hr0, hv2, hrt⟩ := h
          refine ⟨fin s3, ?_, fin_rel src offs L k2 s3 hr0 hv2 hrt⟩
          rw [e2, bindE_ok, e3, bindE_ok, ph4_eq]
        obtain ⟨ev, esc, cd⟩ := lx
        cases ev with
        | write =>
          simp only [eff] at hE
          unfold writeChar at hE
          cases hh : k.hdr with
          | true =>
            simp only [k1, hh, if_true, Except.ok.injEq] at hE
            subst hE
            refine ⟨_, _, ph2_skip _ (Or.inr ?_), ph3_skip _ _ rfl, ?_, hR.v2, hret⟩
            · show t.v5 < 0
              rw [hR.v5, hh]; simp [rowInt]
            · exact hh ▸ hR.toRel0.lex esc cd _ rfl _ _ _ _
          | false =>
            simp only [k1, hh, Bool.false_eq_true, if_false] at hE
            cases hset : setE k.vals (k.colOff + k.cstart + k.count) c "column_vals[col_offset+cur_cell_start+cur_cell_char_count]" with
            | error e => rw [hset] at hE; cases hE
            | ok vals' =>
              rw [hset] at hE
              simp only [Except.ok.injEq] at hE
              subst hE
              have hfull : decide (t.v16 ≤ ((k.cstart + k.count + 1 : Nat) : Int)) = decide (k.colCnt ≤ k.cstart + k.count + 1) := by
                rw [hR.v16]; simp [Int.toNat_le]
              refine ⟨_, _, ph2_write k.vals vals' k.colOff k.cstart k.count c _ rfl ?_ hR.p3 hR.v15 hR.v12 hR.v11 rfl hset,
                ph3_skip _ _ rfl, ?_, hR.v2, hret⟩
              · show 0 ≤ t.v5
                rw [hR.v5, hh]; simp [rowInt]
              · exact
                { hR.toRel0 with
                  v5 := (by have h5 := hR.v5; rw [hh] at h5; exact h5),
                  v6 := (by show (if decide (t.v16 ≤ ((k.cstart + k.count + 1 : Nat) : Int)) then t.v4 else t.v6) = vfcInt (if decide (k.colCnt ≤ k.cstart + k.count + 1) then some k.col else k.vfc); rw [hfull]; cases decide (k.colCnt ≤ k.cstart + k.count + 1) <;> simp [vfcInt, hR.v4, hR.v6]),
                  v7 := rfl, v10 := rfl, v11 := rfl, v14 := (by show (t.v14 || decide (t.v16 ≤ ((k.cstart + k.count + 1 : Nat) : Int))) = (k.valsFull || decide (k.colCnt ≤ k.cstart + k.count + 1)); rw [hfull, hR.v14]),
                  p3 := rfl }
        | endCell =>
          simp only [eff] at hE
          obtain ⟨inds', o, o1, cs, e1, e2, e3, e4, rfl⟩ := endCell_inv _ _ _ _ _ _ hE
          simp only [k1, Bool.false_eq_true, if_false] at e1 e2 e3 e4
          refine ⟨_, _, ph2_skip _ (Or.inl rfl),
            ph3_cell src offs L fuel hf k.inds inds' k.hdr k.row k.col k.cstart k.count k.index o o1 cs _ rfl rfl hR.v5 hR.v4 hR.p2
              hR.v12 hR.v11 hR.p4 hR.p0 hR.p9 hR.v2 hR.rect e1 e2 e3 e4, ?_, rfl, hret⟩
          exact
            { hR.toRel0 with
              v4 := rfl, v7 := rfl,
              v10 := rfl, v11 := rfl, v12 := rfl, v13 := (by simp [k1]; exact hR.v13), v15 := rfl,
              v16 := (by show o1 - o = ((o1 : Int) - (o : Int)).toNat; omega),
              v17 := (by show ((skipAfter src k.index : Nat) : Int) + 1 = ((skipAfter src k.index + 1 : Nat) : Int); omega),
              p2 := rfl, rect := (rect_after _ _ _ _ _ _ _ _ hR.rect e1) }
        | endLine =>
          simp only [eff] at hE
          obtain ⟨inds', o, o1, cs, e1, e2, e3, e4, rfl⟩ := endCell_inv _ _ _ _ _ _ hE
          simp only [k1, if_true, Bool.false_eq_true, if_false] at e1 e2 e3 e4
          refine ⟨_, _, ph2_skip _ (Or.inl rfl),
            ph3_line src offs L fuel hf k.inds inds' k.hdr k.row k.col k.cstart k.count k.index o o1 cs _ rfl rfl hR.v5 hR.v4 hR.v1
              hR.p2 hR.v12 hR.v11 hR.p4 hR.p0 hR.p9 hR.v2 e1 e2 e3 e4, ?_, rfl, hret⟩
          exact
            { hR.toRel0 with
              v3 := (by show t.v2 = ((k.index + 1 : Nat) : Int) - 1; rw [hR.v2]; omega), v4 := rfl, v5 := rfl, v7 := rfl, v10 := rfl, v11 := rfl, v12 := rfl,
              v13 := (by show (t.v13 || decide ((if k.hdr then 0 else k.row + 1) = L)) = (k.indsFull || (true && ((if k.hdr then 0 else k.row + 1) == L))); rw [hR.v13]; cases hx : decide ((if k.hdr then 0 else k.row + 1) = L) <;> simp_all),
              v15 := rfl, v16 := (by show o1 - o = ((o1 : Int) - (o : Int)).toNat; omega),
              v17 := (by show ((skipAfter src k.index : Nat) : Int) + 1 = ((skipAfter src k.index + 1 : Nat) : Int); omega),
              p2 := rfl, rect := (rect_after _ _ _ _ _ _ _ _ hR.rect e1) }
        | skip =>
          simp only [eff, Except.ok.injEq] at hE
          subst hE
          refine ⟨_, _, ph2_skip _ (Or.inl rfl), ph3_skip _ _ rfl, ?_, hR.v2, hret⟩
          exact hR.toRel0.lex esc cd _ rfl _ _ _ _

theorem loop_sim (src : Bytes) (offs : List Nat) (L fuel : Nat) (hf : src.length + 1 ≤ fuel) (k k' : KS) (t : St)
    (hR : Rel src offs L k t)
    (h : whileE (fun s => !s.done) (step src offs L) (src.length + 1) k = .ok k') :
    ∃ t', whileE fast_csv_reader.guard_L2 (fast_csv_reader.body_L2 fuel) fuel t = .ok t' ∧ Rel src offs L k' t' ∧
      k'.done = true := by
  have hdone : k'.done = true := by
    have := whileE_guard_false (fun s : KS => !s.done) (step src offs L) _ _ _ h
    simpa using this
  obtain ⟨t', hw, hR'⟩ := whileE_sim (fun (t : St) (k : KS) => Rel src offs L k t)
    fast_csv_reader.guard_L2 (fast_csv_reader.body_L2 fuel) (fun s => !s.done) (step src offs L)
    (fun t k hR => by simp [fast_csv_reader.guard_L2, hR.ret])
    (fun t k k' hR hg hs => step_sim src offs L fuel (by omega) k k' t hR (by simpa using hg) hs)
    (src.length + 1) t k k' hR h
  exact ⟨t', whileE_mono _ _ _ _ _ hw _ hf, hR', hdone⟩

theorem get2W_plain00 (inds : List (List Nat)) (cs : Nat) (site0 site : String) (h : get2 inds 0 0 site0 = .ok cs) :
    bindE (idxWE (ints2 inds) 0 site) (fun t => idxWE t 0 site) = .ok (cs : Int) := by
  have this : bindE (idxWE (ints2 inds) 0 site) (fun t => bindE (idxWE t 0 site) fun x => Except.ok x) = .ok (cs : Int) :=
    get2W_nat0 inds 0 cs site0 site h (fun x => Except.ok x)
  cases h1 : idxWE (ints2 inds) 0 site with
  | error e => rw [h1] at this; simp at this
  | ok r =>
    rw [h1] at this
    simp only [bindE_ok] at this ⊢
    cases h2 : idxWE r 0 site with
    | error e => rw [h2] at this; simp at this
    | ok x => rw [h2] at this; simpa using this

theorem after_loop (src : Bytes) (offs : List Nat) (L fuel : Nat) (hf : src.length + 1 ≤ fuel) (k kf : KS) (T0 : St)
    (hR : Rel src offs L k T0)
    (hw : whileE (fun s => !s.done) (step src offs L) (src.length + 1) k = .ok kf) :
    bindE (whileE fast_csv_reader.guard_L2 (fast_csv_reader.body_L2 fuel) fuel T0) (fun s =>
        if s.ret then Except.ok (s.rv0, s.rv1, s.rv2, s.rv3, s.rv4, s.p2, s.p3)
        else .error (.other "while True left without return")) =
      .ok ((kf.out.nextPos : Int), kf.out.written, kf.out.indsFull, kf.out.valsFull, vfcInt kf.out.vfc, ints2 kf.out.inds,
           ints kf.out.vals) := by
  obtain ⟨t', hw', hR', hdone⟩ := loop_sim src offs L fuel hf k kf T0 hR hw
  have hret : t'.ret = true := by rw [hR'.ret, hdone]
  obtain ⟨a, b, c, d, e⟩ := hR'.rv hdone
  rw [hw', bindE_ok]
  simp only [hret, if_true]
  rw [a, b, c, d, e, hR'.v3, hR'.v5, hR'.v13, hR'.v14, hR'.v6, hR'.p2, hR'.p3]
  simp [KS.out, rowInt]

/-! ### the call: `run` cut at the entry loop (so that no proof step ever copies the 38-field state literal) -/

/-- the state at the entry loop -/
def initSt (p0 : List Int) (p1 : Int) (p2 : List (List Int)) (p3 p4 : List Int) (p5 : Bool) (p6 p7 p8 p9 t1 t4 t5 : Int) : St :=
  { p0 := p0, p1 := p1, p2 := p2, p3 := p3, p4 := p4, p5 := p5, p6 := p6, p7 := p7, p8 := p8, p9 := p9, v0 := pyLen p2,
    v1 := t1 - 1, v2 := p1, v3 := p1 - 1, v4 := 0, v5 := (if p5 then (-1) else 0), v6 := (-1), v7 := false, v8 := false,
    v9 := false, v10 := false, v11 := 0, v12 := t4, v13 := false, v14 := false, v15 := 0, v16 := t5, v17 := 0, v18 := false,
    v19 := 0, v20 := 0, v21 := 0, ret := false, rv0 := 0, rv1 := 0, rv2 := false, rv3 := false, rv4 := 0 }

/-- what follows the entry loop -/
def tailRun (fuel : Nat) (s : St) : Except Err (Int × Int × Bool × Bool × Int × List (List Int) × List Int) :=
  if (s.v2 == (pyLen s.p0)) then
    .ok (s.p1, s.v5, s.v13, s.v14, s.v6, s.p2, s.p3)
  else
    let s := { s with v17 := s.v2 }
    bindE (whileE fast_csv_reader.guard_L2 (fast_csv_reader.body_L2 fuel) fuel s) fun s =>
    if s.ret then
      .ok (s.rv0, s.rv1, s.rv2, s.rv3, s.rv4, s.p2, s.p3)
    else
      .error (.other "while True left without return")

theorem run_split (p0 : List Int) (p1 : Int) (p2 : List (List Int)) (p3 p4 : List Int) (p5 : Bool) (p6 p7 p8 p9 : Int)
    (fuel : Nat) : fast_csv_reader.run p0 p1 p2 p3 p4 p5 p6 p7 p8 p9 fuel =
      bindE (shape1E p2 "p2.shape[1]") fun t1 =>
      bindE (if (decide ((if p5 then (-1 : Int) else 0) ≥ 0)) then
          bindE (idxWE p2 0 "p2[v4, v5]") fun t2 =>
          idxWE t2 (if p5 then (-1 : Int) else 0) "p2[v4, v5]"
        else
          .ok 0) fun t4 =>
      bindE (idxE p4 1 "p4[1]") fun t5 =>
      bindE (whileG fast_csv_reader.guardE_L1 fast_csv_reader.body_L1 fuel (initSt p0 p1 p2 p3 p4 p5 p6 p7 p8 p9 t1 t4 t5))
        (tailRun fuel) := rfl

theorem tailRun_done (fuel : Nat) (s : St) (h : (s.v2 == (pyLen s.p0)) = true) :
    tailRun fuel s = .ok (s.p1, s.v5, s.v13, s.v14, s.v6, s.p2, s.p3) := by
  unfold tailRun; simp only [h, if_true]

theorem tailRun_loop (fuel : Nat) (s : St) (h : (s.v2 == (pyLen s.p0)) = false) :
    tailRun fuel s = bindE (whileE fast_csv_reader.guard_L2 (fast_csv_reader.body_L2 fuel) fuel { s with v17 := s.v2 }) (fun s =>
        if s.ret then Except.ok (s.rv0, s.rv1, s.rv2, s.rv3, s.rv4, s.p2, s.p3)
        else .error (.other "while True left without return")) := by
  unfold tailRun; simp only [h, Bool.false_eq_true, if_false]

/-- **call-level transfer.**  On rectangular staging arrays (every row of `column_inds` has `L + 1` slots — what
    `np.zeros((count_columns, count_rows + 1))` gives), every successful run of the hand model `Csv.fastCsvReader` is the run
    of the TRANSLATED `fast_csv_reader` on the same bytes, with any fuel ≥ `len(source) + 1`: same resume position, row count,
    the two "full" flags, `val_full_col_idx` (`-1` for none) and the same final contents of `column_inds` / `column_vals`. -/
theorem fast_csv_reader_ok (src : Bytes) (start : Nat) (inds : List (List Nat)) (vals offs : List Nat) (hdr : Bool) (L : Nat)
    (hrect : ∀ r ∈ inds, r.length = L + 1) (o : KOut) (h : fastCsvReader src start inds vals offs hdr = .ok o)
    (fuel : Nat) (hf : src.length + 1 ≤ fuel) :
    fast_csv_reader.run (ints src) (start : Int) (ints2 inds) (ints vals) (ints offs) hdr ((QUOTE : Nat) : Int)
      ((SEP : Nat) : Int) ((NL : Nat) : Int) ((WS : Nat) : Int) fuel =
      .ok ((o.nextPos : Int), o.written, o.indsFull, o.valsFull, vfcInt o.vfc, ints2 o.inds, ints o.vals) := by
  unfold fastCsvReader at h
  cases hr0 : getE inds 0 "column_inds.shape" with
  | error e => rw [hr0] at h; cases h
  | ok r0 =>
    rw [hr0] at h
    dsimp only at h
    have hr0' : inds[0]? = some r0 := getE_eq_ok.mp hr0
    have hlen : r0.length = L + 1 := hrect r0 (List.mem_of_getElem? hr0')
    have hmax : r0.length - 1 = L := by omega
    rw [hmax] at h
    obtain ⟨tl, rfl⟩ : ∃ tl, inds = r0 :: tl := by
      cases inds with
      | nil => simp at hr0'
      | cons a b => simp at hr0'; exact ⟨b, by rw [hr0']⟩
    cases hcs : (if hdr then Except.ok 0 else get2 (r0 :: tl) 0 0 "column_inds[col_index,row_index]") with
    | error e => simp [hcs] at h
    | ok cs =>
      cases hcnt : getE offs 1 "column_offsets[1]" with
      | error e => simp [hcs, hcnt] at h
      | ok cnt =>
        simp only [hcs, hcnt] at h
        have hcnt' : offs[1]? = some cnt := getE_eq_ok.mp hcnt
        have hlen' : (((ints r0).length : Nat) : Int) - 1 = (L : Int) := by simp [hlen]
        have hpre : ∀ T : St, T.p0 = ints src → T.p9 = ((WS : Nat) : Int) → T.v2 = (start : Int) →
            whileG fast_csv_reader.guardE_L1 fast_csv_reader.body_L1 fuel T =
              .ok { T with v2 := ((skipFrom src start : Nat) : Int) } :=
          fun T a b c => skipFrom_loop src fuel start T a b c (by omega)
        have hidx1 : idxE (ints offs) 1 "p4[1]" = .ok (cnt : Int) := idx_src offs 1 cnt hcnt' _
        have hshape : shape1E (ints2 (r0 :: tl)) "p2.shape[1]" = .ok (((ints r0).length : Nat) : Int) := rfl
        have ht4 : (if decide ((if hdr then (-1 : Int) else 0) ≥ 0) then
              bindE (idxWE (ints2 (r0 :: tl)) 0 "p2[v4, v5]") fun t2 => idxWE t2 (if hdr then (-1 : Int) else 0) "p2[v4, v5]"
            else .ok 0) = .ok (cs : Int) := by
          cases hdr with
          | true => cases hcs; rfl
          | false => exact get2W_plain00 (r0 :: tl) cs _ _ hcs
        rw [run_split, hshape, bindE_ok, ht4, bindE_ok, hidx1, bindE_ok, hpre _ rfl rfl rfl, bindE_ok]
        have hend : (((skipFrom src start : Nat) : Int) == pyLen (ints src)) = decide (skipFrom src start = src.length) := by
          rw [pyLen_ints, beq_cast]
        by_cases hi : skipFrom src start = src.length
        · simp only [hi, beq_self_eq_true, if_true, Except.ok.injEq] at h
          subst h
          rw [tailRun_done _ _ (hend.trans (decide_eq_true hi))]
          cases hdr <;> rfl
        · simp only [beq_eq_false_iff_ne.mpr hi, Bool.false_eq_true, if_false] at h
          cases hw : whileE (fun s => !s.done) (step src offs L) (src.length + 1)
              (initKS start (skipFrom src start) hdr cs cnt (r0 :: tl) vals) with
          | error e => simp [hw] at h
          | ok kf =>
            simp only [hw, Except.ok.injEq] at h
            subst h
            rw [tailRun_loop _ _ (hend.trans (decide_eq_false hi))]
            refine after_loop src offs L fuel hf _ kf _ ?_ hw
            exact
              { p0 := rfl, p4 := rfl, p6 := rfl, p7 := rfl, p8 := rfl, p9 := rfl, v1 := hlen', v3 := rfl, v4 := rfl,
                v5 := (by cases hdr <;> rfl), v6 := rfl, v7 := rfl, v10 := rfl, v11 := rfl, v12 := rfl, v13 := rfl, v14 := rfl,
                v15 := rfl, v16 := (Int.toNat_natCast cnt).symm, v17 := rfl, p2 := rfl, p3 := rfl, rect := hrect, v2 := rfl,
                ret := rfl, rv := fun hh => by cases hh }

end Exetera.GenK.CsvK
