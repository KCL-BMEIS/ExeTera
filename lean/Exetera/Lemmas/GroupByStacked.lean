import Exetera.Model.GroupBy
import Exetera.Lemmas.GroupByRuns
/-!
  `DataFrame.groupby` as found (the key columns stacked into one array, finding D20).  When every stacking cast is
  faithful on its column, rows of the stacked array compare like the key rows, so `check_if_sorted_for_multi_fields` and
  the span kernel see the key rows themselves.
-/
namespace Exetera.GroupBy
open Exetera Exetera.Spec Exetera.Spans Exetera.SortIndex List

def Rect (n : Nat) (cols : List (List Int)) : Prop := ∀ c ∈ cols, c.length = n

theorem keyAt_eq_of_lt {cols : List (List Int)} {n i : Nat} (h : Rect n cols) (hi : i < n) :
    cols.map (·[i]?) = (keyAt cols i).map some := by
  simp only [keyAt, map_map]
  apply map_congr_left
  intro c hc
  have : i < c.length := by rw [h c hc]; exact hi
  simp [List.getD_eq_getElem?_getD, List.getElem?_eq_getElem this]

theorem rowLe_eq (i n : Nat) (h0 : 0 < i) (hi : i < n) : ∀ (fs : List (List Int)), Rect n fs →
    rowLe i fs = .ok (!tupleLt (keyAt fs i) (keyAt fs (i - 1)))
  | [], _ => by simp [rowLe, keyAt, tupleLt]
  | f :: fs, h => by
    have hf : f.length = n := h f (by simp)
    have h1 : i - 1 < f.length := by omega
    have h2 : i < f.length := by omega
    have ih := rowLe_eq i n h0 hi fs (fun c hc => h c (by simp [hc]))
    simp only [rowLe, getE_of_lt _ h1, getE_of_lt _ h2, keyAt_cons, tupleLt_cons]
    simp only [List.getD_eq_getElem?_getD, List.getElem?_eq_getElem h1, List.getElem?_eq_getElem h2, Option.getD_some]
    by_cases hgt : f[i - 1] > f[i]
    · simp [hgt]
    · by_cases hlt : f[i - 1] < f[i]
      · have : ¬ f[i] < f[i - 1] := by omega
        have hne : ¬ f[i] = f[i - 1] := by omega
        simp [hgt, hlt, this, hne]
      · have heq : f[i] = f[i - 1] := by omega
        have : ¬ f[i] < f[i - 1] := by omega
        rw [ih]
        simp [hgt, hlt, this, heq]

theorem checkLoop_spec (fs : List (List Int)) (n : Nat) (h : Rect n fs) : ∀ (k i : Nat), i + k = n → 1 ≤ i →
    ∃ b, checkLoop fs k i = .ok b ∧
      (b = true → ∀ j, i ≤ j → j < n → tupleLt (keyAt fs j) (keyAt fs (j - 1)) = false) ∧
      (b = false → ∃ j, i ≤ j ∧ j < n ∧ tupleLt (keyAt fs j) (keyAt fs (j - 1)) = true)
  | 0, i, hik, _ => ⟨true, rfl, fun _ j h1 h2 => by omega, by simp⟩
  | k + 1, i, hik, h1 => by
    have hrow := rowLe_eq i n (by omega) (by omega) fs h
    obtain ⟨b, hb, hspec, hconv⟩ := checkLoop_spec fs n h k (i + 1) (by omega) (by omega)
    cases hv : tupleLt (keyAt fs i) (keyAt fs (i - 1)) with
    | true =>
      refine ⟨false, ?_, by simp, fun _ => ⟨i, by omega, by omega, hv⟩⟩
      simp [checkLoop, hrow, hv]
    | false =>
      refine ⟨b, ?_, ?_, ?_⟩
      · simp [checkLoop, hrow, hv, hb]
      · intro hbt j hj1 hj2
        by_cases hji : j = i
        · subst hji; exact hv
        · exact hspec hbt j (by omega) hj2
      · intro hbf
        obtain ⟨j, h1', h2', h3'⟩ := hconv hbf
        exact ⟨j, by omega, h2', h3'⟩

theorem sorted_of_adjacent (key : Nat → List Int) (n : Nat)
    (h : ∀ j, 1 ≤ j → j < n → tupleLt (key j) (key (j - 1)) = false) :
    ∀ j i, i < j → j < n → tupleLt (key j) (key i) = false
  | 0, i, hij, _ => by omega
  | j + 1, i, hij, hj => by
    have hstep := h (j + 1) (by omega) hj
    simp only [Nat.add_sub_cancel] at hstep
    by_cases hi : i = j
    · subst hi; exact hstep
    · have := sorted_of_adjacent key n h j i (by omega) (by omega)
      exact tupleLt_strictTotal.not_lt_trans this hstep

theorem checkIfSorted_spec (f0 : List Int) (fs : List (List Int)) (n : Nat) (h : Rect n (f0 :: fs)) :
    ∃ b, checkIfSorted (f0 :: fs) = .ok b ∧
      (b = true ↔ ∀ i j, i < j → j < n → tupleLt (keyAt (f0 :: fs) j) (keyAt (f0 :: fs) i) = false) := by
  have h0 : f0.length = n := h f0 (by simp)
  unfold checkIfSorted
  by_cases hn : n = 0
  · refine ⟨true, by simp [h0, hn], ?_⟩
    simp only [true_iff]
    intro i j _ hj; omega
  · have : (f0.length == 0) = false := by simp [h0, hn]
    simp only [this, Bool.false_eq_true, if_false]
    obtain ⟨b, hb, hspec, hconv⟩ := checkLoop_spec (f0 :: fs) n h (f0.length - 1) 1 (by omega) (by omega)
    refine ⟨b, hb, ?_, ?_⟩
    · intro hbt i j hij hj
      exact sorted_of_adjacent (keyAt (f0 :: fs)) n (fun j h1 h2 => hspec hbt j h1 h2) j i hij hj
    · intro hsorted
      cases hbv : b with
      | true => rfl
      | false =>
        obtain ⟨j, h1, h2, h3⟩ := hconv hbv
        have := hsorted (j - 1) j (by omega) h2
        rw [h3] at this; cases this

theorem stack_ok (k0 : KeyCol) (ks : List KeyCol) (n : Nat) (h : Rect n ((k0 :: ks).map (·.data))) :
    stack (k0 :: ks) = .ok ((k0 :: ks).map (fun k => k.data.map k.cast)) := by
  unfold stack
  have : ks.all (fun k => k.data.length == k0.data.length) = true := by
    rw [all_eq_true]
    intro k hk
    have h1 : k.data.length = n := h k.data (by simp; exact Or.inr ⟨k, hk, rfl⟩)
    have h2 : k0.data.length = n := h k0.data (by simp)
    simp [h1, h2]
  simp [this]

theorem rect_stacked (keys : List KeyCol) (n : Nat) (h : Rect n (keys.map (·.data))) :
    Rect n (keys.map (fun k => k.data.map k.cast)) := by
  intro c hc
  simp only [mem_map] at hc
  obtain ⟨k, hk, rfl⟩ := hc
  simpa using h k.data (mem_map.2 ⟨k, hk, rfl⟩)

/-- every cast of the key columns preserves `<` (hence `=` and `≠`) on the values of its column -/
def Faithful (keys : List KeyCol) : Prop := ∀ k ∈ keys, CastFaithfulOn k.cast k.data

theorem castFaithful_inj {cast : Int → Int} {data : List Int} (h : CastFaithfulOn cast data) {a b : Int}
    (ha : a ∈ data) (hb : b ∈ data) (hab : cast a = cast b) : a = b := by
  rcases Int.lt_trichotomy a b with hlt | heq | hgt
  · have := h a ha b hb hlt; omega
  · exact heq
  · have := h b hb a ha hgt; omega

theorem castFaithful_lt_iff {cast : Int → Int} {data : List Int} (h : CastFaithfulOn cast data) {a b : Int}
    (ha : a ∈ data) (hb : b ∈ data) : cast a < cast b ↔ a < b := by
  constructor
  · intro hc
    rcases Int.lt_trichotomy a b with hlt | heq | hgt
    · exact hlt
    · subst heq; omega
    · have := h b hb a ha hgt; omega
  · exact h a ha b hb

theorem getD_mem {c : List Int} {i : Nat} (h : i < c.length) : c.getD i 0 ∈ c := by
  simp [List.getD_eq_getElem?_getD, List.getElem?_eq_getElem h]

theorem tupleLt_keyAt_stacked (n : Nat) : ∀ (keys : List KeyCol), Rect n (keys.map (·.data)) → Faithful keys →
    ∀ (i j : Nat), i < n → j < n →
    tupleLt (keyAt (keys.map (fun k => k.data.map k.cast)) i) (keyAt (keys.map (fun k => k.data.map k.cast)) j) =
      tupleLt (keyAt (keys.map (·.data)) i) (keyAt (keys.map (·.data)) j)
  | [], _, _, _, _, _, _ => rfl
  | k :: ks, hr, hf, i, j, hi, hj => by
    have hk : CastFaithfulOn k.cast k.data := hf k (by simp)
    have hlen : k.data.length = n := hr k.data (by simp)
    have ih := tupleLt_keyAt_stacked n ks (fun c hc => hr c (by simp at hc ⊢; exact Or.inr hc))
      (fun k' hk' => hf k' (by simp [hk'])) i j hi hj
    have hcast : ∀ i, i < n → (k.data.map k.cast).getD i 0 = k.cast (k.data.getD i 0) := fun i hi => by
      have : i < k.data.length := by omega
      simp [List.getD_eq_getElem?_getD, List.getElem?_eq_getElem this]
    simp only [map_cons, keyAt_cons, tupleLt_cons, ih, hcast i hi, hcast j hj]
    have ha : k.data.getD i 0 ∈ k.data := getD_mem (by omega)
    have hb : k.data.getD j 0 ∈ k.data := getD_mem (by omega)
    generalize k.data.getD i 0 = a at ha
    generalize k.data.getD j 0 = b at hb
    have h2 : (k.cast a == k.cast b) = (a == b) := by
      by_cases he : a = b
      · simp [he]
      · have : ¬ k.cast a = k.cast b := fun hc => he (castFaithful_inj hk ha hb hc)
        rw [beq_eq_false_iff_ne.2 he, beq_eq_false_iff_ne.2 this]
    rw [h2]
    congr 1
    exact decide_eq_decide.2 (castFaithful_lt_iff hk ha hb)

theorem keyAt_stacked_eq_iff {n : Nat} {keys : List KeyCol} (hr : Rect n (keys.map (·.data))) (hf : Faithful keys)
    {i j : Nat} (hi : i < n) (hj : j < n) :
    keyAt (keys.map (fun k => k.data.map k.cast)) i = keyAt (keys.map (fun k => k.data.map k.cast)) j ↔
      keyAt (keys.map (·.data)) i = keyAt (keys.map (·.data)) j := by
  rw [← tupleLt_strictTotal.eq_iff, ← tupleLt_strictTotal.eq_iff, tupleLt_keyAt_stacked n keys hr hf i j hi hj,
    tupleLt_keyAt_stacked n keys hr hf j i hj hi]

def colsAlong (cols : List (List Int)) (idx : List Nat) : List (List Int) := cols.map (fun c => idx.map (c.getD · 0))

def keysAlong (keys : List KeyCol) (idx : List Nat) : List KeyCol := keys.map (fun k => ⟨k.cast, idx.map (k.data.getD · 0)⟩)

theorem keysAlong_data (keys : List KeyCol) (idx : List Nat) :
    (keysAlong keys idx).map (·.data) = colsAlong (keys.map (·.data)) idx := by
  simp [keysAlong, colsAlong]

theorem rect_colsAlong (cols : List (List Int)) (idx : List Nat) : Rect idx.length (colsAlong cols idx) := by
  intro c hc
  simp only [colsAlong, mem_map] at hc
  obtain ⟨c', _, rfl⟩ := hc
  simp

theorem faithful_keysAlong {keys : List KeyCol} {n : Nat} (h : Faithful keys) (hrect : Rect n (keys.map (·.data)))
    (idx : List Nat) (hidx : ∀ i ∈ idx, i < n) : Faithful (keysAlong keys idx) := by
  intro k hk
  simp only [keysAlong, mem_map] at hk
  obtain ⟨k', hk', rfl⟩ := hk
  have hlen : k'.data.length = n := hrect k'.data (mem_map.2 ⟨k', hk', rfl⟩)
  intro a ha b hb hab
  simp only [mem_map] at ha hb
  obtain ⟨i, hi, rfl⟩ := ha
  obtain ⟨j, hj, rfl⟩ := hb
  exact h k' hk' _ (getD_mem (by have := hidx i hi; omega)) _ (getD_mem (by have := hidx j hj; omega)) hab

theorem gatherKeys_ok (n : Nat) (idx : List Nat) (hidx : ∀ i ∈ idx, i < n) : ∀ (keys : List KeyCol),
    Rect n (keys.map (·.data)) → gatherKeys keys idx = .ok (keysAlong keys idx)
  | [], _ => rfl
  | k :: ks, h => by
    have hk : k.data.length = n := h k.data (by simp)
    have ih := gatherKeys_ok n idx hidx ks (fun c hc => h c (by simp at hc ⊢; exact Or.inr hc))
    simp only [gatherKeys, gather_ok k.data 0 idx (fun i hi => by rw [hk]; exact hidx i hi), ih, SortIndex.consE_ok]
    rfl

theorem keyAt_colsAlong (cols : List (List Int)) (idx : List Nat) (i : Nat) (hi : i < idx.length) :
    keyAt (colsAlong cols idx) i = keyAt cols idx[i] := by
  simp only [keyAt, colsAlong, map_map]
  apply map_congr_left
  intro c _
  simp [List.getD_eq_getElem?_getD, List.getElem?_eq_getElem hi]

theorem rowsBy_colsAlong (cols : List (List Int)) (idx : List Nat) :
    rowsBy (colsAlong cols idx) idx.length = idx.map (keyAt cols) := by
  apply List.ext_getElem
  · simp [rowsBy]
  · intro i h1 h2
    simp only [rowsBy, length_map, length_range] at h1
    simp [rowsBy, keyAt_colsAlong cols idx i h1]

theorem map_getD_range {α} (c : List α) (d : α) : (List.range c.length).map (c.getD · d) = c := by
  apply List.ext_getElem
  · simp
  · intro i h1 h2
    simp only [length_map, length_range] at h1
    simp [List.getD_eq_getElem?_getD, List.getElem?_eq_getElem h1]

theorem colsAlong_range (cols : List (List Int)) (n : Nat) (h : Rect n cols) : colsAlong cols (List.range n) = cols := by
  unfold colsAlong
  conv => rhs; rw [← map_id cols]
  apply map_congr_left
  intro c hc
  rw [← h c hc]; exact map_getD_range c 0

def SortedRows (cols : List (List Int)) (n : Nat) : Prop :=
  ∀ i j, i < j → j < n → tupleLt (keyAt cols j) (keyAt cols i) = false

/-- `g` is a grouping of the `n`-row frame with key columns `cols`: a stable lexicographic sort index of the rows (not
    stored when the frame is in order as it stands) and the spans of the key rows read along it -/
def IsGrouping (cols : List (List Int)) (n : Nat) (g : Grouping) : Prop :=
  ∃ idx, idx.Perm (List.range n) ∧ idx.Pairwise (ltBy cols) ∧
    ((g.sortedIndex = none ∧ idx = List.range n) ∨ g.sortedIndex = some idx) ∧
    g.spans = spans neq (rowsBy (colsAlong cols idx) n)

/-- what each aggregate computes on the values of one group -/
def aggSpec : Agg → List Int → Option Int
  | .min => List.min?
  | .max => List.max?
  | .first => List.head?
  | .last => List.getLast?

theorem perm_range_lt {idx : List Nat} {n : Nat} (h : idx.Perm (List.range n)) : ∀ i ∈ idx, i < n := by
  intro i hi; simpa using h.mem_iff.1 hi

theorem perm_range_length {idx : List Nat} {n : Nat} (h : idx.Perm (List.range n)) : idx.length = n := by
  simpa using h.length_eq

theorem checkIfSorted_stacked (k0 : KeyCol) (ks : List KeyCol) (n : Nat) (hrect : Rect n ((k0 :: ks).map (·.data)))
    (hf : Faithful (k0 :: ks)) :
    ∃ b, checkIfSorted ((k0 :: ks).map (fun k => k.data.map k.cast)) = .ok b ∧
      (b = true ↔ SortedRows ((k0 :: ks).map (·.data)) n) := by
  obtain ⟨b, hb, hspec⟩ := checkIfSorted_spec (k0.data.map k0.cast) (ks.map (fun k => k.data.map k.cast)) n
    (by simpa using rect_stacked (k0 :: ks) n hrect)
  refine ⟨b, hb, hspec.trans ?_⟩
  refine forall_congr' fun i => forall_congr' fun j => forall_congr' fun hij => forall_congr' fun hj => ?_
  rw [← map_cons (f := fun k : KeyCol => k.data.map k.cast), tupleLt_keyAt_stacked n (k0 :: ks) hrect hf j i hj (by omega)]

theorem spans_stacked (k0 : KeyCol) (ks : List KeyCol) (n : Nat) (hrect : Rect n ((k0 :: ks).map (·.data)))
    (hf : Faithful (k0 :: ks)) :
    getSpansForMultiFields .repaired ((k0 :: ks).map (fun k => k.data.map k.cast)) =
      .ok (spans neq (rowsBy ((k0 :: ks).map (·.data)) n)) := by
  have hst := rect_stacked (k0 :: ks) n hrect
  have h0 : (k0.data.map k0.cast).length = n := hst _ (by simp)
  rw [map_cons, getSpansForMultiFields_eq_spec _ _ (by intro f hf'; rw [h0]; exact hst f (by simpa using hf')), h0,
    ← map_cons (f := fun k : KeyCol => k.data.map k.cast)]
  refine congrArg _ (spans_congr_of_eq_iff _ _ (by simp [jointRows_length, rowsBy]) fun i h0' hi => ?_)
  rw [jointRows_length] at hi
  -- row `i` of the joint column is the stacked row `i`, with `some` around every entry
  have hrow : ∀ i (hi : i < n), (jointRows ((k0 :: ks).map (fun k => k.data.map k.cast)) n)[i]'(by rwa [jointRows_length]) =
      (keyAt ((k0 :: ks).map (fun k => k.data.map k.cast)) i).map some := fun i hi => by
    have := getElem?_jointRows ((k0 :: ks).map (fun k => k.data.map k.cast)) n i hi
    rw [List.getElem?_eq_getElem (by rwa [jointRows_length]), keyAt_eq_of_lt hst hi] at this
    exact Option.some.inj this
  rw [hrow i hi, hrow (i - 1) (by omega), map_inj_right (fun _ _ h => Option.some.inj h),
    keyAt_stacked_eq_iff hrect hf (by omega) hi]
  simp only [rowsBy, getElem_map, getElem_range]

theorem groupby_hint_irrelevant (v : Variant) (k0 : KeyCol) (ks : List KeyCol) (n : Nat)
    (hrect : Rect n ((k0 :: ks).map (·.data))) (hf : Faithful (k0 :: ks))
    (hsorted : SortedRows ((k0 :: ks).map (·.data)) n) :
    groupbyStacked v (k0 :: ks) true = groupbyStacked v (k0 :: ks) false := by
  obtain ⟨b, hb, hspec⟩ := checkIfSorted_stacked k0 ks n hrect hf
  rw [hspec.2 hsorted] at hb
  simp only [groupbyStacked, stack_ok k0 ks n hrect, hb, if_true, Bool.false_eq_true, if_false]

end Exetera.GroupBy
