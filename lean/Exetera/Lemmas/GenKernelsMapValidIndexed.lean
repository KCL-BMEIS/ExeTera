import Exetera.Gen.Kernels
import Exetera.Model.MapValid
import Exetera.Lemmas.While
import Exetera.Lemmas.GenKernels
import Exetera.Lemmas.GenKernelsLoops
import Exetera.Lemmas.GenKernelsMapValid
/-!
  The TRANSLATED `ordered_map_valid_indexed_partial` (a `while` loop with two `break`s around the byte-copy `for` loop; five
  scalars and two caller-supplied buffers carried between calls) against the guard / body model `MapValid.indexedPartial` — transfer
  form by `whileE` simulation. The model keeps the written PREFIXES of `result_indices` / `result_values` (`ri`, `rv`) and their
  capacities; the kernel keeps the buffers and the positions: `Rel` says that the buffer's first `len(prefix)` entries are the prefix.
  The model wraps negative subscripts (`getI`), the translation rejects them: hence the hypotheses that a valid map entry of the
  window is not below `mv_start` and that the offsets it reads are not below `indices[i_start]`.
-/
namespace Exetera.GenK

open Exetera Exetera.PyRt Exetera.Gen.Kernels
open Exetera.MapValid (getI readRange IP IPar ipGuard ipBody indexedPartial)

namespace IPK

abbrev St := ordered_map_valid_indexed_partial.St

abbrev loop2 (n : Nat) (k : Int) (s : St) : Except Err St :=
  forRangeAux (fun _ => false) (fun k s => ordered_map_valid_indexed_partial.body_L2 { s with v5 := k }) n k s

structure Rel (p : IPar Int) (sm0 : Nat) (s : St) (t : IP Int) : Prop where
  h0 : s.p0 = p.map_
  h2 : s.p2 = (p.smEnd : Int)
  h3 : s.p3 = p.indices
  h5 : s.p5 = (p.iMax : Int)
  h6 : s.p6 = p.values
  h7 : s.p7 = p.mvStart
  h10 : s.p10 = p.inv
  hv1 : s.v1 = p.vOffset
  hI : Buf p.capI t.ri.length s.p8 t.ri
  h12 : s.p12 = (t.ri.length : Int)
  hV : Buf p.capV t.rv.length s.p9 t.rv
  h13 : s.p13 = (t.rv.length : Int)
  h11 : s.p11 = (t.sm : Int)
  h14 : s.p14 = t.accum
  hv0 : s.v0 = t.need
  hb : s.brk1 = t.brk
  hsm : sm0 ≤ t.sm

/-- the copy loop `for v in range(v_start, v_end): result_values[rv] = values[v]; rv += 1` against `readRange`: the bytes read
    are appended to the written prefix of `result_values` -/
theorem copy_sim (cap : Nat) (s : St) (rv : List Int) (hV : Buf cap rv.length s.p9 rv) (h13 : s.p13 = (rv.length : Int))
    (n v : Nat) (bytes : List Int) (hroom : rv.length + n ≤ cap) (h : readRange s.p6 (v : Int) n = .ok bytes) :
    ∃ s', loop2 n (v : Int) s = .ok s' ∧ ∃ b9 k5, s' = { s with p9 := b9, p13 := ((rv ++ bytes).length : Int), v5 := k5 } ∧
      Buf cap (rv ++ bytes).length b9 (rv ++ bytes) := by
  refine forRangeAux_rule
    (fun n v t => ∃ (w bs : List Int) (b9 : List Int) (k5 : Int), t = { s with p9 := b9, p13 := (w.length : Int), v5 := k5 } ∧
      Buf cap w.length b9 w ∧ w.length + n ≤ cap ∧ readRange s.p6 (v : Int) n = .ok bs ∧ w ++ bs = rv ++ bytes) _ ?_ ?_ n v s
    ⟨rv, bytes, s.p9, s.v5, by rw [← h13], hV, hroom, h, rfl⟩
  · rintro v t ⟨w, bs, b9, k5, rfl, hW, -, h, he⟩
    cases h
    rw [List.append_nil] at he
    subst he
    exact ⟨b9, k5, rfl, hW⟩
  · rintro n v t ⟨w, bs, b9, k5, rfl, hW, hroom, h, he⟩
    simp only [readRange] at h
    split at h
    · cases h
    · rename_i b hg
      split at h
      · cases h
      · rename_i bs' hr
        cases h
        have hc : w.length < cap := Nat.lt_of_lt_of_le (Nat.lt_add_of_pos_right (Nat.succ_pos n)) hroom
        simp only [ordered_map_valid_indexed_partial.body_L2, getI_nonneg _ _ _ "p6[v5]" b (Int.natCast_nonneg v) hg, bindE_ok,
          setIdxE_nat, setE_ok _ _ _ _ (hW.lt hc), Bool.false_eq_true, if_false]
        exact ⟨_, rfl, w ++ [b], bs', _, _, by rw [List.length_append]; rfl, hW.push_length hc b,
          by rw [List.length_append, List.length_singleton]; omega, hr, by rw [List.append_assoc, ← he]; rfl⟩

theorem guard_eq (p : IPar Int) (sm0 : Nat) (s : St) (t : IP Int) (hR : Rel p sm0 s t) :
    ordered_map_valid_indexed_partial.guard_L1 s = ipGuard p t := by
  simp only [ordered_map_valid_indexed_partial.guard_L1, ipGuard, hR.hb, hR.h11, hR.h2, Int.ofNat_lt, Bool.and_comm]

/-- One iteration of `while sm < sm_end`. The kernel's tests are first turned into the model's (`e10`, `e5`, `e9`); the scratch
    variables `i`, `v_start`, `v_end`, `v` are not in the relation, so each branch keeps `hR` except for what it wrote. -/
theorem step (p : IPar Int) (sm0 : Nat)
    (hpos : ∀ (q : Nat) (k : Int), sm0 ≤ q → q < p.smEnd → p.map_[q]? = some k → k ≠ p.inv → 0 ≤ k - p.mvStart)
    (hvs : ∀ (q : Nat) (k a : Int), sm0 ≤ q → q < p.smEnd → p.map_[q]? = some k → k ≠ p.inv →
      p.indices[(k - p.mvStart).toNat]? = some a → p.vOffset ≤ a)
    (s : St) (t t' : IP Int) (hR : Rel p sm0 s t) (hg : ipGuard p t = true) (hb : ipBody p t = .ok t') :
    ∃ s', ordered_map_valid_indexed_partial.body_L1 s = .ok s' ∧ Rel p sm0 s' t' := by
  simp only [ipGuard, Bool.and_eq_true, decide_eq_true_eq, Bool.not_eq_true'] at hg
  obtain ⟨hlt, hbrk⟩ := hg
  have hbk : s.brk1 = false := hR.hb.trans hbrk
  have e11 : s.p11 + 1 = ((t.sm + 1 : Nat) : Int) := by rw [hR.h11]; rfl
  have e12 : ∀ x, s.p12 + 1 = ((t.ri ++ [x]).length : Int) := fun x => by rw [hR.h12, List.length_append]; rfl
  have store : ∀ (x : Int) (site : String), t.ri.length < p.capI → setIdxE s.p8 s.p12 x site = .ok (s.p8.set t.ri.length x) :=
    fun x site hc => by rw [setIdxE_at hR.h12, setE_ok _ _ _ _ (hR.hI.lt hc)]
  simp only [ipBody] at hb
  split at hb
  · cases hb
  · rename_i k hm
    have hget : ∀ site, idxE s.p0 s.p11 site = .ok k := fun site => by rw [idxE_at hR.h11, hR.h0, getE_of_some _ hm]
    have e10 : (k == s.p10) = (k == p.inv) := by rw [hR.h10]
    simp only [ordered_map_valid_indexed_partial.body_L1, hget, bindE_ok, e10]
    split at hb
    · rename_i hk
      split at hb
      · rename_i hcap
        cases hb
        simp only [hk, if_true, store _ _ hcap, bindE_ok, hbk, Bool.false_eq_true, if_false]
        exact ⟨_, rfl, { hR with
          hI := hR.h14 ▸ hR.hI.push_length hcap _
          h12 := hR.h14 ▸ e12 _
          h11 := e11
          hb := hbrk.symm
          hsm := Nat.le_succ_of_le hR.hsm }⟩
      · cases hb
    · rename_i hk
      have hi0 : 0 ≤ k - p.mvStart := hpos t.sm k hR.hsm hlt hm (by simpa using hk)
      have e5 : decide (k - s.p7 ≥ s.p5) = decide (k - p.mvStart ≥ (p.iMax : Int)) := by rw [hR.h7, hR.h5]
      simp only [hk, e5]
      split at hb
      · rename_i hmax
        cases hb
        simp only [decide_eq_true hmax, if_true, bindE_ok]
        exact ⟨_, rfl, { hR with hv0 := rfl, hb := rfl }⟩
      · rename_i hmax
        simp only [decide_eq_false hmax, Bool.false_eq_true, if_false, bindE_ok, hbk]
        split at hb
        · rename_i a b ha hbb
          have ha' : ∀ site, idxE s.p3 (k - s.p7) site = .ok a := fun site => by
            rw [hR.h3, hR.h7]; exact getI_nonneg _ _ _ _ a hi0 ha
          have hb' : ∀ site, idxE s.p3 (k - s.p7 + 1) site = .ok b := fun site => by
            rw [hR.h3, hR.h7]; exact getI_nonneg _ _ _ _ b (by omega) hbb
          have e9 : decide (s.p13 + (b - s.v1) - (a - s.v1) > pyLen s.p9)
              = decide ((t.rv.length : Int) + (b - p.vOffset) - (a - p.vOffset) > (p.capV : Int)) := by
            rw [hR.h13, hR.hv1, pyLen, hR.hV.1]
          simp only [ha', hb', bindE_ok, e9]
          split at hb
          · rename_i hroom
            cases hb
            simp only [decide_eq_true hroom, if_true, bindE_ok]
            exact ⟨_, rfl, { hR with hb := rfl }⟩
          · rename_i hroom
            simp only [decide_eq_false hroom, Bool.false_eq_true, if_false, bindE_ok]
            split at hb
            · cases hb
            · rename_i bytes hrd
              split at hb
              · rename_i hcap
                cases hb
                have hao : p.vOffset ≤ a := by
                  refine hvs t.sm k a hR.hsm hlt hm (by simpa using hk) ?_
                  rw [getI, if_pos hi0, getE_eq_ok] at ha
                  exact ha
                obtain ⟨An, hAn⟩ : ∃ An : Nat, a - s.v1 = (An : Int) := ⟨(a - s.v1).toNat, by rw [hR.hv1]; omega⟩
                have hrd' : readRange s.p6 (An : Int) ((b - s.v1) - (An : Int)).toNat = .ok bytes := by
                  rw [← hAn, hR.h6, hR.hv1]; exact hrd
                have hn : t.rv.length + ((b - s.v1) - (An : Int)).toNat ≤ p.capV := by
                  have h1 := hR.hv1
                  have h2 := hR.hV.le
                  omega
                obtain ⟨s', hrun, b9, k5, rfl, hV'⟩ := copy_sim p.capV
                  { s with v2 := k - s.p7, v3 := a - s.v1, v4 := b - s.v1, brk1 := false } t.rv hR.hV hR.h13 _ An bytes hn hrd'
                have e14 : s.p14 + (b - s.v1 - (a - s.v1)) = t.accum + (b - p.vOffset - (a - p.vOffset)) := by
                  rw [hR.h14, hR.hv1]
                simp only [loop2] at hrun
                rw [forRangeE_at hAn, hrun]
                simp only [bindE_ok, store _ _ hcap, Bool.false_eq_true, if_false]
                exact ⟨_, rfl, { hR with
                  hI := by rw [e14]; exact hR.hI.push_length hcap _
                  h12 := e12 _
                  hV := hV'
                  h13 := rfl
                  h11 := e11
                  hb := hbrk.symm
                  h14 := e14
                  hsm := Nat.le_succ_of_le hR.hsm }⟩
              · cases hb
        · cases hb
        · cases hb

end IPK

/-- every `.ok` run of the model is a run of the translated kernel on buffers whose first `len(ri)` / `len(rv)` entries are the
    model's prefixes, with the same five scalars and buffers that again start with the model's prefixes; any fuel that covers the
    rest of the window plus one -/
theorem ordered_map_valid_indexed_partial_ok (map_ : List Int) (smStart : Int) (smEnd : Nat) (indices : List Int) (iStart iMax : Nat)
    (values : List Int) (mvStart : Int) (bufI bufV : List Int) (inv : Int) (sm : Nat) (ri rv : List Int) (accum : Int)
    (r : IP Int) (fuel : Nat) (hfuel : smEnd - sm + 1 ≤ fuel)
    (hIt : bufI.take ri.length = ri) (hVt : bufV.take rv.length = rv)
    (hpos : ∀ (q : Nat) (k : Int), sm ≤ q → q < smEnd → map_[q]? = some k → k ≠ inv → 0 ≤ k - mvStart)
    (hvs : ∀ (vo : Int), indices[iStart]? = some vo → ∀ (q : Nat) (k a : Int), sm ≤ q → q < smEnd → map_[q]? = some k → k ≠ inv →
      indices[(k - mvStart).toNat]? = some a → vo ≤ a)
    (h : indexedPartial map_ smEnd indices iStart iMax values mvStart bufI.length bufV.length inv sm ri rv accum = .ok r) :
    ∃ bI bV, ordered_map_valid_indexed_partial.run map_ smStart smEnd indices iStart iMax values mvStart bufI bufV inv sm ri.length
        rv.length accum fuel = .ok ((r.sm : Int), (r.ri.length : Int), (r.rv.length : Int), r.accum, r.need, bI, bV) ∧
      bI.length = bufI.length ∧ bI.take r.ri.length = r.ri ∧ bV.length = bufV.length ∧ bV.take r.rv.length = r.rv := by
  unfold indexedPartial at h
  cases hvo : indices[iStart]? with
  | none => simp [getE, hvo] at h
  | some vo =>
    simp only [getE, hvo] at h
    let p : IPar Int := ⟨map_, smEnd, indices, iMax, values, mvStart, bufI.length, bufV.length, inv, vo⟩
    obtain ⟨s', hrun, hR⟩ := whileE_sim (fun (s : IPK.St) (t : IP Int) => IPK.Rel p sm s t)
      ordered_map_valid_indexed_partial.guard_L1 ordered_map_valid_indexed_partial.body_L1 (ipGuard p) (ipBody p)
      (fun s t hR => IPK.guard_eq p sm s t hR)
      (fun s t t' hR hg hb => IPK.step p sm hpos (hvs vo hvo) s t t' hR hg hb)
      (smEnd - sm + 1)
      ⟨map_, smStart, (smEnd : Int), indices, (iStart : Int), (iMax : Int), values, mvStart, bufI, bufV, inv, (sm : Int),
        (ri.length : Int), (rv.length : Int), accum, false, vo, 0, 0, 0, 0, false⟩
      ⟨sm, ri, rv, accum, false, false⟩ r
      ⟨rfl, rfl, rfl, rfl, rfl, rfl, rfl, rfl, ⟨rfl, rfl, hIt⟩, rfl, ⟨rfl, rfl, hVt⟩, rfl, rfl, rfl, rfl, rfl, Nat.le_refl _⟩ h
    have hrun' := whileE_mono _ _ _ _ _ hrun fuel hfuel
    refine ⟨s'.p8, s'.p9, ?_, hR.hI.1, hR.hI.2.2, hR.hV.1, hR.hV.2.2⟩
    unfold ordered_map_valid_indexed_partial.run
    simp only [idxE_nat, getE, hvo, bindE_ok, hrun', hR.h11, hR.h12, hR.h13, hR.h14, hR.hv0]

end Exetera.GenK
