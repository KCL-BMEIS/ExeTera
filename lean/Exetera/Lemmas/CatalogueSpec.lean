import Exetera.Spec.Catalogue
/-! What a call leaves untouched in the abstract catalogue; a decidable check for `HistLinked`, for the examples of C15. -/
namespace Exetera.Catalogue

theorem Cat.col_setCol_ne (A : Cat) {d : Nat} {fn n : Name} {x : Option Content} {p : Src} (h : p ≠ ⟨d, fn, n⟩) :
    (A.setCol d fn n x).col p = A.col p := by
  obtain ⟨pd, pf, pc⟩ := p
  simp only [Cat.col, Cat.setCol]
  by_cases hk : (pd, pf) = (d, fn)
  · obtain ⟨rfl, rfl⟩ := Prod.mk.inj hk
    have hc : pc ≠ n := fun e => h (by rw [e])
    simp only [if_true]
    cases A pd pf with
    | none => rfl
    | some F => simp [hc]
  · simp only [hk, if_false]

theorem Cat.col_setFrame_ne (A : Cat) {d : Nat} {fn : Name} {F : Option Frame} {p : Src} (h : (p.d, p.frame) ≠ (d, fn)) :
    (A.setFrame d fn F).col p = A.col p := by
  simp only [Cat.col, Cat.setFrame, h, if_false]

theorem renFrame_untouched (dict : List (Name × Name)) (F : Frame) {n : Name} (h1 : n ∉ dict.map (·.1)) (h2 : n ∉ dict.map (·.2)) :
    renFrame dict F n = F n := by
  unfold renFrame
  have : dict.find? (fun p => p.2 == n) = none := by
    rw [List.find?_eq_none]
    intro p hp hpn
    exact h2 (List.mem_map.2 ⟨p, hp, by simpa using hpn⟩)
  simp only [this, h1, if_false]

theorem Cat.col_rename (A : Cat) {d : Nat} {fn : Name} (dict : List (Name × Name)) {p : Src}
    (h : ¬ (p.d = d ∧ p.frame = fn ∧ (p.col ∈ dict.map (·.1) ∨ p.col ∈ dict.map (·.2)))) :
    (A.setFrame d fn ((A d fn).map (renFrame dict))).col p = A.col p := by
  by_cases hk : (p.d, p.frame) = (d, fn)
  · obtain ⟨h1, h2⟩ := Prod.mk.inj hk
    have hc : ¬ (p.col ∈ dict.map (·.1) ∨ p.col ∈ dict.map (·.2)) := fun e => h ⟨h1, h2, e⟩
    simp only [not_or] at hc
    simp only [Cat.col, Cat.setFrame, if_true, h1, h2]
    cases A d fn with
    | none => rfl
    | some F => simp only [Option.map_some, Option.bind_some, renFrame_untouched dict F hc.1 hc.2]
  · exact Cat.col_setFrame_ne A hk

theorem specStep_untouched (src : Option Src) (A : Cat) (op : Op) (p : Src) (h : ¬ op.touches src p) :
    (specStep src A op).col p = A.col p := by
  cases op with
  | create d fn n c => exact Cat.col_setCol_ne A h
  | setItem d fn n r =>
    simp only [specStep]
    cases src with
    | none => rfl
    | some q => exact Cat.col_setCol_ne A h
  | copyField r d fn n =>
    simp only [specStep]
    cases src with
    | none => rfl
    | some q => exact Cat.col_setCol_ne A h
  | add d fn r =>
    simp only [specStep]
    cases src with
    | none => rfl
    | some q => exact Cat.col_setCol_ne A (fun e => h ⟨q, rfl, e⟩)
  | delItem d fn n => exact Cat.col_setCol_ne A h
  | drop d fn n => exact Cat.col_setCol_ne A h
  | deleteField d fn r =>
    simp only [specStep]
    cases src with
    | none => rfl
    | some q => exact Cat.col_setCol_ne A (fun e => h ⟨q, rfl, e⟩)
  | rename d fn dict => exact Cat.col_rename A dict h
  | moveField r d fn n =>
    cases src with
    | none => rfl
    | some q =>
      simp only [Op.touches, not_or, Option.some.injEq] at h
      simp only [specStep]
      by_cases hk : (q.d, q.frame) = (d, fn)
      · rw [if_pos hk]
        obtain ⟨h1, h2⟩ := Prod.mk.inj hk
        apply Cat.col_rename A [(q.col, n)]
        rintro ⟨e1, e2, e3⟩
        simp only [List.map_cons, List.map_nil, List.mem_singleton] at e3
        rcases e3 with e3 | e3
        · exact h.2 (by obtain ⟨qd, qf, qc⟩ := q; obtain ⟨pd, pf, pc⟩ := p; simp only at *; subst h1 h2 e1 e2 e3; rfl)
        · exact h.1 (by obtain ⟨pd, pf, pc⟩ := p; simp only at *; subst e1 e2 e3; rfl)
      · rw [if_neg hk, Cat.col_setCol_ne _ (fun e => h.2 (by rw [e])), Cat.col_setCol_ne A h.1]
  | createFrame d fn src' =>
    cases src' with
    | none => exact Cat.col_setFrame_ne A h
    | some sr => obtain ⟨sd, sfn⟩ := sr; exact Cat.col_setFrame_ne A h
  | requireFrame d fn =>
    simp only [specStep]
    split
    · rfl
    · exact Cat.col_setFrame_ne A h
  | copyFrame sd sfn d fn => exact Cat.col_setFrame_ne A h
  | setFrame d fn sd sfn =>
    simp only [Op.touches, not_or, not_and] at h
    simp only [specStep]
    split
    · next hsd => rw [Cat.col_setFrame_ne _ h.1, Cat.col_setFrame_ne A (h.2 hsd)]
    · exact Cat.col_setFrame_ne A h.1
  | delFrame d fn => exact Cat.col_setFrame_ne A h
  | dropFrame d fn => exact Cat.col_setFrame_ne A h
  | deleteFrame d sd sfn => exact Cat.col_setFrame_ne A h
  | moveFrame sd sfn d fn =>
    simp only [Op.touches, not_or] at h
    simp only [specStep]
    rw [Cat.col_setFrame_ne _ h.2, Cat.col_setFrame_ne A h.1]
  | reopen d => rfl
  | view r => rfl

def refsLinkedB (s : State) (op : Op) : Bool :=
  match op.ref with
  | none => true
  | some r =>
    match getField s r with
    | .error _ => true
    | .ok h =>
      match ensureValid s h with
      | .error _ => true
      | .ok _ => match fieldName s h with | .ok _ => true | .error _ => false

theorem refsLinked_of_check {s : State} {op : Op} (h : refsLinkedB s op = true) : op.refsLinked s := by
  unfold refsLinkedB at h
  unfold Op.refsLinked
  split
  · next r hr =>
    rw [hr] at h
    intro hh hg hd hv
    simp only [hg, hv] at h
    split at h
    · next k hk => exact ⟨k, hk⟩
    · cases h
  · trivial

def histLinkedB (v : Variant) : State → List Op → Bool
  | _, [] => true
  | s, op :: ops => refsLinkedB s op && histLinkedB v (step v s op).state ops

theorem histLinked_of_check {v : Variant} {s : State} {ops : List Op} (h : histLinkedB v s ops = true) : HistLinked v s ops := by
  induction ops generalizing s with
  | nil => trivial
  | cons op ops ih =>
    simp only [histLinkedB, Bool.and_eq_true] at h
    exact ⟨refsLinked_of_check h.1, ih h.2⟩

end Exetera.Catalogue
