import Exetera.Model.Concat
import Exetera.Lemmas.CsvLine
/-! C16, the kernel `_apply_spans_concat_2` against the specification. `StoredAt idx vals e A ys` says that from entry `e`
    (byte `A`) on the column stores the strings `ys`, so the loops over the entries of a span are inductions over `ys` and
    never see the rest of the column. The span loop handles some `k ≥ 1` of the remaining spans; how many is decided by the
    two budgets and does not matter for the result. -/
set_option linter.unusedSectionVars false
namespace Exetera.Concat

open Exetera Exetera.Spec.CsvLine

variable {α : Type} [DecidableEq α]

theorem getE_append_mid {β} (pre post : List β) (c : β) (site : String) :
    getE (pre ++ c :: post) pre.length site = .ok c :=
  Exetera.getE_append_mid pre post c site

theorem escape_length_ge (delim : α) (x : List α) : x.length ≤ (escape delim x).length :=
  (escape_length delim x).1

theorem getE_of_drop {β} {xs : List β} {i : Nat} {x : β} {r : List β} (h : xs.drop i = x :: r) (site : String) :
    getE xs i site = .ok x :=
  getE_eq_ok.mpr (getElem?_of_drop h)

theorem drop_succ_of_drop {β} {xs : List β} {i : Nat} {x : β} {r : List β} (h : xs.drop i = x :: r) :
    xs.drop (i + 1) = r := by
  rw [← List.drop_drop, h, List.drop_one, List.tail_cons]

/-- Room is always asked for in the form "what will have been written fits": `(vb ++ out).length ≤ cap`. A write
    succeeds if it is the head of such an `out`; a shorter output fits where a longer one does. -/
theorem pushV_ok {cap : Nat} {vb : List α} {x : α} {r : List α} (h : (vb ++ x :: r).length ≤ cap) (site : String) :
    pushV cap vb x site = .ok (vb ++ [x]) := by
  have : vb.length < cap := by rw [List.length_append, List.length_cons] at h; omega
  simp [pushV, this]

theorem fits_left {β} {cap : Nat} {l r : List β} (h : (l ++ r).length ≤ cap) : l.length ≤ cap :=
  Nat.le_trans (by rw [List.length_append]; exact Nat.le_add_right _ _) h

section
variable (vals : List α) (sep delim : α) (cap : Nat)

theorem scanFlags_spec (x : List α) :
    ∀ (i : Nat) (post : List α) (c q : Bool), vals.drop i = x ++ post →
      ∃ c' q', scanFlags vals sep delim x.length i c q = .ok (c', q') ∧
        (c' || q') = (c || q || needsQuote sep delim x) := by
  induction x with
  | nil => intro i post c q _; exact ⟨c, q, by simp [scanFlags, needsQuote]⟩
  | cons y x ih =>
    intro i post c q h
    have hg := getE_of_drop h "src_values[i_c]"
    have ih' := fun c q => ih (i + 1) post c q (drop_succ_of_drop h)
    simp only [List.length_cons, scanFlags, hg, needsQuote, List.any_cons]
    by_cases h1 : y = sep
    · obtain ⟨c', q', he, hf⟩ := ih' true q
      exact ⟨c', q', by rw [if_pos h1, he], by simp [hf, needsQuote, h1]⟩
    · by_cases h2 : y = delim
      · obtain ⟨c', q', he, hf⟩ := ih' c true
        exact ⟨c', q', by rw [if_neg h1, if_pos h2, he], by cases c <;> cases q <;> simp [hf, needsQuote, h2]⟩
      · obtain ⟨c', q', he, hf⟩ := ih' c q
        exact ⟨c', q', by rw [if_neg h1, if_neg h2, he], by simp [hf, needsQuote, h1, h2]⟩

theorem copyEsc_spec (x : List α) :
    ∀ (i : Nat) (post vb : List α), vals.drop i = x ++ post → (vb ++ escape delim x).length ≤ cap →
      copyEsc vals delim cap x.length i vb = .ok (vb ++ escape delim x) := by
  induction x with
  | nil => intro i post vb _ _; simp [copyEsc, escape]
  | cons y x ih =>
    intro i post vb h hcap
    have hg := getE_of_drop h "src_values[i_c]"
    have ih' := fun vb => ih (i + 1) post vb (drop_succ_of_drop h)
    by_cases hy : y = delim
    · subst hy
      simp only [escape, if_true, List.length_cons] at hcap ⊢
      simp only [copyEsc, hg, if_true, pushV_ok hcap, pushV_ok (vb := vb ++ [y]) (by rwa [List.append_assoc]),
        ih' (vb ++ [y] ++ [y]) (by rwa [List.append_assoc, List.append_assoc])]
      simp
    · simp only [escape, if_neg hy, List.length_cons] at hcap ⊢
      simp only [copyEsc, hg, if_neg hy, pushV_ok hcap, ih' (vb ++ [y]) (by rwa [List.append_assoc])]
      simp

theorem emitBody_spec (x post vb : List α) (a : Nat)
    (h : vals.drop a = x ++ post) (hcap : (vb ++ field sep delim x).length ≤ cap) :
    emitBody vals delim cap (needsQuote sep delim x) a (a + x.length) vb = .ok (vb ++ field sep delim x) := by
  unfold emitBody field at *
  rw [Nat.add_sub_cancel_left]
  cases hq : needsQuote sep delim x with
  | true =>
    rw [hq, if_pos rfl] at hcap
    have hcap' : (vb ++ [delim] ++ escape delim x ++ [delim]).length ≤ cap := by
      rwa [List.append_assoc, List.append_assoc]
    simp only [if_true, pushV_ok hcap, copyEsc_spec vals delim cap x a post (vb ++ [delim]) h (fits_left hcap'),
      pushV_ok hcap']
    simp
  | false =>
    have hx : escape delim x = x :=
      escape_of_no_delim delim x fun c hc => ((needsQuote_false_iff sep delim x).1 hq c hc).2
    simp only [hq, Bool.false_eq_true, if_false] at hcap
    simp only [Bool.false_eq_true, if_false, copyEsc_spec vals delim cap x a post vb h (by rwa [hx]), hx]

/-- what the kernel does with one run of bytes, in either branch: scan it for the two flags, then emit it -/
theorem entry_spec (x post : List α) (a : Nat)
    (h : vals.drop a = x ++ post) :
    ∃ c q, scanFlags vals sep delim x.length a false false = .ok (c, q) ∧
      ∀ vb : List α, (vb ++ field sep delim x).length ≤ cap →
        emitBody vals delim cap (c || q) a (a + x.length) vb = .ok (vb ++ field sep delim x) := by
  obtain ⟨c, q, hs, hf⟩ := scanFlags_spec vals sep delim x a post false false h
  rw [Bool.false_or, Bool.false_or] at hf
  exact ⟨c, q, hs, fun vb hcap => by rw [hf]; exact emitBody_spec vals sep delim cap x post vb a h hcap⟩

end

structure StoredAt (idx : List Nat) (vals : List α) (e A : Nat) (ys : List (List α)) : Prop where
  idx : ∃ r, idx.drop e = A :: offsetsFrom A ys ++ r
  vals : ∃ r, vals.drop A = ys.flatten ++ r

namespace StoredAt

variable {idx : List Nat} {vals : List α} {e A : Nat} {y : List α} {ys : List (List α)}

theorem head (h : StoredAt idx vals e A ys) (site : String) : getE idx e site = .ok A :=
  h.idx.elim fun _ hr => getE_of_drop hr site

theorem bytes (h : StoredAt idx vals e A (y :: ys)) : ∃ r, vals.drop A = y ++ r :=
  h.vals.elim fun r hr => ⟨ys.flatten ++ r, by rw [hr, List.flatten_cons, List.append_assoc]⟩

theorem tail (h : StoredAt idx vals e A (y :: ys)) : StoredAt idx vals (e + 1) (A + y.length) ys := by
  obtain ⟨⟨r, hi⟩, ⟨r', hv⟩⟩ := h
  refine ⟨⟨r, drop_succ_of_drop hi⟩, ⟨r', ?_⟩⟩
  rw [← List.drop_drop, hv, List.flatten_cons, List.append_assoc, List.drop_left]

end StoredAt

theorem getE_offsets (entries : List (List α)) (e : Nat) (site : String) (he : e ≤ entries.length) :
    getE (offsets entries) e site = .ok ((entries.take e).flatten.length) :=
  getE_eq_ok.mpr (offsets_getElem? entries e he)

theorem storedAt_column (entries : List (List α)) (a b : Nat) (ha : a ≤ entries.length) :
    StoredAt (offsets entries) entries.flatten a (entries.take a).flatten.length (slice entries a b) := by
  have hv : entries.flatten = (entries.take a).flatten ++ (entries.drop a).flatten := by
    rw [← List.flatten_append, List.take_append_drop]
  exact ⟨⟨_, by rw [offsets_drop entries a ha, drop_eq_slice_append entries a b, offsetsFrom_append, List.cons_append]⟩,
    ⟨_, by rw [hv, List.drop_left, drop_eq_slice_append entries a b, List.flatten_append]⟩⟩

theorem take_flatten_length_slice (entries : List (List α)) (a b : Nat) (h : a ≤ b) :
    ((entries.take b).flatten).length = ((entries.take a).flatten).length + ((slice entries a b).flatten).length := by
  rw [take_append_slice entries a b h, List.flatten_append, List.length_append]

theorem countNonEmpty_spec (idx : List Nat) (vals : List α) (ys : List (List α)) :
    ∀ (e A acc : Nat), StoredAt idx vals e A ys →
      countNonEmpty idx ys.length e acc = .ok (acc + (nonEmpty ys).length) := by
  induction ys with
  | nil => intro e A acc _; rfl
  | cons y ys ih =>
    intro e A acc h
    simp only [List.length_cons, countNonEmpty, h.head, h.tail.head, ih _ _ _ h.tail]
    cases y with
    | nil => simp [nonEmpty_cons_nil]
    | cons c x => simp [nonEmpty_cons_of_ne (c :: x) ys, Nat.add_assoc, Nat.add_comm 1]

/-- `prevEmpty = false` only after an entry of this span has been written, so the kernel's extra test `e > sp_cur` never
    decides anything -/
theorem multiLoop_spec (idx : List Nat) (vals : List α) (sep delim : α) (cap spCur : Nat) (ys : List (List α)) :
    ∀ (e A : Nat) (prevEmpty : Bool) (vb : List α), StoredAt idx vals e A ys →
      spCur ≤ e → (prevEmpty = false → spCur < e) → (vb ++ joinRest sep delim prevEmpty ys).length ≤ cap →
      multiLoop idx vals sep delim cap spCur ys.length e prevEmpty vb = .ok (vb ++ joinRest sep delim prevEmpty ys) := by
  induction ys with
  | nil => intro e A pe vb _ _ _ _; simp [multiLoop, joinRest]
  | cons y ys ih =>
    intro e A pe vb h hge hpe hcap
    obtain ⟨post, hy⟩ := h.bytes
    obtain ⟨c, q, hscan, hemit⟩ := entry_spec vals sep delim cap y post A hy
    rw [joinRest, List.append_assoc] at hcap
    have hlead : (if (!pe && !(A + y.length == A) && decide (e > spCur)) = true then pushV cap vb sep "dest_values[sep]"
        else .ok vb) = .ok (vb ++ if (pe || y.isEmpty) = true then [] else [sep]) := by
      cases pe with
      | true => simp
      | false =>
        cases y with
        | nil => simp
        | cons c x => simpa [hpe rfl] using pushV_ok (x := sep) hcap _
    have hflag : (if (A + y.length == A) = true then pe else false) = (pe && y.isEmpty) := by
      cases y <;> simp
    rw [joinRest]
    generalize (if (pe || y.isEmpty) = true then [] else [sep]) = lead at hcap hlead ⊢
    rw [← List.append_assoc, ← List.append_assoc] at hcap
    simp only [List.length_cons, multiLoop, h.head, h.tail.head, Nat.add_sub_cancel_left, hscan, hlead, hflag,
      hemit (vb ++ lead) (fits_left hcap)]
    rw [ih (e + 1) _ _ _ h.tail (Nat.le_succ_of_le hge) (fun _ => Nat.lt_succ_of_le hge) hcap]
    simp only [List.append_assoc]

section
/- the span `[a, b)` of the kernel's column holds the strings `ys`; its offsets are `A` and (unless it is empty or
   inverted) `B` -/
variable (P : Params α) (a b A B : Nat) (ys : List (List α)) (h : StoredAt P.idx P.vals a A ys)
  (hlen : ys.length = b - a) (hB : ys ≠ [] → B = A + ys.flatten.length)
include h hlen hB

theorem spanNonEmpties_spec :
    spanNonEmpties P a b A B = .ok (nonEmpty ys).length := by
  unfold spanNonEmpties
  by_cases h1 : b = a + 1
  · obtain ⟨y, rfl⟩ := List.length_eq_one_iff.mp (by rw [hlen, h1, Nat.add_sub_cancel_left] : ys.length = 1)
    rw [if_pos h1, hB (List.cons_ne_nil _ _)]
    cases y <;> simp [nonEmpty]
  · rw [if_neg h1]
    by_cases h2 : b > a + 1
    · rw [if_pos h2, ← hlen, countNonEmpty_spec P.idx P.vals ys a A 0 h, Nat.zero_add]
    · rw [if_neg h2, List.eq_nil_of_length_eq_zero (by omega : ys.length = 0)]
      rfl

theorem spanEmit_spec (vb : List α)
    (hcap : (vb ++ joinRest P.sep P.delim true ys).length ≤ P.capV) :
    spanEmit P a b A B (nonEmpty ys).length vb = .ok (vb ++ joinRest P.sep P.delim true ys) := by
  unfold spanEmit
  by_cases h1 : (nonEmpty ys).length = 1
  · -- exactly one non-empty entry: it is the concatenation of the whole source range
    obtain ⟨x, hx⟩ := List.length_eq_one_iff.mp h1
    have hne : ys ≠ [] := by rintro rfl; cases hx
    have hflat := flatten_of_nonEmpty_singleton ys x hx
    obtain ⟨post, hv⟩ := h.vals
    rw [hflat] at hv
    obtain ⟨c, q, hscan, hemit⟩ := entry_spec P.vals P.sep P.delim P.capV x post A hv
    rw [if_pos h1, hB hne, hflat, Nat.add_sub_cancel_left, hscan]
    rw [joinRest_eq, if_pos rfl, hx, joinCsv_singleton] at hcap ⊢
    exact hemit vb hcap
  · rw [if_neg h1]
    by_cases h2 : (nonEmpty ys).length > 1
    · rw [if_pos h2, ← hlen]
      exact multiLoop_spec P.idx P.vals P.sep P.delim P.capV a ys a A true vb h (Nat.le_refl _)
        (fun hf => by cases hf) hcap
    · rw [if_neg h2, joinRest_eq, if_pos rfl, List.eq_nil_of_length_eq_zero (by omega : (nonEmpty ys).length = 0),
        joinCsv_nil, List.append_nil]

end

theorem oneSpan_spec (P : Params α) (entries : List (List α)) (hi : P.idx = offsets entries)
    (hv : P.vals = entries.flatten) (s a b : Nat) (hs : P.spans[s]? = some a) (hs1 : P.spans[s + 1]? = some b)
    (ha : a ≤ entries.length) (hb : b ≤ entries.length) (st : Buf α) (hci : st.ib.length < P.capI)
    (hcv : (st.vb ++ spanOut P.sep P.delim entries a b).length ≤ P.capV) :
    oneSpan P s st = .ok ⟨st.ib ++ [(st.vb ++ spanOut P.sep P.delim entries a b).length + P.destStartV],
                          st.vb ++ spanOut P.sep P.delim entries a b⟩ := by
  have hst : StoredAt P.idx P.vals a (entries.take a).flatten.length (slice entries a b) := by
    rw [hi, hv]; exact storedAt_column entries a b ha
  have hlen : (slice entries a b).length = b - a := by
    rw [slice_length, Nat.min_eq_left (Nat.sub_le_sub_right hb a)]
  have hB : slice entries a b ≠ [] → _ := fun hne => take_flatten_length_slice entries a b
    (Nat.le_of_not_lt fun hlt => hne (slice_eq_nil_of_le entries a b (Nat.le_of_lt hlt)))
  have g1 : getE P.spans s "spans[s]" = .ok a := getE_eq_ok.mpr hs
  have g2 : getE P.spans (s + 1) "spans[s+1]" = .ok b := getE_eq_ok.mpr hs1
  have g4 : getE P.idx b "src_index[sp_next]" = .ok ((entries.take b).flatten.length) := by
    rw [hi]; exact getE_offsets entries b _ hb
  rw [spanOut_eq_joinRest] at hcv ⊢
  simp only [oneSpan, g1, g2, hst.head, g4, spanNonEmpties_spec P a b _ _ _ hst hlen hB,
    spanEmit_spec P a b _ _ _ hst hlen hB st.vb hcv, hci, if_true]

theorem concatSpec_length (sep delim : α) (entries : List (List α)) (spans : List Nat) :
    (concatSpec sep delim entries spans).length = spans.length - 1 := by
  simp [concatSpec, spanPairs]

theorem concatSpec_getElem? (sep delim : α) (entries : List (List α)) (spans : List Nat) (s : Nat) (o : List α)
    (h : (concatSpec sep delim entries spans)[s]? = some o) :
    ∃ a b, spans[s]? = some a ∧ spans[s + 1]? = some b ∧ o = spanOut sep delim entries a b := by
  simp only [concatSpec, spanPairs, List.getElem?_map, Option.map_eq_some_iff] at h
  obtain ⟨⟨a, b⟩, hz, rfl⟩ := h
  rw [List.getElem?_zip_eq_some, List.getElem?_tail] at hz
  exact ⟨a, b, hz.1, hz.2, rfl⟩

/-- The span loop over a block of spans whose outputs are `os` (known only through the hypothesis that one span appends
    its output and the running offset) handles some `k` of them (`k ≥ 1` unless there is none; how many depends on the budgets)
    and appends exactly their outputs and offsets. `M` bounds the outputs; `maxI ≤ capI` and `maxV - 1 + M ≤ capV`
    are what keeps every write inside the buffers: the loop goes on only below both budgets. -/
theorem spanLoop_spec (P : Params α) (M : Nat) (hI : P.maxI ≤ P.capI) (hV : P.maxV - 1 + M ≤ P.capV)
    (os : List (List α)) :
    ∀ (s : Nat) (st : Buf α), (∀ o ∈ os, o.length ≤ M) →
      (∀ (j : Nat) (o : List α) (st' : Buf α), os[j]? = some o → st'.ib.length < P.capI →
        (st'.vb ++ o).length ≤ P.capV →
        oneSpan P (s + j) st' = .ok ⟨st'.ib ++ [(st'.vb ++ o).length + P.destStartV], st'.vb ++ o⟩) →
      st.ib.length < P.capI → st.vb.length + M ≤ P.capV →
      ∃ k, k ≤ os.length ∧ (os ≠ [] → 0 < k) ∧
        spanLoop P os.length s st = .ok (s + k,
          ⟨st.ib ++ offsetsFrom (st.vb.length + P.destStartV) (os.take k), st.vb ++ (os.take k).flatten⟩) := by
  induction os with
  | nil => intro s st _ _ _ _; exact ⟨0, Nat.le_refl _, fun h => absurd rfl h, by simp [spanLoop, offsetsFrom]⟩
  | cons o os ih =>
    intro s st hM hone hci hcv
    have hoM := hM o (by simp)
    have h1 := hone 0 o st rfl hci (by rw [List.length_append]; omega)
    simp only [List.length_cons, spanLoop, Nat.add_zero s ▸ h1]
    split
    next => exact ⟨1, Nat.succ_le_succ (Nat.zero_le _), fun _ => Nat.one_pos, by simp [offsetsFrom, Nat.add_right_comm]⟩
    next hbrk =>
      simp only [Bool.or_eq_true, decide_eq_true_eq, not_or, Nat.not_le, ge_iff_le] at hbrk
      obtain ⟨k, hk, _, hrun⟩ := ih (s + 1) ⟨st.ib ++ [(st.vb ++ o).length + P.destStartV], st.vb ++ o⟩
        (fun o' ho' => hM o' (List.mem_cons_of_mem o ho'))
        (fun j o' st' hj => by rw [Nat.add_right_comm s 1 j, Nat.add_assoc]; exact hone (j + 1) o' st' hj)
        (Nat.lt_of_lt_of_le hbrk.1 hI)
        (Nat.le_trans (Nat.add_le_add_right (Nat.le_sub_one_of_lt hbrk.2) M) hV)
      refine ⟨k + 1, Nat.succ_le_succ hk, fun _ => Nat.succ_pos k, ?_⟩
      rw [hrun]
      simp [offsetsFrom, Nat.add_right_comm, Nat.add_assoc]

/-- `_apply_spans_concat_2` called with `sp_start` inside the span list: it returns without leaving its buffers,
    having handled `k ≥ 1` spans, and the written prefixes are the offsets and bytes of exactly those spans -/
theorem kernel_spec (P : Params α) (entries : List (List α))
    (hidx : P.idx = offsets entries) (hvals : P.vals = entries.flatten) (hbound : ∀ p ∈ P.spans, p ≤ entries.length)
    (M : Nat) (hM : ∀ o ∈ concatSpec P.sep P.delim entries P.spans, o.length ≤ M)
    (hI : P.maxI ≤ P.capI) (hMV : M ≤ P.capV) (hV : P.maxV - 1 + M ≤ P.capV)
    (spStart : Nat) (hs : spStart < P.spans.length - 1) (hci : (if spStart = 0 then 1 else 0) < P.capI) :
    ∃ k, 0 < k ∧ spStart + k ≤ P.spans.length - 1 ∧
      kernel P spStart = .ok (spStart + k,
        ⟨(if spStart = 0 then [P.index0] else []) ++ offsetsFrom P.destStartV
            (((concatSpec P.sep P.delim entries P.spans).drop spStart).take k),
         (((concatSpec P.sep P.delim entries P.spans).drop spStart).take k).flatten⟩) := by
  have hlen : ((concatSpec P.sep P.delim entries P.spans).drop spStart).length = P.spans.length - 1 - spStart := by
    rw [List.length_drop, concatSpec_length]
  obtain ⟨k, hk, hpos, hrun⟩ := spanLoop_spec P M hI hV ((concatSpec P.sep P.delim entries P.spans).drop spStart)
    spStart ⟨if spStart = 0 then [P.index0] else [], []⟩
    (fun o ho => hM o (List.mem_of_mem_drop ho))
    (fun j o st' hj hci' hcv' => by
      rw [List.getElem?_drop] at hj
      obtain ⟨a, b, ha, hb, rfl⟩ := concatSpec_getElem? _ _ _ _ _ _ hj
      exact oneSpan_spec P entries hidx hvals _ a b ha hb (hbound a (List.mem_of_getElem? ha))
        (hbound b (List.mem_of_getElem? hb)) st' hci' hcv')
    (by show (if spStart = 0 then [P.index0] else []).length < P.capI; rw [apply_ite List.length]; exact hci)
    (by rw [List.length_nil, Nat.zero_add]; exact hMV)
  rw [hlen] at hk hrun
  refine ⟨k, hpos (List.ne_nil_of_length_pos (hlen ▸ Nat.sub_pos_of_lt hs)),
    Nat.add_le_of_le_sub' (Nat.le_of_lt hs) hk, ?_⟩
  simp only [kernel, hs, if_true, hrun, List.length_nil, Nat.zero_add, List.nil_append]

end Exetera.Concat
