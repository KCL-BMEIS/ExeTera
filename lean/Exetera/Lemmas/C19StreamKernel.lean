import Exetera.Lemmas.JoinFlatSession
import Exetera.Lemmas.LegacyStreamed
/-!
  C19, legacy streamed left map: the invariant of the re-slicing driver
  `generate_ordered_map_to_left_right_unique_streamed_old` and the kernel `…_partial_old` run on the driver's current
  views `lc = left[i:lc_range[1]]`, `rc = right[j:rc_range[1]]`.

  Positions are global: the kernel's local `(p.i, p.j)` stand for `(s.i + p.i, s.j + p.j)`; what the kernel has put into
  the scratch buffer, appended to what the driver has written, is the right column of the relational left join of the
  left rows consumed so far.
-/
namespace Exetera.JoinOld
open Exetera Exetera.Spec Exetera.Join Exetera.JoinFlat

/-- invariant of the driver loop: the views are the unconsumed parts of the current chunks, the generators stand at the
    chunk ends, a chunk is never longer than the scratch buffer, and `out` is the join of the consumed left rows -/
structure SInv (L R : List Int) (cs : Nat) (inv : Int) (s : SO) : Prop where
  ilh : s.i ≤ s.lhi
  lhl : s.lhi ≤ L.length
  lcur : s.lcur = s.lhi
  lc : s.lc = slice L s.i s.lhi
  lne : s.i < s.lhi ∨ s.i = L.length
  lcs : s.lhi ≤ s.i + cs
  jrh : s.j ≤ s.rhi
  rhl : s.rhi ≤ R.length
  rcur : s.rcur = s.rhi
  rc : s.rc = slice R s.j s.rhi
  rne : s.j < s.rhi ∨ s.j = R.length
  rcs : s.rhi ≤ s.j + cs
  olen : s.out.length = s.i
  out : s.out ++ encR inv (rest L R s.i) = encR inv (leftJoin L R)
  below : Below L R s.i s.j

/-- `SInv` is the termination proof's view invariant of both sides plus what has been written -/
theorem SInv.dinv {L R : List Int} {cs : Nat} {inv : Int} {s : SO} (h : SInv L R cs inv s) : Term.DInv L R cs s :=
  ⟨⟨h.ilh, h.lhl, h.lc, by have := h.lcs; omega, fun _ => by have := h.lne; omega, h.lcur⟩,
   ⟨h.jrh, h.rhl, h.rc, by have := h.rcs; omega, fun _ => by have := h.rne; omega, h.rcur⟩⟩

theorem SInv.of_dinv {L R : List Int} {cs : Nat} {inv : Int} {s : SO} (h : Term.DInv L R cs s)
    (olen : s.out.length = s.i) (out : s.out ++ encR inv (rest L R s.i) = encR inv (leftJoin L R))
    (below : Below L R s.i s.j) : SInv L R cs inv s :=
  have ne {xs : List Int} {i cur hi : Nat} {c : List Int} (v : Term.View xs cs i cur hi c) : i < hi ∨ i = xs.length := by
    have := v.le; have := v.hi_le; have := v.nonempty; omega
  ⟨h.l.le, h.l.hi_le, h.l.cur, h.l.view, ne h.l, by have := h.l.short; omega,
   h.r.le, h.r.hi_le, h.r.cur, h.r.view, ne h.r, by have := h.r.short; omega, olen, out, below⟩

theorem Term.View.get {xs : List Int} {cs i cur hi : Nat} {c : List Int} (v : Term.View xs cs i cur hi c) {k : Nat}
    (hk : k < c.length) (hx : i + k < xs.length) : c[k] = xs[i + k] := by
  have h := slice_getElem?_of_lt xs i hi k (by rw [← v.length]; exact hk)
  rw [← v.view, List.getElem?_eq_getElem hk, List.getElem?_eq_getElem hx] at h
  exact Option.some.inj h

structure KInv (L R : List Int) (inv : Int) (s : SO) (p : PO) : Prop where
  ile : p.i ≤ s.lc.length
  jle : p.j ≤ s.rc.length
  blen : p.buf.length = p.i
  out : s.out ++ p.buf ++ encR inv (rest L R (s.i + p.i)) = encR inv (leftJoin L R)
  below : Below L R (s.i + p.i) (s.j + p.j)

theorem partialOldBody_step {L R : List Int} {cs : Nat} {inv : Int} {s : SO} {p : PO} (hL : Sorted L)
    (hR : R.Pairwise (· < ·)) (hS : SInv L R cs inv s) (hK : KInv L R inv s p)
    (hg : (decide (p.i < s.lc.length) && decide (p.j < s.rc.length)) = true) :
    ∃ p', partialOldBody s.j s.lc s.rc cs inv p = .ok p' ∧ KInv L R inv s p' ∧
      (s.lc.length - p'.i) + (s.rc.length - p'.j) < (s.lc.length - p.i) + (s.rc.length - p.j) := by
  simp only [Bool.and_eq_true, decide_eq_true_eq] at hg
  obtain ⟨hi, hj⟩ := hg
  have hll := hS.dinv.l.length_add
  have hrl := hS.dinv.r.length_add
  have hI' : s.i + p.i < s.lhi := hll ▸ Nat.add_lt_add_left hi _
  have hI : s.i + p.i < L.length := Nat.lt_of_lt_of_le hI' hS.lhl
  have hJ : s.j + p.j < R.length := Nat.lt_of_lt_of_le (hrl ▸ Nat.add_lt_add_left hj _) hS.rhl
  have ea := hS.dinv.l.get hi hI
  have eb := hS.dinv.r.get hj hJ
  refine partialOldBody_cases s.j inv hi hj (Nat.lt_of_add_lt_add_left (Nat.lt_of_lt_of_le hI' hS.lcs)) (fun hlt => ?_) (fun hgt => ?_) (fun heq => ?_)
  · rw [ea, eb] at hlt
    obtain ⟨hr, hb⟩ := hK.below.lt hL (Strict.sorted hR) hI hJ hlt
    exact ⟨⟨hi, hK.jle, by simp [hK.blen], by rw [← List.append_assoc]; exact encR_rest_cons hK.out hr, hb⟩,
      walk_lt hi hj (a := 1) (b := 0) Nat.one_pos⟩
  · rw [ea, eb] at hgt
    exact ⟨⟨hK.ile, hj, hK.blen, hK.out, hK.below.gt hI hJ hgt⟩,
      walk_lt hi hj (a := 0) (b := 1) Nat.one_pos⟩
  · rw [ea, eb] at heq
    have hr := hK.below.matched hR hI hJ heq
    rw [Nat.add_comm p.j s.j]
    exact ⟨⟨hi, hK.jle, by simp [hK.blen], by rw [← List.append_assoc]; exact encR_rest_cons hK.out hr,
      hK.below.step_left hL⟩, walk_lt hi hj (a := 1) (b := 0) Nat.one_pos⟩

/-- **one `…_partial_old` call**: no out-of-bounds access, ends within its fuel with one of the two views consumed, and
    scratch buffer + driver output is the join of the consumed left rows -/
theorem runPartialOld_spec {L R : List Int} {cs : Nat} {inv : Int} {s : SO} (hL : Sorted L) (hR : R.Pairwise (· < ·))
    (hS : SInv L R cs inv s) :
    ∃ p, runPartialOld s.j s.lc s.rc cs inv = .ok p ∧ KInv L R inv s p ∧
      (p.i = s.lc.length ∨ p.j = s.rc.length) := by
  obtain ⟨p, hw, hK, hg⟩ := whileE_rule (fun p : PO => decide (p.i < s.lc.length) && decide (p.j < s.rc.length))
    (partialOldBody s.j s.lc s.rc cs inv) (KInv L R inv s) (fun p => (s.lc.length - p.i) + (s.rc.length - p.j))
    (fun p hK hg => partialOldBody_step hL hR hS hK hg) (s.lc.length + s.rc.length) {}
    ⟨Nat.zero_le _, Nat.zero_le _, rfl, by simpa using hS.out, by simpa using hS.below⟩ (by simp)
  refine ⟨p, hw, hK, ?_⟩
  have h1 := hK.ile
  have h2 := hK.jle
  simp only [Bool.and_eq_false_iff, decide_eq_false_iff_not] at hg
  omega

end Exetera.JoinOld
