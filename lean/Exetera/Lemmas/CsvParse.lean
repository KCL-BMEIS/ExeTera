import Exetera.Spec.CsvRender
import Exetera.Model.Export
/-!
  C18: the CSV reader specification inverts the record writers.

  `csv.writer` (`renderRow`) and ExeTera's own `_csv_record` (`csvRecord`, fixes/D30_NC18a) write a record the same way — the
  cells joined by commas, a line feed, `""` for a record of one empty cell — and differ only in how one cell is written
  (`renderCell` / `quoteCell`). `recordBy w` is that common shape over a cell writer `w`, and `ReadsAs d w r c` says what a
  reader needs of `w`: from the start of a field the text `w c` takes it to the end of a field holding `r c`; the comma or
  line feed that follows files the field whether the cell was bare or quoted. The inversion is proved once for such a `w`
  and instantiated at `r = asRead d` for `csv.writer` (a reader that skips blanks loses unquoted leading ones) and at
  `r = id` for `_csv_record` (every cell content, every dialect).
-/
namespace Exetera.Spec.Csv

theorem run_append (d : Dialect) (s : St) (xs ys : List Char) : run d s (xs ++ ys) = run d (run d s xs) ys :=
  List.foldl_append

theorem run_cons (d : Dialect) (s : St) (x : Char) (xs : List Char) : run d s (x :: xs) = run d (step d s x) xs := rfl

theorem run_nil (d : Dialect) (s : St) : run d s [] = s := rfl

/-- a cell can be read back by dialect `d`: a carriage return is harmless unless the reader ends records at a bare CR
    and nothing else in the cell forces the writer to quote it -/
def Readable (d : Dialect) (c : Cell) : Prop := d.crEndsRecord = true → c.any special = false → '\r' ∉ c

instance (d : Dialect) (c : Cell) : Decidable (Readable d c) := by unfold Readable; infer_instance

def Fresh (s : St) : Prop := s.cell = [] ∧ (s.ps = .startField ∨ s.ps = .startRecord)

/-- the reader has taken in the text of a field and the next character decides: delimiter, line end, or more text -/
def AtFieldEnd (p : PS) : Prop := p = .startField ∨ p = .inField ∨ p = .quoteInQuoted

variable (d : Dialect)

theorem special_false {c : Char} (h : special c = false) : c ≠ ',' ∧ c ≠ '"' ∧ c ≠ '\n' := by
  simp [special] at h
  exact ⟨h.1.1, h.1.2, h.2⟩

theorem isEol_false {d : Dialect} {c : Char} (h1 : c ≠ '\n') (h2 : d.crEndsRecord = true → c ≠ '\r') : isEol d c = false := by
  cases hcr : d.crEndsRecord <;> simp_all [isEol]

theorem asRead_eq_self (c : Cell)
    (h : d.skipInitialSpace = true → c.any special = false → c.head? ≠ some ' ') : asRead d c = c := by
  unfold asRead
  split
  · rename_i hcond
    simp only [Bool.and_eq_true, Bool.not_eq_true'] at hcond
    cases c with
    | nil => rfl
    | cons x xs => exact List.dropWhile_cons_of_neg (by simpa using h hcond.1 hcond.2)
  · rfl

theorem asRead_nil : asRead d [] = [] := asRead_eq_self d [] (fun _ _ => nofun)

theorem asRead_std (c : Cell) : asRead .std c = c := asRead_eq_self .std c (fun h => nomatch h)

theorem asRead_blank_cons (cs : Cell) (hskip : d.skipInitialSpace = true) (h : cs.any special = false) :
    asRead d (' ' :: cs) = asRead d cs := by
  have : special ' ' = false := by decide
  simp [asRead, hskip, h, this]

theorem step_fresh {d : Dialect} {s : St} {c : Char} (hf : Fresh s) (h : isEol d c = false) :
    step d s c = stepStartField d s c := by
  rcases hf.2 with hp | hp <;> simp only [step, hp, stepStartRecord, h, Bool.false_eq_true, if_false]

theorem step_fresh_quote (s : St) (hf : Fresh s) : step d s '"' = { s with ps := .inQuoted } := by
  rw [step_fresh hf (isEol_false (by decide) (fun _ => by decide))]
  simp [stepStartField, isEol]

theorem step_fresh_blank (s : St) (hf : Fresh s) (hskip : d.skipInitialSpace = true) :
    step d s ' ' = { s with ps := .startField } := by
  rw [step_fresh hf (isEol_false (by decide) (fun _ => by decide))]
  simp [stepStartField, isEol, hskip]

theorem step_fresh_plain (s : St) (hf : Fresh s) (c : Char) (hsp : special c = false) (heol : isEol d c = false)
    (hb : c = ' ' → d.skipInitialSpace = false) : step d s c = addChar s c .inField := by
  obtain ⟨h1, h2, h3⟩ := special_false hsp
  have hb' : (c == ' ' && d.skipInitialSpace) = false := by
    by_cases hc : c = ' '
    · simp [hb hc]
    · simp [hc]
  rw [step_fresh hf heol]
  simp [stepStartField, heol, h1, h2, hb']

theorem step_comma (s : St) (h : AtFieldEnd s.ps ∨ s.ps = .startRecord) :
    step d s ',' = ⟨s.recs, s.cell.reverse :: s.row, [], .startField⟩ := by
  rcases h with (h | h | h) | h <;> simp [step, h, stepStartRecord, stepStartField, isEol, saveField]

theorem step_lf (s : St) (h : AtFieldEnd s.ps) :
    step d s '\n' = ⟨(s.cell.reverse :: s.row).reverse :: s.recs, [], [], .startRecord⟩ := by
  rcases h with h | h | h <;> simp [step, h, stepStartField, isEol, endRecord, eolNext]

theorem run_inField : ∀ (xs : List Char) (s : St), s.ps = .inField →
    (∀ c ∈ xs, special c = false ∧ isEol d c = false) →
    run d s xs = ⟨s.recs, s.row, xs.reverse ++ s.cell, .inField⟩
  | [], s, hs, _ => by cases s; cases hs; rfl
  | x :: xs, s, hs, h => by
    obtain ⟨hsp, heol⟩ := h x List.mem_cons_self
    have hstep : step d s x = addChar s x .inField := by simp [step, hs, heol, (special_false hsp).1]
    rw [run_cons, hstep, run_inField xs _ rfl (fun c hc => h c (List.mem_cons_of_mem _ hc))]
    simp [addChar]

theorem run_inQuoted : ∀ (xs : List Char) (s : St), s.ps = .inQuoted →
    run d s (escape xs) = ⟨s.recs, s.row, xs.reverse ++ s.cell, .inQuoted⟩
  | [], s, hs => by cases s; cases hs; rfl
  | x :: xs, s, hs => by
    have ih := fun s h => run_inQuoted xs s h
    by_cases hq : x = '"' <;> simp [escape, hq, run_cons, step, hs, addChar, ih]

/-- From the start of a field the text `w c` takes the reader to the end of a field holding `r c`. (An empty text at the
    start of a record leaves the reader there: the case `renderRow` avoids by writing `""`.) -/
def ReadsAs (d : Dialect) (w : Cell → List Char) (r : Cell → Cell) (c : Cell) : Prop :=
  ∀ s, Fresh s → ∃ p, (AtFieldEnd p ∨ (c = [] ∧ s.ps = .startRecord ∧ p = .startRecord)) ∧
    run d s (w c) = ⟨s.recs, s.row, (r c).reverse, p⟩

theorem run_quoted (c : Cell) (s : St) (hf : Fresh s) :
    run d s ('"' :: (escape c ++ ['"'])) = ⟨s.recs, s.row, c.reverse, .quoteInQuoted⟩ := by
  rw [run_cons, step_fresh_quote d s hf, run_append, run_inQuoted d c _ rfl]
  simp [run_cons, run_nil, step, hf.1]

theorem plain_of {d : Dialect} {c : Cell} (hsp : c.any special = false) (hcr : d.crEndsRecord = true → '\r' ∉ c) :
    ∀ x ∈ c, special x = false ∧ isEol d x = false := by
  intro x hx
  have hs : special x = false := by simpa using List.any_eq_false.mp hsp x hx
  exact ⟨hs, isEol_false (special_false hs).2.2 (fun h heq => hcr h (heq ▸ hx))⟩

theorem run_bare : ∀ (c : Cell), (∀ x ∈ c, special x = false ∧ isEol d x = false) → ReadsAs d id (asRead d) c := by
  intro c
  induction c with
  | nil =>
    intro _ s hf
    obtain ⟨recs, row, cell, ps⟩ := s
    obtain rfl : cell = [] := hf.1
    exact ⟨ps, hf.2.imp (fun h => Or.inl h) (fun h => ⟨rfl, h, h⟩), by rw [asRead_nil]; rfl⟩
  | cons x cs ih =>
    intro h s hf
    have hcs : ∀ y ∈ cs, special y = false ∧ isEol d y = false := fun y hy => h y (List.mem_cons_of_mem _ hy)
    obtain ⟨hx, heol⟩ := h x List.mem_cons_self
    by_cases hb : x = ' ' ∧ d.skipInitialSpace = true
    · obtain ⟨rfl, hskip⟩ := hb
      obtain ⟨p, hp, hrun⟩ := ih hcs { s with ps := .startField } ⟨hf.1, Or.inl rfl⟩
      refine ⟨p, Or.inl (hp.elim id (fun h => absurd h.2.1 nofun)), ?_⟩
      rw [id, run_cons, step_fresh_blank d s hf hskip, asRead_blank_cons d cs hskip (List.any_eq_false.mpr fun y hy => by
        rw [(hcs y hy).1]; exact Bool.false_ne_true)]
      exact hrun
    · have hb' : x = ' ' → d.skipInitialSpace = false := fun hx' => Bool.eq_false_iff.mpr fun hs => hb ⟨hx', hs⟩
      refine ⟨.inField, Or.inl (Or.inr (Or.inl rfl)), ?_⟩
      rw [id, run_cons, step_fresh_plain d s hf x hx heol hb', run_inField d cs _ rfl hcs,
        asRead_eq_self d (x :: cs) (fun hs _ hh => hb ⟨Option.some.inj hh, hs⟩)]
      simp [addChar, hf.1]

/-- `','.join(w(c) for c in cells)` -/
def joinBy (w : Cell → List Char) : List Cell → List Char
  | [] => []
  | [c] => w c
  | c :: cs => w c ++ ',' :: joinBy w cs

def recordBy (w : Cell → List Char) (cells : List Cell) : List Char :=
  (if cells = [[]] then ['"', '"'] else joinBy w cells) ++ ['\n']

theorem joinBy_cons_cons (w : Cell → List Char) (c c' : Cell) (cs : List Cell) :
    joinBy w (c :: c' :: cs) = w c ++ ',' :: joinBy w (c' :: cs) := rfl

theorem joinBy_congr {w w' : Cell → List Char} : ∀ (cells : List Cell), (∀ c ∈ cells, w c = w' c) →
    joinBy w cells = joinBy w' cells
  | [], _ => rfl
  | [c], h => h c List.mem_cons_self
  | c :: c' :: cs, h => by
    rw [joinBy_cons_cons, joinBy_cons_cons, h c List.mem_cons_self,
      joinBy_congr (c' :: cs) (fun x hx => h x (List.mem_cons_of_mem _ hx))]

theorem recordBy_congr {w w' : Cell → List Char} (cells : List Cell) (h : ∀ c ∈ cells, w c = w' c) :
    recordBy w cells = recordBy w' cells := by
  rw [recordBy, recordBy, joinBy_congr cells h]

theorem joinCells_eq : ∀ (cells : List Cell), joinCells cells = joinBy renderCell cells
  | [] => rfl
  | [_] => rfl
  | c :: c' :: cs => by rw [joinBy_cons_cons, ← joinCells_eq (c' :: cs)]; rfl

theorem renderRow_eq (cells : List Cell) : renderRow cells = recordBy renderCell cells := by
  rw [renderRow, recordBy, joinCells_eq]

variable (w : Cell → List Char) (r : Cell → Cell)

theorem run_joinBy : ∀ (cells : List Cell) (s : St), Fresh s →
    cells ≠ [] → (∀ c ∈ cells, ReadsAs d w r c) → ¬ (s.ps = .startRecord ∧ cells = [[]]) →
    run d s (joinBy w cells ++ ['\n']) = ⟨(s.row.reverse ++ cells.map r) :: s.recs, [], [], .startRecord⟩
  | [], _, _, h, _, _ => absurd rfl h
  | [c], s, hf, _, hr, hside => by
    obtain ⟨p, hp, hrun⟩ := hr c List.mem_cons_self s hf
    have hp : AtFieldEnd p := hp.elim id (fun h => absurd ⟨h.2.1, by rw [h.1]⟩ hside)
    rw [joinBy, run_append, hrun, run_cons, step_lf d _ hp, run_nil]
    simp
  | c :: c' :: cs, s, hf, _, hr, _ => by
    obtain ⟨p, hp, hrun⟩ := hr c List.mem_cons_self s hf
    rw [joinBy_cons_cons, List.append_assoc, run_append, hrun, List.cons_append, run_cons, step_comma d _ (hp.imp id (·.2.2)),
      run_joinBy (c' :: cs) _ ⟨rfl, Or.inl rfl⟩ (List.cons_ne_nil _ _)
        (fun x hx => hr x (List.mem_cons_of_mem _ hx)) (fun h => PS.noConfusion h.1)]
    simp

theorem run_recordBy (hnil : r [] = []) (cells : List Cell)
    (recs : List (List Cell)) (hr : ∀ c ∈ cells, ReadsAs d w r c) :
    run d ⟨recs, [], [], .startRecord⟩ (recordBy w cells) = ⟨cells.map r :: recs, [], [], .startRecord⟩ := by
  by_cases h1 : cells = [[]]
  · subst h1
    simp [recordBy, run_cons, run_nil, step, stepStartRecord, stepStartField, isEol, endRecord, eolNext, hnil]
  · by_cases h0 : cells = []
    · subst h0
      simp [recordBy, joinBy, run_cons, run_nil, step, stepStartRecord, isEol, eolNext]
    · rw [recordBy, if_neg h1, run_joinBy d w r cells _ ⟨rfl, Or.inr rfl⟩ h0 hr (fun h => h1 h.2)]
      rfl

theorem run_records (hnil : r [] = []) :
    ∀ (rows : List (List Cell)) (recs : List (List Cell)), (∀ row ∈ rows, ∀ c ∈ row, ReadsAs d w r c) →
    run d ⟨recs, [], [], .startRecord⟩ (rows.flatMap (recordBy w)) =
      ⟨(rows.map (·.map r)).reverse ++ recs, [], [], .startRecord⟩
  | [], _, _ => rfl
  | row :: rows, recs, hr => by
    rw [List.flatMap_cons, run_append, run_recordBy d w r hnil row recs (hr row List.mem_cons_self),
      run_records hnil rows _ (fun row' h' => hr row' (List.mem_cons_of_mem _ h'))]
    simp

theorem parse_recordBy (hnil : r [] = []) (rows : List (List Cell))
    (hr : ∀ row ∈ rows, ∀ c ∈ row, ReadsAs d w r c) : parse d (rows.flatMap (recordBy w)) = rows.map (·.map r) := by
  rw [parse, St.init, run_records d w r hnil rows [] hr]
  simp [finish]

theorem readsAs_renderCell (c : Cell) (hr : Readable d c) : ReadsAs d renderCell (asRead d) c := by
  by_cases hsp : c.any special = true
  · intro s hf
    refine ⟨.quoteInQuoted, Or.inl (Or.inr (Or.inr rfl)), ?_⟩
    rw [renderCell, if_pos hsp, asRead_eq_self d c (fun _ h => by simp [hsp] at h)]
    exact run_quoted d c s hf
  · have hsp : c.any special = false := by simpa using hsp
    have : renderCell c = id c := by rw [renderCell, hsp]; rfl
    intro s hf
    rw [this]
    exact run_bare d c (plain_of hsp (fun hcr => hr hcr hsp)) s hf

/-- **The reader inverts the writer.** Every record of `Readable d` cells written by `render` is read back by a reader of
    dialect `d`, cell by cell, as `asRead d` of what was written — for the standard dialect that is the cell itself. -/
theorem parse_render (d : Dialect) (rows : List (List Cell)) (hr : ∀ r ∈ rows, ∀ c ∈ r, Readable d c) :
    parse d (render rows) = rows.map (·.map (asRead d)) := by
  rw [render, funext renderRow_eq]
  exact parse_recordBy d renderCell (asRead d) (asRead_nil d) rows (fun row h c hc => readsAs_renderCell d c (hr row h c hc))

theorem readable_exetera (c : Cell) : Readable .exetera c := fun h => nomatch h

end Exetera.Spec.Csv

/-!
  ### `_csv_record`
  The reader inverts ExeTera's own record writer for EVERY cell content and for every reader dialect (blanks at the start of
  a field skipped or kept, a bare carriage return ending the record or not): a cell that starts with a blank or holds a
  carriage return is written in quotes.
-/
namespace Exetera.Export
open Exetera.Spec.Csv

theorem any_special_eq (c : Cell) : c.any special = (c.contains ',' || c.contains '"' || c.contains '\n') := by
  induction c with
  | nil => rfl
  | cons x xs ih =>
    have hx : ∀ y : Char, (y == x) = (x == y) := fun y => BEq.comm
    simp only [List.any_cons, List.contains_cons, ih, special, hx]
    cases (x == ',') <;> cases (x == '"') <;> cases (x == '\n') <;> simp only [Bool.false_or, Bool.true_or, Bool.or_true]

theorem bare_facts {c : Cell} (h : needsQuotes c = false) : c.any special = false ∧ '\r' ∉ c ∧ c.head? ≠ some ' ' := by
  simp only [needsQuotes, Bool.or_eq_false_iff] at h
  obtain ⟨⟨⟨⟨h1, h2⟩, h3⟩, h4⟩, h5⟩ := h
  refine ⟨by rw [any_special_eq, h2, h3, h4]; rfl, by simpa using h5, by simpa using h1⟩

theorem needsQuotes_of_special {c : Cell} (h : c.any special = true) : needsQuotes c = true := by
  cases hq : needsQuotes c with
  | true => rfl
  | false => rw [(bare_facts hq).1] at h; exact nomatch h

theorem readsAs_quoteCell (d : Dialect) (c : Cell) : ReadsAs d quoteCell id c := by
  intro s hf
  cases hq : needsQuotes c with
  | true =>
    refine ⟨.quoteInQuoted, Or.inl (Or.inr (Or.inr rfl)), ?_⟩
    rw [quoteCell, if_pos hq]
    exact run_quoted d c s hf
  | false =>
    obtain ⟨hsp, hcr, hb⟩ := bare_facts hq
    have hw : quoteCell c = c := by rw [quoteCell, hq]; rfl
    have h := run_bare d c (plain_of hsp (fun _ => hcr)) s hf
    rw [asRead_eq_self d c (fun _ _ => hb)] at h
    rw [hw]
    exact h

theorem joinRecord_eq : ∀ (cells : List Cell), joinRecord cells = joinBy quoteCell cells
  | [] => rfl
  | [_] => rfl
  | c :: c' :: cs => by rw [joinBy_cons_cons, ← joinRecord_eq (c' :: cs)]; rfl

theorem csvRecord_eq (cells : List Cell) : csvRecord cells = recordBy quoteCell cells := by
  rw [csvRecord, recordBy, joinRecord_eq]

/-- **The reader inverts ExeTera's record writer**, whatever the cells hold and whichever of the four dialects reads. -/
theorem parse_records (d : Dialect) (rows : List (List Cell)) : parse d (rows.flatMap csvRecord) = rows := by
  rw [funext csvRecord_eq, parse_recordBy d quoteCell id rfl rows (fun _ _ c _ => readsAs_quoteCell d c)]
  simp

theorem quoteCell_eq_renderCell (c : Cell) (h : c.head? ≠ some ' ' ∧ '\r' ∉ c) : quoteCell c = renderCell c := by
  have hb : (c.head? == some ' ') = false := by simpa using h.1
  have hc : c.contains '\r' = false := by simpa using h.2
  simp only [quoteCell, renderCell, needsQuotes, hb, hc, any_special_eq, Bool.false_or, Bool.or_false]

/-- **every other byte is what `csv.writer` writes**: a row without a blank-led cell and without a carriage return gives the
    same line under `_csv_record` and under `csv.writer` -/
theorem csvRecord_eq_renderRow (cells : List Cell) (h : ∀ c ∈ cells, c.head? ≠ some ' ' ∧ '\r' ∉ c) :
    csvRecord cells = renderRow cells := by
  rw [csvRecord_eq, renderRow_eq]
  exact recordBy_congr cells (fun c hc => quoteCell_eq_renderCell c (h c hc))

example := csvRecord_eq_renderRow [['a', ' '], ['p', ',', '"'], [], ['l', '\n']] (by decide +kernel)

example : parse .exetera ([[[' ', 'a'], ['i', '\r', 'j']], [[]], [[' '], ['\r', '\n']]].flatMap csvRecord)
    = [[[' ', 'a'], ['i', '\r', 'j']], [[]], [[' '], ['\r', '\n']]] := parse_records _ _

end Exetera.Export
