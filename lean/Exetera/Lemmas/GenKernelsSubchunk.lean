import Exetera.Gen.Kernels
import Exetera.Model.MapValid
import Exetera.Lemmas.GenKernels
/-!
  The TRANSLATED `next_map_subchunk` (two `while` loops whose guards subscript behind a short-circuiting `and`; the second with
  a `break` two blocks deep) computes exactly the hand-written model `MapValid.nextMapSubchunk`, for every map, start position,
  marker and chunk size, and every fuel ≥ len(map_) − sm.  It never fails: every subscript is behind `sm < len(map_)`.
-/
namespace Exetera.GenK

open Exetera Exetera.PyRt Exetera.Gen.Kernels
open Exetera.MapValid (scanWhile scanAsc nextMapSubchunk)

namespace Sub

abbrev St := next_map_subchunk.St

/-- `sm < len(map_) and … map_[sm] …`, the shape of both guards: the subscript is evaluated only inside the map -/
theorem guard_at {β} (m : List Int) (j : Nat) (site : String) (K : Int → Except Err β) (d : Except Err β) :
    (if decide ((j : Int) < pyLen m) then bindE (idxE m (j : Int) site) K else d) = if h : j < m.length then K m[j] else d := by
  by_cases h : j < m.length
  · rw [dif_pos h, if_pos (show decide ((j : Int) < pyLen m) = true from decide_eq_true (Int.ofNat_lt.mpr h)), idxE_nat,
      getE_of_lt _ h, bindE_ok]
  · rw [dif_neg h, if_neg (show ¬ decide ((j : Int) < pyLen m) = true from fun hd => h (Int.ofNat_lt.mp (of_decide_eq_true hd)))]

theorem loop1 (s : St) (j fuel : Nat) (hj : s.p1 = j) (hf : s.p0.length - j ≤ fuel) :
    whileG next_map_subchunk.guardE_L1 next_map_subchunk.body_L1 fuel s
      = .ok { s with p1 := ((scanWhile (fun x => x == s.p2) (s.p0.drop j) j : Nat) : Int) } := by
  generalize hr : scanWhile (fun x => x == s.p2) (s.p0.drop j) j = r
  refine whileG_rule
    (fun n t => ∃ j, t = { s with p1 := (j : Int) } ∧ n = s.p0.length - j ∧ scanWhile (fun x => x == s.p2) (s.p0.drop j) j = r)
    (· = .ok { s with p1 := (r : Int) }) ?_ fuel _ s ⟨j, by rw [← hj], rfl, hr⟩ hf
  rintro n t ⟨j, rfl, rfl, hr⟩
  simp only [next_map_subchunk.guardE_L1, guard_at]
  by_cases hj : j < s.p0.length
  · rw [List.drop_eq_getElem_cons hj, scanWhile] at hr
    rw [dif_pos hj]
    split at hr
    · rename_i hx
      rw [hx]
      exact ⟨Nat.sub_pos_of_lt hj, j + 1, rfl, by omega, hr⟩
    · rename_i hx
      rw [Bool.not_eq_true] at hx
      rw [hx, ← hr]
  · rw [List.drop_eq_nil_of_le (Nat.le_of_not_lt hj), scanWhile] at hr
    rw [dif_neg hj, hr]

/-- second loop: ends where the window `chunksize` is exceeded or a valid entry steps back (`break`: the flag is up, `sm` stays,
    and the next evaluation of the guard ends the loop) -/
theorem loop2 (s : St) (cs j fuel : Nat) (h3 : s.p3 = (cs : Int)) (hj : s.p1 = j) (hb : s.brk2 = false)
    (hf : s.p0.length - j ≤ fuel) :
    ∃ s', whileG next_map_subchunk.guardE_L2 next_map_subchunk.body_L2 fuel s = .ok s' ∧
      s'.p1 = ((scanAsc s.p2 s.v0 cs s.v1 (s.p0.drop j) j : Nat) : Int) := by
  generalize hr : scanAsc s.p2 s.v0 cs s.v1 (s.p0.drop j) j = r
  refine whileG_rule
    (fun n t => (t.p1 = (r : Int) ∧ t.brk2 = true) ∨ ∃ (j : Nat) (prev : Int), t = { s with p1 := (j : Int), v1 := prev } ∧
      n = s.p0.length - j ∧ scanAsc s.p2 s.v0 cs prev (s.p0.drop j) j = r)
    (fun o => ∃ s', o = .ok s' ∧ s'.p1 = (r : Int)) ?_ fuel _ s (.inr ⟨j, s.v1, by rw [← hj], rfl, hr⟩) hf
  rintro n t (⟨h1, hbk⟩ | ⟨j, prev, rfl, rfl, hr⟩)
  · simp only [next_map_subchunk.guardE_L2, hbk, if_true]
    exact ⟨t, rfl, h1⟩
  · simp only [next_map_subchunk.guardE_L2, hb, Bool.false_eq_true, if_false, guard_at]
    by_cases hj : j < s.p0.length
    · rw [List.drop_eq_getElem_cons hj, scanAsc] at hr
      rw [dif_pos hj, h3]
      split at hr
      · rename_i hw
        rw [decide_eq_true hw]
        refine ⟨Nat.sub_pos_of_lt hj, ?_⟩
        simp only [next_map_subchunk.body_L2, idxE_nat, getE_of_lt _ hj, bindE_ok]
        split at hr
        · rename_i hne
          simp only [hne, if_true]
          split at hr
          · rename_i hp
            simp only [decide_eq_true hp, if_true, bindE_ok]
            exact .inl ⟨congrArg _ hr, trivial⟩
          · rename_i hp
            simp only [decide_eq_false hp, Bool.false_eq_true, if_false, bindE_ok, idxE_nat, getE_of_lt _ hj]
            exact .inr ⟨j + 1, _, rfl, by omega, hr⟩
        · rename_i hne
          simp only [hne, if_false, bindE_ok, Bool.false_eq_true]
          exact .inr ⟨j + 1, prev, rfl, by omega, hr⟩
      · rename_i hw
        rw [decide_eq_false hw]
        exact ⟨_, rfl, congrArg _ hr⟩
    · rw [List.drop_eq_nil_of_le (Nat.le_of_not_lt hj), scanAsc] at hr
      rw [dif_neg hj]
      exact ⟨_, rfl, congrArg _ hr⟩

end Sub

theorem scanWhile_ge (p : Int → Bool) : ∀ (xs : List Int) (sm : Nat), sm ≤ scanWhile p xs sm
  | [], sm => Nat.le_refl _
  | x :: xs, sm => by
    simp only [scanWhile]
    split
    · exact Nat.le_trans (Nat.le_succ sm) (scanWhile_ge p xs (sm + 1))
    · exact Nat.le_refl _

theorem next_map_subchunk_eq (m : List Int) (sm : Nat) (inv : Int) (cs : Nat) (fuel : Nat) (hf : m.length - sm ≤ fuel) :
    next_map_subchunk.run m sm inv cs fuel = .ok ((nextMapSubchunk m sm inv cs : Nat) : Int) := by
  unfold next_map_subchunk.run nextMapSubchunk
  simp only [Sub.loop1 (⟨m, sm, inv, cs, -1, 0, false⟩ : Sub.St) sm fuel rfl hf, bindE_ok, Sub.guard_at]
  have hge := scanWhile_ge (fun x => x == inv) (m.drop sm) sm
  generalize scanWhile (fun x => x == inv) (m.drop sm) sm = sm1 at hge ⊢
  by_cases hl : sm1 < m.length
  · obtain ⟨s', hw, hp1⟩ := Sub.loop2 (⟨m, sm1, inv, cs, m[sm1], m[sm1], false⟩ : Sub.St) cs sm1 fuel rfl rfl rfl
      (show m.length - sm1 ≤ fuel by omega)
    simp only [dif_pos hl, List.getElem?_eq_getElem hl, bindE_ok, hw, hp1]
  · obtain ⟨s', hw, hp1⟩ := Sub.loop2 (⟨m, sm1, inv, cs, -1, -1, false⟩ : Sub.St) cs sm1 fuel rfl rfl rfl
      (show m.length - sm1 ≤ fuel by omega)
    simp only [dif_neg hl, List.getElem?_eq_none (Nat.le_of_not_lt hl), bindE_ok, hw, hp1,
      List.drop_eq_nil_of_le (Nat.le_of_not_lt hl), scanAsc]

end Exetera.GenK
