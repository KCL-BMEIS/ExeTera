import Exetera.Lemmas.TransformsBasic
/-! C06: the validation-mode branches of `transform_int` / `transform_float` against the table `numericColumn`, for any
text-to-number parser; and that `int()` on bytes meets the one assumption made of the parser (blank text is rejected). -/
namespace Exetera.Transforms
open Exetera Exetera.Spec.Transforms

def classOf {V} (parse : Bytes → Parsed V) (t : Bytes) : CellClass V :=
  if npNonEmpty t then
    match parse t with
    | .val v => .value v
    | .bad => .garbage
    | .overflow => .outOfRange
  else .empty

theorem classOf_empty {V} (parse : Bytes → Parsed V) (t : Bytes) (h : npNonEmpty t = false) :
    classOf parse t = .empty := by simp [classOf, h]
theorem classOf_val {V} (parse : Bytes → Parsed V) (t : Bytes) (v : V) (h : npNonEmpty t = true) (hp : parse t = .val v) :
    classOf parse t = .value v := by simp [classOf, h, hp]
theorem classOf_bad {V} (parse : Bytes → Parsed V) (t : Bytes) (h : npNonEmpty t = true) (hp : parse t = .bad) :
    classOf parse t = .garbage := by simp [classOf, h, hp]
theorem classOf_overflow {V} (parse : Bytes → Parsed V) (t : Bytes) (h : npNonEmpty t = true) (hp : parse t = .overflow) :
    classOf parse t = .outOfRange := by simp [classOf, h, hp]

theorem strict_spec {V} (parse : Bytes → Parsed V) (inv : V) (hblank : ∀ t, npNonEmpty t = false → parse t = .bad)
    (ts : List Bytes) :
    (astypeAll parse ts).toOption = (numericColumn .strict inv (ts.map (classOf parse))).map (·.1) := by
  induction ts with
  | nil => rfl
  | cons t ts ih =>
    simp only [List.map_cons, numericColumn_cons]
    rw [astypeAll]
    generalize numericColumn Mode.strict inv (ts.map (classOf parse)) = col at ih ⊢
    cases hne : npNonEmpty t with
    | false =>
      rw [classOf_empty parse t hne, hblank t hne]
      simp [numericCell, consCell, Except.toOption]
    | true =>
      cases hp : parse t with
      | bad => rw [classOf_bad parse t hne hp]; simp [numericCell, consCell, Except.toOption]
      | overflow => rw [classOf_overflow parse t hne hp]; simp [numericCell, consCell, Except.toOption]
      | val v =>
        rw [classOf_val parse t v hne hp]
        cases ha : astypeAll parse ts <;> cases col <;> simp_all [numericCell, consCell, Except.toOption]

theorem allowEmpty_spec {V} (parse : Bytes → Parsed V) (invText : Bytes) (inv : V) (hinv : parse invText = .val inv)
    (ts : List Bytes) :
    (astypeAll parse (ts.map (fun t => if npNonEmpty t then t else invText))).toOption.map (fun vs => (vs, ts.map npNonEmpty))
      = numericColumn .allowEmpty inv (ts.map (classOf parse)) := by
  induction ts with
  | nil => rfl
  | cons t ts ih =>
    simp only [List.map_cons, numericColumn_cons]
    rw [astypeAll, ← ih]
    generalize astypeAll parse (ts.map (fun t => if npNonEmpty t then t else invText)) = tail
    cases hne : npNonEmpty t with
    | false =>
      rw [classOf_empty parse t hne]
      simp only [Bool.false_eq_true, if_false, hinv, numericCell]
      cases tail <;> simp [consCell, Except.toOption]
    | true =>
      simp only [if_true]
      cases hp : parse t with
      | bad => rw [classOf_bad parse t hne hp]; simp [numericCell, consCell, Except.toOption]
      | overflow => rw [classOf_overflow parse t hne hp]; simp [numericCell, consCell, Except.toOption]
      | val v =>
        rw [classOf_val parse t v hne hp]
        cases tail <;> simp [numericCell, consCell, Except.toOption]

theorem relaxed_spec {V} (parse : Bytes → Parsed V) (inv : V) (hblank : ∀ t, npNonEmpty t = false → parse t = .bad)
    (ts : List Bytes) :
    (relaxedAll parse inv ts).toOption = numericColumn .relaxed inv (ts.map (classOf parse)) := by
  induction ts with
  | nil => rfl
  | cons t ts ih =>
    simp only [List.map_cons, numericColumn_cons]
    rw [relaxedAll, ← ih]
    generalize relaxedAll parse inv ts = tail
    cases hne : npNonEmpty t with
    | false =>
      rw [classOf_empty parse t hne, hblank t hne]
      cases tail <;> simp [numericCell, consCell, Except.toOption]
    | true =>
      cases hp : parse t with
      | overflow => rw [classOf_overflow parse t hne hp]; simp [numericCell, consCell, Except.toOption]
      | bad => rw [classOf_bad parse t hne hp]; cases tail <;> simp [numericCell, consCell, Except.toOption]
      | val v => rw [classOf_val parse t v hne hp]; cases tail <;> simp [numericCell, consCell, Except.toOption]

theorem parseIntPy_blank (t : Bytes) (h : npNonEmpty t = false) : parseIntPy t = none := by
  have hall : ∀ b ∈ t, isSpaceByte b = true ∨ b = 0 := by
    intro b hb
    have := List.any_eq_false.mp h b hb
    cases hs : isSpaceByte b with
    | true => exact Or.inl rfl
    | false => right; simpa [hs] using this
  unfold parseIntPy stripSpace
  cases hd : t.dropWhile isSpaceByte with
  | nil => simp
  | cons b d' =>
    have hb : isSpaceByte b = false := by
      have := List.head_dropWhile_not (p := isSpaceByte) (l := t) (by rw [hd]; simp)
      simpa [hd] using this
    have hmem : b ∈ t := (List.dropWhile_sublist isSpaceByte).subset (by rw [hd]; simp)
    have hb0 : b = 0 := by
      rcases hall b hmem with h1 | h1
      · rw [h1] at hb; cases hb
      · exact h1
    subst hb0
    have : ∃ rest, ((0 :: d').reverse.dropWhile isSpaceByte).reverse = 0 :: rest := by
      rw [List.reverse_cons, List.dropWhile_append]
      split
      · exact ⟨[], by simp [List.dropWhile, hb]⟩
      · exact ⟨(d'.reverse.dropWhile isSpaceByte).reverse, by simp⟩
    obtain ⟨rest, hr⟩ := this
    rw [hr]
    simp [digitsVal, isDigit]

theorem parseIntRange_blank (lo hi : Int) (t : Bytes) (h : npNonEmpty t = false) : parseIntRange lo hi t = .bad := by
  simp [parseIntRange, parseIntPy_blank t h]

end Exetera.Transforms
