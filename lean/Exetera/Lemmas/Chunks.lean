import Exetera.Model.Join
import Exetera.Lemmas.Basic
/-! Chunk fetching: every chunk handed to a kernel is a non-empty window of the column at the right offset; a trimmed
    chunk ends at a run boundary (or at the end of the column), an untrimmed one fills its window. Holds for every chunk
    size ≥ 1 thanks to the widening loop. -/
namespace Exetera.Join
open Exetera

theorem countBackFrom_le (a : List Int) : ∀ v, countBackFrom a v ≤ v
  | 0 => Nat.le_refl 0
  | v + 1 => by
    simp only [countBackFrom]
    split
    · exact Nat.le_refl _
    · exact Nat.le_succ_of_le (countBackFrom_le a v)

theorem countBackFrom_pos (a : List Int) : ∀ v, 0 < countBackFrom a v →
    a[countBackFrom a v - 1]? ≠ a[countBackFrom a v]?
  | 0 => by simp [countBackFrom]
  | v + 1 => by
    simp only [countBackFrom]
    split
    · rename_i h; intro _; simpa using h
    · exact countBackFrom_pos a v

structure ChunkOK (xs : List Int) (c : Chunk) : Prop where
  lo_le : c.lo ≤ c.hi
  hi_le : c.hi ≤ xs.length
  nonempty : c.lo < xs.length → c.lo < c.hi
  get : ∀ i, i < c.hi - c.lo → c.data[i]? = xs[c.lo + i]?
  len : c.data.length ≤ xs.length - c.lo

/-- a trimmed chunk ends where a run of equal keys ends -/
def Boundary (xs : List Int) (c : Chunk) : Prop := c.hi = xs.length ∨ xs[c.hi - 1]? ≠ xs[c.hi]?

structure ChunkFor (trim : Bool) (xs : List Int) (c : Chunk) : Prop where
  ok : ChunkOK xs c
  bd : trim = true → Boundary xs c
  len : trim = false → c.data.length = c.hi - c.lo

theorem nextChunk_eq (cur len d : Nat) : nextChunk cur len d = (cur, min (cur + d) len) := by
  unfold nextChunk
  split <;> (congr 1; omega)

theorem nextChunk_cases (cur len d : Nat) :
    nextChunk cur len d = (cur, cur + d) ∧ cur + d < len ∨ nextChunk cur len d = (cur, len) ∧ len ≤ cur + d := by
  unfold nextChunk
  split
  · exact .inl ⟨rfl, ‹_›⟩
  · exact .inr ⟨rfl, Nat.le_of_not_lt ‹_›⟩

/-- the window `[lo, hi)` read from `xs`, cut back to `[lo, mid)` -/
theorem window_ok (xs : List Int) {lo mid hi : Nat} (h1 : lo ≤ mid) (hne : lo < xs.length → lo < mid) (h2 : mid ≤ hi)
    (h3 : hi ≤ xs.length) : ChunkOK xs ⟨lo, mid, slice xs lo hi⟩ :=
  ⟨h1, Nat.le_trans h2 h3, hne, fun i hi' => slice_getElem?_of_lt xs lo hi i (Nat.lt_of_lt_of_le hi' (Nat.sub_le_sub_right h2 lo)),
    by simp only [slice_length]; exact Nat.min_le_right _ _⟩

theorem final_ok (xs : List Int) {lo : Nat} (h : lo ≤ xs.length) :
    ChunkOK xs ⟨lo, xs.length, slice xs lo xs.length⟩ ∧ Boundary xs ⟨lo, xs.length, slice xs lo xs.length⟩ :=
  ⟨window_ok xs h id (Nat.le_refl _) (Nat.le_refl _), Or.inl rfl⟩

/-- cutting the window `[lo, hi)` at a `count_back` position `t > 0` ends the chunk at a run boundary -/
theorem trimmed_ok (xs : List Int) {lo hi : Nat} (hhi : hi ≤ xs.length) (ht : 0 < countBack (slice xs lo hi)) :
    ChunkOK xs ⟨lo, lo + countBack (slice xs lo hi), slice xs lo hi⟩ ∧
    Boundary xs ⟨lo, lo + countBack (slice xs lo hi), slice xs lo hi⟩ := by
  have hle := countBackFrom_le (slice xs lo hi) ((slice xs lo hi).length - 1)
  have hb := countBackFrom_pos (slice xs lo hi) _ ht
  unfold countBack at ht ⊢
  generalize countBackFrom (slice xs lo hi) ((slice xs lo hi).length - 1) = t at *
  have hlt : t < hi - lo := by simp only [slice_length] at hle; omega
  refine ⟨window_ok xs (Nat.le_add_right lo t) (fun _ => Nat.lt_add_of_pos_right ht) (by omega) hhi, Or.inr ?_⟩
  rw [slice_getElem?_of_lt xs lo hi _ (Nat.lt_of_le_of_lt (Nat.sub_le t 1) hlt), slice_getElem?_of_lt xs lo hi _ hlt] at hb
  rwa [show lo + t - 1 = lo + (t - 1) by omega]

/-- one round of the widening loop: a chunk, or another round with the size doubled -/
theorem growChunk_step (xs : List Int) (start : Nat) (hs : start ≤ xs.length) (f cs : Nat) :
    (∃ c, growChunk xs start (f + 1) cs = .ok c ∧ c.lo = start ∧ ChunkOK xs c ∧ Boundary xs c) ∨
    (start + cs * 2 < xs.length ∧ growChunk xs start (f + 1) cs = growChunk xs start f (cs * 2)) := by
  rw [growChunk]
  rcases nextChunk_cases start xs.length (cs * 2) with ⟨e, h⟩ | ⟨e, h⟩
  · have hne : (start + cs * 2 == xs.length) = false := by simpa using Nat.ne_of_lt h
    simp only [e, hne, Bool.false_eq_true, if_false]
    by_cases ht : countBack (slice xs start (start + cs * 2)) = 0
    · rw [if_pos (by simpa using ht)]
      exact .inr ⟨h, rfl⟩
    · rw [if_neg (by simpa using ht)]
      exact .inl ⟨_, rfl, rfl, trimmed_ok xs (Nat.le_of_lt h) (Nat.pos_of_ne_zero ht)⟩
  · simp only [e, beq_self_eq_true, if_true]
    exact .inl ⟨_, rfl, rfl, final_ok xs hs⟩

theorem growChunk_ok (xs : List Int) (start : Nat) (hs : start ≤ xs.length) :
    ∀ (f cs : Nat), 0 < cs → xs.length ≤ start + cs * 2 ^ (f + 1) →
      ∃ c, growChunk xs start (f + 1) cs = .ok c ∧ c.lo = start ∧ ChunkOK xs c ∧ Boundary xs c
  | 0, cs, hcs, h => by
    rcases growChunk_step xs start hs 0 cs with hc | ⟨hlt, _⟩
    · exact hc
    · simp only [Nat.zero_add, Nat.pow_one] at h; omega
  | f + 1, cs, hcs, h => by
    rcases growChunk_step xs start hs (f + 1) cs with hc | ⟨_, he⟩
    · exact hc
    · rw [he]
      refine growChunk_ok xs start hs f (cs * 2) (by omega) ?_
      rw [Nat.mul_assoc, ← Nat.pow_succ']; exact h

theorem getNextChunk_ok (xs : List Int) (start cs : Nat) (hcs : 0 < cs) (hs : start ≤ xs.length) :
    ∃ c, getNextChunk xs start cs = .ok c ∧ c.lo = start ∧ ChunkOK xs c ∧ Boundary xs c := by
  unfold getNextChunk
  rcases nextChunk_cases start xs.length cs with ⟨e, h⟩ | ⟨e, h⟩
  · have hne : (start + cs != xs.length) = true := by simpa using Nat.ne_of_lt h
    simp only [e, hne, if_true]
    by_cases ht : countBack (slice xs start (start + cs)) = 0
    · rw [if_pos (by simpa using ht)]
      -- doubling `cs` `|xs| + 1` times passes the end of the column
      refine growChunk_ok xs start hs xs.length cs hcs ?_
      have := Nat.le_mul_of_pos_left (2 ^ (xs.length + 1)) hcs
      have := Nat.lt_two_pow_self (n := xs.length + 1)
      omega
    · rw [if_neg (by simpa using ht)]
      exact ⟨_, rfl, rfl, trimmed_ok xs (Nat.le_of_lt h) (Nat.pos_of_ne_zero ht)⟩
  · simp only [e, bne_self_eq_false, Bool.false_eq_true, if_false]
    exact ⟨_, rfl, rfl, final_ok xs hs⟩

theorem fetchChunk_ok (trim : Bool) (xs : List Int) (start cs : Nat) (hcs : 0 < cs) (hs : start ≤ xs.length) :
    ∃ c, fetchChunk trim xs start cs = .ok c ∧ c.lo = start ∧ ChunkFor trim xs c := by
  cases trim with
  | true =>
    obtain ⟨c, h1, h2, h3, h4⟩ := getNextChunk_ok xs start cs hcs hs
    exact ⟨c, h1, h2, h3, fun _ => h4, nofun⟩
  | false =>
    refine ⟨_, rfl, by simp only [getUntrimmedChunk, nextChunk_eq], ?_, nofun, fun _ => ?_⟩
    · simp only [getUntrimmedChunk, nextChunk_eq]
      exact window_ok xs (Nat.le_min.mpr ⟨Nat.le_add_right _ _, hs⟩)
        (fun h => Nat.lt_min.mpr ⟨Nat.lt_add_of_pos_right hcs, h⟩) (Nat.le_refl _) (Nat.min_le_right _ _)
    · simp only [getUntrimmedChunk, nextChunk_eq, slice_length]; omega

end Exetera.Join
