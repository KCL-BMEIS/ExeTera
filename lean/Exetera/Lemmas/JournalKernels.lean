import Exetera.Model.Journal
import Exetera.Spec.Journal
import Exetera.Lemmas.PrefixSums
/-!
  The compare and merge kernels of snapshot journalling, on maps and flags given slot by slot (`ks.map f`).

  * `compare_rows_for_journalling` / `compare_indexed_rows_for_journalling`: one call ORs, slot by slot, the column's
    verdict into `to_keep`.
  * `merge_journalled_entries`, `merge_indexed_journalled_entries_count`, `merge_indexed_journalled_entries` share one control
    skeleton: for every slot, copy the old rows up to the slot's old entry, then append the snapshot row if the slot is kept.
    The skeleton is proved once, against an abstract "the state represents the emitted row list `R`" relation; each kernel
    instantiates it.
-/
namespace Exetera.Journal
open Exetera Exetera.Spec.Journal

theorem forE_succ_start {σ} (body : Nat → σ → Except Err σ) : ∀ (n i : Nat) (s : σ),
    forE body n (i + 1) s = forE (fun j => body (j + 1)) n i s
  | 0, _, _ => rfl
  | n + 1, i, s => by
    rw [forE, forE]
    cases body (i + 1) s with
    | error e => rfl
    | ok s' => exact forE_succ_start body n (i + 1) s'

/-- invariant: the cells before the cursor already hold `h k`, those from the cursor on still `g k` -/
theorem forE_map {κ α} {body : Nat → List α → Except Err (List α)} {g h : κ → α} {ks : List κ}
    (hstep : ∀ l k r, ks = l ++ k :: r → body l.length (l.map h ++ g k :: r.map g) = .ok (l.map h ++ h k :: r.map g)) :
    ∀ (post pre : List κ), ks = pre ++ post → forE body post.length pre.length (pre.map h ++ post.map g) = .ok (ks.map h)
  | [], pre, e => by simp [forE, e]
  | k :: post, pre, e => by
    have ih := forE_map hstep post (pre ++ [k]) (by simp [e])
    rw [List.length_cons, forE, List.map_cons, hstep pre k post e]
    simpa using ih

theorem getI_of_nat {α} {xs : List α} {r : Nat} (site : String) (h : r < xs.length) :
    getI xs (r : Int) site = .ok xs[r] := by
  unfold getI
  rw [if_pos (Int.natCast_nonneg r)]
  simp [getE_of_lt site h]

/-! ### the (indices, values) layout of an indexed string column: offsets are prefix sums, a row is the slice between two
    consecutive offsets -/

def preLen (ss : List (List Int)) (r : Nat) : Nat := (ss.take r).flatten.length

theorem preLen_zero (ss : List (List Int)) : preLen ss 0 = 0 := by simp [preLen]

theorem preLen_succ {ss : List (List Int)} {r : Nat} (h : r < ss.length) : preLen ss (r + 1) = preLen ss r + ss[r].length := by
  unfold preLen
  rw [List.take_succ_eq_append_getElem h, List.flatten_append, List.length_append, List.flatten_singleton]

theorem offsetsFrom_eq_prefixSums (acc : Nat) (ss : List (List Int)) :
    offsetsFrom acc ss = prefixSums acc (ss.map List.length) := by
  induction ss generalizing acc with
  | nil => rfl
  | cons s ss ih => simp [offsetsFrom, prefixSums, ih]

theorem offsetsFrom_length (ss : List (List Int)) (acc : Nat) : (offsetsFrom acc ss).length = ss.length + 1 := by
  rw [offsetsFrom_eq_prefixSums, prefixSums.length_eq, List.length_map]

theorem offsetsFrom_getElem? (ss : List (List Int)) (acc r : Nat) (h : r ≤ ss.length) :
    (offsetsFrom acc ss)[r]? = some (acc + preLen ss r) := by
  rw [offsetsFrom_eq_prefixSums, prefixSums.getElem?_lengths acc ss r h, preLen]

theorem offsetsFrom_getLast? (ss : List (List Int)) (acc : Nat) :
    (offsetsFrom acc ss).getLast? = some (acc + ss.flatten.length) := by
  rw [offsetsFrom_eq_prefixSums, prefixSums.getLast?_lengths]

theorem offsetsFrom_snoc (R : List (List Int)) (row : List Int) (acc : Nat) :
    offsetsFrom acc (R ++ [row]) = offsetsFrom acc R ++ [acc + R.flatten.length + row.length] := by
  rw [offsetsFrom_eq_prefixSums, offsetsFrom_eq_prefixSums, prefixSums.snoc_lengths]

theorem encode_inds_length (ss : List (List Int)) : (encode ss).1.length = ss.length + 1 := offsetsFrom_length ss 0

theorem getE_encode {ss : List (List Int)} {r : Nat} (site : String) (h : r ≤ ss.length) :
    getE (encode ss).1 r site = .ok (preLen ss r) := by
  rw [getE_eq_ok, encode, offsetsFrom_getElem? ss 0 r h, Nat.zero_add]

theorem getI_encode {ss : List (List Int)} {r : Nat} (site : String) (h : r ≤ ss.length) :
    getI (encode ss).1 (r : Int) site = .ok (preLen ss r) := by
  rw [getI, if_pos (Int.natCast_nonneg r), Int.toNat_natCast, getE_encode site h]

theorem getI_encode_succ {ss : List (List Int)} {r : Nat} (site : String) (h : r < ss.length) :
    getI (encode ss).1 ((r : Int) + 1) site = .ok (preLen ss r + ss[r].length) :=
  preLen_succ h ▸ getI_encode (r := r + 1) site h

theorem deltaE_add (a n : Nat) : deltaE a (a + n) = .ok n := by
  rw [deltaE, if_pos (Nat.le_add_right a n), Nat.add_sub_cancel_left]

theorem slice_flatten {ss : List (List Int)} {r : Nat} (h : r < ss.length) :
    slice ss.flatten (preLen ss r) (preLen ss r + ss[r].length) = ss[r] := by
  have hfl : ss.flatten = (ss.take r).flatten ++ (ss[r] ++ (ss.drop (r + 1)).flatten) := by
    rw [← List.flatten_cons, ← List.flatten_append, List.getElem_cons_drop, List.take_append_drop]
  rw [slice, preLen, Nat.add_sub_cancel_left, hfl, List.drop_left, List.take_left]

theorem rowBytes_encode {ss : List (List Int)} {r : Nat} (site : String) (h : r < ss.length) :
    rowBytes (encode ss).1 (encode ss).2 (r : Int) site = .ok ss[r] := by
  simp only [rowBytes, getI_encode site (Nat.le_of_lt h), getI_encode_succ site h, bind, Except.bind, pure, Except.pure]
  exact congrArg _ (slice_flatten h)

/-! ### compare_rows_for_journalling / compare_indexed_rows_for_journalling -/

/-- the verdict of one compared column on a slot with map entries `o`, `n`; `d` = the two cells differ -/
def slotKeep (o n : Int) (d : Bool) : Bool := if o == -1 then true else if n == -1 then false else d

theorem compareBody_cell {om nm : List Int} {differs : Int → Int → Except Err Bool} {i : Nat} {tl tr : List Bool} {t : Bool}
    {o n : Int} {d : Bool} (hi : tl.length = i) (ho : om[i]? = some o) (hn : nm[i]? = some n)
    (hd : o ≠ -1 → n ≠ -1 → differs o n = .ok d) :
    compareBody om nm differs i (tl ++ t :: tr) = .ok (tl ++ (t || slotKeep o n d) :: tr) := by
  subst hi
  have hg : getE (tl ++ t :: tr) tl.length "to_keep[i]" = .ok t := by simp
  have hs : ∀ v, setTk (tl ++ t :: tr) tl.length v = .ok (tl ++ v :: tr) := fun v => by simp [setTk, setE]
  simp only [compareBody, hg, getE_eq_ok.2 ho, getE_eq_ok.2 hn, hs, bind, Except.bind, pure, Except.pure]
  cases t with
  | true => rfl
  | false =>
    by_cases ho1 : o = -1
    · simp [slotKeep, ho1]
    · by_cases hn1 : n = -1
      · simp [slotKeep, ho1, hn1]
      · simp [slotKeep, ho1, hn1, hd ho1 hn1]

theorem compare_loop_map {κ} (ks : List κ) (f1 f2 : κ → Int) (g Dk : κ → Bool) (differs : Int → Int → Except Err Bool)
    (hD : ∀ k, k ∈ ks → f1 k ≠ -1 → f2 k ≠ -1 → differs (f1 k) (f2 k) = .ok (Dk k)) :
    forE (compareBody (ks.map f1) (ks.map f2) differs) (ks.map f1).length 0 (ks.map g) =
      .ok (ks.map (fun k => g k || slotKeep (f1 k) (f2 k) (Dk k))) := by
  have := forE_map (body := compareBody (ks.map f1) (ks.map f2) differs) (g := g)
    (h := fun k => g k || slotKeep (f1 k) (f2 k) (Dk k)) (ks := ks)
    (fun l k r e => compareBody_cell (by simp) (by simp [e]) (by simp [e]) (hD k (by simp [e]))) ks [] rfl
  simpa using this

/-! ### the slot-wise plan a merge kernel follows -/

/-- rows contributed by a slot with map entries `o`, `n` and keep flag `k` when `cur` old rows are already copied -/
def slotRows (cur : Nat) (o n : Int) (k : Bool) : List Src :=
  (List.range' cur ((o + 1).toNat - cur)).map .old ++ (if k then [.new n.toNat] else [])

def curAfter (cur : Nat) (o : Int) : Nat := max cur (o + 1).toNat

section plan
variable {κ : Type} (f1 f2 : κ → Int) (g : κ → Bool)

def kPlan : Nat → List κ → List Src
  | _, [] => []
  | cur, k :: ks => slotRows cur (f1 k) (f2 k) (g k) ++ kPlan (curAfter cur (f1 k)) ks

def kCur : Nat → List κ → Nat
  | cur, [] => cur
  | cur, k :: ks => kCur (curAfter cur (f1 k)) ks

theorem kPlan_append : ∀ (a b : List κ) (cur : Nat),
    kPlan f1 f2 g cur (a ++ b) = kPlan f1 f2 g cur a ++ kPlan f1 f2 g (kCur f1 cur a) b
  | [], b, cur => by simp [kPlan, kCur]
  | k :: a, b, cur => by simp [kPlan, kCur, kPlan_append a b]

theorem kCur_append : ∀ (a b : List κ) (cur : Nat), kCur f1 cur (a ++ b) = kCur f1 (kCur f1 cur a) b
  | [], b, cur => by simp [kCur]
  | k :: a, b, cur => by simp [kCur, kCur_append a b]

end plan

def oldSeg {α} (oldRows : List α) (c m : Nat) : List α := (List.range' c m).filterMap (fun r => oldRows[r]?)

theorem column_slotRows {α} (oldRows newRows : List α) (cur : Nat) (o n : Int) (k : Bool) :
    column (slotRows cur o n k) oldRows newRows =
      oldSeg oldRows cur ((o + 1).toNat - cur) ++ (if k then (newRows[n.toNat]?).toList else []) := by
  unfold column slotRows oldSeg
  rw [List.filterMap_append, List.filterMap_map]
  congr 1
  cases k
  · simp
  · cases h : newRows[n.toNat]? <;> simp [pick, h]

/-- `cur_old <= old_map[i]`, and the loop's variant, with the bound as a row count -/
theorem guard_toNat (c : Nat) (o : Int) : decide ((c : Int) ≤ o) = decide (c < (o + 1).toNat) := by
  congr 1; rw [Int.lt_toNat, Int.lt_add_one_iff]

theorem fuel_toNat (c : Nat) (o : Int) : (o + 1 - (c : Int)).toNat = (o + 1).toNat - c := Int.toNat_sub' _ _

section skeleton
variable {σ α : Type}

/-- the common loop body: `copy` is one iteration of `while cur_old <= old_map[i]`, `app n` appends snapshot row `n` -/
def genBody (cur : σ → Nat) (copy : σ → Except Err σ) (app : Int → σ → Except Err σ) (om nm : List Int) (tk : List Bool)
    (i : Nat) (s : σ) : Except Err σ := do
  let o ← getE om i "old_map[i]"
  let s1 ← whileE (fun s => decide ((cur s : Int) ≤ o)) copy (o + 1 - (cur s : Int)).toNat s
  let k ← getE tk i "to_keep[i]"
  if k then
    let n ← getE nm i "new_map[i]"
    app n s1
  else pure s1

variable (cur : σ → Nat) (copy : σ → Except Err σ) (app : Int → σ → Except Err σ)
  (Rep : σ → List α → Prop) (Fits : List α → Prop) (oldRows newRows : List α)
  (hfits : ∀ R R', Fits (R ++ R') → Fits R)
  (hcopy : ∀ s R, Rep s R → (h : cur s < oldRows.length) → Fits (R ++ [oldRows[cur s]]) →
      ∃ s', copy s = .ok s' ∧ cur s' = cur s + 1 ∧ Rep s' (R ++ [oldRows[cur s]]))
  (happ : ∀ s R (j : Nat), Rep s R → (h : j < newRows.length) → Fits (R ++ [newRows[j]]) →
      ∃ s', app (j : Int) s = .ok s' ∧ cur s' = cur s ∧ Rep s' (R ++ [newRows[j]]))
include hfits hcopy

theorem copy_loop (e : Nat) (he : e ≤ oldRows.length) (m : Nat) : ∀ (s : σ) (R : List α), Rep s R → m = e - cur s →
    Fits (R ++ oldSeg oldRows (cur s) m) →
    ∃ s', whileE (fun s => decide (cur s < e)) copy m s = .ok s' ∧ cur s' = max (cur s) e ∧
      Rep s' (R ++ oldSeg oldRows (cur s) m) := by
  induction m with
  | zero =>
    intro s R hR hm _
    have hle : e ≤ cur s := Nat.le_of_sub_eq_zero hm.symm
    have hg : decide (cur s < e) = false := decide_eq_false (Nat.not_lt.2 hle)
    exact ⟨s, by simp only [whileE, hg, Bool.false_eq_true, if_false], (Nat.max_eq_left hle).symm, by simpa [oldSeg] using hR⟩
  | succ m ih =>
    intro s R hR hm hF
    have hce : cur s < e := Nat.lt_of_sub_pos (hm ▸ Nat.succ_pos m)
    have hlt : cur s < oldRows.length := Nat.lt_of_lt_of_le hce he
    have hseg : oldSeg oldRows (cur s) (m + 1) = oldRows[cur s] :: oldSeg oldRows (cur s + 1) m := by
      simp [oldSeg, List.range'_succ, List.getElem?_eq_getElem hlt]
    rw [hseg, ← List.singleton_append, ← List.append_assoc] at hF ⊢
    obtain ⟨s1, hc, hcur, hR1⟩ := hcopy s R hR hlt (hfits _ _ hF)
    rw [← hcur] at hF ⊢
    obtain ⟨s', hw, hcur', hR'⟩ := ih s1 _ hR1 (by rw [hcur, Nat.sub_add_eq, ← hm, Nat.add_sub_cancel]) hF
    have hg : decide (cur s < e) = true := decide_eq_true hce
    refine ⟨s', by simp only [whileE, hg, if_true, hc, hw], ?_, hR'⟩
    rw [hcur', Nat.max_eq_right (Nat.le_of_lt hce), Nat.max_eq_right (hcur ▸ hce)]

include happ

/-- the skeleton emits exactly the rows of the slot-wise plan. By induction on the slots, for every represented list `R`: the
    first slot's rows are appended to `R`, the rest is the same loop on the remaining slots (`forE_succ_start`) -/
theorem gen_loop {κ : Type} (f1 f2 : κ → Int) (g : κ → Bool) : ∀ (ks : List κ) (s : σ) (R : List α), Rep s R →
    (∀ k, k ∈ ks → (f1 k + 1).toNat ≤ oldRows.length) →
    (∀ k, k ∈ ks → g k = true → 0 ≤ f2 k ∧ (f2 k).toNat < newRows.length) →
    Fits (R ++ column (kPlan f1 f2 g (cur s) ks) oldRows newRows) →
    ∃ s', forE (genBody cur copy app (ks.map f1) (ks.map f2) (ks.map g)) ks.length 0 s = .ok s' ∧
      Rep s' (R ++ column (kPlan f1 f2 g (cur s) ks) oldRows newRows) ∧ cur s' = kCur f1 (cur s) ks
  | [], s, R, hR, _, _, _ => ⟨s, rfl, by rw [kPlan, column, List.filterMap_nil, List.append_nil]; exact hR, rfl⟩
  | k :: ks, s, R, hR, hold, hnew, hF => by
    have hcol : column (kPlan f1 f2 g (cur s) (k :: ks)) oldRows newRows =
        oldSeg oldRows (cur s) ((f1 k + 1).toNat - cur s) ++ (if g k then (newRows[(f2 k).toNat]?).toList else []) ++
          column (kPlan f1 f2 g (curAfter (cur s) (f1 k)) ks) oldRows newRows := by
      rw [kPlan, column, List.filterMap_append, ← column, ← column, column_slotRows]
    rw [hcol, ← List.append_assoc, ← List.append_assoc] at hF ⊢
    obtain ⟨s1, hw, hcur1, hR1⟩ := copy_loop cur copy Rep Fits oldRows hfits hcopy _ (hold k List.mem_cons_self) _ s R hR rfl
      (hfits _ _ (hfits _ _ hF))
    replace hcur1 : cur s1 = curAfter (cur s) (f1 k) := hcur1
    -- the `if to_keep[i]` branch
    have hkeep : ∃ s2, (if g k = true then app (f2 k) s1 else .ok s1) = .ok s2 ∧ cur s2 = cur s1 ∧
        Rep s2 (R ++ oldSeg oldRows (cur s) ((f1 k + 1).toNat - cur s) ++
          (if g k then (newRows[(f2 k).toNat]?).toList else [])) := by
      cases hg : g k with
      | false => exact ⟨s1, rfl, rfl, by rw [if_neg Bool.false_ne_true, List.append_nil]; exact hR1⟩
      | true =>
        obtain ⟨hnn, hlt⟩ := hnew k List.mem_cons_self hg
        rw [hg, if_pos rfl, List.getElem?_eq_getElem hlt] at hF
        obtain ⟨s2, ha, hcur2, hR2⟩ := happ s1 _ (f2 k).toNat hR1 hlt (hfits _ _ hF)
        rw [Int.toNat_of_nonneg hnn] at ha
        exact ⟨s2, by rw [if_pos rfl, ha], hcur2, by rw [if_pos rfl, List.getElem?_eq_getElem hlt]; exact hR2⟩
    obtain ⟨s2, hk, hcur2, hR2⟩ := hkeep
    rw [← hcur1, ← hcur2] at hF ⊢
    obtain ⟨s', hf, hR', hcur'⟩ := gen_loop f1 f2 g ks s2 _ hR2 (fun k' hk' => hold k' (List.mem_cons_of_mem k hk'))
      (fun k' hk' => hnew k' (List.mem_cons_of_mem k hk')) hF
    refine ⟨s', ?_, hR', by rw [hcur', kCur, hcur2, hcur1]⟩
    have hbody : genBody cur copy app ((k :: ks).map f1) ((k :: ks).map f2) ((k :: ks).map g) 0 s = .ok s2 := by
      simp only [genBody, List.map_cons, getE, List.getElem?_cons_zero, guard_toNat, fuel_toNat, hw, bind, Except.bind, pure,
        Except.pure]
      exact hk
    rw [List.length_cons, forE, hbody]
    exact (forE_succ_start _ ks.length 0 s2).trans hf

end skeleton

/-! ### merge_journalled_entries -/

/-- the `if to_keep[i]` branch -/
def mergeApp (newSrc : List Int) (cap : Nat) (n : Int) (s : MS) : Except Err MS := do
  let v ← getI newSrc n "new_src[new_map[i]]"
  pushD cap s v

theorem mergeBody_eq (om nm : List Int) (tk : List Bool) (oldSrc newSrc : List Int) (cap : Nat) :
    mergeBody om nm tk oldSrc newSrc cap = genBody MS.cur (copyOldBody cap oldSrc) (mergeApp newSrc cap) om nm tk := rfl

theorem pushD_fits {cap : Nat} {s : MS} {R : List Int} {v : Int} (hR : s.buf = R) (hF : (R ++ [v]).length ≤ cap) :
    pushD cap s v = .ok { s with buf := R ++ [v] } := by
  rw [List.length_append, List.length_singleton] at hF
  rw [pushD, hR, if_pos (Nat.lt_of_succ_le hF)]

/-- `merge_journalled_entries` on maps given slot-wise, with in-range map entries (`hold`, `hnew`) and room in `dest` for the
    plan's rows (`hcap`): the destination receives exactly the plan's rows, front to back; no subscript leaves its array -/
theorem mergeEntries_plan {κ : Type} (ks : List κ) (f1 f2 : κ → Int) (g : κ → Bool) (oldSrc newSrc : List Int) (cap : Nat)
    (hold : ∀ k, k ∈ ks → (f1 k + 1).toNat ≤ oldSrc.length)
    (hnew : ∀ k, k ∈ ks → g k = true → 0 ≤ f2 k ∧ (f2 k).toNat < newSrc.length)
    (hcap : (column (kPlan f1 f2 g 0 ks) oldSrc newSrc).length ≤ cap) :
    mergeEntries (ks.map f1) (ks.map f2) (ks.map g) oldSrc newSrc cap =
      .ok (column (kPlan f1 f2 g 0 ks) oldSrc newSrc ++
            List.replicate (cap - (column (kPlan f1 f2 g 0 ks) oldSrc newSrc).length) 0) := by
  obtain ⟨s', hf, (hrep : s'.buf = column (kPlan f1 f2 g 0 ks) oldSrc newSrc), -⟩ := gen_loop MS.cur (copyOldBody cap oldSrc)
    (mergeApp newSrc cap)
    (fun s R => s.buf = R) (fun R => R.length ≤ cap) oldSrc newSrc
    (fun R R' h => Nat.le_trans (List.length_append ▸ Nat.le_add_right _ _) h)
    (fun s R hR hlt hF => ⟨{ cur := s.cur + 1, buf := R ++ [oldSrc[s.cur]] },
      by simp only [copyOldBody, getE_of_lt _ hlt, pushD_fits hR hF], rfl, rfl⟩)
    (fun s R j hR hlt hF => ⟨{ s with buf := R ++ [newSrc[j]] },
      by simp only [mergeApp, getI_of_nat _ hlt, pushD_fits hR hF, bind, Except.bind], rfl, rfl⟩)
    f1 f2 g ks {} [] rfl hold hnew hcap
  unfold mergeEntries
  rw [mergeBody_eq, List.length_map, hf]
  simp only [hrep]

/-! ### merge_indexed_journalled_entries_count -/

/-- the `if to_keep[i]` branch of the count kernel -/
def countApp (ni : List Nat) (n : Int) (s : CS) : Except Err CS := do
  let b ← getI ni (n + 1) "new_src_inds[new_map[i]+1]"
  let a ← getI ni n "new_src_inds[new_map[i]]"
  let d ← deltaE a b
  pure { s with acc := s.acc + d }

theorem countBody_eq (om nm : List Int) (tk : List Bool) (oi ni : List Nat) :
    countBody om nm tk oi ni = genBody CS.cur (countOldBody oi) (countApp ni) om nm tk := rfl

/-- the count is the number of bytes of the plan's rows -/
theorem mergeIndexedCount_plan {κ : Type} (ks : List κ) (f1 f2 : κ → Int) (g : κ → Bool) (orows nrows : List (List Int))
    (hold : ∀ k, k ∈ ks → (f1 k + 1).toNat ≤ orows.length)
    (hnew : ∀ k, k ∈ ks → g k = true → 0 ≤ f2 k ∧ (f2 k).toNat < nrows.length) :
    mergeIndexedCount (ks.map f1) (ks.map f2) (ks.map g) (encode orows).1 (encode nrows).1 =
      .ok (column (kPlan f1 f2 g 0 ks) orows nrows).flatten.length := by
  obtain ⟨s', hf, (hrep : s'.acc = (column (kPlan f1 f2 g 0 ks) orows nrows).flatten.length), -⟩ := gen_loop CS.cur
    (countOldBody (encode orows).1) (countApp (encode nrows).1)
    (fun s (R : List (List Int)) => s.acc = R.flatten.length) (fun _ => True) orows nrows
    (fun _ _ _ => trivial)
    (fun s R hR hlt _ => ⟨{ cur := s.cur + 1, acc := s.acc + orows[s.cur].length },
      by simp only [countOldBody, getE_encode _ hlt, getE_encode _ (Nat.le_of_lt hlt), preLen_succ hlt, deltaE_add],
      rfl, by simp [hR]⟩)
    (fun s R j hR hlt _ => ⟨{ s with acc := s.acc + nrows[j].length },
      by simp only [countApp, getI_encode_succ _ hlt, getI_encode _ (Nat.le_of_lt hlt), deltaE_add, bind, Except.bind, pure,
        Except.pure],
      rfl, by simp [hR]⟩)
    f1 f2 g ks {} [] rfl hold hnew trivial
  simp only [mergeIndexedCount, countBody_eq, List.length_map, hf, hrep]

/-! ### merge_indexed_journalled_entries -/

theorem setSliceE_fill (F G row : List Int) (h : row.length ≤ G.length) :
    setSliceE (F ++ G) F.length (F.length + row.length) row = .ok (F ++ row ++ G.drop row.length) := by
  have h1 : min F.length (F ++ G).length = F.length := Nat.min_eq_left (by rw [List.length_append]; exact Nat.le_add_right _ _)
  have h2 : min (F.length + row.length) (F ++ G).length = F.length + row.length :=
    Nat.min_eq_left (by rw [List.length_append]; exact Nat.add_le_add_left h _)
  rw [setSliceE, h1, h2, Nat.add_sub_cancel_left, beq_self_eq_true, if_pos rfl, Nat.max_eq_right (Nat.le_add_right _ _),
    List.take_left' rfl, List.drop_append, Nat.add_sub_cancel_left, List.drop_of_length_le (Nat.le_add_right _ _),
    List.nil_append]

/-- the `if to_keep[i]` branch of the indexed merge kernel -/
def indexedApp (capI : Nat) (ni : List Nat) (nv : List Int) (n : Int) (s : IS) : Except Err IS := do
  let b ← getI ni (n + 1) "new_src_inds[new_map[i]+1]"
  let a ← getI ni n "new_src_inds[new_map[i]]"
  copyRow capI s a b nv

theorem mergeIndexedBody_eq (om nm : List Int) (tk : List Bool) (oi : List Nat) (ov : List Int) (ni : List Nat) (nv : List Int)
    (capI : Nat) :
    mergeIndexedBody om nm tk oi ov ni nv capI =
      genBody IS.cur (copyOldRowBody capI oi ov) (indexedApp capI ni nv) om nm tk := rfl

/-- the state of the indexed merge kernel after emitting the rows `R` -/
def IRep (capV : Nat) (s : IS) (R : List (List Int)) : Prop :=
  s.ib = offsetsFrom 0 R ∧ s.acc = R.flatten.length ∧ s.vals = R.flatten ++ List.replicate (capV - R.flatten.length) 0

theorem copyRow_row {capI capV : Nat} {s : IS} {R : List (List Int)} {src row : List Int} {a : Nat}
    (hsl : slice src a (a + row.length) = row) (hR : IRep capV s R) (hI : (R ++ [row]).length + 1 ≤ capI)
    (hV : (R ++ [row]).flatten.length ≤ capV) :
    ∃ s', copyRow capI s a (a + row.length) src = .ok s' ∧ s'.cur = s.cur ∧ IRep capV s' (R ++ [row]) := by
  obtain ⟨hib, hacc, hvals⟩ := hR
  rw [List.flatten_append, List.flatten_singleton, List.length_append] at hV
  have hpush : s.ib.length < capI := by
    rw [hib, offsetsFrom_length]; rwa [List.length_append, List.length_singleton] at hI
  have hoff : s.ib ++ [R.flatten.length + row.length] = offsetsFrom 0 (R ++ [row]) := by
    rw [offsetsFrom_snoc, hib, Nat.zero_add]
  have hacc' : R.flatten.length + row.length = (R ++ [row]).flatten.length := by
    rw [List.flatten_append, List.flatten_singleton, List.length_append]
  simp only [copyRow, deltaE_add, bind, Except.bind, pushI, hpush, if_true, hsl, pure, Except.pure, Nat.add_sub_cancel, hacc]
  by_cases hd : row.length > 0
  · rw [if_pos hd, hvals, setSliceE_fill R.flatten _ row (by rw [List.length_replicate]; omega)]
    refine ⟨_, rfl, rfl, hoff, hacc', ?_⟩
    rw [List.drop_replicate, List.flatten_append, List.flatten_singleton, List.length_append, Nat.sub_add_eq]
  · rw [if_neg hd]
    refine ⟨_, rfl, rfl, hoff, hacc', ?_⟩
    have hz : row = [] := List.eq_nil_of_length_eq_zero (Nat.eq_zero_of_not_pos hd)
    simp only [hvals, hz, List.append_nil, List.flatten_append, List.flatten_singleton]

/-- the merged (indices, values) arrays are the layout of the plan's rows -/
theorem mergeIndexedEntries_plan {κ : Type} (ks : List κ) (f1 f2 : κ → Int) (g : κ → Bool) (orows nrows : List (List Int))
    (hold : ∀ k, k ∈ ks → (f1 k + 1).toNat ≤ orows.length)
    (hnew : ∀ k, k ∈ ks → g k = true → 0 ≤ f2 k ∧ (f2 k).toNat < nrows.length) :
    mergeIndexedEntries (ks.map f1) (ks.map f2) (ks.map g) (encode orows).1 (encode orows).2 (encode nrows).1 (encode nrows).2
        ((column (kPlan f1 f2 g 0 ks) orows nrows).length + 1) (column (kPlan f1 f2 g 0 ks) orows nrows).flatten.length =
      .ok (encode (column (kPlan f1 f2 g 0 ks) orows nrows)) := by
  generalize hfin : column (kPlan f1 f2 g 0 ks) orows nrows = final
  obtain ⟨s', hf, ⟨hib, -, hvals⟩, -⟩ := gen_loop IS.cur (copyOldRowBody (final.length + 1) (encode orows).1 (encode orows).2)
    (indexedApp (final.length + 1) (encode nrows).1 (encode nrows).2)
    (IRep final.flatten.length) (fun R => R.length + 1 ≤ final.length + 1 ∧ R.flatten.length ≤ final.flatten.length) orows nrows
    (fun R R' h => by
      rw [List.length_append, List.flatten_append, List.length_append] at h
      exact ⟨by omega, by omega⟩)
    (fun s R hR hlt hF => by
      obtain ⟨s', (hc : copyRow _ _ _ _ (encode orows).2 = _), hcur, hrep⟩ := copyRow_row (slice_flatten hlt) hR hF.1 hF.2
      exact ⟨{ s' with cur := s.cur + 1 },
        by simp only [copyOldRowBody, getE_encode _ hlt, getE_encode _ (Nat.le_of_lt hlt), preLen_succ hlt]; rw [hc],
        rfl, hrep⟩)
    (fun s R j hR hlt hF => by
      obtain ⟨s', (hc : copyRow _ _ _ _ (encode nrows).2 = _), hcur, hrep⟩ := copyRow_row (slice_flatten hlt) hR hF.1 hF.2
      exact ⟨s', by simp only [indexedApp, getI_encode_succ _ hlt, getI_encode _ (Nat.le_of_lt hlt), hc, bind, Except.bind],
        hcur, hrep⟩)
    f1 f2 g ks { cur := 0, acc := 0, ib := [0], vals := List.replicate final.flatten.length 0 } [] ⟨rfl, rfl, rfl⟩ hold hnew
    (hfin ▸ ⟨Nat.le_refl _, Nat.le_refl _⟩)
  rw [List.nil_append, show kPlan f1 f2 g _ ks = kPlan f1 f2 g 0 ks from rfl, hfin] at hib hvals
  simp only [mergeIndexedEntries, if_neg (Nat.succ_ne_zero _), mergeIndexedBody_eq, List.length_map, hf, hib, hvals,
    offsetsFrom_length, Nat.sub_self, List.replicate_zero, List.append_nil]
  rfl

end Exetera.Journal
