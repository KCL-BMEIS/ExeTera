import Exetera.Lemmas.MapValidIndexed
/-! The indexed-string stream `ordered_map_valid_indexed_stream` against `Spec.mapIndexedSpec`: one sub-chunk of the map, one
    map chunk, the loop over map chunks. Each level either appends the stored form of the entries of its stretch of the map
    (`Adds`), all of which fitted the value buffer, or ends with the D5 `ValueError` because one of them does not
    (`Oversized`). -/
namespace Exetera.MapValid

open Exetera Exetera.Spec

theorem indexedSubBody_spec {β} (indices : List Int) (values : List β) (map_ : List Int) (inv : Int) (cs vf : Nat)
    (sS sE : Nat) (o : IO β) (esL : List (List β))
    (hok : IndexedOK indices values) (hse : sS < sE) (hsE : sE ≤ map_.length) (hcs : map_.length ≤ cs)
    (hesLen : esL.length = map_.length)
    (hr : InRange (entries indices values).length map_ inv) (hm : MonoOn map_ inv sS sE)
    (hes : ∀ (p : Nat) (k : Int), map_[p]? = some k → esL[p]? = lookup (entries indices values) inv [] k) :
    (∃ o', indexedSubBody indices values map_ inv cs vf (sS, sE) o = .ok o' ∧ Adds (slice esL sS sE) o o' ∧
      ∀ x ∈ slice esL sS sE, x.length ≤ cs * vf) ∨
    (∃ e, indexedSubBody indices values map_ inv cs vf (sS, sE) o = .error e ∧
      Oversized (slice esL sS sE) (cs * vf) e) := by
  obtain ⟨d, hd, hcase⟩ := extents_window map_ sS sE inv _ hse hsE hr hm
  have hesE : sE ≤ esL.length := hesLen ▸ hsE
  have hlen : sE - sS ≤ cs := Nat.le_trans (Nat.sub_le sE sS) (Nat.le_trans hsE hcs)
  rcases hcase with ⟨hinv, hall⟩ | ⟨hne, hf0, hfl, hln, hbetween⟩
  · -- every entry is the marker: `sE - sS` copies of the current offset
    have hnil : ∀ x ∈ slice esL sS sE, x = [] := by
      intro x hx
      obtain ⟨j, hj⟩ := List.getElem?_of_mem hx
      rw [slice_getElem?] at hj
      split at hj
      · have := hes (sS + j) inv (hall (sS + j) (by omega) (by omega))
        rw [hj] at this
        simpa [lookup] using this
      · cases hj
    obtain ⟨g1, g2, g3⟩ := runSums_all_nil o.accum (slice esL sS sE) hnil
    refine Or.inl ⟨{ o with outI := o.outI ++ List.replicate (min (sE - sS) cs) o.accum }, ?_, ⟨?_, ?_, ?_⟩, ?_⟩
    · simp only [indexedSubBody, hd, hinv, beq_self_eq_true, if_true]
    · simp only [g2]; omega
    · simp only [g1, slice_length_of_le esL sS sE hesE, Nat.min_eq_left hlen]
    · simp only [g3, List.append_nil]
    · intro x hx
      rw [hnil x hx]; simp
  · -- the offsets window of the rows `[first, last]`, its decomposition, the first value window, then the loop
    have hne' : (d.1 == inv) = false := by simpa using hne
    obtain ⟨ix, N, hix, hN, hixlen, hwok, hent⟩ := offsets_window indices values hok d.1 d.2 hf0 hfl hln
    obtain ⟨subs, hsubs, htiles⟩ := chunkDecomp_spec ix ((cs * vf : Nat) : Int) 0 (N + 1) (Nat.succ_pos _)
      (hixlen ▸ Nat.lt_succ_self _)
    obtain ⟨y0, hy0⟩ := Tiles.head htiles (Nat.succ_pos _)
    obtain ⟨A, B, hA, hB, hvw⟩ := valueWindow_tile hwok hixlen htiles 0 0 y0 hy0
    have hloop := innerLoop_spec map_ sS sE ix values subs d.1 (N + 1) cs (cs * vf) inv esL o hwok hixlen htiles hsE
      hesE hlen
      (fun p k hp1 hp2 hpk hki => by have := hbetween p k hp1 hp2 hpk hki; omega)
      hm
      (fun p k hp1 hp2 hpk => by
        rw [hes p k hpk]
        by_cases hki : k = inv
        · simp [lookup, hki]
        · obtain ⟨hk1, hk2⟩ := hbetween p k hp1 hp2 hpk hki
          simp [lookup, hki, show 0 ≤ k by omega, hent k hk1 hk2])
      (0, y0) _ (Nat.le_of_lt hse) hy0 rfl ⟨A, B, hA, hB, rfl⟩
    simp only [indexedSubBody, hd, hne', Bool.false_eq_true, if_false, hix, hN, hsubs, getE, hy0, hvw]
    rcases hloop with ⟨w, hrun, hadds, hfit⟩ | ⟨e, hrun, herr⟩
    · exact Or.inl ⟨_, by rw [hrun], hadds, hfit⟩
    · exact Or.inr ⟨e, by rw [hrun], herr⟩

theorem indexed_chunk_fold_spec {β} (indices : List Int) (values : List β) (map_ : List Int) (inv : Int) (cs vf : Nat)
    (o : IO β) (esL : List (List β))
    (hok : IndexedOK indices values) (hcs1 : 1 ≤ cs) (hcs : map_.length ≤ cs) (hesLen : esL.length = map_.length)
    (hr : InRange (entries indices values).length map_ inv)
    (hes : ∀ (p : Nat) (k : Int), map_[p]? = some k → esL[p]? = lookup (entries indices values) inv [] k) :
    ∃ subs, subchunks map_ inv cs = .ok subs ∧
      ((∃ o', foldE (indexedSubBody indices values map_ inv cs vf) subs o = .ok o' ∧ Adds esL o o' ∧
          ∀ x ∈ esL, x.length ≤ cs * vf) ∨
       (∃ e, foldE (indexedSubBody indices values map_ inv cs vf) subs o = .error e ∧ Oversized esL (cs * vf) e)) := by
  obtain ⟨subs, hsubs, htiles, hmono⟩ := subchunks_mono map_ inv cs hcs1
  refine ⟨subs, hsubs, ?_⟩
  have hall : slice esL 0 map_.length = esL := by rw [← hesLen]; simp [slice]
  have h := foldE_tiles_err_mem (indexedSubBody indices values map_ inv cs vf)
    (fun x o' => Adds (slice esL 0 x) o o' ∧ ∀ y ∈ slice esL 0 x, y.length ≤ cs * vf)
    (Oversized esL (cs * vf)) map_.length subs 0 o htiles
    ⟨by rw [slice_self]; exact Adds.nil o, by simp [slice_self]⟩
    (by
      intro x y o1 hmem _ hxy hy ⟨hP, hF⟩
      have hsl := slice_append_slice esL 0 x y (Nat.zero_le _) (Nat.le_of_lt hxy)
      rcases indexedSubBody_spec indices values map_ inv cs vf x y o1 esL hok hxy hy hcs hesLen hr (hmono (x, y) hmem) hes with
        ⟨o2, hrun, hadd, hfit⟩ | ⟨e, hrun, herr, z, hz, hbig⟩
      · exact Or.inl ⟨o2, hrun, hsl ▸ hP.append hadd, hsl ▸ List.forall_mem_append.mpr ⟨hF, hfit⟩⟩
      · exact Or.inr ⟨e, hrun, herr, z, mem_of_mem_slice hz, hbig⟩)
  rwa [hall] at h

def IChunkInv {β} (m : List Int) (cs cap : Nat) (es : List (List β)) (s : ISt β) : Prop :=
  s.lo ≤ m.length ∧ s.hi = min (s.lo + cs) m.length ∧ Adds (es.take s.lo) ⟨0, [0], []⟩ s.io ∧
  ∀ x ∈ es.take s.lo, x.length ≤ cap

theorem indexedChunkBody_spec {β} (indices : List Int) (values : List β) (m : List Int) (inv : Int) (cs vf : Nat)
    (es : List (List β)) (s : ISt β)
    (hok : IndexedOK indices values) (hcs1 : 1 ≤ cs)
    (hr : InRange (entries indices values).length m inv)
    (hspec : mapSpec (entries indices values) inv [] m = some es)
    (hI : IChunkInv m cs (cs * vf) es s) (hg : s.lo < m.length) :
    (∃ s', indexedChunkBody indices values m inv cs vf s = .ok s' ∧ IChunkInv m cs (cs * vf) es s' ∧
      m.length - s'.lo < m.length - s.lo) ∨
    (∃ e, indexedChunkBody indices values m inv cs vf s = .error e ∧ Oversized es (cs * vf) e ∧ 0 < m.length - s.lo) := by
  obtain ⟨hlo, hhi, hadds, hfit⟩ := hI
  obtain ⟨h1, h2, h3⟩ := chunk_bounds hcs1 hg hhi
  have heslen : es.length = m.length := mapSpec_length _ _ _ _ _ hspec
  have hlen : (slice m s.lo s.hi).length = s.hi - s.lo := slice_length_of_le _ _ _ h2
  obtain ⟨subs, hsubs, hcase⟩ :=
    indexed_chunk_fold_spec indices values (slice m s.lo s.hi) inv cs vf s.io (slice es s.lo s.hi) hok hcs1
      (hlen ▸ h3) (by rw [hlen, slice_length_of_le _ _ _ (heslen ▸ h2)]) (inRange_slice hr _ _)
      (by
        intro p k hpk
        rw [slice_getElem?] at hpk ⊢
        split at hpk
        · rw [if_pos ‹_›]
          exact mapSpec_getElem? _ _ _ _ _ hspec _ k hpk
        · cases hpk)
  have htake : es.take s.hi = es.take s.lo ++ slice es s.lo s.hi := take_append_slice es s.lo s.hi (Nat.le_of_lt h1)
  rcases hcase with ⟨o', hfold, hadd, hfitL⟩ | ⟨e, hfold, herr, x, hx, hbig⟩
  · exact Or.inl ⟨⟨s.hi, min (s.hi + cs) m.length, o'⟩, by simp only [indexedChunkBody, hsubs, hfold, nextChunk_eq],
      ⟨h2, rfl, htake ▸ hadds.append hadd, htake ▸ List.forall_mem_append.mpr ⟨hfit, hfitL⟩⟩, Nat.sub_lt_sub_left hg h1⟩
  · exact Or.inr ⟨e, by simp only [indexedChunkBody, hsubs, hfold], ⟨herr, x, mem_of_mem_slice hx, hbig⟩,
      Nat.sub_pos_of_lt hg⟩

/-- the D5 error at the level of the stored field: raised, and only because some mapped entry exceeds the buffer -/
def OversizeE {β} (E : List (List β)) (map_ : List Int) (inv : Int) (cap : Nat) (e : Err) : Prop :=
  e = .valueError "entry does not fit the value buffer" ∧
  ∃ (p : Nat) (k : Int) (x : List β), map_[p]? = some k ∧ k ≠ inv ∧ 0 ≤ k ∧ E[k.toNat]? = some x ∧ cap < x.length

theorem mapped_row_entry {β} (E : List (List β)) (m : List Int) (inv : Int) (es : List (List β))
    (hspec : mapSpec E inv [] m = some es) (x : List β) (hx : x ∈ es) (hne : x ≠ []) :
    ∃ (p : Nat) (k : Int), m[p]? = some k ∧ k ≠ inv ∧ 0 ≤ k ∧ E[k.toNat]? = some x := by
  obtain ⟨p, hp⟩ := List.getElem?_of_mem hx
  obtain ⟨k, hk⟩ := exists_getElem? m (show p < m.length by
    rw [← mapSpec_length _ _ _ _ _ hspec]; exact (List.getElem?_eq_some_iff.mp hp).1)
  have := mapSpec_getElem? E inv [] m es hspec p k hk
  rw [hp, lookup] at this
  split at this
  · exact absurd (Option.some.inj this) hne
  · split at this
    · exact ⟨p, k, hk, ‹_›, ‹_›, this.symm⟩
    · cases this

theorem mapped_entry_row {β} (E : List (List β)) (m : List Int) (inv : Int) (es : List (List β))
    (hspec : mapSpec E inv [] m = some es) (r : Nat) (k : Int) (x : List β)
    (hk : m[r]? = some k) (hki : k ≠ inv) (h0 : 0 ≤ k) (hx : E[k.toNat]? = some x) : x ∈ es := by
  have := mapSpec_getElem? E inv [] m es hspec r k hk
  simp only [lookup, hki, h0, if_false, if_true, hx] at this
  exact List.mem_of_getElem? this

/-- **Total characterisation of `ordered_map_valid_indexed_stream`** on well-formed sources and in-range maps, ordered or not
    (the splitter ends a sub-chunk where the map steps back), for every chunk size ≥ 1, marker and value factor: either
    every mapped entry fits the value buffer and the result is the specified column, or some mapped entry does not fit
    and the result is the D5 `ValueError` — never `outOfFuel` (a spin), never an out-of-bounds access. -/
theorem indexed_stream_total_any {β} (indices : List Int) (values : List β) (m : List Int) (inv : Int) (cs vf : Nat)
    (hok : IndexedOK indices values) (hcs1 : 1 ≤ cs)
    (hr : InRange (entries indices values).length m inv) :
    (∃ out es, orderedMapValidIndexedStream indices values m inv cs vf = .ok out ∧
      mapSpec (entries indices values) inv [] m = some es ∧ out = encodeIndexed es ∧
      ∀ x ∈ es, x.length ≤ cs * vf) ∨
    (∃ e, orderedMapValidIndexedStream indices values m inv cs vf = .error e ∧
      OversizeE (entries indices values) m inv (cs * vf) e) := by
  obtain ⟨es, _, hspec⟩ := stream_spec_any (entries indices values) m inv cs [] hcs1 hr
  have heslen : es.length = m.length := mapSpec_length _ _ _ _ _ hspec
  have h := whileE_rule_err (fun s : ISt β => decide (s.lo < m.length)) (indexedChunkBody indices values m inv cs vf)
    (IChunkInv m cs (cs * vf) es) (Oversized es (cs * vf)) (fun s => m.length - s.lo)
    (fun s hI hg => indexedChunkBody_spec indices values m inv cs vf es s hok hcs1 hr hspec hI (by simpa using hg))
    m.length ⟨0, min (0 + cs) m.length, ⟨0, List.replicate (min 1 cs) 0, []⟩⟩
    ⟨Nat.zero_le _, rfl, by rw [show min 1 cs = 1 by omega]; exact Adds.nil _, by simp⟩ (by simp)
  simp only [orderedMapValidIndexedStream, nextChunk_eq]
  rcases h with ⟨s', hrun, ⟨hlo, _, hadds, hfit⟩, hg⟩ | ⟨e, hrun, herr, x, hx, hbig⟩
  · have heq : s'.lo = es.length := by rw [heslen]; exact Nat.le_antisymm hlo (by simpa using hg)
    rw [heq, List.take_length] at hadds hfit
    exact Or.inl ⟨_, es, by rw [hrun], hspec, hadds.encode, hfit⟩
  · obtain ⟨p, k, hk, hki, hk0, hent⟩ := mapped_row_entry _ m inv es hspec x hx (by rintro rfl; simp at hbig)
    exact Or.inr ⟨e, by rw [hrun], herr, p, k, x, hk, hki, hk0, hent, hbig⟩

/-- `ordered_map_valid_indexed_stream` = `mapIndexedSpec` whenever every *mapped* entry fits the value buffer -/
theorem indexed_stream_spec_any {β} (indices : List Int) (values : List β) (m : List Int) (inv : Int) (cs vf : Nat)
    (hok : IndexedOK indices values) (hcs1 : 1 ≤ cs)
    (hr : InRange (entries indices values).length m inv)
    (hcap : ∀ (r : Nat) (k : Int) (x : List β), m[r]? = some k → k ≠ inv → (entries indices values)[k.toNat]? = some x →
      x.length ≤ cs * vf) :
    ∃ out, orderedMapValidIndexedStream indices values m inv cs vf = .ok out ∧
      mapIndexedSpec indices values inv m = some out := by
  rcases indexed_stream_total_any indices values m inv cs vf hok hcs1 hr with
    ⟨out, es, hrun, hspec, hout, _⟩ | ⟨e, _, _, p, k, x, hpk, hki, _, hent, hbig⟩
  · exact ⟨out, hrun, by simp [mapIndexedSpec, hspec, hout]⟩
  · have := hcap p k x hpk hki hent
    omega

/-- D5 as repaired, in full: a mapped entry longer than the value buffer makes the stream end with the `ValueError` -/
theorem indexed_stream_oversize_any {β} (indices : List Int) (values : List β) (m : List Int) (inv : Int) (cs vf : Nat)
    (hok : IndexedOK indices values) (hcs1 : 1 ≤ cs)
    (hr : InRange (entries indices values).length m inv)
    (r : Nat) (k : Int) (x : List β) (hk : m[r]? = some k) (hki : k ≠ inv)
    (hx : (entries indices values)[k.toNat]? = some x) (hbig : cs * vf < x.length) :
    orderedMapValidIndexedStream indices values m inv cs vf
      = .error (.valueError "entry does not fit the value buffer") := by
  rcases indexed_stream_total_any indices values m inv cs vf hok hcs1 hr with
    ⟨out, es, _, hspec, _, hfit⟩ | ⟨e, hrun, herr, _⟩
  · have := hfit x (mapped_entry_row _ m inv es hspec r k x hk hki (hr r k hk hki).1 hx)
    omega
  · rw [hrun, herr]

end Exetera.MapValid
