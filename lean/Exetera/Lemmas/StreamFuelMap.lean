import Exetera.Model.StreamFuel
import Exetera.Lemmas.WhileFuel
import Exetera.Lemmas.MapValidStream
/-! C12 for the two streams that map a column through a join map.
    `ordered_map_valid_stream`: progress of one driver iteration and the `⌈n/cs⌉` iteration bound.
    `ordered_map_valid_indexed_stream`: raising the fuel of the driver loops does not change a run that did not run out of
    fuel (`indexedStream_agree`), and every iteration of the `while sm < sm_end` loop makes progress (`innerBody_progress`). -/
namespace Exetera.MapValid
open Exetera

theorem chunkBody_next {α} {src : List α} {m : List Int} {inv : Int} {cs : Nat} {empty : α} {s s' : St α}
    (h : chunkBody src m inv cs empty s = .ok s') :
    s'.lo = s.hi ∧ s'.hi = min (s.hi + cs) m.length ∧ ∃ buf, s'.out = s.out ++ List.take (s.hi - s.lo) buf := by
  unfold chunkBody at h
  simp only [] at h
  split at h
  · cases h
  · split at h
    · cases h
    · rename_i buf _
      simp only [nextChunk_eq, Except.ok.injEq] at h
      subst h
      exact ⟨rfl, rfl, buf, rfl⟩

theorem stream_run_state {α} {src : List α} {m : List Int} {inv : Int} {cs : Nat} {empty : α} {fuel : Nat} {out : List α}
    (h : orderedMapValidStreamF fuel src m inv cs empty = .ok out) :
    ∃ s, whileE (fun s : St α => decide (s.lo < m.length)) (chunkBody src m inv cs empty) fuel
      ⟨(Join.nextChunk 0 m.length cs).1, (Join.nextChunk 0 m.length cs).2, List.replicate cs empty, []⟩ = .ok s ∧
      s.out = out := by
  unfold orderedMapValidStreamF at h
  simp only [] at h
  split at h
  · rename_i s hs
    simp only [Except.ok.injEq] at h
    exact ⟨s, hs, h⟩
  · cases h

/-- the driver loop needs at most `⌈|map| / cs⌉` iterations: any fuel with `|map| ≤ fuel · cs` gives the result of the model -/
theorem stream_fuel {α} (src : List α) (m : List Int) (inv : Int) (cs : Nat) (empty : α) (out : List α)
    (h : orderedMapValidStream src m inv cs empty = .ok out) (fuel : Nat) (hfuel : m.length ≤ fuel * cs) :
    orderedMapValidStreamF fuel src m inv cs empty = .ok out := by
  rw [orderedMapValidStream_eq_F] at h
  obtain ⟨s, hrun, hout⟩ := stream_run_state h
  have key := whileE_tighten_scaled (fun s : St α => decide (s.lo < m.length)) (chunkBody src m inv cs empty)
    (fun s => s.hi = min (s.lo + cs) m.length) (fun s => m.length - s.lo) cs
    (by intro s _ hg; simp only [decide_eq_true_eq] at hg; omega)
    (by
      intro s s' hI hg hb
      obtain ⟨h1, h2, _⟩ := chunkBody_next hb
      simp only [decide_eq_true_eq] at hg
      refine ⟨by rw [h1, h2], ?_⟩
      by_cases hc : s.lo + cs ≤ m.length
      · left; rw [h1, hI]; omega
      · right; simp only [decide_eq_false_iff_not]; rw [h1, hI]; omega)
    m.length _ s (by simp [nextChunk_eq]) hrun fuel (by simpa [nextChunk_eq] using hfuel)
  unfold orderedMapValidStreamF
  simp only []
  rw [key]
  simp only [hout]

theorem foldE_agree {σ γ} (b bF : γ → σ → Except Err σ) :
    ∀ (xs : List γ) (s : σ), (∀ x ∈ xs, ∀ s, FuelAgree (b x s) (bF x s)) → FuelAgree (foldE b xs s) (foldE bF xs s)
  | [], s, _ => Or.inr rfl
  | x :: xs, s, h => by
    rcases h x (by simp) s with h1 | h1
    · left; simp [foldE, h1]
    · cases hb : b x s with
      | error e => right; simp [foldE, h1, hb]
      | ok s1 =>
        rcases foldE_agree b bF xs s1 (fun y hy => h y (by simp [hy])) with h2 | h2
        · left; simp [foldE, hb, h2]
        · right; simp [foldE, h1, hb, h2]

theorem chunkDecompF_length (indices : List Int) (budget : Int) :
    ∀ (f s e : Nat) (subs : List (Nat × Nat)), chunkDecompF indices budget f s e = .ok subs →
      subs.length ≤ max 1 (e - s) ∧ e < indices.length := by
  intro f
  induction f with
  | zero => intro s e subs h; cases h
  | succ f ih =>
    intro s e subs h
    simp only [chunkDecompF] at h
    split at h
    · rename_i ie is_ hie _
      have hel : e < indices.length := (List.getElem?_eq_some_iff.mp hie).1
      split at h
      · have hmid : s < s + (e - s) / 2 ∧ s + (e - s) / 2 < e := by omega
        generalize s + (e - s) / 2 = mid at h hmid
        split at h
        · cases h
        · rename_i l1 h1
          split at h
          · cases h
          · rename_i l2 h2
            cases h
            have a1 := (ih _ _ _ h1).1
            have a2 := (ih _ _ _ h2).1
            rw [List.length_append]
            exact ⟨by omega, hel⟩
      · cases h
        exact ⟨Nat.le_max_left 1 _, hel⟩
    · cases h

theorem pySlice_length_le {α} (xs : List α) (a b : Int) : (pySlice xs a b).length ≤ xs.length := by
  simp only [pySlice, slice_length]; omega

/-- the loop `while sm < sm_end` of one sub-chunk: any fuel covering the sub-chunk and the source offsets agrees -/
theorem indexedSubBody_agree {β} (fuel : Nat) (indices : List Int) (values : List β) (map_ : List Int) (inv : Int)
    (cs vf : Nat) (se : Nat × Nat) (o : IO β) (hfuel : se.2 - se.1 + indices.length ≤ fuel) :
    FuelAgree (indexedSubBody indices values map_ inv cs vf se o) (indexedSubBodyF fuel indices values map_ inv cs vf se o) := by
  unfold indexedSubBody indexedSubBodyF
  cases getValidValueExtents map_ se.1 se.2 inv with
  | error e => exact Or.inr rfl
  | ok lim =>
    simp only []
    split
    · exact Or.inr rfl
    · cases hd : chunkDecomp (pySlice indices lim.1 (lim.2 + 2)) ((cs * vf : Nat) : Int) 0 (lim.2 - lim.1 + 1).toNat with
      | error e => exact Or.inr rfl
      | ok subs =>
        simp only []
        cases getE subs 0 "sub_chunks[0]" with
        | error e => exact Or.inr rfl
        | ok sc =>
          simp only []
          cases valueWindow (pySlice indices lim.1 (lim.2 + 2)) values sc with
          | error e => exact Or.inr rfl
          | ok vals =>
            simp only []
            obtain ⟨hlen, hE⟩ := chunkDecompF_length _ _ _ _ _ _ hd
            have hpl := pySlice_length_le indices lim.1 (lim.2 + 2)
            have hbud : se.2 - se.1 + subs.length ≤ fuel := by omega
            rcases whileE_agree (fun w : IW β => decide (w.sm < se.2))
                (innerBody map_ se.2 (pySlice indices lim.1 (lim.2 + 2)) values subs lim.1 cs (cs * vf) inv) _
                (fun _ => Or.inr rfl) (se.2 - se.1 + subs.length)
                ⟨se.1, 0, sc, vals, [], [], o.accum, o.outI, o.outV⟩ fuel hbud with h | h
            · left; rw [h]
            · right; rw [h]; rfl

theorem indexedChunkBody_agree {β} (fuel : Nat) (indices : List Int) (values : List β) (m : List Int) (inv : Int)
    (cs vf : Nat) (hcs : 1 ≤ cs) (hfuel : m.length + indices.length ≤ fuel) (s : ISt β) :
    FuelAgree (indexedChunkBody indices values m inv cs vf s) (indexedChunkBodyF fuel indices values m inv cs vf s) := by
  unfold indexedChunkBody indexedChunkBodyF
  simp only []
  obtain ⟨subs, hsub, htiles⟩ := subchunks_tiles (slice m s.lo s.hi) inv cs hcs
  rw [hsub]
  simp only []
  have hml : (slice m s.lo s.hi).length ≤ m.length := by simp only [slice_length]; omega
  rcases foldE_agree (indexedSubBody indices values (slice m s.lo s.hi) inv cs vf)
      (indexedSubBodyF fuel indices values (slice m s.lo s.hi) inv cs vf) subs s.io
      (fun se hse o => indexedSubBody_agree fuel indices values _ inv cs vf se o (by
        have := Tiles.mem_bounds htiles se hse
        omega)) with h | h
  · left; rw [h]
  · right; rw [h]; rfl

/-- **the tie of the fuel-parametrised indexed stream to the model**: with any fuel `≥ |map| + |indices|` for the loop over map
    chunks and for every `while sm < sm_end` loop, the result is the model's — unless the model itself ran out of fuel -/
theorem indexedStream_agree {β} (fuel : Nat) (indices : List Int) (values : List β) (m : List Int) (inv : Int)
    (cs vf : Nat) (hcs : 1 ≤ cs) (hfuel : m.length + indices.length ≤ fuel) :
    FuelAgree (orderedMapValidIndexedStream indices values m inv cs vf)
      (orderedMapValidIndexedStreamF fuel indices values m inv cs vf) := by
  unfold orderedMapValidIndexedStream orderedMapValidIndexedStreamF
  simp only []
  rcases whileE_agree (fun s : ISt β => decide (s.lo < m.length)) (indexedChunkBody indices values m inv cs vf)
      (indexedChunkBodyF fuel indices values m inv cs vf)
      (indexedChunkBody_agree fuel indices values m inv cs vf hcs hfuel) m.length
      ⟨(Join.nextChunk 0 m.length cs).1, (Join.nextChunk 0 m.length cs).2, ⟨0, List.replicate (min 1 cs) 0, []⟩⟩ fuel
      (by omega) with h | h
  · left; rw [h]
  · right; rw [h]; rfl

theorem ipBody_sm {β} (p : IPar β) (s s' : IP β) (h : ipBody p s = .ok s') : s.sm ≤ s'.sm := by
  unfold ipBody at h
  split at h
  · cases h
  · split at h
    · split at h
      · cases h; simp
      · cases h
    · simp only [] at h
      split at h
      · cases h; simp
      · split at h
        · split at h
          · cases h; simp
          · split at h
            · cases h
            · split at h
              · cases h; simp
              · cases h
        · cases h
        · cases h

theorem indexedPartial_sm {β} {map_ : List Int} {smEnd : Nat} {indices : List Int} {iStart iMax : Nat} {values : List β}
    {mvStart : Int} {capI capV : Nat} {inv : Int} {sm : Nat} {ri : List Int} {rv : List β} {accum : Int} {p : IP β}
    (h : indexedPartial map_ smEnd indices iStart iMax values mvStart capI capV inv sm ri rv accum = .ok p) :
    sm ≤ p.sm := by
  unfold indexedPartial at h
  split at h
  · cases h
  · exact (whileE_invariant _ _ (fun s : IP β => sm ≤ s.sm)
      (fun s s' hs _ hb => Nat.le_trans hs (ipBody_sm _ s s' hb)) _ _ _ (Nat.le_refl _) h).1

/-- **every iteration of `while sm < sm_end` consumes a map entry or moves to the next value sub-chunk** (D5 repaired): the
    measure `(sm_end - sm) + (len(sub_chunks) - s)` strictly decreases over every successful iteration -/
theorem innerBody_progress {β} (map_ : List Int) (smEnd : Nat) (indices_ : List Int) (values : List β)
    (subs : List (Nat × Nat)) (mvStart : Int) (capI capV : Nat) (inv : Int) (w w' : IW β)
    (hg : w.sm < smEnd) (hs : w.s < subs.length) (hsm' : w'.sm ≤ smEnd)
    (h : innerBody map_ smEnd indices_ values subs mvStart capI capV inv w = .ok w') :
    (smEnd - w'.sm) + (subs.length - w'.s) < (smEnd - w.sm) + (subs.length - w.s) ∧ w'.s < subs.length ∧
      w.sm ≤ w'.sm ∧ w.s ≤ w'.s := by
  unfold innerBody at h
  cases hp : indexedPartial map_ smEnd indices_ w.sc.1 w.sc.2 w.vals mvStart capI capV inv w.sm w.ri w.rv w.accum with
  | error e => simp [hp] at h
  | ok p =>
    have hge := indexedPartial_sm hp
    simp only [hp] at h
    split at h
    · cases h
    · rename_i hno
      split at h
      · rename_i hneed
        cases hsc : getE subs (w.s + 1) "sub_chunks[s]" with
        | error e => simp [hsc] at h
        | ok sc =>
          have hlt : w.s + 1 < subs.length := by
            rw [getE_eq_ok] at hsc
            rcases List.getElem?_eq_some_iff.mp hsc with ⟨hl, _⟩; exact hl
          simp only [hsc] at h
          split at h
          · cases h
          · simp only [Except.ok.injEq] at h
            subst h
            simp only [] at hsm' ⊢
            omega
      · rename_i hneed
        simp only [Except.ok.injEq] at h
        subst h
        simp only [] at hsm' ⊢
        have : p.sm ≠ w.sm := by
          intro heq
          apply hno
          simp [heq, hneed]
        omega

end Exetera.MapValid
