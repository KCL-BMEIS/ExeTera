import Exetera.Lemmas.FilterIndexFrame
import Exetera.Lemmas.FilterIndexSort
/-!
  `DataFrame.sort_values` on a frame that holds columns `cols` is `apply_index` with the sort permutation of the key
  columns: what `keyColumns` looks up in the frame is the integer encoding (`encCol`) of what `keyColsAll` finds in
  `cols`, each string column as numpy sees it (`KeyCol.numpyView`). Numeric keys are the special case where the encoding
  is the column itself.
-/
namespace Exetera.FilterIndex
open Exetera Exetera.Spec

theorem Holds_find {sf : Frame} {cols : List (ColSpec Meta)} (hh : Holds sf cols) {k : String} {c : ColSpec Meta}
    (hc : cols.find? (fun c => c.name == k) = some c) :
    ∃ f, sf.lookup k = some f ∧ sf.has k = true ∧ Encodes f.payload c.content := by
  induction hh using Holds.induction with
  | nil => cases hc
  | cons n f fr c' cs hn _ he _ ih =>
    rw [List.find?_cons, ← hn] at hc
    by_cases hk : n = k
    · rw [show (n == k) = true by simpa using hk] at hc
      cases hc
      exact ⟨f, by simp [hk], by simp [Frame.has, hk], he⟩
    · rw [show (n == k) = false from beq_eq_false_iff_ne.mpr hk] at hc
      obtain ⟨f', h1, h2, h3⟩ := ih hc
      have hk' : (k == n) = false := beq_eq_false_iff_ne.mpr (Ne.symm hk)
      exact ⟨f', by rw [List.lookup_cons, hk']; exact h1, by rw [Frame.has] at h2 ⊢; rw [List.any_cons, h2, Bool.or_true], h3⟩

theorem entriesOf_wellformed (es : List (List Nat)) : entriesOf (offsetsF es) es.flatten = es := by
  apply List.ext_getElem
  · simp [entriesOf, offsetsF, offsetsFrom_length]
  · intro k _ hk
    obtain ⟨hc, hn, _, hs⟩ := entry_bounds (List.getElem?_eq_getElem hk)
    simp only [entriesOf, List.getElem_map, List.getElem_range, List.getD_eq_getElem?_getD, hc, hn, Option.getD_some]
    exact hs

def payloadKey : Payload → List Int
  | .indexed i vals => rankKeys ((entriesOf i vals).map trimNul)
  | .plain d => d

def _root_.Exetera.Spec.Column.toKeyCol : Column → KeyCol
  | .nums xs => .nums xs
  | .strs es => .strs es

theorem toKeyCol_length (c : Column) : c.toKeyCol.length = c.length := by cases c <;> rfl

theorem payloadKey_eq {p : Payload} {c : Column} (h : Encodes p c) : payloadKey p = encCol c.toKeyCol.numpyView := by
  refine h.elim (fun xs => rfl) (fun es => ?_) rfl
  rw [payloadKey, entriesOf_wellformed]; rfl

theorem keyColsAll_cons {μ} (cols : List (ColSpec μ)) (k : String) (ks : List String) :
    keyColsAll cols (k :: ks) = (cols.find? (fun c => c.name == k)).bind fun c =>
      (keyColsAll cols ks).map (c.content.toKeyCol :: ·) := by
  simp only [keyColsAll]
  cases cols.find? (fun c => c.name == k) with
  | none => rfl
  | some c =>
    cases keyColsAll cols ks with
    | none => rfl
    | some r => dsimp only [Option.bind, Option.map]; cases c.content <;> rfl

theorem keyColsAll_cons_eq_some {μ} {cols : List (ColSpec μ)} {k : String} {ks : List String} {keys : List KeyCol} :
    keyColsAll cols (k :: ks) = some keys ↔ ∃ c r, cols.find? (fun c => c.name == k) = some c ∧
      keyColsAll cols ks = some r ∧ c.content.toKeyCol :: r = keys := by
  simp only [keyColsAll_cons, Option.bind_eq_some_iff, Option.map_eq_some_iff]
  exact ⟨fun ⟨x, hx, r, hr, h⟩ => ⟨x, r, hx, hr, h⟩, fun ⟨x, r, hx, hr, h⟩ => ⟨x, hx, r, hr, h⟩⟩

theorem keyColumns_cons_ok {sf : Frame} {k : String} {ks : List String} {f : Field} {r : List (List Int)}
    (hf : sf.lookup k = some f) (hr : keyColumns sf ks = .ok r) : keyColumns sf (k :: ks) = .ok (payloadKey f.payload :: r) := by
  simp only [keyColumns, hf]
  cases f.payload <;> simp only [hr, payloadKey]

theorem keyColsAll_length {μ} {cols : List (ColSpec μ)} {n : Nat} (hrect : ∀ c ∈ cols, c.content.length = n)
    {by_ : List String} {keys : List KeyCol} (hk : keyColsAll cols by_ = some keys) :
    ∀ k ∈ keys.map KeyCol.numpyView, k.length = n := by
  induction by_ generalizing keys with
  | nil => cases hk; exact fun _ h => nomatch h
  | cons b bs ih =>
    obtain ⟨c, r, hc, hr, rfl⟩ := keyColsAll_cons_eq_some.mp hk
    intro k hk'
    rcases List.mem_cons.mp hk' with rfl | hk'
    · rw [numpyView_length, toKeyCol_length]; exact hrect c (List.mem_of_find?_eq_some hc)
    · exact ih hr k hk'

theorem keyColumns_eq_all (sf : Frame) (cols : List (ColSpec Meta)) (hh : Holds sf cols) (by_ : List String)
    (keys : List KeyCol) (hk : keyColsAll cols by_ = some keys) :
    keyColumns sf by_ = .ok ((keys.map KeyCol.numpyView).map encCol) ∧ keysExist sf by_ = true := by
  induction by_ generalizing keys with
  | nil => cases hk; exact ⟨rfl, rfl⟩
  | cons b bs ih =>
    obtain ⟨c, r, hc, hr, rfl⟩ := keyColsAll_cons_eq_some.mp hk
    obtain ⟨f, hl, hhas, he⟩ := Holds_find hh hc
    obtain ⟨h1, h2⟩ := ih r hr
    exact ⟨by rw [keyColumns_cons_ok hl h1, payloadKey_eq he]; rfl, by rw [keysExist, List.all_cons, hhas]; exact h2⟩

theorem dfSortValues_eq_enc (v : Variant) (st : Store) (src : String) (sf : Frame) (cols : List (ColSpec Meta))
    (hs : st.lookup src = some sf) (hh : Holds sf cols) (n : Nat) (hrect : ∀ c ∈ cols, c.content.length = n)
    (by_ : List String) (hne : by_ ≠ []) (keys : List KeyCol) (hk : keyColsAll cols by_ = some keys)
    (ddf : Option String) :
    dfSortValues v st src by_ ddf = dfApplyIndex v st src
      ((sortPerm ((keys.map KeyCol.numpyView).map encCol) n).map (fun (k : Nat) => (k : Int))) ddf := by
  obtain ⟨hkc, hke⟩ := keyColumns_eq_all sf cols hh by_ keys hk
  have hklen := keyColsAll_length hrect hk
  obtain ⟨b, bs, rfl⟩ := List.exists_cons_of_ne_nil hne
  -- the first key column gives the row count
  obtain ⟨c, r, hc, _, rfl⟩ := keyColsAll_cons_eq_some.mp hk
  obtain ⟨f, hl, _, he⟩ := Holds_find hh hc
  have hn : f.payload.nrows = n := by rw [Encodes_nrows _ _ he]; exact hrect c (List.mem_of_find?_eq_some hc)
  have hsort := (datasetSortIndex_eq (((c.content.toKeyCol :: r).map KeyCol.numpyView).map encCol) n (by simp) (by
    intro k hk'
    obtain ⟨k0, hk0, rfl⟩ := List.mem_map.mp hk'
    rw [encCol_length]; exact hklen k0 hk0)).2
  simp only [dfSortValues, Store.frame_eq st src sf hs, List.isEmpty_cons, hke, List.headD_cons, hl, hn, hkc, hsort, bind,
    Except.bind, pure, Except.pure, Bool.false_eq_true, Bool.not_true, if_false]

theorem dfSortValues_eq_all (v : Variant) (st : Store) (src : String) (sf : Frame) (cols : List (ColSpec Meta))
    (hs : st.lookup src = some sf) (hh : Holds sf cols) (n : Nat) (hrect : ∀ c ∈ cols, c.content.length = n)
    (by_ : List String) (hne : by_ ≠ []) (keys : List KeyCol) (hk : keyColsAll cols by_ = some keys)
    (ddf : Option String) :
    ∃ p, dfSortValues v st src by_ ddf = dfApplyIndex v st src (p.map (fun (k : Nat) => (k : Int))) ddf ∧
      IsStableSortPermK (keys.map KeyCol.numpyView) n p ∧
      ∀ q, IsStableSortPermK (keys.map KeyCol.numpyView) n q → q = p :=
  ⟨_, dfSortValues_eq_enc v st src sf cols hs hh n hrect by_ hne keys hk ddf,
    sortPerm_enc_stableK n (keys.map KeyCol.numpyView) (keyColsAll_length hrect hk)⟩

theorem keyColsAll_of_keyCols {μ} (cols : List (ColSpec μ)) (by_ : List String) (keys : List (List Int))
    (hk : keyCols cols by_ = some keys) :
    keyColsAll cols by_ = some (keys.map .nums) ∧ ((keys.map KeyCol.nums).map KeyCol.numpyView).map encCol = keys := by
  induction by_ generalizing keys with
  | nil => cases hk; exact ⟨rfl, rfl⟩
  | cons b bs ih =>
    simp only [keyCols] at hk
    split at hk
    · rename_i c hc
      split at hk
      · rename_i xs r hx hr
        cases hk
        obtain ⟨h1, h2⟩ := ih r hr
        exact ⟨keyColsAll_cons_eq_some.mpr ⟨c, _, hc, h1, by rw [hx]; rfl⟩, by rw [List.map_cons, List.map_cons, List.map_cons, h2]; rfl⟩
      · cases hk
    · cases hk

theorem dfSortValues_eq (v : Variant) (st : Store) (src : String) (sf : Frame) (cols : List (ColSpec Meta))
    (hs : st.lookup src = some sf) (hh : Holds sf cols) (n : Nat) (hrect : ∀ c ∈ cols, c.content.length = n)
    (by_ : List String) (hne : by_ ≠ []) (keys : List (List Int)) (hk : keyCols cols by_ = some keys)
    (ddf : Option String) :
    dfSortValues v st src by_ ddf =
      dfApplyIndex v st src ((sortPerm keys n).map (fun (k : Nat) => (k : Int))) ddf := by
  obtain ⟨h1, h2⟩ := keyColsAll_of_keyCols cols by_ keys hk
  have h := dfSortValues_eq_enc v st src sf cols hs hh n hrect by_ hne _ h1 ddf
  rwa [h2] at h

end Exetera.FilterIndex
