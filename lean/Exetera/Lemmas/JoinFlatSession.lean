import Exetera.Lemmas.JoinFlatLeft
import Exetera.Lemmas.JoinFlatInner
import Exetera.Lemmas.MapValidFlat
import Exetera.Model.JoinOld
/-!
  Session level (C19): the join maps address rows of the payload columns (`InRange`), `_map_fields` maps every payload
  through `Spec.mapSpec`, and the two maps of `ordered_merge_inner` are the columns of the relational inner join for
  every truthful combination of the uniqueness flags.
-/
namespace Exetera.JoinOld
open Exetera Exetera.Spec Exetera.Join Exetera.JoinFlat

/-- a map column computed row by row is in range when every entry is the marker or a row number -/
theorem inRange_map {α} (rows : List α) (f : α → Int) (n : Nat) (inv : Int)
    (h : ∀ p ∈ rows, f p ≠ inv → 0 ≤ f p ∧ f p < n) : InRange n (rows.map f) inv := by
  intro i k hk hne
  rw [List.getElem?_map, Option.map_eq_some_iff] at hk
  obtain ⟨p, hp, rfl⟩ := hk
  exact h p (List.mem_of_getElem? hp) hne

theorem inRange_encR_of (rows : List (Nat × Option Nat)) (n : Nat) (inv : Int)
    (h : ∀ p ∈ rows, ∀ j, p.2 = some j → j < n) : InRange n (encR inv rows) inv :=
  inRange_map rows _ n inv fun p hp hne => by
    cases h2 : p.2 with
    | none => simp [h2, encCell] at hne
    | some j => exact ⟨Int.natCast_nonneg _, Int.ofNat_lt.mpr (h p hp j h2)⟩

theorem inRange_encR (L R : List Int) (inv : Int) : InRange R.length (encR inv (leftJoin L R)) inv :=
  inRange_encR_of _ _ inv (fun p hp => (leftJoinFrom_bounds R L 0 p hp).2.2)

theorem innerJoinFrom_bound (r : List Int) : ∀ (l : List Int) (base : Nat) (p : Nat × Nat),
    p ∈ innerJoinFrom r l base → base ≤ p.1 ∧ p.1 < base + l.length ∧ p.2 < r.length
  | [], _, _, h => by simp [innerJoinFrom] at h
  | a :: as, base, p, h => by
    simp only [innerJoinFrom, List.mem_append, List.mem_map] at h
    rcases h with ⟨y, hy, rfl⟩ | h
    · have := matchRows_lt a r 0 y hy
      simp only [List.length_cons]; omega
    · have := innerJoinFrom_bound r as (base + 1) p h
      simp only [List.length_cons]; omega

theorem inRange_inner_left (L R : List Int) (inv : Int) :
    InRange L.length ((innerJoin L R).map (fun p => (p.1 : Int))) inv :=
  inRange_map _ _ _ inv fun p hp _ => by have := innerJoinFrom_bound R L 0 p hp; omega

theorem inRange_inner_right (L R : List Int) (inv : Int) :
    InRange R.length ((innerJoin L R).map (fun p => (p.2 : Int))) inv :=
  inRange_map _ _ _ inv fun p hp _ => by have := innerJoinFrom_bound R L 0 p hp; omega

def MappedCols (m : List Int) (inv : Int) : List (List Int) → List (List Int) → Prop
  | [], [] => True
  | xs :: xss, col :: cols => mapSpec xs inv 0 m = some col ∧ MappedCols m inv xss cols
  | _, _ => False

theorem mapM_mapValid (m : List Int) (inv : Int) (n : Nat) (hr : InRange n m inv) :
    ∀ (xss : List (List Int)), (∀ xs ∈ xss, xs.length = n) →
      ∃ cols, mapM' (mapValidPayload m none inv) (xss.map Payload.numeric) = .ok cols ∧ MappedCols m inv xss cols
  | [], _ => ⟨[], rfl, trivial⟩
  | xs :: rest, h => by
    obtain ⟨col, h1, h2⟩ := MapValid.mapValid_mapSpec xs m inv (0 : Int) (by rw [h xs (by simp)]; exact hr)
    obtain ⟨cols, h3, h4⟩ := mapM_mapValid m inv n hr rest (fun x hx => h x (by simp [hx]))
    refine ⟨col :: cols, ?_, ⟨h2, h4⟩⟩
    simp only [List.map_cons, mapM', mapValidPayload, numericOf, h1, h3]

/-- `_map_fields` without sinks returns, and with field sinks writes, the mapped columns -/
theorem mapFields_none (m : List Int) (inv : Int) (n : Nat) (hr : InRange n m inv) (xss : List (List Int))
    (h : ∀ xs ∈ xss, xs.length = n) :
    ∃ cols, mapFields m (xss.map Payload.numeric) .none inv = .ok ⟨some cols, [], none⟩ ∧ MappedCols m inv xss cols := by
  obtain ⟨cols, h1, h2⟩ := mapM_mapValid m inv n hr xss h
  exact ⟨cols, by simp only [mapFields, h1], h2⟩

theorem mapFields_fields (m : List Int) (inv : Int) (n : Nat) (hr : InRange n m inv) (xss : List (List Int))
    (h : ∀ xs ∈ xss, xs.length = n) :
    ∃ cols, mapFields m (xss.map Payload.numeric) .fields inv = .ok ⟨none, cols, none⟩ ∧ MappedCols m inv xss cols := by
  obtain ⟨cols, h1, h2⟩ := mapM_mapValid m inv n hr xss h
  exact ⟨cols, by simp only [mapFields, h1], h2⟩

/-- the two maps of `ordered_merge_inner` for every truthful flag combination -/
theorem innerMaps_eq (lu ru : Bool) {L R : List Int} (hL : Sorted L) (hR : Sorted R)
    (hlu : lu = true → L.Pairwise (· < ·)) (hru : ru = true → R.Pairwise (· < ·)) :
    innerMaps lu ru L R = .ok (encodeInner (innerJoin L R)) := by
  have key : ∀ (sl sr : Bool), (sl = false → L.Pairwise (· < ·)) → (sr = false → R.Pairwise (· < ·)) →
      orderedInnerMap sl sr L R (List.replicate (innerJoin L R).length 0) (List.replicate (innerJoin L R).length 0)
        = .ok (encodeInner (innerJoin L R)) := by
    intro sl sr h1 h2
    rw [orderedInnerMap_eq sl sr _ _ hL hR h1 h2 (by simp) (by simp)]
    simp
  simp only [innerMaps, innerResultSize_eq hL hR]
  cases lu <;> cases ru
  · simpa using key true true (by simp) (by simp)
  · simp only [Bool.not_false, Bool.not_true, if_true, Bool.false_eq_true, if_false, orderedInnerMap_swapped hL (hru rfl)]
  · simpa using key false true (fun _ => hlu rfl) (by simp)
  · simpa using key false false (fun _ => hlu rfl) (fun _ => hru rfl)

end Exetera.JoinOld
