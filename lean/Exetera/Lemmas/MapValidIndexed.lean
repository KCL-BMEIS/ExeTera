import Exetera.Lemmas.MapValidFlat
/-! Indexed strings, up to the loop over partial calls inside one sub-chunk of the map.

    The destination of every kernel here is a running offset, the offsets written and the bytes written (the model's `IO`);
    `Adds es o o'` says that `o'` is `o` with the stored form of the entries `es` appended, and every level of the stream is
    specified by it. A source is read through an offsets window `ix` with value bytes `values` (`WinOK`, `wentry`):
    `WinOK.read` is what a kernel gets when it reads the two offsets of an entry. -/
namespace Exetera.MapValid

open Exetera Exetera.Spec

def sumLen {β} : List (List β) → Int
  | [] => 0
  | e :: es => e.length + sumLen es

/-- the running end offsets `[base+|e0|, base+|e0|+|e1|, …]` -/
def runSums {β} (base : Int) : List (List β) → List Int
  | [] => []
  | e :: es => (base + e.length) :: runSums (base + e.length) es

theorem offsetsFrom_eq {β} (base : Int) (es : List (List β)) : offsetsFromI base es = base :: runSums base es := by
  induction es generalizing base with
  | nil => rfl
  | cons e es ih => simp only [offsetsFromI, runSums, ih]

theorem sumLen_append {β} (xs ys : List (List β)) : sumLen (xs ++ ys) = sumLen xs + sumLen ys := by
  induction xs with
  | nil => simp [sumLen]
  | cons e es ih => simp only [List.cons_append, sumLen, ih]; omega

theorem runSums_append {β} (base : Int) (xs ys : List (List β)) :
    runSums base (xs ++ ys) = runSums base xs ++ runSums (base + sumLen xs) ys := by
  induction xs generalizing base with
  | nil => simp [runSums, sumLen]
  | cons e es ih =>
    simp only [List.cons_append, runSums, sumLen, ih]
    have : base + ↑e.length + sumLen es = base + (↑e.length + sumLen es) := by omega
    rw [this]

theorem runSums_length {β} (base : Int) (xs : List (List β)) : (runSums base xs).length = xs.length := by
  induction xs generalizing base with
  | nil => rfl
  | cons e es ih => simp [runSums, ih]

theorem sumLen_nonneg {β} (xs : List (List β)) : 0 ≤ sumLen xs := by
  induction xs with
  | nil => simp [sumLen]
  | cons e es ih => simp only [sumLen]; omega

theorem runSums_all_nil {β} (base : Int) : ∀ (xs : List (List β)), (∀ x ∈ xs, x = []) →
    runSums base xs = List.replicate xs.length base ∧ sumLen xs = 0 ∧ xs.flatten = [] := by
  intro xs
  induction xs with
  | nil => intro _; simp [runSums, sumLen]
  | cons e es ih =>
    intro h
    have he : e = [] := h e (by simp)
    obtain ⟨h1, h2, h3⟩ := ih (fun x hx => h x (by simp [hx]))
    subst he
    simp [runSums, sumLen, h1, h2, h3, List.replicate_succ]

theorem readRange_spec {β} (vals : List β) : ∀ (n p : Nat), p + n ≤ vals.length →
    readRange vals (p : Int) n = .ok (slice vals p (p + n)) := by
  intro n
  induction n with
  | zero => intro p _; simp [readRange, slice_self]
  | succ n ih =>
    intro p hle
    obtain ⟨x, hx⟩ := exists_getElem? vals (show p < vals.length by omega)
    have hg : getI vals (p : Int) "values[v]" = .ok x := getI_nonneg _ _ _ _ (Int.natCast_nonneg p) hx
    simp only [readRange, hg, show ((p : Int) + 1) = ((p + 1 : Nat) : Int) from rfl, ih (p + 1) (by omega)]
    rw [← slice_append_slice vals p (p + 1) (p + (n + 1)) (Nat.le_succ p) (by omega), slice_one vals p x hx,
      show p + 1 + n = p + (n + 1) by omega]
    rfl

theorem readRange_length {β} (values : List β) : ∀ (n : Nat) (v : Int) (bs : List β),
    readRange values v n = .ok bs → bs.length = n := by
  intro n
  induction n with
  | zero => intro v bs h; simp [readRange] at h; subst h; rfl
  | succ n ih =>
    intro v bs h
    simp only [readRange] at h
    split at h
    · cases h
    · split at h
      · cases h
      · rename_i bs' hbs'
        cases h
        simp [ih _ _ hbs']

/-- the decomposition reads only inside the offsets table, never runs out of recursion depth, and returns a tiling -/
theorem chunkDecompF_spec (indices : List Int) (budget : Int) :
    ∀ (f s e : Nat), e - s + 1 ≤ f → s < e → e < indices.length →
      ∃ subs, chunkDecompF indices budget f s e = .ok subs ∧ Tiles subs s e := by
  intro f
  induction f with
  | zero => intro s e h; omega
  | succ f ih =>
    intro s e hf hse he
    obtain ⟨ie, hge⟩ := exists_getElem? indices he
    obtain ⟨is_, hgs⟩ := exists_getElem? indices (Nat.lt_trans hse he)
    by_cases hc : ie - is_ > budget ∧ e - s > 1
    · -- the halves are non-empty and shorter, so the depth bound carries over
      have hmid : s < s + (e - s) / 2 ∧ s + (e - s) / 2 < e := by omega
      simp only [chunkDecompF, hge, hgs, hc, and_self, if_true]
      generalize s + (e - s) / 2 = mid at hmid ⊢
      obtain ⟨l1, h1, t1⟩ := ih s mid (by omega) hmid.1 (Nat.lt_trans hmid.2 he)
      obtain ⟨l2, h2, t2⟩ := ih mid e (by omega) hmid.2 he
      exact ⟨l1 ++ l2, by simp only [h1, h2], Tiles.append t1 t2⟩
    · exact ⟨[(s, e)], by simp only [chunkDecompF, hge, hgs, hc, if_false], Tiles.single hse⟩

theorem chunkDecomp_spec (indices : List Int) (budget : Int) (s e : Nat) (hse : s < e) (he : e < indices.length) :
    ∃ subs, chunkDecomp indices budget s e = .ok subs ∧ Tiles subs s e :=
  chunkDecompF_spec indices budget (e - s + 1) s e (Nat.le_refl _) hse he

structure WinOK {β} (ix : List Int) (values : List β) : Prop where
  mono : ∀ (i j : Nat) (x y : Int), i ≤ j → ix[i]? = some x → ix[j]? = some y → x ≤ y
  nonneg : ∀ (i : Nat) (x : Int), ix[i]? = some x → 0 ≤ x
  le_len : ∀ (i : Nat) (x : Int), ix[i]? = some x → x ≤ values.length

def wentry {β} (ix : List Int) (values : List β) (j : Nat) : List β :=
  slice values (ix.getD j 0).toNat (ix.getD (j + 1) 0).toNat

theorem WinOK.read {β} {ix : List Int} {values : List β} (h : WinOK ix values) (i : Int) (h0 : 0 ≤ i)
    (hi : i.toNat + 1 < ix.length) (s1 s2 : String) :
    ∃ X Y, ix[i.toNat]? = some X ∧ ix[i.toNat + 1]? = some Y ∧ getI ix i s1 = .ok X ∧ getI ix (i + 1) s2 = .ok Y ∧
      0 ≤ X ∧ X ≤ Y ∧ Y ≤ values.length ∧ wentry ix values i.toNat = slice values X.toNat Y.toNat ∧
      ((wentry ix values i.toNat).length : Int) = Y - X := by
  obtain ⟨n, rfl⟩ := Int.eq_ofNat_of_zero_le h0
  rw [Int.toNat_natCast] at hi ⊢
  obtain ⟨X, hX⟩ := exists_getElem? ix (Nat.lt_of_succ_lt hi)
  obtain ⟨Y, hY⟩ := exists_getElem? ix hi
  have hX0 := h.nonneg _ _ hX
  have hXY := h.mono _ _ _ _ (Nat.le_succ _) hX hY
  have hYl := h.le_len _ _ hY
  have hwe : wentry ix values n = slice values X.toNat Y.toNat := by
    simp only [wentry, List.getD_eq_getElem?_getD, hX, hY, Option.getD_some]
  refine ⟨X, Y, hX, hY, getI_nonneg _ _ _ _ h0 hX, getI_nonneg _ _ _ _ (Int.natCast_nonneg (n + 1)) hY, hX0, hXY, hYl,
    hwe, ?_⟩
  rw [hwe, slice_length_of_le _ _ _ (by omega)]; omega

/-- the copy loop reads entry `[X, Y)` out of the value window `values[A:B]` at the offsets relative to `A` -/
theorem readRange_window {β} (values : List β) (A B X Y : Int) (hA : 0 ≤ A) (hAX : A ≤ X) (hXY : X ≤ Y) (hYB : Y ≤ B)
    (hB : B ≤ values.length) :
    readRange (slice values A.toNat B.toNat) (X - A) ((Y - A) - (X - A)).toNat = .ok (slice values X.toNat Y.toNat) := by
  obtain ⟨a, rfl⟩ := Int.eq_ofNat_of_zero_le hA
  obtain ⟨x, rfl⟩ := Int.eq_ofNat_of_zero_le (Int.le_trans hA hAX)
  obtain ⟨y, rfl⟩ := Int.eq_ofNat_of_zero_le (Int.le_trans (Int.le_trans hA hAX) hXY)
  obtain ⟨b, rfl⟩ := Int.eq_ofNat_of_zero_le (Int.le_trans (Int.le_trans (Int.le_trans hA hAX) hXY) hYB)
  have hax : a ≤ x := Int.ofNat_le.mp hAX
  have hxy : x ≤ y := Int.ofNat_le.mp hXY
  have hyb : y ≤ b := Int.ofNat_le.mp hYB
  have hb : b ≤ values.length := Int.ofNat_le.mp hB
  rw [show ((y : Int) - a) - (x - a) = ((y - x : Nat) : Int) by omega, ← Int.natCast_sub hax]
  simp only [Int.toNat_natCast]
  rw [readRange_spec _ _ _ (by rw [slice_length_of_le _ _ _ hb]; omega), slice_slice _ _ _ _ _ (by omega)]
  congr 2 <;> omega

/-- why a partial call stopped before the end of the sub-chunk -/
def StopReason {β} (map_ : List Int) (ix : List Int) (values : List β) (mv : Int) (b capV : Nat) (inv : Int)
    (r : IP β) : Prop :=
  ∃ k, map_[r.sm]? = some k ∧ k ≠ inv ∧
    ((r.need = true ∧ (b : Int) ≤ k - mv) ∨
     (r.need = false ∧ k - mv < b ∧ (r.rv.length : Int) + (wentry ix values (k - mv).toNat).length > capV))

/-- what a partial call has produced when it has consumed the map positions `[sm, r.sm)` -/
def PartialPost {β} (esL : List (List β)) (sm : Nat) (accum : Int) (capV : Nat) (r : IP β) : Prop :=
  r.ri = runSums accum (slice esL sm r.sm) ∧ r.rv = (slice esL sm r.sm).flatten ∧
  r.accum = accum + sumLen (slice esL sm r.sm) ∧
  -- every entry copied so far fitted into the value buffer
  ∀ x ∈ slice esL sm r.sm, x.length ≤ capV

/-- one iteration of the partial kernel on the window `[a, b)` of the offsets `ix`, whose bytes are `values[A:B]`: it consumes
    the entry the map names at `sm` (the empty entry for the marker), or breaks because that entry lies beyond the window or
    does not fit the rest of the value buffer -/
theorem ipBody_step {β} (map_ : List Int) (sE : Nat) (ix : List Int) (a b : Nat) (values : List β) (mv : Int)
    (capI capV : Nat) (inv : Int) (A B : Int) (t : IP β) (k : Int)
    (hix : WinOK ix values) (hab : a < b) (hA : ix[a]? = some A) (hB : ix[b]? = some B)
    (hk : map_[t.sm]? = some k) (hri : t.ri.length < capI)
    (hwin : k ≠ inv → (a : Int) ≤ k - mv ∧ k - mv + 1 < ix.length) :
    let p : IPar β := ⟨map_, sE, ix, b, slice values A.toNat B.toNat, mv, capI, capV, inv, A⟩
    let e := if k = inv then [] else wentry ix values (k - mv).toNat
    (ipBody p t = .ok { t with sm := t.sm + 1, ri := t.ri ++ [t.accum + e.length], rv := t.rv ++ e,
                               accum := t.accum + e.length } ∧ e.length ≤ capV) ∨
    (ipBody p t = .ok { t with need := true, brk := true } ∧ k ≠ inv ∧ (b : Int) ≤ k - mv) ∨
    (ipBody p t = .ok { t with brk := true } ∧ k ≠ inv ∧ k - mv < b ∧ (t.rv.length : Int) + e.length > capV) := by
  intro p e
  by_cases hki : k = inv
  · left
    simp [p, e, ipBody, hk, hki, hri]
  · obtain ⟨hai, hiN⟩ := hwin hki
    have hkb : (k == inv) = false := by simpa using hki
    by_cases hib : (b : Int) ≤ k - mv
    · right; left
      exact ⟨by simp [p, ipBody, hk, hkb, hib], hki, hib⟩
    · obtain ⟨X, Y, hX, hY, gX, gY, hX0, hXY, hYl, hwe, hwl⟩ :=
        hix.read (k - mv) (by omega) (by omega) "indices[i]" "indices[i+1]"
      have hAX : A ≤ X := hix.mono a _ A X (by omega) hA hX
      have hYB : Y ≤ B := hix.mono _ b Y B (by omega) hY hB
      have he : e = wentry ix values (k - mv).toNat := if_neg hki
      by_cases hfull : (t.rv.length : Int) + (Y - A) - (X - A) > capV
      · right; right
        exact ⟨by simp [p, ipBody, hk, hkb, hib, gX, gY, hfull], hki, by omega, by rw [he, hwl]; omega⟩
      · left
        have hread := readRange_window values A B X Y (hix.nonneg _ _ hA) hAX hXY hYB (hix.le_len _ _ hB)
        have hd : Y - A - (X - A) = Y - X := by omega
        rw [← hwe, hd] at hread
        refine ⟨?_, by rw [he]; omega⟩
        simp [p, ipBody, hk, hkb, hib, gX, gY, hd, hfull, hread, hri, he, hwl]

theorem PartialPost.snoc {β} {esL : List (List β)} {sm : Nat} {accum : Int} {capV : Nat} {t : IP β} (e : List β)
    (h : PartialPost esL sm accum capV t) (hsm : sm ≤ t.sm) (he : esL[t.sm]? = some e) (hfit : e.length ≤ capV) :
    PartialPost esL sm accum capV
      { t with sm := t.sm + 1, ri := t.ri ++ [t.accum + e.length], rv := t.rv ++ e, accum := t.accum + e.length } := by
  obtain ⟨hri, hrv, hacc, hfit'⟩ := h
  simp only [PartialPost, slice_snoc esL sm t.sm e hsm he, runSums_append, sumLen_append, List.flatten_append, runSums,
    sumLen, hri, hrv, hacc, List.flatten_cons, List.flatten_nil, List.append_nil, Int.add_zero, Int.add_assoc,
    List.mem_append, List.mem_singleton, true_and]
  rintro x (hx | rfl)
  · exact hfit' x hx
  · exact hfit

theorem indexedPartial_spec {β} (map_ : List Int) (sE : Nat) (ix : List Int) (a b : Nat) (values vals : List β)
    (mv : Int) (capI capV : Nat) (inv : Int) (sm : Nat) (accum : Int) (esL : List (List β)) (A B : Int)
    (hix : WinOK ix values) (hab : a < b) (_hb : b < ix.length)
    (hA : ix[a]? = some A) (hB : ix[b]? = some B) (hvals : vals = slice values A.toNat B.toNat)
    (hsE : sE ≤ map_.length) (hesLen : sE ≤ esL.length) (hsm : sm ≤ sE) (hcapI : sE - sm ≤ capI)
    (hwin : ∀ (p : Nat) (k : Int), sm ≤ p → p < sE → map_[p]? = some k → k ≠ inv →
      (a : Int) ≤ k - mv ∧ k - mv + 1 < ix.length)
    (hes : ∀ (p : Nat) (k : Int), sm ≤ p → p < sE → map_[p]? = some k →
      esL[p]? = some (if k = inv then [] else wentry ix values (k - mv).toNat)) :
    ∃ r : IP β, indexedPartial map_ sE ix a b vals mv capI capV inv sm [] [] accum = .ok r ∧
      sm ≤ r.sm ∧ r.sm ≤ sE ∧ PartialPost esL sm accum capV r ∧
      (r.sm < sE → StopReason map_ ix values mv b capV inv r) ∧ (r.sm = sE → r.need = false) := by
  subst hvals
  -- a break is recorded with its reason; the measure counts the entries left plus one for the iteration that breaks
  have h := whileE_rule (ipGuard ⟨map_, sE, ix, b, slice values A.toNat B.toNat, mv, capI, capV, inv, A⟩)
    (ipBody ⟨map_, sE, ix, b, slice values A.toNat B.toNat, mv, capI, capV, inv, A⟩)
    (fun t => sm ≤ t.sm ∧ t.sm ≤ sE ∧ PartialPost esL sm accum capV t ∧ (t.brk = false → t.need = false) ∧
      (t.brk = true → t.sm < sE ∧ StopReason map_ ix values mv b capV inv t))
    (fun t => (sE - t.sm) + (if t.brk then 0 else 1))
    (by
      intro t ⟨h1, h2, hpost, hnb, _⟩ hg
      simp only [ipGuard, Bool.and_eq_true, decide_eq_true_eq, Bool.not_eq_true'] at hg
      obtain ⟨hlt, hbrk⟩ := hg
      have hneed := hnb hbrk
      obtain ⟨k, hk⟩ := exists_getElem? map_ (Nat.lt_of_lt_of_le hlt hsE)
      have hrilen : t.ri.length < capI := by
        rw [hpost.1, runSums_length, slice_length_of_le _ _ _ (Nat.le_trans h2 hesLen)]; omega
      rcases ipBody_step map_ sE ix a b values mv capI capV inv A B t k hix hab hA hB hk hrilen (hwin t.sm k h1 hlt hk) with
        ⟨hb, hfit⟩ | ⟨hb, hki, hbk⟩ | ⟨hb, hki, hkb, hfull⟩
      · refine ⟨_, hb, ⟨Nat.le_succ_of_le h1, hlt, hpost.snoc _ h1 (hes t.sm k h1 hlt hk) hfit, fun _ => hneed, ?_⟩, ?_⟩
        · intro hb'; rw [hbrk] at hb'; cases hb'
        · simp only [hbrk]; omega
      · refine ⟨_, hb, ⟨h1, h2, hpost, (fun hb' => by cases hb'), fun _ => ⟨hlt, k, hk, hki, Or.inl ⟨rfl, hbk⟩⟩⟩, ?_⟩
        simp only [hbrk]; simp
      · refine ⟨_, hb, ⟨h1, h2, hpost, (fun hb' => by cases hb'),
          fun _ => ⟨hlt, k, hk, hki, Or.inr ⟨hneed, hkb, by rw [if_neg hki] at hfull; exact hfull⟩⟩⟩, ?_⟩
        simp only [hbrk]; simp)
    (sE - sm + 1) ⟨sm, [], [], accum, false, false⟩
    ⟨Nat.le_refl _, hsm, by simp [PartialPost, slice_self, runSums, sumLen], fun _ => rfl, fun h => by cases h⟩
    (by simp)
  obtain ⟨r, hrun, ⟨h1, h2, hpost, hnb, hb'⟩, hg⟩ := h
  refine ⟨r, ?_, h1, h2, hpost, ?_, ?_⟩
  · simp only [indexedPartial, getE, hA]; exact hrun
  · intro hlt
    simp only [ipGuard, Bool.and_eq_false_iff, decide_eq_false_iff_not, Bool.not_eq_false'] at hg
    rcases hg with hg | hg
    · exact absurd hlt hg
    · exact (hb' hg).2
  · intro heq
    cases hbk : r.brk with
    | false => exact hnb hbk
    | true => have := (hb' hbk).1; omega

/-- `o'` is `o` after the entries `es` have been written: the running offset has advanced by their bytes, one end offset per
    entry has been appended to the offsets and the bytes themselves to the values -/
def Adds {β} (es : List (List β)) (o o' : IO β) : Prop :=
  o'.accum = o.accum + sumLen es ∧ o'.outI = o.outI ++ runSums o.accum es ∧ o'.outV = o.outV ++ es.flatten

theorem Adds.nil {β} (o : IO β) : Adds [] o o := by simp [Adds, sumLen, runSums]

theorem Adds.append {β} {es es' : List (List β)} {o o' o'' : IO β} (h : Adds es o o') (h' : Adds es' o' o'') :
    Adds (es ++ es') o o'' := by
  obtain ⟨a, b, c⟩ := h
  obtain ⟨a', b', c'⟩ := h'
  refine ⟨?_, ?_, ?_⟩
  · rw [a', a, sumLen_append]; omega
  · rw [b', b, a, runSums_append, List.append_assoc]
  · rw [c', c, List.flatten_append, List.append_assoc]

theorem Adds.snoc {β} {es : List (List β)} {o o' : IO β} (h : Adds es o o') (e : List β) :
    Adds (es ++ [e]) o ⟨o'.accum + e.length, o'.outI ++ [o'.accum + e.length], o'.outV ++ e⟩ :=
  h.append ⟨by simp [sumLen], by simp [runSums], by simp⟩

/-- flushing the buffers of a partial call appends what it produced to the destination -/
theorem PartialPost.adds {β} {esL : List (List β)} {sm : Nat} {accum : Int} {capV : Nat} {r : IP β}
    (h : PartialPost esL sm accum capV r) (I : List Int) (V : List β) :
    Adds (slice esL sm r.sm) ⟨accum, I, V⟩ ⟨r.accum, I ++ r.ri, V ++ r.rv⟩ :=
  ⟨h.2.2.1, by rw [h.1], by rw [h.2.1]⟩

theorem Adds.encode {β} {es : List (List β)} {o : IO β} (h : Adds es ⟨0, [0], []⟩ o) :
    (o.outI, o.outV) = encodeIndexed es := by
  simp only [encodeIndexed, offsetsFrom_eq, h.2.1, h.2.2, List.singleton_append, List.nil_append]

/-- the D5 error: raised, and only because one of the entries `es` exceeds the value buffer -/
def Oversized {β} (es : List (List β)) (cap : Nat) (e : Err) : Prop :=
  e = .valueError "entry does not fit the value buffer" ∧ ∃ x ∈ es, cap < x.length

/-! ### the loop over partial calls inside one sub-chunk of the map (`while sm < sm_end`) -/

theorem valueWindow_spec {β} (ix : List Int) (values : List β) (sc : Nat × Nat) (A B : Int) (hix : WinOK ix values)
    (hsc : sc.1 ≤ sc.2) (hA : ix[sc.1]? = some A) (hB : ix[sc.2]? = some B) :
    valueWindow ix values sc = .ok (slice values A.toNat B.toNat) := by
  have h0 := hix.nonneg _ _ hA
  have h1 := hix.le_len _ _ hB
  have h2 := hix.mono _ _ _ _ hsc hA hB
  simp only [valueWindow, getE, hA, hB]
  rw [pySlice_nonneg values A B h0 (by omega) h1 h2]

theorem valueWindow_tile {β} {ix : List Int} {values : List β} {subs : List (Nat × Nat)} {N : Nat} (hix : WinOK ix values)
    (hixlen : ix.length = N + 1) (htiles : Tiles subs 0 N) (j x y : Nat) (h : subs[j]? = some (x, y)) :
    ∃ A B, ix[x]? = some A ∧ ix[y]? = some B ∧ valueWindow ix values (x, y) = .ok (slice values A.toNat B.toNat) := by
  obtain ⟨_, hxy, hyN, _⟩ := Tiles.getElem? htiles j x y h
  obtain ⟨A, hA⟩ := exists_getElem? ix (show x < ix.length by omega)
  obtain ⟨B, hB⟩ := exists_getElem? ix (show y < ix.length by omega)
  exact ⟨A, B, hA, hB, valueWindow_spec ix values (x, y) A B hix (Nat.le_of_lt hxy) hA hB⟩

section inner

variable {β : Type} (map_ : List Int) (sS sE : Nat) (ix : List Int) (values : List β) (subs : List (Nat × Nat))
  (f : Int) (N : Nat) (capI capV : Nat) (inv : Int) (esL : List (List β)) (o0 : IO β)

/-- invariant of the loop over partial calls: the result buffers are flushed, the destination holds the entries of
    `[sS, sm)`, the value window is that of piece `s` of the decomposition, and no entry still to come lies before it -/
structure InnerInv (w : IW β) : Prop where
  lo : sS ≤ w.sm
  hi : w.sm ≤ sE
  tile : subs[w.s]? = some w.sc
  window : ∃ A B, ix[w.sc.1]? = some A ∧ ix[w.sc.2]? = some B ∧ w.vals = slice values A.toNat B.toNat
  ri : w.ri = []
  rv : w.rv = []
  adds : Adds (slice esL sS w.sm) o0 ⟨w.accum, w.outI, w.outV⟩
  fit : ∀ x ∈ slice esL sS w.sm, x.length ≤ capV
  ahead : ∀ (p : Nat) (k : Int), w.sm ≤ p → p < sE → map_[p]? = some k → k ≠ inv → (w.sc.1 : Int) ≤ k - f

variable (hix : WinOK ix values) (hixlen : ix.length = N + 1) (htiles : Tiles subs 0 N)
  (hsE : sE ≤ map_.length) (hesLen : sE ≤ esL.length) (hcapI : sE - sS ≤ capI)
  (hwin : ∀ (p : Nat) (k : Int), sS ≤ p → p < sE → map_[p]? = some k → k ≠ inv → 0 ≤ k - f ∧ k - f < N)
  (hmono : MonoOn map_ inv sS sE)
  (hes : ∀ (p : Nat) (k : Int), sS ≤ p → p < sE → map_[p]? = some k →
      esL[p]? = some (if k = inv then [] else wentry ix values (k - f).toNat))

include hix hixlen htiles hsE hesLen hcapI hwin hmono hes in
/-- one iteration: a partial call, then the buffers are flushed — unless the call got nowhere with empty buffers, which is
    the D5 error — and the value window moves to the next piece if the call asked for it -/
theorem innerBody_spec (w : IW β) (hI : InnerInv map_ sS sE ix values subs f capV inv esL o0 w) (hg : w.sm < sE) :
    (∃ w', innerBody map_ sE ix values subs f capI capV inv w = .ok w' ∧
      InnerInv map_ sS sE ix values subs f capV inv esL o0 w' ∧
      (sE - w'.sm) + (subs.length - w'.s) < (sE - w.sm) + (subs.length - w.s)) ∨
    (∃ e, innerBody map_ sE ix values subs f capI capV inv w = .error e ∧
      Oversized (slice esL sS sE) capV e ∧ 0 < (sE - w.sm) + (subs.length - w.s)) := by
  obtain ⟨A, B, hA, hB, hvals⟩ := hI.window
  obtain ⟨_, t2, t3, t4⟩ := Tiles.getElem? htiles w.s w.sc.1 w.sc.2 hI.tile
  have hlo := hI.lo
  obtain ⟨r, hrun, hr1, hr2, hpost, hstop, hend⟩ :=
    indexedPartial_spec map_ sE ix w.sc.1 w.sc.2 values w.vals f capI capV inv w.sm w.accum esL A B
      hix t2 (hixlen ▸ Nat.lt_succ_of_le t3) hA hB hvals hsE hesLen hI.hi
      (Nat.le_trans (Nat.sub_le_sub_left hlo sE) hcapI)
      (fun p k hp1 hp2 hpk hki =>
        ⟨hI.ahead p k hp1 hp2 hpk hki, by have := (hwin p k (Nat.le_trans hlo hp1) hp2 hpk hki).2; omega⟩)
      (fun p k hp1 hp2 hpk => hes p k (Nat.le_trans hlo hp1) hp2 hpk)
  have hlo' : sS ≤ r.sm := Nat.le_trans hlo hr1
  have hsl := slice_append_slice esL sS w.sm r.sm hlo hr1
  have hadds : Adds (slice esL sS r.sm) o0 ⟨r.accum, w.outI ++ r.ri, w.outV ++ r.rv⟩ :=
    hsl ▸ hI.adds.append (hpost.adds _ _)
  have hfit : ∀ x ∈ slice esL sS r.sm, x.length ≤ capV :=
    hsl ▸ List.forall_mem_append.mpr ⟨hI.fit, hpost.2.2.2⟩
  cases hneed : r.need with
  | true =>
    -- the next entry lies in a later piece of the decomposition: move the value window there
    have hlt : r.sm < sE := Nat.lt_of_le_of_ne hr2 (fun h => by simp [hend h] at hneed)
    obtain ⟨k, hk, hki, hreason⟩ := hstop hlt
    have hbk : (w.sc.2 : Int) ≤ k - f := by
      rcases hreason with ⟨_, h⟩ | ⟨h, _⟩
      · exact h
      · rw [hneed] at h; cases h
    obtain ⟨z, hz⟩ := t4 (by have := (hwin r.sm k hlo' hlt hk hki).2; omega)
    obtain ⟨A', B', hA', hB', hvw⟩ := valueWindow_tile hix hixlen htiles (w.s + 1) w.sc.2 z hz
    have hs1 := (List.getElem?_eq_some_iff.mp hz).1
    refine Or.inl ⟨{ w with sm := r.sm, ri := [], rv := [], accum := r.accum, outI := w.outI ++ r.ri,
                            outV := w.outV ++ r.rv, s := w.s + 1, sc := (w.sc.2, z),
                            vals := slice values A'.toNat B'.toNat },
      ?_, ⟨hlo', hr2, hz, ⟨A', B', hA', hB', rfl⟩, rfl, rfl, hadds, hfit, ?_⟩,
      Nat.add_lt_add_of_le_of_lt (Nat.sub_le_sub_left hr1 sE)
        (Nat.sub_lt_sub_left (Nat.lt_of_succ_lt hs1) (Nat.lt_succ_self _))⟩
    · simp only [innerBody, hI.ri, hI.rv, hrun, hneed, Bool.not_true, Bool.and_false, Bool.false_eq_true, if_false,
        if_true, getE, hz, hvw]
    · intro p k' hp1 hp2 hpk' hki'
      have := hmono r.sm p k k' hlo' hp1 hp2 hk hpk' hki hki'
      simp only []; omega
  | false =>
    by_cases heq : r.sm = w.sm
    · -- nothing consumed although the buffers were empty: the entry at `sm` is longer than the value buffer
      obtain ⟨k, hk, hki, hreason⟩ := hstop (heq ▸ hg)
      have hbig : capV < (wentry ix values (k - f).toNat).length := by
        rcases hreason with ⟨h, _⟩ | ⟨_, _, h⟩
        · rw [hneed] at h; cases h
        · rw [hpost.2.1, heq, slice_self] at h; simp at h; omega
      have hx := hes r.sm k hlo' (heq ▸ hg) hk
      rw [if_neg hki] at hx
      refine Or.inr ⟨_, ?_, ⟨rfl, _, mem_slice_of_getElem? hlo' (heq ▸ hg) hx, hbig⟩,
        Nat.add_pos_left (Nat.sub_pos_of_lt hg) _⟩
      simp [innerBody, hI.ri, hI.rv, hrun, heq, hneed]
    · have hne : (r.sm == w.sm) = false := by simpa using heq
      refine Or.inl ⟨{ w with sm := r.sm, ri := [], rv := [], accum := r.accum, outI := w.outI ++ r.ri,
                              outV := w.outV ++ r.rv },
        ?_, ⟨hlo', hr2, hI.tile, hI.window, rfl, rfl, hadds, hfit,
          fun p k hp1 hp2 => hI.ahead p k (Nat.le_trans hr1 hp1) hp2⟩,
        Nat.add_lt_add_right (Nat.sub_lt_sub_left hg (Nat.lt_of_le_of_ne hr1 (Ne.symm heq))) _⟩
      simp only [innerBody, hI.ri, hI.rv, hrun, hne, hneed, Bool.false_and, Bool.false_eq_true, if_false]

include hix hixlen htiles hsE hesLen hcapI hwin hmono hes in
/-- the whole loop over partial calls for one sub-chunk `[sS, sE)` of the map that holds a valid entry: it either appends
    the stored form of the sub-chunk's entries, all of which fitted the value buffer, or stops with the D5 error because
    one of them does not fit -/
theorem innerLoop_spec (sc0 : Nat × Nat) (vals0 : List β) (hsS : sS ≤ sE)
    (hsc0 : subs[0]? = some sc0) (hsc01 : sc0.1 = 0)
    (hv0 : ∃ A B, ix[sc0.1]? = some A ∧ ix[sc0.2]? = some B ∧ vals0 = slice values A.toNat B.toNat) :
    (∃ w, whileE (fun w : IW β => decide (w.sm < sE)) (innerBody map_ sE ix values subs f capI capV inv)
        (sE - sS + subs.length) ⟨sS, 0, sc0, vals0, [], [], o0.accum, o0.outI, o0.outV⟩ = .ok w ∧
      Adds (slice esL sS sE) o0 ⟨w.accum, w.outI, w.outV⟩ ∧ ∀ x ∈ slice esL sS sE, x.length ≤ capV) ∨
    (∃ e, whileE (fun w : IW β => decide (w.sm < sE)) (innerBody map_ sE ix values subs f capI capV inv)
        (sE - sS + subs.length) ⟨sS, 0, sc0, vals0, [], [], o0.accum, o0.outI, o0.outV⟩ = .error e ∧
      Oversized (slice esL sS sE) capV e) := by
  have h := whileE_rule_err (fun w : IW β => decide (w.sm < sE)) (innerBody map_ sE ix values subs f capI capV inv)
    (InnerInv map_ sS sE ix values subs f capV inv esL o0) (Oversized (slice esL sS sE) capV)
    (fun w => (sE - w.sm) + (subs.length - w.s))
    (fun w hI hg => innerBody_spec map_ sS sE ix values subs f N capI capV inv esL o0
        hix hixlen htiles hsE hesLen hcapI hwin hmono hes w hI (by simpa using hg))
    (sE - sS + subs.length) ⟨sS, 0, sc0, vals0, [], [], o0.accum, o0.outI, o0.outV⟩
    ⟨Nat.le_refl _, hsS, hsc0, hv0, rfl, rfl, by rw [slice_self]; exact Adds.nil o0, by simp [slice_self],
      fun p k hp1 hp2 hpk hki => by have := (hwin p k hp1 hp2 hpk hki).1; simp only [hsc01]; omega⟩
    (by simp)
  rcases h with ⟨w, hrun, hI, hg⟩ | ⟨e, hrun, hq⟩
  · have heq : w.sm = sE := Nat.le_antisymm hI.hi (by simpa using hg)
    exact Or.inl ⟨w, hrun, heq ▸ hI.adds, heq ▸ hI.fit⟩
  · exact Or.inr ⟨e, hrun, hq⟩

end inner

theorem entries_length {β} (indices : List Int) (values : List β) :
    (entries indices values).length = indices.length - 1 := by
  simp only [entries, List.length_zipWith, List.length_tail]; omega

theorem entries_getElem? {β} (indices : List Int) (values : List β) (j : Nat) (a b : Int)
    (ha : indices[j]? = some a) (hb : indices[j + 1]? = some b) :
    (entries indices values)[j]? = some (slice values a.toNat b.toNat) := by
  simp only [entries, List.getElem?_zipWith, List.getElem?_tail, ha, hb, slice]

theorem winOK_of_indexedOK {β} (indices : List Int) (values : List β) (h : IndexedOK indices values) :
    WinOK indices values := by
  obtain ⟨hhead, hpw, hlast⟩ := h
  have mono : ∀ (i j : Nat) (x y : Int), i ≤ j → indices[i]? = some x → indices[j]? = some y → x ≤ y := by
    intro i j x y hij hi hj
    obtain ⟨hil, hix⟩ := List.getElem?_eq_some_iff.mp hi
    obtain ⟨hjl, hjy⟩ := List.getElem?_eq_some_iff.mp hj
    by_cases heq : i = j
    · subst heq; rw [hix] at hjy; omega
    · have := List.pairwise_iff_getElem.mp hpw i j hil hjl (by omega)
      rw [hix, hjy] at this; exact this
  refine ⟨mono, ?_, ?_⟩
  · intro i x hi
    have h0 : indices[0]? = some 0 := by
      cases indices with
      | nil => simp at hhead
      | cons a as => simpa using hhead
    exact mono 0 i 0 x (by omega) h0 hi
  · intro i x hi
    have hil := (List.getElem?_eq_some_iff.mp hi).1
    have hl : indices[indices.length - 1]? = some (values.length : Int) := by
      rw [List.getLast?_eq_getElem?] at hlast; exact hlast
    exact mono i (indices.length - 1) x _ (by omega) hi hl

theorem winOK_slice {β} (indices : List Int) (values : List β) (a b : Nat) (h : WinOK indices values) :
    WinOK (slice indices a b) values := by
  have key : ∀ (i : Nat) (x : Int), (slice indices a b)[i]? = some x → indices[a + i]? = some x := by
    intro i x hi
    rw [slice_getElem?] at hi
    split at hi
    · exact hi
    · cases hi
  exact ⟨fun i j x y hij hi hj => h.mono (a + i) (a + j) x y (by omega) (key i x hi) (key j y hj),
    fun i x hi => h.nonneg _ x (key i x hi), fun i x hi => h.le_len _ x (key i x hi)⟩

theorem wentry_window {β} (indices : List Int) (values : List β) (F N j : Nat) (hj : j < N)
    (hlen : F + N + 1 ≤ indices.length) :
    (entries indices values)[F + j]? = some (wentry (slice indices F (F + N + 1)) values j) := by
  obtain ⟨a, ha⟩ := exists_getElem? indices (show F + j < indices.length by omega)
  obtain ⟨b, hb⟩ := exists_getElem? indices (show F + j + 1 < indices.length by omega)
  rw [entries_getElem? indices values (F + j) a b ha hb]
  simp only [wentry, List.getD_eq_getElem?_getD, slice_getElem?, if_pos (show j < F + N + 1 - F by omega),
    if_pos (show j + 1 < F + N + 1 - F by omega), ha, ← Nat.add_assoc, hb, Option.getD_some]

/-- the offsets window `indices[f : l+2]` that the stream cuts for the rows `f..l` of a well-formed field: it is well
    formed, holds `l - f + 1` entries, and its entry `k - f` is row `k` of the field -/
theorem offsets_window {β} (indices : List Int) (values : List β) (hok : IndexedOK indices values) (f l : Int)
    (hf : 0 ≤ f) (hfl : f ≤ l) (hl : l < (entries indices values).length) :
    ∃ (ix : List Int) (N : Nat), pySlice indices f (l + 2) = ix ∧ (l - f + 1).toNat = N + 1 ∧ ix.length = N + 2 ∧
      WinOK ix values ∧
      ∀ k : Int, f ≤ k → k ≤ l → (entries indices values)[k.toNat]? = some (wentry ix values (k - f).toNat) := by
  obtain ⟨F, rfl⟩ := Int.eq_ofNat_of_zero_le hf
  obtain ⟨L, rfl⟩ := Int.eq_ofNat_of_zero_le (Int.le_trans hf hfl)
  have hFL : F ≤ L := Int.ofNat_le.mp hfl
  rw [entries_length] at hl
  have hL : L + 2 ≤ indices.length := by omega
  refine ⟨slice indices F (F + (L - F + 1) + 1), L - F, ?_, ?_, ?_, winOK_slice _ _ _ _ (winOK_of_indexedOK _ _ hok), ?_⟩
  · rw [pySlice_nonneg indices F (L + 2) hf (by omega) (by omega) (by omega)]
    simp only [Int.toNat_natCast, show ((L : Int) + 2) = ((L + 2 : Nat) : Int) from rfl]
    congr 1; omega
  · rw [← Int.natCast_sub hFL]; rfl
  · rw [slice_length_of_le _ _ _ (by omega)]; omega
  · intro k hFk hkL
    obtain ⟨K, rfl⟩ := Int.eq_ofNat_of_zero_le (Int.le_trans hf hFk)
    have hFK : F ≤ K := Int.ofNat_le.mp hFk
    have := wentry_window indices values F (L - F + 1) (K - F) (by omega) (by omega)
    rw [Nat.add_sub_cancel' hFK] at this
    rw [← Int.natCast_sub hFK]
    simp only [Int.toNat_natCast]
    exact this

end Exetera.MapValid
