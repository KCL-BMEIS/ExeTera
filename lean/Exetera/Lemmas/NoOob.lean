import Exetera.Model.Basic
/-! C10 glue: a run that is known to end in `.ok` (or in one named non-`oob` error) is not an out-of-bounds error.
    Most `no_oob_*` theorems of `Props/C10/*.lean` are the owning property's `= .ok` theorem followed by one of these. -/
namespace Exetera

theorem ne_oob_of_ok {α} {x : Except Err α} {a : α} (h : x = .ok a) (site : String) : x ≠ .error (.oob site) := by
  rw [h]; intro h'; cases h'

theorem ne_oob_of_exists {α} {x : Except Err α} {P : α → Prop} (h : ∃ a, x = .ok a ∧ P a) (site : String) :
    x ≠ .error (.oob site) := by
  obtain ⟨a, ha, _⟩ := h; exact ne_oob_of_ok ha site

theorem ne_oob_of_exists' {α} {x : Except Err α} (h : ∃ a, x = .ok a) (site : String) : x ≠ .error (.oob site) := by
  obtain ⟨a, ha⟩ := h; exact ne_oob_of_ok ha site

theorem ne_oob_of_valueError {α} {x : Except Err α} {m : String} (h : x = .error (.valueError m)) (site : String) :
    x ≠ .error (.oob site) := by
  rw [h]; intro h'; cases h'

theorem ne_oob_of_other {α} {x : Except Err α} {m : String} (h : x = .error (.other m)) (site : String) :
    x ≠ .error (.oob site) := by
  rw [h]; intro h'; cases h'

theorem ite_ok_error_iff {α} {c : Prop} [Decidable c] {a : α} {e₀ : Err} :
    (∃ e, (if c then Except.ok a else .error e₀) = .error e) ↔ ¬c := by
  by_cases h : c <;> simp [h]

theorem whileE_inv_of_ok {σ} (guard : σ → Bool) (body : σ → Except Err σ) (Inv : σ → Prop)
    (step : ∀ s s', Inv s → body s = .ok s' → Inv s') :
    ∀ (n : Nat) (s s' : σ), whileE guard body n s = .ok s' → Inv s → Inv s' := by
  intro n
  induction n with
  | zero =>
    intro s s' h hI
    cases hg : guard s with
    | true => simp [whileE, hg] at h
    | false => simp [whileE, hg] at h; subst h; exact hI
  | succ n ih =>
    intro s s' h hI
    cases hg : guard s with
    | false => simp [whileE, hg] at h; subst h; exact hI
    | true =>
      simp only [whileE, hg, if_true] at h
      cases hb : body s with
      | error e => simp [hb] at h
      | ok s1 => simp only [hb] at h; exact ih s1 s' h (step s s1 hI hb)

end Exetera
