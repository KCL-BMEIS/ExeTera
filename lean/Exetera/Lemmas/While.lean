import Exetera.Lemmas.Basic
/-!
  Rules for `whileE`. The four equations say how a loop unfolds; `whileE_induct` is the induction principle over a run, of
  which the fuel and invariant facts here and in `WhileFuel` are instances; `whileE_rule` is the total-correctness rule
  (invariant + variant ⇒ the loop ends in `.ok`, the invariant holds, the guard is false), so that a kernel needs only a
  one-iteration lemma.
-/
namespace Exetera

variable {σ : Type _} {g : σ → Bool} {b : σ → Except Err σ} {s s₁ : σ}

theorem whileE_of_guard_false (hg : g s = false) (n : Nat) : whileE g b n s = .ok s := by
  cases n <;> simp [whileE, hg]

theorem whileE_zero_of_guard (hg : g s = true) : whileE g b 0 s = .error .outOfFuel := by
  simp [whileE, hg]

theorem whileE_succ_of_ok (hg : g s = true) (hb : b s = .ok s₁) (n : Nat) : whileE g b (n + 1) s = whileE g b n s₁ := by
  simp [whileE, hg, hb]

theorem whileE_succ_of_error {e : Err} (hg : g s = true) (hb : b s = .error e) (n : Nat) :
    whileE g b (n + 1) s = .error e := by
  simp [whileE, hg, hb]

theorem whileE_induct (g : σ → Bool) (b : σ → Except Err σ) {C : Nat → σ → Except Err σ → Prop}
    (stop : ∀ n s, g s = false → C n s (.ok s))
    (fuel : ∀ s, g s = true → C 0 s (.error .outOfFuel))
    (fail : ∀ n s e, g s = true → b s = .error e → C (n + 1) s (.error e))
    (step : ∀ n s s₁, g s = true → b s = .ok s₁ → C n s₁ (whileE g b n s₁) → C (n + 1) s (whileE g b n s₁)) :
    ∀ n s, C n s (whileE g b n s) := by
  intro n
  induction n with
  | zero =>
    intro s
    cases hg : g s with
    | false => rw [whileE_of_guard_false hg]; exact stop 0 s hg
    | true => rw [whileE_zero_of_guard hg]; exact fuel s hg
  | succ n ih =>
    intro s
    cases hg : g s with
    | false => rw [whileE_of_guard_false hg]; exact stop _ s hg
    | true =>
      cases hb : b s with
      | error e => rw [whileE_succ_of_error hg hb]; exact fail n s e hg hb
      | ok s₁ => rw [whileE_succ_of_ok hg hb]; exact step n s s₁ hg hb (ih s₁)

theorem whileE_ok_induct (g : σ → Bool) (b : σ → Except Err σ) {C : σ → σ → Prop}
    (stop : ∀ s, g s = false → C s s)
    (step : ∀ s s₁ s', g s = true → b s = .ok s₁ → C s₁ s' → C s s') :
    ∀ n s s', whileE g b n s = .ok s' → C s s' := by
  intro n s
  refine whileE_induct g b (C := fun _ s r => ∀ s', r = .ok s' → C s s') ?_ ?_ ?_ ?_ n s
  · intro _ s hg s' h; cases h; exact stop s hg
  · intro _ _ _ h; cases h
  · intro _ _ _ _ _ _ h; cases h
  · intro _ s s₁ hg hb ih s' h; exact step s s₁ s' hg hb (ih s' h)

/-- Total correctness when an iteration may also fail with an error satisfying `Q` (an iteration that fails still needs one
    unit of fuel: `0 < μ s`): the loop ends in `.ok` with the invariant and the guard false, or in such an error. -/
theorem whileE_rule_err {σ} (guard : σ → Bool) (body : σ → Except Err σ) (Inv : σ → Prop) (Q : Err → Prop) (μ : σ → Nat)
    (step : ∀ s, Inv s → guard s = true →
      (∃ s', body s = .ok s' ∧ Inv s' ∧ μ s' < μ s) ∨ (∃ e, body s = .error e ∧ Q e ∧ 0 < μ s)) :
    ∀ (n : Nat) (s : σ), Inv s → μ s ≤ n →
      (∃ s', whileE guard body n s = .ok s' ∧ Inv s' ∧ guard s' = false) ∨
      (∃ e, whileE guard body n s = .error e ∧ Q e) := by
  intro n
  induction n with
  | zero =>
    intro s hI hμ
    cases hg : guard s with
    | false => exact .inl ⟨s, whileE_of_guard_false hg 0, hI, hg⟩
    | true => rcases step s hI hg with ⟨_, _, _, _⟩ | ⟨_, _, _, _⟩ <;> omega
  | succ n ih =>
    intro s hI hμ
    cases hg : guard s with
    | false => exact .inl ⟨s, whileE_of_guard_false hg _, hI, hg⟩
    | true =>
      rcases step s hI hg with ⟨s₁, hb, hI₁, hlt⟩ | ⟨e, hb, hq, _⟩
      · rw [whileE_succ_of_ok hg hb]; exact ih s₁ hI₁ (by omega)
      · exact .inr ⟨e, whileE_succ_of_error hg hb n, hq⟩

theorem whileE_rule {σ} (guard : σ → Bool) (body : σ → Except Err σ)
    (Inv : σ → Prop) (μ : σ → Nat)
    (step : ∀ s, Inv s → guard s = true → ∃ s', body s = .ok s' ∧ Inv s' ∧ μ s' < μ s) :
    ∀ (n : Nat) (s : σ), Inv s → μ s ≤ n →
      ∃ s', whileE guard body n s = .ok s' ∧ Inv s' ∧ guard s' = false := fun n s hI hμ =>
  (whileE_rule_err guard body Inv (fun _ => False) μ (fun s hI hg => .inl (step s hI hg)) n s hI hμ).resolve_right
    fun ⟨_, _, h⟩ => h

theorem whileE_mono {σ} (guard : σ → Bool) (body : σ → Except Err σ) :
    ∀ (n : Nat) (s s' : σ), whileE guard body n s = .ok s' → ∀ m, n ≤ m → whileE guard body m s = .ok s' := by
  intro n s
  refine whileE_induct guard body
    (C := fun n s r => ∀ s', r = .ok s' → ∀ m, n ≤ m → whileE guard body m s = .ok s') ?_ ?_ ?_ ?_ n s
  · intro _ s hg s' h m _; cases h; exact whileE_of_guard_false hg m
  · intro _ _ _ h; cases h
  · intro _ _ _ _ _ _ h; cases h
  · intro n s s₁ hg hb ih s' h m hm
    obtain ⟨m, rfl⟩ : ∃ k, m = k + 1 := ⟨m - 1, by omega⟩
    rw [whileE_succ_of_ok hg hb]
    exact ih s' h m (by omega)

theorem whileE_guard_false {σ} (guard : σ → Bool) (body : σ → Except Err σ) :
    ∀ (n : Nat) (s s' : σ), whileE guard body n s = .ok s' → guard s' = false :=
  whileE_ok_induct guard body (C := fun _ s' => guard s' = false) (fun _ hg => hg) (fun _ _ _ _ _ h => h)

theorem whileE_invariant {σ} (g : σ → Bool) (b : σ → Except Err σ) (P : σ → Prop)
    (step : ∀ s s', P s → g s = true → b s = .ok s' → P s') :
    ∀ (n : Nat) (s s' : σ), P s → whileE g b n s = .ok s' → P s' ∧ g s' = false := fun n s s' hP h =>
  whileE_ok_induct g b (C := fun s s' => P s → P s' ∧ g s' = false) (fun _ hg h => ⟨h, hg⟩)
    (fun s s₁ _ hg hb ih hP => ih (step s s₁ hP hg hb)) n s s' h hP

end Exetera
