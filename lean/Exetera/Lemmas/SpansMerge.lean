import Exetera.Lemmas.Spans
import Exetera.Lemmas.SpansScan
/-! `_get_spans_for_2_fields_by_spans` is the sorted union of two span arrays, and never reads `span1` out of bounds when
    `span1` reaches at least as far as `span0`. -/
namespace Exetera.Spans

open Exetera Exetera.Spec

theorem mergeAdvance_eq (x : Nat) : ∀ (s1 : List Nat), s1.Pairwise (· < ·) → (∃ y ∈ s1, x ≤ y) →
    mergeAdvance x s1 = .ok (s1.filter (· < x), s1.filter (x < ·))
  | [], _, h => by obtain ⟨y, hy, _⟩ := h; simp at hy
  | y :: rest, hp, h => by
    rw [List.pairwise_cons] at hp
    unfold mergeAdvance
    by_cases h1 : y < x
    · simp only [h1, if_true]
      have hex : ∃ z ∈ rest, x ≤ z := by
        obtain ⟨z, hz, hxz⟩ := h
        rcases List.mem_cons.1 hz with rfl | hz
        · omega
        · exact ⟨z, hz, hxz⟩
      rw [mergeAdvance_eq x rest hp.2 hex]
      have : ¬ x < y := by omega
      simp [h1, this]
    · simp only [h1, if_false]
      by_cases h2 : y = x
      · subst h2
        simp only [beq_self_eq_true, if_true]
        have e1 : (y :: rest).filter (· < y) = [] := by
          rw [List.filter_eq_nil_iff]
          intro a ha
          rcases List.mem_cons.1 ha with rfl | ha
          · simp
          · have := hp.1 a ha; simp; omega
        have e2 : (y :: rest).filter (y < ·) = rest := by
          rw [List.filter_cons]
          simp only [Nat.lt_irrefl, decide_false, Bool.false_eq_true, if_false]
          rw [List.filter_eq_self]
          intro a ha; have := hp.1 a ha; simpa using this
        rw [e1, e2]
      · have hb : (y == x) = false := by simp [h2]
        simp only [hb, Bool.false_eq_true, if_false]
        have e1 : (y :: rest).filter (· < x) = [] := by
          rw [List.filter_eq_nil_iff]
          intro a ha
          rcases List.mem_cons.1 ha with rfl | ha
          · simpa using h1
          · have := hp.1 a ha; simp; omega
        have e2 : (y :: rest).filter (x < ·) = y :: rest := by
          rw [List.filter_eq_self]
          intro a ha
          rcases List.mem_cons.1 ha with rfl | ha
          · simp; omega
          · have := hp.1 a ha; simp; omega
        rw [e1, e2]

theorem mergeLoop_nil_right : ∀ (s0 : List Nat), mergeLoop s0 [] = .ok s0
  | [] => rfl
  | x :: xs => by rw [mergeLoop, mergeLoop_nil_right xs]; rfl

theorem mergeLoop_spec : ∀ (s0 s1 : List Nat), s0.Pairwise (· < ·) → s1.Pairwise (· < ·) →
    (s1 = [] ∨ ∀ x ∈ s0, ∃ y ∈ s1, x ≤ y) →
    ∃ m, mergeLoop s0 s1 = .ok m ∧ m.Pairwise (· < ·) ∧ ∀ z, z ∈ m ↔ z ∈ s0 ∨ z ∈ s1
  | [], s1, _, h1, _ => ⟨s1, by cases s1 <;> rfl, h1, by simp⟩
  | x :: xs, [], h0, _, _ => ⟨x :: xs, mergeLoop_nil_right _, h0, by simp⟩
  | x :: xs, y :: rest, h0, h1, hc => by
    have hc' : ∀ x' ∈ x :: xs, ∃ z ∈ y :: rest, x' ≤ z := by
      rcases hc with hc | hc
      · simp at hc
      · exact hc
    have hadv := mergeAdvance_eq x (y :: rest) h1 (hc' x (by simp))
    have h0' := List.pairwise_cons.1 h0
    have hr : ((y :: rest).filter (x < ·)).Pairwise (· < ·) := List.Pairwise.filter _ h1
    have hcr : ((y :: rest).filter (x < ·)) = [] ∨ ∀ x' ∈ xs, ∃ z ∈ (y :: rest).filter (x < ·), x' ≤ z := by
      right
      intro x' hx'
      obtain ⟨z, hz, hxz⟩ := hc' x' (by simp [hx'])
      have := h0'.1 x' hx'
      exact ⟨z, by rw [List.mem_filter]; exact ⟨hz, by simp; omega⟩, hxz⟩
    obtain ⟨t, ht, htp, htm⟩ := mergeLoop_spec xs ((y :: rest).filter (x < ·)) h0'.2 hr hcr
    refine ⟨(y :: rest).filter (· < x) ++ x :: t, ?_, ?_, ?_⟩
    · rw [mergeLoop, hadv]
      simp only []
      rw [ht]
    · rw [List.pairwise_append]
      refine ⟨List.Pairwise.filter _ h1, ?_, ?_⟩
      · rw [List.pairwise_cons]
        refine ⟨?_, htp⟩
        intro a ha
        rcases (htm a).1 ha with ha | ha
        · exact h0'.1 a ha
        · rw [List.mem_filter] at ha; simpa using ha.2
      · intro a ha b hb
        rw [List.mem_filter] at ha
        have hax : a < x := by simpa using ha.2
        rcases List.mem_cons.1 hb with rfl | hb
        · exact hax
        · rcases (htm b).1 hb with hb | hb
          · have := h0'.1 b hb; omega
          · rw [List.mem_filter] at hb
            have : x < b := by simpa using hb.2
            omega
    · intro z
      simp only [List.mem_append, List.mem_cons, List.mem_filter, htm]
      constructor
      · rintro (⟨hz, _⟩ | rfl | hz | ⟨hz, _⟩)
        · exact Or.inr hz
        · exact Or.inl (Or.inl rfl)
        · exact Or.inl (Or.inr hz)
        · exact Or.inr hz
      · rintro ((rfl | hz) | hz)
        · exact Or.inr (Or.inl rfl)
        · exact Or.inr (Or.inr (Or.inl hz))
        · by_cases hlt : z < x
          · exact Or.inl ⟨hz, by simpa using hlt⟩
          · by_cases heq : z = x
            · exact Or.inr (Or.inl heq)
            · exact Or.inr (Or.inr (Or.inr ⟨hz, by simp; omega⟩))

/-- union of two span arrays, member by member: the ends are shared, the boundaries add up -/
theorem or_or_or_merge {a b c d : Prop} : (a ∨ b ∨ c) ∨ (a ∨ b ∨ d) ↔ a ∨ b ∨ c ∨ d := by
  constructor
  · rintro ((h | h | h) | (h | h | h))
    · exact Or.inl h
    · exact Or.inr (Or.inl h)
    · exact Or.inr (Or.inr (Or.inl h))
    · exact Or.inl h
    · exact Or.inr (Or.inl h)
    · exact Or.inr (Or.inr (Or.inr h))
  · rintro (h | h | h | h)
    · exact Or.inl (Or.inl h)
    · exact Or.inl (Or.inr (Or.inl h))
    · exact Or.inl (Or.inr (Or.inr h))
    · exact Or.inr (Or.inr (Or.inr h))

theorem merge_wellformed (s0 s1 : List Nat) (n : Nat) (h0 : Wellformed s0 n) (h1 : Wellformed s1 n) :
    ∃ m, getSpansFor2FieldsBySpans s0 s1 = .ok m ∧ m.Pairwise (· < ·) ∧ ∀ z, z ∈ m ↔ z ∈ s0 ∨ z ∈ s1 := by
  apply mergeLoop_spec s0 s1 h0.1 h1.1
  right
  intro x hx
  have hn : n ∈ s1 := by
    have := h1.2.2
    rw [List.getLast?_eq_some_iff] at this
    obtain ⟨ys, hys⟩ := this
    rw [hys]; simp
  exact ⟨n, hn, le_getLast_of_pairwise s0 n h0.1 h0.2.2 x hx⟩

theorem getSpansFor2FieldsBySpans_eq_spec {α β} [BEq α] [BEq β] (a : List α) (b : List β) (hl : a.length = b.length) :
    getSpansFor2FieldsBySpans (spans neq a) (spans neq b) = .ok (spans neq (a.zip b)) := by
  obtain ⟨m, hm, hp, hmem⟩ := merge_wellformed (spans neq a) (spans neq b) a.length
    (spans_wellformed' neq a) (by rw [hl]; exact spans_wellformed' neq b)
  rw [hm]
  congr 1
  apply pairwise_lt_ext hp (spans_pairwise _ _)
  intro z
  rw [hmem, mem_spans, mem_spans, mem_spans, isBoundary_zip a b hl]
  have hz : (a.zip b).length = a.length := by simp [List.length_zip, hl]
  rw [hz, ← hl]
  simp only [Bool.or_eq_true]
  exact or_or_or_merge

end Exetera.Spans
