import Exetera.Lemmas.CatalogueRename
/-! The building blocks of the client calls, in a consistent state.

    A block tests its guards and raises with the state untouched, or it goes on to update the tables and returns: the later
    steps of a composite block (the h5 step after the dictionary step, the drop after the copy, the field copies inside a
    dataframe copy) cannot fail once the guards have passed, because the two catalogues agree. `Res.Decides` says this of an
    outcome; each block gets one lemma of that form. The exception is `dataframe.move` handed the left-over of a deleted
    column, which raises after its copy (`moveField_core`). -/
namespace Exetera.Catalogue

def Res.Decides {α} (s : State) (ok : Prop) (Q : α → State → Prop) : Res α → Prop
  | .err _ s' => ¬ ok ∧ s' = s
  | .ok a s' => ok ∧ Q a s'

def Res.Atomic {α} (s : State) (Q : State → Prop) : Res α → Prop
  | .err _ s' => s' = s
  | .ok _ s' => Q s'

section
variable {α : Type} {s : State} {ok ok' : Prop} {Q Q' : α → State → Prop} {P P' : State → Prop} {r : Res α}

theorem Res.Decides.of_ok {a : α} {s' : State} (h : r.Decides s ok Q) (hr : r = .ok a s') : ok ∧ Q a s' := by
  subst hr; exact h

theorem Res.Decides.isOk [Decidable ok] (h : r.Decides s ok Q) : r.isOk = decide ok := by
  cases r <;> simp [Res.isOk, h.1]

theorem Res.Decides.mono (h : r.Decides s ok Q) (hok : ok ↔ ok') (hQ : ∀ a s', ok → Q a s' → Q' a s') : r.Decides s ok' Q' := by
  cases r with
  | err e s' => exact ⟨fun h' => h.1 (hok.2 h'), h.2⟩
  | ok a s' => exact ⟨hok.1 h.1, hQ a s' h.1 h.2⟩

theorem Res.Decides.atomic (h : r.Decides s ok Q) (hQ : ∀ a s', ok → Q a s' → P s') : r.Atomic s P := by
  cases r with
  | err e s' => exact h.2
  | ok a s' => exact hQ a s' h.1 h.2

theorem Res.Decides.and_state (h : r.Decides s ok Q) (hP : P r.state) : r.Decides s ok fun a s' => Q a s' ∧ P s' := by
  cases r with
  | err e s' => exact h
  | ok a s' => exact ⟨h.1, h.2, hP⟩

theorem Res.Decides.void (h : r.Decides s ok fun _ => P) : r.void.Decides s ok fun _ => P := by
  cases r <;> exact h

theorem Res.Atomic.errKeeps (h : r.Atomic s P) : ErrKeeps s r := by
  intro e s' hr; subst hr; exact h

theorem Res.Atomic.state (h : r.Atomic s P) (hs : P s) : P r.state := by
  cases r with
  | err e s' => exact (show s' = s from h) ▸ hs
  | ok a s' => exact h

theorem Res.Decides.state (h : r.Decides s ok Q) (hs : P s) (hQ : ∀ a s', ok → Q a s' → P s') : P r.state :=
  (h.atomic hQ).state hs

theorem Res.Atomic.void (h : r.Atomic s P) : r.void.Atomic s P := by
  cases r <;> exact h

end

def SameFrames (s s' : State) : Prop := s'.dfs = s.dfs ∧ s'.file = s.file ∧ s'.fname = s.fname ∧ s'.fds = s.fds

theorem SameFrames.refl (s : State) : SameFrames s s := ⟨rfl, rfl, rfl, rfl⟩
theorem SameFrames.trans {a b c : State} (h1 : SameFrames a b) (h2 : SameFrames b c) : SameFrames a c :=
  ⟨h2.1.trans h1.1, h2.2.1.trans h1.2.1, h2.2.2.1.trans h1.2.2.1, h2.2.2.2.trans h1.2.2.2⟩

theorem Inv.field_level {s s' : State} (hI : Inv s) (hc : InvCore s') (hf : SameFrames s s') : Inv s' :=
  hI.lift hc hf.1 hf.2.1

theorem absH5_apply (s : State) (d : Nat) (fn : Name) : absH5 s d fn = (look s.file (d, fn)).map (frameH5 s) := rfl

theorem absH5_frame {s : State} (hI : InvCore s) {d : Nat} {fn : Name} {g : Nat} (hf : ((d, fn), g) ∈ s.file) :
    absH5 s d fn = some (frameH5 s g) := by
  rw [absH5_apply, (look_eq_some hI.fileNodup).2 hf]; rfl

theorem absH5_noframe {s : State} {d : Nat} {fn : Name} (hf : (d, fn) ∉ keys s.file) : absH5 s d fn = none := by
  rw [absH5_apply, look_eq_none.2 hf]; rfl

theorem absH5_setFrame {s s' : State} {d : Nat} {fn : Name} {x : Option Nat}
    (hfile : ∀ k, look s'.file k = if k = (d, fn) then x else look s.file k)
    (hoth : ∀ k g', k ≠ (d, fn) → look s.file k = some g' → frameH5 s' g' = frameH5 s g') :
    absH5 s' = (absH5 s).setFrame d fn (x.map (frameH5 s')) := by
  funext d' fn'
  simp only [Cat.setFrame, absH5_apply, hfile]
  by_cases hk : (d', fn') = (d, fn)
  · simp only [if_pos hk]
  · simp only [if_neg hk]
    cases hl : look s.file (d', fn') with
    | none => rfl
    | some g' => simp only [Option.map_some, hoth _ g' hk hl]

theorem absH5_setFrame_same {s s' : State} (hI : InvCore s) (hfile : s'.file = s.file) {d : Nat} {fn : Name} {g : Nat}
    (hg : ((d, fn), g) ∈ s.file) (hoth : ∀ g', g' ≠ g → frameH5 s' g' = frameH5 s g') :
    absH5 s' = (absH5 s).setFrame d fn (some (frameH5 s' g)) := by
  refine absH5_setFrame (x := some g) (fun k => ?_) fun k g' hk hl => hoth g' fun e => hk (injective hI.frameInj (e ▸ look_mem hl) hg)
  rw [hfile]; split
  · next h => rw [h]; exact (look_eq_some hI.fileNodup).2 hg
  · rfl

theorem Cat.setCol_eq_setFrame (A : Cat) (d : Nat) (fn n : Name) (x : Option Content) :
    A.setCol d fn n x = A.setFrame d fn ((A d fn).map fun F n' => if n' = n then x else F n') := rfl

structure ColSet (s : State) (g : Nat) (n : Name) (x : Option Content) (s' : State) : Prop where
  core : InvCore s'
  frames : SameFrames s s'
  col : ∀ g' n', frameH5 s' g' n' = if (g', n') = (g, n) then x else frameH5 s g' n'

theorem ColSet.abs {s s' : State} {g : Nat} {n : Name} {x : Option Content} (h : ColSet s g n x s') (hI : InvCore s)
    {d : Nat} {fn : Name} (hg : ((d, fn), g) ∈ s.file) : absH5 s' = (absH5 s).setCol d fn n x := by
  rw [Cat.setCol_eq_setFrame, absH5_frame hI hg,
    absH5_setFrame_same hI h.frames.2.1 hg fun g' hg' => funext fun n' => by rw [h.col, if_neg fun e => hg' (Prod.mk.inj e).1]]
  congr 2; funext n'
  rw [h.col]; by_cases hn : n' = n <;> simp [hn]

def added (v : Variant) (s : State) (g : Nat) (n : Name) (c : Content) : State :=
  { s with links := s.links ++ [((g, n), s.objs.length)], objs := s.objs ++ [c],
           handles := s.handles ++ [⟨s.objs.length, true, if v = .asFound ∧ c.kind = .indexed then none else some g, g, false⟩],
           cols := s.cols ++ [((g, n), s.handles.length)] }

theorem addField_eq (v : Variant) (s : State) (g : Nat) (n : Name) (c : Content) : addField v s g n c =
    if (g, n) ∈ keys s.cols then .err (.valueError "Field already exists in group") s
    else if (g, n) ∈ keys s.links then .err (.valueError "Unable to create group (name already exists)") s
    else .ok s.handles.length (added v s g n c) := rfl

def removed (s : State) (k : Key) : State := { s with links := erase s.links k, cols := erase s.cols k }

theorem frameH5_added {s : State} (hI : InvCore s) {g : Nat} {n : Name} (hl : (g, n) ∉ keys s.links) (v : Variant) (c : Content)
    (g' : Nat) (n' : Name) : frameH5 (added v s g n c) g' n' = if (g', n') = (g, n) then some c else frameH5 s g' n' := by
  simp only [frameH5, added, look_snoc hl]
  split
  · exact List.getElem?_concat_length
  · cases hlk : look s.links (g', n') with
    | none => rfl
    | some o => simp only [Option.bind_some]; rw [List.getElem?_append_left (hI.oidLt _ _ (look_mem hlk))]

theorem added_colSet {s : State} (hI : InvCore s) {g : Nat} {n : Name} (c : Content) (hg : g ∈ s.file.map (·.2))
    (h1 : (g, n) ∉ keys s.cols) : ColSet s g n (some c) (added .repaired s g n c) := by
  have h2 : (g, n) ∉ keys s.links := fun h => h1 ((hI.sameKeys _).2 h)
  refine ⟨?_, ⟨rfl, rfl, rfl, rfl⟩, frameH5_added hI h2 _ c⟩
  simp only [added, reduceCtorEq, false_and, if_false]
  refine { hI with colsNodup := keys_snoc_nodup _ hI.colsNodup h1, linksNodup := keys_snoc_nodup _ hI.linksNodup h2,
                   sameKeys := fun k => by simp only [keys_append, List.mem_append, hI.sameKeys k, keys_cons, keys_nil],
                   sameObj := ?_, handleInj := ?_, oidInj := ?_, oidLt := ?_, linkFrame := ?_,
                   handleLink := ?_, handleOidLt := ?_ }
  · intro k h hk
    rcases List.mem_append.1 hk with hk | hk
    · obtain ⟨hd, h1, h2, h3, h4, h5, h6⟩ := hI.sameObj k h hk
      exact ⟨hd, getElem?_snoc_lt h1, h2, h3, h4, h5, List.mem_append_left _ h6⟩
    · obtain ⟨rfl, rfl⟩ := Prod.mk.inj (List.mem_singleton.1 hk)
      exact ⟨_, List.getElem?_concat_length, rfl, rfl, rfl, rfl, by simp⟩
  · refine vals_snoc_nodup _ hI.handleInj fun e he heq => ?_
    obtain ⟨hd, h1, _⟩ := hI.sameObj e.1 e.2 he
    have := (List.getElem?_eq_some_iff.1 h1).1
    omega
  · refine vals_snoc_nodup _ hI.oidInj fun e he heq => ?_
    have := hI.oidLt e.1 e.2 he
    omega
  · intro k o hk
    simp only [List.length_append, List.length_cons, List.length_nil]
    rcases List.mem_append.1 hk with hk | hk
    · have := hI.oidLt k o hk; omega
    · obtain ⟨rfl, rfl⟩ := Prod.mk.inj (List.mem_singleton.1 hk); omega
  · intro k o hk
    rcases List.mem_append.1 hk with hk | hk
    · exact hI.linkFrame k o hk
    · obtain ⟨rfl, rfl⟩ := Prod.mk.inj (List.mem_singleton.1 hk); exact hg
  · intro h hd hh hc k hk
    rcases getElem?_snoc hh with ⟨_, hh'⟩ | ⟨rfl, rfl⟩
    · have hlt' := hI.handleOidLt h hd hh'
      rcases List.mem_append.1 hk with hk | hk
      · exact hI.handleLink h hd hh' hc k hk
      · have := (Prod.mk.inj (List.mem_singleton.1 hk)).2; omega
    · rcases List.mem_append.1 hk with hk | hk
      · have := hI.oidLt k _ hk; simp at this
      · rw [(Prod.mk.inj (List.mem_singleton.1 hk)).1]; exact ⟨rfl, rfl, rfl⟩
  · intro h hd hh
    simp only [List.length_append, List.length_cons, List.length_nil]
    rcases getElem?_snoc hh with ⟨_, hh'⟩ | ⟨rfl, rfl⟩
    · have := hI.handleOidLt h hd hh'; omega
    · simp

theorem frameH5_removed (s : State) (g : Nat) (n : Name) (g' : Nat) (n' : Name) :
    frameH5 (removed s (g, n)) g' n' = if (g', n') = (g, n) then none else frameH5 s g' n' := by
  simp only [frameH5, removed, look_erase]; split <;> rfl

theorem removed_colSet {s : State} (hI : InvCore s) (g : Nat) (n : Name) : ColSet s g n none (removed s (g, n)) := by
  refine ⟨?_, ⟨rfl, rfl, rfl, rfl⟩, frameH5_removed s g n⟩
  refine { hI with colsNodup := nodup_map_filter _ _ hI.colsNodup, linksNodup := nodup_map_filter _ _ hI.linksNodup,
                   sameKeys := fun x => by simp only [removed, mem_keys_erase, hI.sameKeys x], sameObj := ?_,
                   handleInj := nodup_map_filter _ _ hI.handleInj, oidInj := nodup_map_filter _ _ hI.oidInj,
                   oidLt := fun x o hx => hI.oidLt x o (mem_erase.1 hx).1, 
                   linkFrame := fun x o hx => hI.linkFrame x o (mem_erase.1 hx).1,
                   handleLink := fun h hd hh hc x hx => hI.handleLink h hd hh hc x (mem_erase.1 hx).1 }
  intro x h hx
  obtain ⟨hx, hne⟩ := mem_erase.1 hx
  obtain ⟨hd, h1, h2, h3, h4, h5, h6⟩ := hI.sameObj x h hx
  exact ⟨hd, h1, h2, h3, h4, h5, mem_erase.2 ⟨h6, hne⟩⟩

theorem addField_decides {s : State} (hI : InvCore s) (g : Nat) (n : Name) (c : Content) (v : Variant) :
    (addField v s g n c).Decides s ((g, n) ∉ keys s.cols) fun a s' => a = s.handles.length ∧ s' = added v s g n c := by
  rw [addField_eq]
  by_cases h : (g, n) ∈ keys s.cols
  · rw [if_pos h]; exact ⟨fun h' => h' h, rfl⟩
  · rw [if_neg h, if_neg fun h' => h ((hI.sameKeys _).2 h')]; exact ⟨h, rfl, rfl⟩

theorem delItem_ok {s s' : State} {g : Nat} {n : Name} (h : delItem s g n = .ok () s') : s' = removed s (g, n) := by
  unfold delItem at h
  split at h
  · cases h
  split at h <;> cases h
  rfl

theorem dropField_ok {s s' : State} {g : Nat} {n : Name} (h : dropField s g n = .ok () s') : s' = removed s (g, n) := by
  unfold dropField at h
  split at h
  · cases h
  dsimp only at h
  split at h <;> cases h
  rfl

/-- `del df[n]` and `df.drop(n)` differ in the order of the two deletions only; neither stops half way when the catalogues
    agree -/
theorem delItem_decides {s : State} (hI : InvCore s) (g : Nat) (n : Name) :
    (delItem s g n).Decides s ((g, n) ∈ keys s.cols) fun _ s' => s' = removed s (g, n) := by
  unfold delItem
  by_cases h : (g, n) ∈ keys s.cols
  · rw [if_neg (not_not_intro h), if_neg (not_not_intro ((hI.sameKeys _).1 h))]; exact ⟨h, rfl⟩
  · rw [if_pos h]; exact ⟨h, rfl⟩

theorem dropField_decides {s : State} (hI : InvCore s) (g : Nat) (n : Name) :
    (dropField s g n).Decides s ((g, n) ∈ keys s.cols) fun _ s' => s' = removed s (g, n) := by
  unfold dropField
  by_cases h : (g, n) ∈ keys s.cols
  · rw [if_neg (not_not_intro h)]; dsimp only
    rw [if_neg (not_not_intro ((hI.sameKeys _).1 h))]; exact ⟨h, rfl⟩
  · rw [if_pos h]; exact ⟨h, rfl⟩

theorem ensureValid_ok {s : State} {h : Nat} {hd : Handle} :
    ensureValid s h = .ok hd ↔ s.handles[h]? = some hd ∧ hd.closed = false ∧ hd.valid = true := by
  unfold ensureValid
  cases hh : s.handles[h]? with
  | none => exact ⟨fun h => (nomatch h), fun h => (nomatch h.1)⟩
  | some hd' =>
    dsimp only
    split
    · next hc => exact ⟨fun h => (nomatch h), fun ⟨h1, h2, _⟩ => by cases h1; rw [hc] at h2; cases h2⟩
    · next hc =>
      split
      · next hv => exact ⟨fun h => by cases h; exact ⟨rfl, by simpa using hc, hv⟩, fun ⟨h1, _⟩ => by cases h1; rfl⟩
      · next hv => exact ⟨fun h => (nomatch h), fun ⟨h1, _, h3⟩ => by cases h1; exact absurd h3 hv⟩

theorem invalid_field {s : State} {h : Nat} {e : Err} (hv : ensureValid s h = .error e) :
    fieldName s h = .error e ∧ fieldContent s h = .error e := by
  simp only [fieldName, fieldContent, hv, and_self]

theorem fieldName_valid {s : State} {h : Nat} {k : Name} (hk : fieldName s h = .ok k) : ∃ hd, ensureValid s h = .ok hd := by
  cases hv : ensureValid s h with
  | error e => rw [(invalid_field hv).1] at hk; cases hk
  | ok hd => exact ⟨hd, rfl⟩

theorem fieldName_ok {s : State} (hI : InvCore s) {h : Nat} {hd : Handle} (hv : ensureValid s h = .ok hd) {k : Name} :
    fieldName s h = .ok k ↔ ∃ g, hd.owner = some g ∧ ((g, k), hd.oid) ∈ s.links := by
  obtain ⟨hh, hc, _⟩ := ensureValid_ok.1 hv
  simp only [fieldName, hv]
  cases hn : nameOfVal s.links hd.oid with
  | none =>
    refine ⟨fun h => (nomatch h), fun ⟨g, _, hl⟩ => ?_⟩
    rw [(nameOfVal_eq_some hI.oidInj).2 ⟨g, hl⟩] at hn; cases hn
  | some n =>
    obtain ⟨g, hg⟩ := (nameOfVal_eq_some hI.oidInj).1 hn
    constructor
    · intro h; cases h; exact ⟨g, (hI.handleLink h _ hh hc _ hg).2.1, hg⟩
    · rintro ⟨g', _, hl⟩
      rw [(Prod.mk.inj (injective hI.oidInj hg hl)).2]

theorem fieldContent_ok {s : State} (hI : InvCore s) {h : Nat} {hd : Handle} (hv : ensureValid s h = .ok hd) :
    ∃ c, s.objs[hd.oid]? = some c ∧ fieldContent s h = .ok c := by
  have hlt := hI.handleOidLt h hd (ensureValid_ok.1 hv).1
  exact ⟨s.objs[hd.oid], List.getElem?_eq_getElem hlt, by simp only [fieldContent, hv, List.getElem?_eq_getElem hlt]⟩

theorem frameH5_linked {s : State} (hI : InvCore s) {g : Nat} {n : Name} {o : Nat} (hl : ((g, n), o) ∈ s.links) :
    frameH5 s g n = s.objs[o]? := by
  simp only [frameH5, (look_eq_some hI.linksNodup).2 hl, Option.bind_some]

theorem copyField_decides {s : State} (hI : InvCore s) (v : Variant) (h g : Nat) (n : Name) :
    (copyField v s h g n).Decides s ((∃ hd, ensureValid s h = .ok hd) ∧ (g, n) ∉ keys s.cols)
      fun _ s' => ∃ hd c, ensureValid s h = .ok hd ∧ s.objs[hd.oid]? = some c ∧ s' = added v s g n c := by
  unfold copyField
  cases hv : ensureValid s h with
  | error e => rw [(invalid_field hv).2]; exact ⟨fun h => (nomatch h.1), rfl⟩
  | ok hd =>
    obtain ⟨c, hc, hfc⟩ := fieldContent_ok hI hv
    rw [hfc]
    exact (addField_decides hI g n c v).mono (by simp) fun a s' _ hq => ⟨hd, c, rfl, hc, hq.2⟩

theorem addCopy_decides {s : State} (hI : InvCore s) (v : Variant) (g h : Nat) :
    (addCopy v s g h).Decides s (∃ k, fieldName s h = .ok k ∧ (g, k) ∉ keys s.cols)
      fun _ s' => ∃ k hd c, fieldName s h = .ok k ∧ (g, k) ∉ keys s.cols ∧ ensureValid s h = .ok hd ∧
        s.objs[hd.oid]? = some c ∧ s' = added v s g k c := by
  unfold addCopy
  cases hk : fieldName s h with
  | error e => exact ⟨fun ⟨_, h, _⟩ => (nomatch h), rfl⟩
  | ok k =>
    refine (copyField_decides hI v h g k).mono ?_ fun _ s' hok ⟨hd, c, h1, h2, h3⟩ => ⟨k, hd, c, rfl, hok.2, h1, h2, h3⟩
    exact ⟨fun h => ⟨k, rfl, h.2⟩, fun ⟨k', hk', h⟩ => ⟨fieldName_valid hk, by cases hk'; exact h⟩⟩

theorem deleteField_decides {s : State} (hI : InvCore s) (g h : Nat) :
    (deleteField s g h).Decides s (∃ hd k, ensureValid s h = .ok hd ∧ hd.owner = some g ∧ fieldName s h = .ok k)
      fun _ s' => ∃ k, fieldName s h = .ok k ∧ s' = removed s (g, k) := by
  unfold deleteField
  cases hv : ensureValid s h with
  | error e => exact ⟨fun ⟨_, _, h, _⟩ => (nomatch h), rfl⟩
  | ok hd =>
    dsimp only
    by_cases ho : hd.owner = some g
    · rw [if_neg (not_not_intro ho)]
      cases hk : fieldName s h with
      | error e => exact ⟨fun ⟨_, _, _, _, h⟩ => (nomatch h), rfl⟩
      | ok k =>
        obtain ⟨g', hg', hl⟩ := (fieldName_ok hI hv).1 hk
        cases ho.symm.trans hg'
        refine (delItem_decides hI g k).mono ?_ fun _ s' _ hq => ⟨k, rfl, hq⟩
        exact ⟨fun _ => ⟨hd, k, rfl, ho, rfl⟩, fun _ => (hI.sameKeys _).2 (mem_keys_of_mem hl)⟩
    · rw [if_pos ho]; exact ⟨fun ⟨_, _, h, h', _⟩ => ho (by cases h; exact h'), rfl⟩

theorem renameFields_decides {s : State} (hI : InvCore s) (g : Nat) (dict : List (Name × Name)) (hkn : (dict.map (·.1)).Nodup) :
    (renameFields .repaired s g dict).Decides s (RenameOk dict ((ownedBy s.cols g).map (·.1)))
      fun _ s' => s' = renamedState s g dict := by
  by_cases hok : RenameOk dict ((ownedBy s.cols g).map (·.1))
  · rw [renameFields_ok hI g dict hok]; exact ⟨hok, rfl⟩
  · obtain ⟨e, he⟩ := renameFields_fail .repaired s g dict hkn hok
    rw [he]; exact ⟨hok, rfl⟩

/-- `field.writeable()`: one more field object around the same group -/
def viewed (s : State) (hd : Handle) : State :=
  { s with handles := s.handles ++ [⟨hd.oid, true, hd.owner, hd.home, false⟩] }

theorem viewField_decides (s : State) (h : Nat) :
    (viewField .repaired s h).Decides s (∃ hd, ensureValid s h = .ok hd)
      fun _ s' => ∃ hd, ensureValid s h = .ok hd ∧ s' = viewed s hd := by
  unfold viewField
  cases hv : ensureValid s h with
  | error e => exact ⟨fun ⟨_, h⟩ => (nomatch h), rfl⟩
  | ok hd => exact ⟨⟨hd, rfl⟩, hd, rfl, rfl⟩

theorem viewed_core {s : State} (hI : InvCore s) {h : Nat} {hd : Handle} (hv : ensureValid s h = .ok hd) : InvCore (viewed s hd) := by
  obtain ⟨hh, hc, _⟩ := ensureValid_ok.1 hv
  refine { hI with sameObj := ?_, 
                   handleLink := ?_, handleOidLt := ?_ }
  · intro k j hk
    obtain ⟨hd', h1, h2⟩ := hI.sameObj k j hk
    exact ⟨hd', getElem?_snoc_lt h1, h2⟩
  · intro j hd' hj hcl k hk
    rcases getElem?_snoc hj with ⟨_, hj'⟩ | ⟨_, rfl⟩
    · exact hI.handleLink j hd' hj' hcl k hk
    · have := hI.handleLink h hd hh hc k hk
      exact ⟨rfl, this.2.1, this.2.2⟩
  · intro j hd' hj
    rcases getElem?_snoc hj with ⟨_, hj'⟩ | ⟨_, rfl⟩
    · exact hI.handleOidLt j hd' hj'
    · exact hI.handleOidLt h hd hh

theorem invalidate_handle {s : State} {h j : Nat} {hd : Handle} (hh : (invalidate s h).handles[j]? = some hd) :
    ∃ hd0, s.handles[j]? = some hd0 ∧ hd.oid = hd0.oid ∧ hd.closed = hd0.closed ∧ (j ≠ h → hd = hd0) := by
  simp only [invalidate, List.getElem?_modify] at hh
  cases hj : s.handles[j]? with
  | none => rw [hj] at hh; cases hh
  | some hd0 =>
    rw [hj] at hh
    cases hh
    refine ⟨hd0, rfl, ?_⟩
    split
    · next he => exact ⟨rfl, rfl, fun hne => absurd he.symm hne⟩
    · exact ⟨rfl, rfl, fun _ => rfl⟩

theorem invalidate_core {s : State} (hI : InvCore s) {h : Nat}
    (hh : ∀ hd, s.handles[h]? = some hd → ∀ e ∈ s.links, e.2 ≠ hd.oid) : InvCore (invalidate s h) := by
  refine { hI with sameObj := ?_, 
                   handleLink := ?_, handleOidLt := ?_ }
  · intro k j hk
    obtain ⟨hd, h1, h2⟩ := hI.sameObj k j hk
    have hne : h ≠ j := fun he => hh hd (he ▸ h1) _ h2.2.2.2.2 rfl
    refine ⟨hd, ?_, h2⟩
    simp only [invalidate, List.getElem?_modify, h1]
    simp [hne]
  · intro j hd hj hc k hk
    obtain ⟨hd0, h0, ho, hcl, hsame⟩ := invalidate_handle hj
    have hne : j ≠ h := fun he => hh hd0 (he ▸ h0) _ hk ho
    rw [hsame hne] at hc ⊢ hk
    exact hI.handleLink j hd0 h0 hc k hk
  · intro j hd hj
    obtain ⟨hd0, h0, ho, _⟩ := invalidate_handle hj
    exact ho ▸ hI.handleOidLt j hd0 h0

/-- the second half of a move across frames, in the state `s1` the copy has left: the core invariant holds wherever it stops -/
theorem moveField_tail_core {s1 : State} (hI1 : InvCore s1) (h : Nat) (hd : Handle) (hh1 : s1.handles[h]? = some hd)
    (og : Nat) (how : hd.owner = some og) {r : Res Unit}
    (hr : r = match fieldName s1 h with
        | .error e => Res.err e s1
        | .ok k => (dropField s1 og k).andThen fun _ s2 => .ok () (invalidate s2 h)) :
    InvCore r.state ∧ SameFrames s1 r.state := by
  subst hr
  cases hk : fieldName s1 h with
  | error e => exact ⟨hI1, SameFrames.refl _⟩
  | ok k =>
    dsimp only
    obtain ⟨hd', hv1⟩ := fieldName_valid hk
    cases hh1.symm.trans (ensureValid_ok.1 hv1).1
    obtain ⟨g', hg', hlk⟩ := (fieldName_ok hI1 hv1).1 hk
    cases how.symm.trans hg'
    have hdr := dropField_decides hI1 og k
    cases hdrop : dropField s1 og k with
    | err e s2 => rw [hdrop] at hdr; obtain ⟨_, rfl⟩ := hdr; exact ⟨hI1, SameFrames.refl _⟩
    | ok u s2 =>
      rw [hdrop] at hdr; obtain ⟨_, rfl⟩ := hdr
      refine ⟨invalidate_core (removed_colSet hI1 og k).core fun hd2 hh2 e he heq => ?_, rfl, rfl, rfl, rfl⟩
      rw [show (removed s1 (og, k)).handles = s1.handles from rfl, hh1] at hh2
      cases hh2
      obtain ⟨he, hne⟩ := mem_erase.1 he
      exact hne (injective hI1.oidInj (heq ▸ he) hlk)

theorem renameFields_core {s : State} (hI : InvCore s) (g : Nat) (dict : List (Name × Name)) (hkn : (dict.map (·.1)).Nodup) :
    InvCore (renameFields .repaired s g dict).state ∧ SameFrames s (renameFields .repaired s g dict).state :=
  (renameFields_decides hI g dict hkn).state (P := fun s' => InvCore s' ∧ SameFrames s s') ⟨hI, SameFrames.refl s⟩
    fun _ _ hok hq => hq ▸ ⟨renamedState_core hI g dict hok, rfl, rfl, rfl, rfl⟩

/-- `dataframe.move` keeps the core invariant and the dataset level on every path, also those on which it raises half way -/
theorem moveField_core {s : State} (hI : InvCore s) (h g : Nat) (n : Name) (hg : g ∈ s.file.map (·.2)) :
    InvCore (moveField .repaired s h g n).state ∧ SameFrames s (moveField .repaired s h g n).state := by
  unfold moveField
  split
  · exact ⟨hI, SameFrames.refl s⟩
  · next hd hv =>
    split
    · split
      · exact ⟨hI, SameFrames.refl s⟩
      · exact renameFields_core hI g _ (by simp)
    · have hc := copyField_decides hI .repaired h g n
      cases hcp : copyField .repaired s h g n with
      | err e s1 => rw [hcp] at hc; obtain ⟨_, rfl⟩ := hc; exact ⟨hI, SameFrames.refl _⟩
      | ok a s1 =>
        rw [hcp] at hc
        obtain ⟨⟨_, hnot⟩, _, c, _, _, rfl⟩ := hc
        have CS := added_colSet hI c hg hnot
        simp only [Res.andThen]
        split
        · exact ⟨CS.core, CS.frames⟩
        · next og how =>
          have := moveField_tail_core CS.core h hd (getElem?_snoc_lt (ensureValid_ok.1 hv).1) og how rfl
          exact ⟨this.1, CS.frames.trans this.2⟩

/-- across frames: copy, drop at the source, flag the object handed in; once the copy is made nothing can fail, because the
    source is still linked under the name it reported -/
theorem moveField_cross_decides {s : State} (hI : InvCore s) {h g : Nat} (n : Name) {hd : Handle} (hg : g ∈ s.file.map (·.2))
    (hv : ensureValid s h = .ok hd) (hne : hd.owner ≠ some g) {k : Name} (hk : fieldName s h = .ok k) :
    (moveField .repaired s h g n).Decides s ((g, n) ∉ keys s.cols) fun _ s' => ∃ c og, s.objs[hd.oid]? = some c ∧
      hd.owner = some og ∧ s' = invalidate (removed (added .repaired s g n c) (og, k)) h := by
  obtain ⟨og, ho, hl⟩ := (fieldName_ok hI hv).1 hk
  have hc := copyField_decides hI .repaired h g n
  unfold moveField
  simp only [hv, hne, if_false]
  cases hcp : copyField .repaired s h g n with
  | err e s1 => rw [hcp] at hc; exact ⟨fun hn => hc.1 ⟨⟨hd, hv⟩, hn⟩, hc.2⟩
  | ok a s1 =>
    rw [hcp] at hc
    obtain ⟨⟨_, hnot⟩, hd', c, hv', hc', rfl⟩ := hc
    cases hv.symm.trans hv'
    have hI1 := (added_colSet hI c hg hnot).core
    have hv1 : ensureValid (added .repaired s g n c) h = .ok hd :=
      ensureValid_ok.2 ⟨getElem?_snoc_lt (ensureValid_ok.1 hv).1, (ensureValid_ok.1 hv).2⟩
    have hl1 : ((og, k), hd.oid) ∈ (added .repaired s g n c).links := List.mem_append_left _ hl
    have hdr := dropField_decides hI1 og k
    simp only [Res.andThen, ho, (fieldName_ok hI1 hv1).2 ⟨og, ho, hl1⟩]
    cases hdrop : dropField (added .repaired s g n c) og k with
    | err e s2 => rw [hdrop] at hdr; exact absurd ((hI1.sameKeys _).2 (mem_keys_of_mem hl1)) hdr.1
    | ok u s2 => rw [hdrop] at hdr; exact ⟨hnot, c, og, hc', rfl, by rw [hdr.2]⟩

theorem dfs_file_keys {s : State} (hI : Inv s) (k : Key) : k ∈ keys s.dfs ↔ k ∈ keys s.file := by
  simp only [mem_keys, hI.sameFrames]

theorem registered_lt {s : State} (hI : InvCore s) {k : Key} {g : Nat} (h : (k, g) ∈ s.file) : g < s.fname.length :=
  (List.getElem?_eq_some_iff.1 (hI.frameName k g h)).1

theorem fresh_frame_nolinks {s : State} (hI : InvCore s) {g : Nat} (hg : s.fname.length ≤ g) (n : Name) : (g, n) ∉ keys s.links := by
  intro hm
  obtain ⟨o, ho⟩ := mem_keys.1 hm
  obtain ⟨e, he, hee⟩ := List.mem_map.1 (hI.linkFrame _ _ ho)
  have := registered_lt hI he
  simp only at hee
  omega

theorem frameH5_isSome {s : State} (hI : InvCore s) (g : Nat) (n : Name) : (frameH5 s g n).isSome = decide ((g, n) ∈ keys s.cols) := by
  by_cases hk : (g, n) ∈ keys s.cols
  · obtain ⟨o, ho⟩ := mem_keys.1 ((hI.sameKeys _).1 hk)
    simp [frameH5_linked hI ho, List.getElem?_eq_getElem (hI.oidLt _ _ ho), hk]
  · simp [frameH5, look_eq_none.2 fun hm => hk ((hI.sameKeys _).2 hm), hk]

theorem frameH5_none_of_not_col {s : State} (hI : InvCore s) {g : Nat} {n : Name} (h : (g, n) ∉ keys s.cols) : frameH5 s g n = none := by
  have := frameH5_isSome hI g n
  rwa [decide_eq_false h, Option.isSome_eq_false_iff, Option.isNone_iff_eq_none] at this

/-- the state `h5file.create_group(fn)` + `HDF5DataFrame(...)` leaves: the next frame id, registered in the file only -/
def grouped (s : State) (d : Nat) (fn : Name) : State :=
  { s with file := s.file ++ [((d, fn), s.fname.length)], fname := s.fname ++ [fn], fds := s.fds ++ [d] }

theorem newGroup_eq (s : State) (d : Nat) (fn : Name) : newGroup s d fn =
    if (d, fn) ∈ keys s.file then .err (.valueError "Unable to create group (name already exists)") s
    else .ok s.fname.length (grouped s d fn) := rfl

theorem grouped_core {s : State} (hI : InvCore s) {d : Nat} {fn : Name} (hfresh : (d, fn) ∉ keys s.file) : InvCore (grouped s d fn) := by
  refine { hI with fileNodup := keys_snoc_nodup _ hI.fileNodup hfresh, frameInj := ?_, frameName := ?_, frameDs := ?_,
                   fdsLen := by simp [grouped, hI.fdsLen],
                   linkFrame := fun k o hk => by simp only [grouped, List.map_append, List.mem_append]; exact Or.inl (hI.linkFrame k o hk) }
  · refine vals_snoc_nodup _ hI.frameInj fun e he heq => ?_
    have := registered_lt hI (k := e.1) (g := e.2) he
    omega
  · intro k g hk
    rcases List.mem_append.1 hk with hk | hk
    · exact getElem?_snoc_lt (hI.frameName k g hk)
    · obtain ⟨rfl, rfl⟩ := Prod.mk.inj (List.mem_singleton.1 hk); exact List.getElem?_concat_length
  · intro k g hk
    rcases List.mem_append.1 hk with hk | hk
    · exact getElem?_snoc_lt (hI.frameDs k g hk)
    · obtain ⟨rfl, rfl⟩ := Prod.mk.inj (List.mem_singleton.1 hk); simp [grouped, ← hI.fdsLen]

theorem copyAll_spec (g sg : Nat) (hne : sg ≠ g) (cs : List (Name × Nat)) (s : State) (hI : InvCore s) (hg : g ∈ s.file.map (·.2))
    (hsrc : ∀ e ∈ cs, ((sg, e.1), e.2) ∈ s.cols) (hnd : (cs.map (·.1)).Nodup)
    (hfresh : ∀ n ∈ cs.map (·.1), (g, n) ∉ keys s.cols) :
    ∃ s', copyAll .repaired g cs s = .ok () s' ∧ InvCore s' ∧ SameFrames s s' ∧
      ∀ g' n', frameH5 s' g' n' = if g' = g ∧ n' ∈ cs.map (·.1) then frameH5 s sg n' else frameH5 s g' n' := by
  induction cs generalizing s with
  | nil => exact ⟨s, rfl, hI, SameFrames.refl s, by simp⟩
  | cons e cs ih =>
    obtain ⟨n, h⟩ := e
    simp only [List.map_cons, List.nodup_cons, List.mem_cons, forall_eq_or_imp] at hnd hfresh hsrc
    obtain ⟨hd, h1, h2, h3, _, _, h6⟩ := hI.sameObj _ _ hsrc.1
    have hv : ensureValid s h = .ok hd := ensureValid_ok.2 ⟨h1, h3, h2⟩
    have hc := copyField_decides hI .repaired h g n
    cases hcf : copyField .repaired s h g n with
    | err e1 s1 => rw [hcf] at hc; exact absurd ⟨⟨hd, hv⟩, hfresh.1⟩ hc.1
    | ok a s1 =>
      rw [hcf] at hc
      obtain ⟨_, hd', c, hv', hc', rfl⟩ := hc
      cases hv.symm.trans hv'
      have CS := added_colSet hI c hg hfresh.1
      obtain ⟨s', hs', hI', hfr', hcol'⟩ := ih _ CS.core hg (fun e he => List.mem_append_left _ (hsrc.2 e he)) hnd.2 (by
        intro n' hn'
        simp only [added, keys_append, keys_cons, keys_nil, List.mem_append, List.mem_singleton, not_or, Prod.mk.injEq, true_and]
        exact ⟨hfresh.2 n' hn', fun heq => hnd.1 (heq ▸ hn')⟩)
      refine ⟨s', by simp only [copyAll, hcf]; exact hs', hI', CS.frames.trans hfr', fun g' n' => ?_⟩
      have hcont : frameH5 s sg n = some c := (frameH5_linked hI h6).trans hc'
      rw [hcol' g' n', CS.col sg n', CS.col g' n']
      have hsg : ¬ (sg, n') = (g, n) := fun e => hne (Prod.mk.inj e).1
      simp only [hsg, if_false, List.map_cons, List.mem_cons]
      by_cases hg' : g' = g
      · subst hg'
        by_cases hm : n' ∈ cs.map (·.1)
        · simp [hm]
        · by_cases hn : n' = n
          · subst hn; simp [hm, hcont]
          · simp [hm, hn]
      · rw [if_neg fun e => hg' e.1, if_neg fun e => hg' (Prod.mk.inj e).1, if_neg fun e => hg' e.1]

/-- what the optional source of `create_dataframe` shows -/
def srcFrame (s : State) : Option Nat → Frame
  | none => Frame.empty
  | some sg => frameH5 s sg

theorem fillFrame_spec {g : Nat} {s : State} (hI : InvCore s) (hg : g ∈ s.file.map (·.2)) (hempty : ∀ n, (g, n) ∉ keys s.cols)
    (src : Option Nat) (hne : ∀ sg, src = some sg → sg ≠ g) :
    ∃ s', fillFrame .repaired g src s = .ok () s' ∧ InvCore s' ∧ SameFrames s s' ∧
      frameH5 s' g = srcFrame s src ∧ ∀ g', g' ≠ g → frameH5 s' g' = frameH5 s g' := by
  have hnone : ∀ n, frameH5 s g n = none := fun n => frameH5_none_of_not_col hI (hempty n)
  cases src with
  | none => exact ⟨s, rfl, hI, SameFrames.refl s, funext hnone, fun _ _ => rfl⟩
  | some sg =>
    obtain ⟨s', hs', hI', hfr, hcol⟩ := copyAll_spec g sg (hne sg rfl) (ownedBy s.cols sg) s hI hg
      (fun e he => mem_ownedBy.1 he) (ownedBy_keys_nodup hI.colsNodup sg) (fun n _ => hempty n)
    refine ⟨s', hs', hI', hfr, funext fun n' => ?_, fun g' hg' => funext fun n' => by rw [hcol, if_neg fun e => hg' e.1]⟩
    show _ = frameH5 s sg n'
    rw [hcol]
    by_cases hm : n' ∈ (ownedBy s.cols sg).map (·.1)
    · simp [hm]
    · simp only [hm, and_false, if_false, hnone, frameH5_none_of_not_col hI fun hk => hm (mem_cur.2 hk)]

/-- what a returning `create_dataframe` / `dataset.copy` leaves: a new group showing `F`, registered under `(d, fn)` in both
    catalogues, everything else as it was -/
structure FrameAdded (s : State) (d : Nat) (fn : Name) (F : Frame) (s' : State) : Prop where
  inv : Inv s'
  file : s'.file = s.file ++ [((d, fn), s.fname.length)]
  dfs : s'.dfs = s.dfs ++ [((d, fn), s.fname.length)]
  fname : s'.fname = s.fname ++ [fn]
  new : frameH5 s' s.fname.length = F
  old : ∀ g', g' ≠ s.fname.length → frameH5 s' g' = frameH5 s g'

theorem FrameAdded.abs {s s' : State} {d : Nat} {fn : Name} {F : Frame} (h : FrameAdded s d fn F s') (hI : Inv s)
    (hfresh : (d, fn) ∉ keys s.file) : absH5 s' = (absH5 s).setFrame d fn (some F) := by
  rw [← h.new]
  refine absH5_setFrame (x := some s.fname.length) (fun k => by rw [h.file, look_snoc hfresh]) fun k g' _ hl => h.old g' ?_
  have := registered_lt hI.toInvCore (look_mem hl)
  omega

theorem Inv.snoc_frame {s s' : State} (hI : Inv s) (hc : InvCore s') {e : Key × Nat} (hf : s'.file = s.file ++ [e])
    (hd : s'.dfs = s.dfs ++ [e]) : Inv s' := by
  refine { hc with dfsNodup := ?_, sameFrames := fun x => by rw [hd, hf, List.mem_append, List.mem_append, hI.sameFrames] }
  have := hc.fileNodup
  rw [hf, keys_append, List.nodup_append] at this
  rw [hd]
  exact keys_snoc_nodup _ hI.dfsNodup fun hm => this.2.2 _ ((dfs_file_keys hI _).1 hm) _ (by simp) rfl

theorem createFrame_decides {s : State} (hI : Inv s) (d : Nat) (fn : Name) (src : Option Nat)
    (hsrc : ∀ sg, src = some sg → sg ∈ s.file.map (·.2)) :
    (createFrame .repaired s d fn src).Decides s ((d, fn) ∉ keys s.dfs) fun g s' => g = s.fname.length ∧
      FrameAdded s d fn (srcFrame s src) s' := by
  unfold createFrame
  rw [newGroup_eq]
  by_cases hk : (d, fn) ∈ keys s.file
  · rw [if_pos hk]; exact ⟨not_not_intro ((dfs_file_keys hI _).2 hk), rfl⟩
  · rw [if_neg hk]
    have hI1 := grouped_core hI.toInvCore hk
    obtain ⟨s2, hs2, hI2, hfr, hnew, hold⟩ := fillFrame_spec (g := s.fname.length) hI1
      (List.mem_map.2 ⟨_, List.mem_append_right _ List.mem_cons_self, rfl⟩)
      (fun n hm => fresh_frame_nolinks hI.toInvCore (Nat.le_refl _) n ((hI.sameKeys _).1 hm)) src (fun sg h => by
        obtain ⟨e, he, hee⟩ := List.mem_map.1 (hsrc sg h)
        have := registered_lt hI.toInvCore he
        omega)
    have hkd : (d, fn) ∉ keys s.dfs := fun h => hk ((dfs_file_keys hI _).1 h)
    simp only [Res.andThen, hs2]
    have hdfs : dictSet s2.dfs (d, fn) s.fname.length = s.dfs ++ [((d, fn), s.fname.length)] := by
      rw [hfr.1]; exact dictSet_fresh _ hkd
    exact ⟨hkd, rfl, Inv.snoc_frame hI { hI2 with } hfr.2.1 hdfs, hfr.2.1, hdfs, hfr.2.2.1, hnew, hold⟩

theorem copyFrame_decides {s : State} (hI : Inv s) (sg d : Nat) (fn : Name) (hsg : sg ∈ s.file.map (·.2)) :
    (copyFrame .repaired s sg d fn).Decides s ((d, fn) ∉ keys s.dfs) fun _ s' => FrameAdded s d fn (frameH5 s sg) s' := by
  unfold copyFrame
  by_cases hk : (d, fn) ∈ keys s.dfs
  · rw [if_pos hk]; exact ⟨not_not_intro hk, rfl⟩
  · rw [if_neg hk]
    have hc := createFrame_decides hI d fn none (fun _ h => nomatch h)
    cases hcf : createFrame .repaired s d fn none with
    | err e s1 => rw [hcf] at hc; exact absurd hk hc.1
    | ok g s1 =>
      rw [hcf] at hc
      obtain ⟨_, rfl, FA⟩ := hc
      have hne : sg ≠ s.fname.length := by
        obtain ⟨e, he, hee⟩ := List.mem_map.1 hsg
        have := registered_lt hI.toInvCore he
        omega
      obtain ⟨s2, hs2, hI2, hfr, hnew, hold⟩ := fillFrame_spec (g := s.fname.length) FA.inv.toInvCore
        (by rw [FA.file]; exact List.mem_map.2 ⟨_, List.mem_append_right _ List.mem_cons_self, rfl⟩)
        (fun n hm => by
          have := frameH5_isSome FA.inv.toInvCore s.fname.length n
          rw [FA.new, decide_eq_true hm] at this; cases this) (some sg) (fun _ h => by cases h; exact hne)
      simp only [fillFrame] at hs2
      simp only [Res.andThen, hs2]
      have hI2' : Inv s2 := FA.inv.field_level hI2 hfr
      rw [show ({ s2 with dfs := dictSet s2.dfs (d, fn) s.fname.length } : State) = s2 by
        rw [dictSet_same hI2'.dfsNodup (by rw [hfr.1, FA.dfs]; simp)]]
      exact ⟨hk, hI2', hfr.2.1.trans FA.file, hfr.1.trans FA.dfs, hfr.2.2.1.trans FA.fname, by rw [hnew]; exact FA.old sg hne,
        fun g' hg' => (hold g' hg').trans (FA.old g' hg')⟩

/-- frame `(d, fn)` = group `g` gone from both catalogues, with everything in it -/
def unframed (s : State) (d : Nat) (fn : Name) (g : Nat) : State :=
  { s with dfs := erase s.dfs (d, fn), file := erase s.file (d, fn), links := dropOwner s.links g, cols := dropOwner s.cols g }

theorem unframed_inv {s : State} (hI : Inv s) {d : Nat} {fn : Name} {g : Nat} (hg : ((d, fn), g) ∈ s.file) :
    Inv (unframed s d fn g) := by
  refine { hI with colsNodup := nodup_map_filter _ _ hI.colsNodup, linksNodup := nodup_map_filter _ _ hI.linksNodup,
                   sameKeys := fun k => by simp only [unframed, mem_keys_dropOwner, hI.sameKeys k], sameObj := ?_,
                   handleInj := nodup_map_filter _ _ hI.handleInj, oidInj := nodup_map_filter _ _ hI.oidInj,
                   oidLt := fun k o hk => hI.oidLt k o (mem_dropOwner.1 hk).1,
                   fileNodup := nodup_map_filter _ _ hI.fileNodup, frameInj := nodup_map_filter _ _ hI.frameInj,
                   frameName := fun k g' hk => hI.frameName k g' (mem_erase.1 hk).1,
                   frameDs := fun k g' hk => hI.frameDs k g' (mem_erase.1 hk).1, linkFrame := ?_,
                   handleLink := fun h hd hh hc k hk => hI.handleLink h hd hh hc k (mem_dropOwner.1 hk).1,
                   dfsNodup := nodup_map_filter _ _ hI.dfsNodup,
                   sameFrames := fun e => by simp only [unframed, mem_erase, hI.sameFrames e] }
  · intro k h hk
    obtain ⟨hk, hne⟩ := mem_dropOwner.1 hk
    obtain ⟨hd, h1, h2, h3, h4, h5, h6⟩ := hI.sameObj k h hk
    exact ⟨hd, h1, h2, h3, h4, h5, mem_dropOwner.2 ⟨h6, hne⟩⟩
  · intro k o hk
    obtain ⟨hk, hne⟩ := mem_dropOwner.1 hk
    obtain ⟨e, he, hee⟩ := List.mem_map.1 (hI.linkFrame k o hk)
    refine List.mem_map.2 ⟨e, mem_erase.2 ⟨he, fun heq => hne ?_⟩, hee⟩
    have : e.2 = g := functional hI.fileNodup (k := (d, fn)) (by rw [← heq]; exact he) hg
    rw [← hee, this]

theorem absH5_unframed {s : State} (hI : Inv s) {d : Nat} {fn : Name} {g : Nat} (hg : ((d, fn), g) ∈ s.file) :
    absH5 (unframed s d fn g) = (absH5 s).setFrame d fn none := by
  refine absH5_setFrame (x := none) (fun k => look_erase) fun k g' hk hl => funext fun n => ?_
  have hne : g' ≠ g := fun e => hk (injective hI.frameInj (e ▸ look_mem hl) hg)
  simp only [frameH5, unframed, look_dropOwner, hne, if_false]

/-- `del ds[fn]` and `ds.drop(fn)` differ in the exception only: once the name is in `_dataframes` the unlinking goes through -/
theorem unlink_decides {s : State} (hI : Inv s) (d : Nat) (fn : Name) (e : Err) :
    (if (d, fn) ∉ keys s.dfs then Res.err e s else unlinkGroup { s with dfs := erase s.dfs (d, fn) } d fn).Decides s
      ((d, fn) ∈ keys s.dfs) fun _ s' => ∃ g, ((d, fn), g) ∈ s.file ∧ s' = unframed s d fn g := by
  by_cases hk : (d, fn) ∈ keys s.dfs
  · obtain ⟨g, hg⟩ := mem_keys.1 ((dfs_file_keys hI _).1 hk)
    rw [if_neg (not_not_intro hk)]
    simp only [unlinkGroup, (look_eq_some hI.fileNodup).2 hg]
    exact ⟨hk, g, hg, rfl⟩
  · rw [if_pos hk]; exact ⟨hk, rfl⟩

/-- frame `(d, old)` = group `g` registered as `(d, fn)` instead, in both catalogues -/
def reframed (s : State) (d : Nat) (old fn : Name) (g : Nat) : State :=
  { s with file := rekey s.file (d, old) (d, fn), dfs := erase s.dfs (d, old) ++ [((d, fn), g)], fname := s.fname.set g fn }

theorem reframed_inv {s : State} (hI : Inv s) {d : Nat} {old fn : Name} {g : Nat} (hg : ((d, old), g) ∈ s.file)
    (hfresh : (d, fn) ∉ keys s.file) : Inv (reframed s d old fn g) := by
  have hglt : g < s.fname.length := registered_lt hI.toInvCore hg
  refine { hI with fileNodup := keys_rekey_nodup hI.fileNodup hfresh, frameInj := by rw [reframed, vals_rekey]; exact hI.frameInj,
                   frameName := ?_, frameDs := ?_, fdsLen := by simp [reframed, hI.fdsLen],
                   linkFrame := fun k o hk => by rw [reframed, vals_rekey]; exact hI.linkFrame k o hk, dfsNodup := ?_, sameFrames := ?_ }
  · intro k g' hk
    rcases mem_rekey.1 hk with ⟨h1, h2⟩ | ⟨h1, h2⟩
    · cases functional hI.fileNodup h2 hg
      simp only at h1
      simp [reframed, h1, hglt]
    · have hne : g ≠ g' := fun heq => h2 (injective hI.frameInj h1 (heq ▸ hg))
      simp only [reframed, List.getElem?_set_ne hne]
      exact hI.frameName k g' h1
  · intro k g' hk
    rcases mem_rekey.1 hk with ⟨h1, h2⟩ | ⟨h1, _⟩
    · have := hI.frameDs _ _ h2; simp only at h1 this; rw [h1]; exact this
    · exact hI.frameDs k g' h1
  · refine keys_snoc_nodup _ (nodup_map_filter _ _ hI.dfsNodup) fun h => hfresh ?_
    exact (dfs_file_keys hI _).1 (mem_keys_erase.1 h).1
  · intro e
    simp only [reframed, List.mem_append, List.mem_singleton, mem_erase, mem_rekey, hI.sameFrames e]
    constructor
    · rintro (⟨h1, h2⟩ | h)
      · exact Or.inr ⟨h1, h2⟩
      · subst h; exact Or.inl ⟨rfl, hg⟩
    · rintro (⟨h1, h2⟩ | ⟨h1, h2⟩)
      · exact Or.inr (Prod.ext h1 (functional hI.fileNodup h2 hg))
      · exact Or.inl ⟨h1, h2⟩

theorem absH5_reframed {s : State} (d : Nat) (old fn : Name) (g : Nat) (hfresh : (d, fn) ∉ keys s.file) :
    absH5 (reframed s d old fn g) = ((absH5 s).setFrame d old none).setFrame d fn (absH5 s d old) := by
  funext d' fn'
  have hfr : frameH5 (reframed s d old fn g) = frameH5 s := rfl
  have hfile : (reframed s d old fn g).file = rekey s.file (d, old) (d, fn) := rfl
  simp only [Cat.setFrame, absH5_apply, hfr, hfile, look_rekey hfresh]
  by_cases hk : (d', fn') = (d, fn)
  · simp only [if_pos hk]
  · by_cases hk2 : (d', fn') = (d, old)
    · simp only [if_neg hk, if_pos hk2, Option.map_none]
    · simp only [if_neg hk, if_neg hk2]

/-- `ds[fn] = df` for a dataframe of this dataset: the h5 move decides, the dictionary update cannot fail after it -/
theorem setFrame_own_decides {s : State} (hI : Inv s) {d sg : Nat} {sfn : Name} (hsg : ((d, sfn), sg) ∈ s.dfs) (fn : Name) :
    (setFrame .repaired s d fn d sg).Decides s ((d, fn) ∉ keys s.dfs) fun _ s' => s' = reframed s d sfn fn sg := by
  have hf := (hI.sameFrames _).1 hsg
  simp only [setFrame, if_true, moveGroup, (nameOfVal_eq_some hI.frameInj).2 ⟨d, hf⟩]
  by_cases hk : (d, fn) ∈ keys s.file
  · rw [if_pos hk]; exact ⟨not_not_intro ((dfs_file_keys hI _).2 hk), rfl⟩
  · have hkd : (d, fn) ∉ keys s.dfs := fun h => hk ((dfs_file_keys hI _).1 h)
    rw [if_neg hk]
    simp only [Res.andThen, renameEntry, hI.frameName _ _ hf, mem_keys_of_mem hsg, not_true_eq_false, if_false]
    rw [dictSet_fresh _ fun h => hkd (mem_keys_erase.1 h).1]
    exact ⟨hkd, rfl⟩

/-- `dataset.move`: a copy, then the drop of the source, which cannot fail -/
theorem moveFrame_decides {s : State} (hI : Inv s) {sd sg : Nat} {sfn : Name} (hsg : ((sd, sfn), sg) ∈ s.dfs) (d : Nat) (fn : Name) :
    (moveFrame .repaired s sd sg d fn).Decides s ((d, fn) ∉ keys s.dfs) fun _ s' => Inv s' ∧
      absH5 s' = ((absH5 s).setFrame d fn (absH5 s sd sfn)).setFrame sd sfn none := by
  have hf := (hI.sameFrames _).1 hsg
  have hc := copyFrame_decides hI sg d fn (List.mem_map.2 ⟨_, hf, rfl⟩)
  unfold moveFrame
  cases hcp : copyFrame .repaired s sg d fn with
  | err e s1 => rw [hcp] at hc; exact hc
  | ok u s1 =>
    rw [hcp] at hc
    obtain ⟨hk, FA⟩ := hc
    have hname1 : s1.fname[sg]? = some sfn := by rw [FA.fname]; exact getElem?_snoc_lt (hI.frameName _ _ hf)
    have hdr : (dropFrame s1 sd sfn).Decides s1 _ _ := unlink_decides FA.inv sd sfn _
    simp only [Res.andThen, hname1]
    cases hdrop : dropFrame s1 sd sfn with
    | err e s2 => rw [hdrop] at hdr; exact absurd (mem_keys_of_mem (by rw [FA.dfs]; exact List.mem_append_left _ hsg)) hdr.1
    | ok u s2 =>
      rw [hdrop] at hdr
      obtain ⟨_, g', hg', rfl⟩ := hdr
      refine ⟨hk, unframed_inv FA.inv hg', ?_⟩
      rw [absH5_unframed FA.inv hg', FA.abs hI fun h => hk ((dfs_file_keys hI _).2 h), absH5_frame hI.toInvCore hf]

theorem ColSet.inv {s s' : State} {g : Nat} {n : Name} {x : Option Content} (h : ColSet s g n x s') (hI : Inv s) : Inv s' :=
  hI.field_level h.core h.frames

theorem ColSet.inv_abs {s s' : State} {g : Nat} {n : Name} {x : Option Content} (h : ColSet s g n x s') (hI : Inv s)
    {d : Nat} {fn : Name} (hg : ((d, fn), g) ∈ s.file) : Inv s' ∧ absH5 s' = (absH5 s).setCol d fn n x :=
  ⟨h.inv hI, h.abs hI.toInvCore hg⟩

theorem setFrame_decides {s : State} (hI : Inv s) {sd sg : Nat} {sfn : Name} (hsg : ((sd, sfn), sg) ∈ s.dfs) (d : Nat) (fn : Name) :
    (setFrame .repaired s d fn sd sg).Decides s ((d, fn) ∉ keys s.dfs) fun _ s' => Inv s' ∧
      absH5 s' = if sd = d then ((absH5 s).setFrame d sfn none).setFrame d fn (absH5 s d sfn)
                 else (absH5 s).setFrame d fn (absH5 s sd sfn) := by
  have hf := (hI.sameFrames _).1 hsg
  by_cases hsd : sd = d
  · subst hsd
    refine (setFrame_own_decides hI hsg fn).mono Iff.rfl fun _ s' hok hq => ?_
    have hfresh : (sd, fn) ∉ keys s.file := fun h => hok ((dfs_file_keys hI _).2 h)
    rw [hq, if_pos rfl]
    exact ⟨reframed_inv hI hf hfresh, absH5_reframed sd sfn fn sg hfresh⟩
  · simp only [setFrame, hsd, if_false]
    refine (copyFrame_decides hI sg d fn (List.mem_map.2 ⟨_, hf, rfl⟩)).mono Iff.rfl fun _ s' hok FA => ⟨FA.inv, ?_⟩
    rw [FA.abs hI fun h => hok ((dfs_file_keys hI _).2 h), absH5_frame hI.toInvCore hf]

end Exetera.Catalogue
