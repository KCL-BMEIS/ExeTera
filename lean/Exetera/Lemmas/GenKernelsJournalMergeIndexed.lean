import Exetera.Gen.Kernels
import Exetera.Model.Journal
import Exetera.Lemmas.GenKernels
import Exetera.Lemmas.GenKernelsSpans
import Exetera.Lemmas.GenKernelsJournal
import Exetera.Lemmas.GenKernelsJournalMerge
/-!
  The TRANSLATED `merge_indexed_journalled_entries` (a `for` loop around a `while` loop whose condition subscripts; offsets written
  one by one, bytes copied by slice assignment) against `Journal.mergeIndexedEntries` — transfer form: every `.ok` run of the model is
  a run of the translated kernel on zero-filled destinations of the same capacities, with the same final destinations, for every
  fuel that covers the old offsets. Kept slots must have a non-negative `new_map` entry (the model wraps a negative subscript, the
  translation rejects it).

  Old rows (inside the `while`) and the new row are copied by the same block of statements, handled once (`MI.copyRow_follows`).
-/
namespace Exetera.GenK

open Exetera Exetera.PyRt Exetera.Journal Exetera.Gen.Kernels

/-- the model's clamped slice assignment (sizes must agree) is an instance of numpy's rule -/
theorem setSliceE_journal (dst src v : List Int) (lo hi : Nat) (h : Journal.setSliceE dst lo hi src = .ok v) :
    PyRt.setSliceE dst (some (lo : Int)) (some (hi : Int)) src = .ok v := by
  simp only [Journal.setSliceE] at h
  split at h
  · rename_i heq
    cases h
    have heq' : min hi dst.length - min lo dst.length = src.length := eq_of_beq heq
    have hb : max (min lo dst.length) (min hi dst.length) - min lo dst.length = src.length := by
      rcases Nat.le_total (min lo dst.length) (min hi dst.length) with hle | hle
      · rw [Nat.max_eq_right hle]; exact heq'
      · rw [Nat.max_eq_left hle, Nat.sub_self, ← heq', Nat.sub_eq_zero_of_le hle]
    simp only [PyRt.setSliceE, normBound_nat, broadcastTo, hb, if_true]
  · cases h

namespace MI

abbrev St := merge_indexed_journalled_entries.St

def destI (capI : Nat) (ib : List Nat) : List Int := ints (ib ++ List.replicate (capI - ib.length) 0)

def R (om nm : List Int) (tk : List Bool) (oi : List Nat) (ov : List Int) (ni : List Nat) (nv : List Int) (capI : Nat)
    (s : St) (t : IS) : Prop :=
  s.p0 = om ∧ s.p1 = nm ∧ s.p2 = tk ∧ s.p3 = ints oi ∧ s.p4 = ov ∧ s.p5 = ints ni ∧ s.p6 = nv ∧ s.p7 = destI capI t.ib ∧
    s.p8 = t.vals ∧ s.v0 = (t.cur : Int) ∧ s.v1 = (t.ib.length : Int) ∧ s.v2 = (t.acc : Int) ∧ t.ib.length ≤ capI

theorem destI_set (capI : Nat) (ib : List Nat) (v : Nat) (h : ib.length < capI) :
    (destI capI ib).set ib.length (v : Int) = destI capI (ib ++ [v]) := by
  unfold destI
  rw [ints_set, set_append_replicate ib capI v 0 h]

theorem copyRow_eq (capI : Nat) (t : IS) (a b : Nat) (src : List Int) :
    copyRow capI t a b src = bindE (deltaE a b) fun d => bindE (pushI capI t (t.acc + d)) fun s1 =>
      if d > 0 then bindE (Journal.setSliceE s1.vals (t.acc + d - d) (t.acc + d) (slice src a b)) fun v =>
        .ok { s1 with acc := t.acc + d, vals := v }
      else .ok { s1 with acc := t.acc + d } := by
  simp only [copyRow, Except.bind_eq_bindE]
  rfl

/-- the translated block `ind_acc += ind_delta; dest_inds[cur_dest] = ind_acc; if ind_delta > 0: dest_vals[ind_acc - ind_delta :
    ind_acc] = src[a:b]` against `copyRow`, for offsets `a`, `b` already read; `mk` rebuilds the kernel's state around the two
    destination buffers, `K` is what the kernel goes on with -/
theorem copyRow_follows {σ β γ} {Q : β → γ → Prop} (capI : Nat) (t : IS) (a b : Nat) (src : List Int) (site : String)
    (mk : List Int → List Int → σ) {K : σ → Except Err β} {G : IS → Except Err γ}
    (h : ∀ (t' : IS) (d : Nat), t'.cur = t.cur → t'.ib.length = t.ib.length + 1 → t'.ib.length ≤ capI → t'.acc = t.acc + d →
      (b : Int) - (a : Int) = (d : Int) → OkFollows Q (K (mk (destI capI t'.ib) t'.vals)) (G t')) :
    OkFollows Q
      (bindE (setIdxE (destI capI t.ib) (t.ib.length : Int) ((t.acc : Int) + ((b : Int) - (a : Int))) site) fun t5 =>
        bindE (if decide (((b : Int) - (a : Int)) > 0) then
            bindE (PyRt.setSliceE t.vals (some ((t.acc : Int) + ((b : Int) - (a : Int)) - ((b : Int) - (a : Int))))
              (some ((t.acc : Int) + ((b : Int) - (a : Int)))) (pySlice src (some (a : Int)) (some (b : Int)))) fun t8 =>
              .ok (mk t5 t8)
          else .ok (mk t5 t.vals)) K)
      (bindE (copyRow capI t a b src) G) := by
  rw [copyRow_eq]
  cases hd : deltaE a b with
  | error e => exact .error
  | ok d =>
    have hdd := MC.deltaE_ok hd
    rw [hdd, bindE_ok]
    unfold pushI
    by_cases hlt : t.ib.length < capI
    · rw [if_pos hlt]
      have hlen : t.ib.length < (destI capI t.ib).length := by
        unfold destI; rw [ints_length, List.length_append, List.length_replicate]; omega
      rw [setIdxE_of_lt _ _ hlen, show (t.acc : Int) + (d : Int) = ((t.acc + d : Nat) : Int) from rfl, destI_set _ _ _ hlt]
      simp only [bindE_ok, pySlice_nat]
      by_cases hd0 : d > 0
      · rw [if_pos hd0, if_pos (decide_eq_true (Int.natCast_pos.mpr hd0))]
        cases hss : Journal.setSliceE t.vals (t.acc + d - d) (t.acc + d) (slice src a b) with
        | error e => exact .error
        | ok v =>
          have := setSliceE_journal _ _ _ _ _ hss
          rw [show (((t.acc + d - d : Nat)) : Int) = ((t.acc + d : Nat) : Int) - (d : Int) by omega] at this
          rw [this]
          exact h ⟨t.cur, t.acc + d, t.ib ++ [t.acc + d], v⟩ d rfl (by simp) (by simp; omega) rfl hdd
      · rw [if_neg hd0, if_neg (by rw [decide_eq_true_eq]; omega)]
        exact h ⟨t.cur, t.acc + d, t.ib ++ [t.acc + d], t.vals⟩ d rfl (by simp) (by simp; omega) rfl hdd
    · rw [if_neg hlt]
      exact .error

theorem copyOldRowBody_eq (capI : Nat) (oi : List Nat) (ov : List Int) (t : IS) :
    copyOldRowBody capI oi ov t = bindE (getE oi (t.cur + 1) "old_src_inds[cur_old+1]") fun b =>
      bindE (getE oi t.cur "old_src_inds[cur_old]") fun a =>
      bindE (copyRow capI t a b ov) fun t' => .ok { t' with cur := t.cur + 1 } := by
  rw [copyOldRowBody]
  cases getE oi (t.cur + 1) "old_src_inds[cur_old+1]" with
  | error e => cases getE oi t.cur "old_src_inds[cur_old]" <;> rfl
  | ok b =>
    cases getE oi t.cur "old_src_inds[cur_old]" with
    | error e => rfl
    | ok a => dsimp only [bindE_ok]; cases copyRow capI t a b ov <;> rfl

theorem mergeIndexedBody_eq (om nm : List Int) (tk : List Bool) (oi : List Nat) (ov : List Int) (ni : List Nat) (nv : List Int)
    (capI i : Nat) (t : IS) :
    mergeIndexedBody om nm tk oi ov ni nv capI i t = bindE (getE om i "old_map[i]") fun o =>
      bindE (whileE (fun s => decide ((s.cur : Int) ≤ o)) (copyOldRowBody capI oi ov) (o + 1 - (t.cur : Int)).toNat t) fun t1 =>
      bindE (getE tk i "to_keep[i]") fun k =>
      if k then bindE (getE nm i "new_map[i]") fun n => bindE (getI ni (n + 1) "new_src_inds[new_map[i]+1]") fun b =>
        bindE (getI ni n "new_src_inds[new_map[i]]") fun a => bindE (copyRow capI t1 a b nv) .ok
      else .ok t1 := by
  simp only [mergeIndexedBody, Except.bind_eq_bindE, bindE_pure]
  rfl

theorem step (om nm : List Int) (tk : List Bool) (oi : List Nat) (ov : List Int) (ni : List Nat) (nv : List Int) (capI fuel : Nat)
    (hfuel : oi.length ≤ fuel) (hnn : ∀ (i : Nat) (n : Int), tk[i]? = some true → nm[i]? = some n → 0 ≤ n) (i : Nat) :
    ∀ (s : St) (t : IS), R om nm tk oi ov ni nv capI s t →
      OkFollows (R om nm tk oi ov ni nv capI) (merge_indexed_journalled_entries.body_L1 fuel { s with v3 := (i : Int) })
        (mergeIndexedBody om nm tk oi ov ni nv capI i t) := by
  intro s t hR
  rw [mergeIndexedBody_eq, merge_indexed_journalled_entries.body_L1]
  refine OkFollows.getE_right _ _ _ fun o ho => ?_
  refine (OkFollows.while (fun s t => R om nm tk oi ov ni nv capI s t ∧ s.v3 = (i : Int)) _ _ _ _ (fun t => oi.length - t.cur)
    ?_ ?_ _ _ t (by exact ⟨hR, rfl⟩) fuel (by omega)).bind ?_
  · rintro ⟨⟩ t ⟨⟨rfl, rfl, rfl, rfl, rfl, rfl, rfl, rfl, rfl, rfl, rfl, rfl, _⟩, rfl⟩
    simp only [merge_indexed_journalled_entries.guardE_L2, idxE_nat, getE_eq_ok.mpr ho, bindE_ok]
  · rintro ⟨_, _, _, _, ov, _, nv, _, _, _, _, _, _, _⟩ t ⟨⟨rfl, rfl, rfl, rfl, rfl, rfl, rfl, rfl, rfl, rfl, rfl, rfl, hle⟩, rfl⟩ _
    rw [copyOldRowBody_eq]
    simp only [merge_indexed_journalled_entries.body_L2, idxE_nat, idxE_nat_succ]
    refine OkFollows.getE_ints _ _ _ _ fun b hb => ?_
    refine OkFollows.getE_ints _ _ _ _ fun a ha => ?_
    have hlt : t.cur + 1 < oi.length := (List.getElem?_eq_some_iff.mp hb).1
    simp only [getE_ints _ _ _ hb, getE_ints _ _ _ ha, bindE_ok]
    refine copyRow_follows capI t a b ov _ _ fun t' d hcur hlen hle' hacc hd => ?_
    have h1 : (t.ib.length : Int) + 1 = (t'.ib.length : Int) := by rw [hlen]; rfl
    have h2 : (t.acc : Int) + ((b : Int) - (a : Int)) = (t'.acc : Int) := by rw [hacc, hd]; rfl
    exact .ok ⟨⟨⟨rfl, rfl, rfl, rfl, rfl, rfl, rfl, rfl, rfl, rfl, h1, h2, hle'⟩,
      rfl⟩, by show oi.length - (t.cur + 1) < oi.length - t.cur; omega⟩
  · rintro ⟨_, _, _, _, ov, _, nv, _, _, _, _, _, _, _⟩ t1 ⟨⟨rfl, rfl, rfl, rfl, rfl, rfl, rfl, rfl, rfl, rfl, rfl, rfl, hle⟩, rfl⟩
    simp only [idxE_nat, beq_true]
    refine OkFollows.getE _ _ _ _ fun k hk => OkFollows.ite (fun hkt => ?_)
      (fun _ => .ok ⟨rfl, rfl, rfl, rfl, rfl, rfl, rfl, rfl, rfl, rfl, rfl, rfl, hle⟩)
    refine OkFollows.getE _ _ _ _ fun n hn => ?_
    have hn0 : 0 ≤ n := hnn i n (hkt ▸ hk) hn
    simp only [getE_eq_ok.mpr hn, bindE_ok]
    have hn1 : 0 ≤ n + 1 := Int.add_nonneg hn0 Int.one_nonneg
    refine OkFollows.idxE_getI_ints _ hn1 _ _ fun b hb => ?_
    refine OkFollows.idxE_getI_ints _ hn0 _ _ fun a ha => ?_
    simp only [idxE_ints_of_nonneg hn1 _ hb, idxE_ints_of_nonneg hn0 _ ha, bindE_ok]
    refine copyRow_follows capI t1 a b nv _ _ fun t' d hcur hlen hle' hacc hd => ?_
    have h1 : (t1.ib.length : Int) + 1 = (t'.ib.length : Int) := by rw [hlen]; rfl
    have h2 : (t1.acc : Int) + ((b : Int) - (a : Int)) = (t'.acc : Int) := by rw [hacc, hd]; rfl
    have h0 : (t1.cur : Int) = (t'.cur : Int) := by rw [hcur]
    exact .ok ⟨rfl, rfl, rfl, rfl, rfl, rfl, rfl, rfl, rfl, h0, h1, h2, hle'⟩

end MI

theorem destI_init (capI : Nat) (h : capI ≠ 0) : MI.destI capI [0] = List.replicate capI 0 := by
  cases capI with
  | zero => exact absurd rfl h
  | succ k => simp [MI.destI, ints, List.replicate_succ]

theorem merge_indexed_journalled_entries_ok (om nm : List Int) (tk : List Bool) (oi : List Nat) (ov : List Int) (ni : List Nat)
    (nv : List Int) (capI capV fuel : Nat) (ri : List Nat) (rv : List Int) (hfuel : oi.length ≤ fuel)
    (hnn : ∀ (i : Nat) (n : Int), tk[i]? = some true → nm[i]? = some n → 0 ≤ n)
    (h : mergeIndexedEntries om nm tk oi ov ni nv capI capV = .ok (ri, rv)) :
    merge_indexed_journalled_entries.run om nm tk (ints oi) ov (ints ni) nv (List.replicate capI 0) (List.replicate capV 0) fuel
      = .ok (ints ri, rv) := by
  unfold mergeIndexedEntries at h
  split at h
  · cases h
  next hcap =>
    cases hf : forE (mergeIndexedBody om nm tk oi ov ni nv capI) om.length 0
        { cur := 0, acc := 0, ib := [0], vals := List.replicate capV 0 } with
    | error e => rw [hf] at h; cases h
    | ok t' =>
      rw [hf] at h
      cases h
      have hpos : 0 < capI := Nat.pos_of_ne_zero hcap
      obtain ⟨s', hs, _, _, _, _, _, _, _, h7, h8, _⟩ := forRange_forE_ok
        (MI.R om nm tk oi ov ni nv capI) _
        (fun k s => merge_indexed_journalled_entries.body_L1 fuel { s with v3 := k })
        (MI.step om nm tk oi ov ni nv capI fuel hfuel hnn) om.length 0
        { p0 := om, p1 := nm, p2 := tk, p3 := ints oi, p4 := ov, p5 := ints ni, p6 := nv, p7 := List.replicate capI 0,
          p8 := List.replicate capV 0, v0 := 0, v1 := 1, v2 := 0, v3 := 0, v4 := 0 }
        { cur := 0, acc := 0, ib := [0], vals := List.replicate capV 0 }
        ⟨rfl, rfl, rfl, rfl, rfl, rfl, rfl, (destI_init capI hcap).symm, rfl, rfl, rfl, rfl, hpos⟩ t' hf
      have hset0 : setIdxE (List.replicate capI (0 : Int)) 0 0 "p7[0]" = .ok (List.replicate capI 0) := by
        have : setIdxE (List.replicate capI (0 : Int)) ((0 : Nat) : Int) 0 "p7[0]" = .ok ((List.replicate capI 0).set 0 0) :=
          setIdxE_of_lt _ _ (by rw [List.length_replicate]; exact hpos)
        refine this.trans (congrArg _ ?_)
        cases capI with
        | zero => rfl
        | succ k => rfl
      unfold merge_indexed_journalled_entries.run forRangeE
      have hn : (pyLen om - 0).toNat = om.length := Int.toNat_natCast _
      simp only [hn, hset0, bindE_ok]
      erw [hs]
      simp only [bindE_ok, h7, h8]
      rfl

end Exetera.GenK
