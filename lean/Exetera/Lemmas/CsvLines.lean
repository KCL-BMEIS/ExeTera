import Exetera.Lemmas.CsvImport
/-! The text of a file as the driver reads it (C05): the windows `readWindow` cuts out of it, where a window ends among the
    records, the byte positions of the record boundaries (`bnd`), the regrowth measure (`need`), and `column_offsets` after a
    regrowth. -/
namespace Exetera.Csv
open Exetera Spec

theorem offAt_last (offs : List Nat) (n : Nat) (h : offs.length = n + 1) : offs.getLastD 0 = offAt offs n := by
  rw [List.getLastD_eq_getLast?, List.getLast?_eq_getElem?, h]
  simp [offAt]

theorem zeros2_rowLen {ncols n c : Nat} {r : List Nat} (hr : (zeros2 ncols n)[c]? = some r) : r.length = n := by
  simp only [zeros2, List.getElem?_replicate] at hr
  split at hr
  · cases hr; simp
  · cases hr

theorem shape_zeros {ncols maxrow : Nat} {offs : List Nat} (hl : offs.length = ncols + 1) (h0 : offAt offs 0 = 0)
    (hm : ∀ c, c < ncols → offAt offs c ≤ offAt offs (c + 1)) :
    Shape ncols maxrow offs (zeros2 ncols (maxrow + 1)) (List.replicate (offs.getLastD 0) 0) :=
  ⟨by simp [zeros2], fun _ _ => zeros2_rowLen, hl, h0, hm, by rw [offAt_last offs ncols hl]; simp⟩

theorem zeros_first {ncols rows : Nat} (c : Nat) (hc : c < ncols) :
    ∃ r, (zeros2 ncols (rows + 1))[c]? = some r ∧ r[0]? = some 0 := by
  refine ⟨List.replicate (rows + 1) 0, ?_, by simp⟩
  simp [zeros2, List.getElem?_replicate, hc]

/-- the window that holds the whole file: the text with its final line break -/
theorem readWindow_whole {file T : Bytes} {w : Nat} (hw : file.length ≤ w)
    (hT : file = T ∨ (file ++ [NL] = T ∧ file.getLast? ≠ some NL)) (hTnl : T.getLast? = some NL) :
    readWindow file 0 w = T := by
  have hs : slice file 0 (0 + w) = file := by
    simp [slice, List.take_of_length_le hw]
  unfold readWindow
  simp only [hs]
  rcases hT with h | ⟨h, hn⟩
  · subst h; simp [hTnl]
  · simp [hn, h]

theorem getLast?_append_some {α} {a b : List α} {x : α} (h : b.getLast? = some x) : (a ++ b).getLast? = some x := by
  rw [List.getLast?_append, h]; rfl

theorem renderCells_getLast (cs : List Cell) (hne : cs ≠ []) : (renderCells cs).getLast? = some NL := by
  induction cs with
  | nil => exact absurd rfl hne
  | cons c cs ih =>
    cases cs with
    | nil => simp [renderCells]
    | cons d ds =>
      have := ih (by simp)
      have h2 : renderCells (c :: d :: ds) = (renderCell c ++ [SEP]) ++ renderCells (d :: ds) := by simp [renderCells]
      rw [h2]
      exact getLast?_append_some this

theorem renderCells_ne_nil (cs : List Cell) (hne : cs ≠ []) : renderCells cs ≠ [] := by
  intro h
  have := renderCells_getLast cs hne
  rw [h] at this; simp at this

theorem render_getLast (rows : List (List Cell)) (hne : rows ≠ []) (hr : ∀ r ∈ rows, r ≠ []) :
    (render rows).getLast? = some NL := by
  induction rows with
  | nil => exact absurd rfl hne
  | cons r rs ih =>
    cases rs with
    | nil => simpa [render] using renderCells_getLast r (hr r (by simp))
    | cons r2 rs2 =>
      have h2 := ih (by simp) (fun x hx => hr x (by simp [hx]))
      rw [render]
      exact getLast?_append_some h2

/-- number of leading records of `ls` that lie completely within the first `w` bytes of their text -/
def fitCount : List (List Cell) → Nat → Nat
  | [], _ => 0
  | r :: rs, w => if (renderCells r).length ≤ w then fitCount rs (w - (renderCells r).length) + 1 else 0

theorem fitCount_le (ls : List (List Cell)) : ∀ w, fitCount ls w ≤ ls.length := by
  induction ls with
  | nil => intro w; simp [fitCount]
  | cons r rs ih =>
    intro w
    simp only [fitCount]
    split
    · have := ih (w - (renderCells r).length); simp; omega
    · simp

theorem render_take_fit_length (ls : List (List Cell)) : ∀ w, (render (ls.take (fitCount ls w))).length ≤ w := by
  induction ls with
  | nil => intro w; simp [fitCount, render]
  | cons r rs ih =>
    intro w
    simp only [fitCount]
    split
    · rename_i h
      have := ih (w - (renderCells r).length)
      simp only [List.take_succ_cons, render, List.length_append]
      omega
    · simp [render]

/-- the first `w` bytes of the text of `ls`: the records that fit, then the beginning of the first one that does not -/
theorem take_render (ls : List (List Cell)) : ∀ w,
    (render ls).take w = render (ls.take (fitCount ls w)) ++
      (match ls[fitCount ls w]? with
       | some r => (renderCells r).take (w - (render (ls.take (fitCount ls w))).length)
       | none => []) ∧
    (∀ r, ls[fitCount ls w]? = some r → w - (render (ls.take (fitCount ls w))).length < (renderCells r).length) := by
  induction ls with
  | nil => intro w; simp [fitCount, render]
  | cons r rs ih =>
    intro w
    simp only [fitCount]
    split
    · rename_i h
      obtain ⟨w', rfl⟩ : ∃ w', w = (renderCells r).length + w' := ⟨w - (renderCells r).length, by omega⟩
      simp only [Nat.add_sub_cancel_left]
      obtain ⟨h1, h2⟩ := ih w'
      refine ⟨?_, ?_⟩
      · simp only [List.take_succ_cons, render, List.getElem?_cons_succ, List.length_append]
        rw [take_len_add, h1, List.append_assoc]
        congr 2
        cases hrs : rs[fitCount rs w']? with
        | none => rfl
        | some x =>
          simp only
          congr 1
          omega
      · intro x hx
        simp only [List.take_succ_cons, render, List.getElem?_cons_succ, List.length_append] at hx ⊢
        have := h2 x hx
        omega
    · rename_i h
      refine ⟨?_, ?_⟩
      · simp only [List.take_zero, render, List.nil_append, List.getElem?_cons_zero, List.length_nil, Nat.sub_zero]
        exact List.take_append_of_le_length (by omega)
      · intro x hx
        simp only [List.getElem?_cons_zero, Option.some.injEq] at hx
        subst hx
        simp [render]; omega

/-- a window that does not reach the end of the records `rest`: some complete records and a strict prefix of the next -/
theorem window_split (rest : List (List Cell)) (w : Nat) (hlong : w < (render rest).length) :
    ∃ a r m, rest[a]? = some r ∧ (render rest).take w = render (rest.take a) ++ (renderCells r).take m ∧
      m < (renderCells r).length ∧ (render (rest.take a)).length ≤ w ∧
      (∀ r0 rs, rest = r0 :: rs → (renderCells r0).length ≤ w → 1 ≤ a) := by
  obtain ⟨h1, h2⟩ := take_render rest w
  have hle := render_take_fit_length rest w
  cases hr : rest[fitCount rest w]? with
  | none =>
    exfalso
    have hk : rest.length ≤ fitCount rest w := by
      rcases Nat.lt_or_ge (fitCount rest w) rest.length with h | h
      · rw [List.getElem?_eq_getElem h] at hr; cases hr
      · exact h
    rw [List.take_of_length_le hk] at hle
    omega
  | some r =>
    refine ⟨fitCount rest w, r, _, hr, ?_, h2 r hr, hle, ?_⟩
    · rw [h1, hr]
    · intro r0 rs h hfit
      subst h; simp [fitCount, hfit]

/-- records that do not consist of empty cells only take more than `ncols` bytes each -/
theorem render_length_ge (ncols : Nat) (ls : List (List Cell)) (h : ∀ l ∈ ls, ncols < (renderCells l).length) :
    ls.length * (ncols + 1) ≤ (render ls).length := by
  induction ls with
  | nil => simp
  | cons l ls ih =>
    have h1 := h l (by simp)
    have h2 := ih (fun x hx => h x (by simp [hx]))
    simp only [List.length_cons, render, List.length_append, Nat.succ_mul]
    omega

/-- fewer than `c` such records fit into `c * ncols` (+1) bytes -/
theorem count_lt_of_bytes {a c ncols b : Nat} (hc : 2 ≤ c) (h1 : a * (ncols + 1) ≤ b) (h2 : b ≤ c * ncols + 1) : a < c := by
  rcases Nat.lt_or_ge a c with h | h
  · exact h
  · exfalso
    have h3 : c * (ncols + 1) ≤ a * (ncols + 1) := Nat.mul_le_mul_right _ h
    rw [Nat.mul_succ] at h3
    omega

theorem take_succ_of_get {α} {l : List α} {a : Nat} {r : α} (h : l[a]? = some r) : l.take (a + 1) = l.take a ++ [r] := by
  rw [List.take_succ, h]; rfl

/-- the file as stored: the text `T` of its lines, or `T` without the final line break -/
def IsFile (file T : Bytes) : Prop := file = T ∨ (file ++ [NL] = T ∧ file.getLast? ≠ some NL)

theorem isFile_length {file T : Bytes} (h : IsFile file T) : file.length ≤ T.length := by
  rcases h with h | ⟨h, _⟩
  · rw [h]; exact Nat.le_refl _
  · rw [← h]; simp

theorem readWindow_inside {file T : Bytes} {ci w : Nat} (h : IsFile file T) (hin : ci + w < file.length) :
    readWindow file ci w = (T.drop ci).take w := by
  have hs : slice file ci (ci + w) = (file.drop ci).take w := by simp [slice]
  have hlen : ((file.drop ci).take w).length = w := by simp; omega
  have hsame : (file.drop ci).take w = (T.drop ci).take w := by
    rcases h with h | ⟨h, _⟩
    · rw [h]
    · rw [← h, List.drop_append_of_le_length (by omega), List.take_append_of_le_length (by simp; omega)]
  unfold readWindow
  simp only [hs, hlen]
  have : (ci + w == file.length) = false := beq_false_of_ne (by omega)
  simp [this, hsame]

/-- the columns of the first `d` records, as the destination fields hold them -/
def doneCols (rows : List (List Cell)) (d : Nat) : Nat → List Bytes := fun c => column (values (rows.take d)) c

theorem render_append' (a b : List (List Cell)) : render (a ++ b) = render a ++ render b := by
  induction a with
  | nil => rfl
  | cons r rs ih => simp [render, ih]

theorem render_take_drop (rows : List (List Cell)) (d : Nat) : render rows = render (rows.take d) ++ render (rows.drop d) := by
  rw [← render_append', List.take_append_drop]

/-- the window that reaches the end of the file is the rest of the text, with its final line break -/
theorem readWindow_last {file T : Bytes} {ci w : Nat} (h : IsFile file T) (hTnl : T.getLast? = some NL)
    (hlt : ci < file.length) (hend : file.length ≤ ci + w) : readWindow file ci w = T.drop ci := by
  have hs : slice file ci (ci + w) = file.drop ci := by
    simp only [slice, Nat.add_sub_cancel_left]
    apply List.take_of_length_le
    simp; omega
  unfold readWindow
  simp only [hs]
  have hlen : ci + (file.drop ci).length = file.length := by simp; omega
  have hlast : (file.drop ci).getLast? = file.getLast? := by
    rw [List.getLast?_drop]
    have : ¬ file.length ≤ ci := by omega
    simp [this]
  rcases h with h | ⟨h, hn⟩
  · subst h
    simp [hlen, hlast, hTnl]
  · simp only [hlen, hlast, beq_self_eq_true, hn, ne_eq, not_false_eq_true, and_self, if_true]
    rw [← h, List.drop_append_of_le_length (by omega)]

theorem fieldOf'_nil : fieldOf' [] = ({ kind := .indexed } : Imp) := rfl

abbrev dguard (file : Bytes) : DS → Bool := fun s => decide (s.ci < file.length) && !s.stop

/-- byte position of the end of the first `q` lines (`hrow :: rows`) -/
def bnd (hrow : List Cell) (rows : List (List Cell)) (q : Nat) : Nat := (render ((hrow :: rows).take q)).length

theorem bnd_zero (hrow : List Cell) (rows : List (List Cell)) : bnd hrow rows 0 = 0 := rfl

theorem bnd_add (hrow : List Cell) (rows : List (List Cell)) (q m : Nat) :
    bnd hrow rows (q + m) = bnd hrow rows q + (render (((hrow :: rows).drop q).take m)).length := by
  unfold bnd
  rw [List.take_add, render_append', List.length_append]

theorem bnd_sub (hrow : List Cell) (rows : List (List Cell)) {q e : Nat} (h : q ≤ e) :
    (render (((hrow :: rows).drop q).take (e - q))).length = bnd hrow rows e - bnd hrow rows q := by
  have := bnd_add hrow rows q (e - q)
  rw [Nat.add_sub_cancel' h] at this
  omega

theorem bnd_mono (hrow : List Cell) (rows : List (List Cell)) {q e : Nat} (h : q ≤ e) : bnd hrow rows q ≤ bnd hrow rows e := by
  obtain ⟨m, rfl⟩ : ∃ m, e = q + m := ⟨e - q, by omega⟩
  rw [bnd_add]; omega

theorem bnd_total (hrow : List Cell) (rows : List (List Cell)) {q : Nat} (h : rows.length + 1 ≤ q) :
    bnd hrow rows q = (render (hrow :: rows)).length := by
  unfold bnd
  rw [List.take_of_length_le (by simpa using h)]

theorem bnd_le_total (hrow : List Cell) (rows : List (List Cell)) (q : Nat) :
    bnd hrow rows q ≤ (render (hrow :: rows)).length := by
  rcases Nat.le_total q (rows.length + 1) with h | h
  · exact bnd_total hrow rows (Nat.le_refl _) ▸ bnd_mono hrow rows h
  · exact Nat.le_of_eq (bnd_total hrow rows h)

theorem render_drop_bnd (hrow : List Cell) (rows : List (List Cell)) (q : Nat) :
    (render (hrow :: rows)).drop (bnd hrow rows q) = render ((hrow :: rows).drop q) := by
  rw [render_take_drop (hrow :: rows) q]
  unfold bnd
  rw [List.drop_left]

theorem lines_drop (hrow : List Cell) (rows : List (List Cell)) (e : Nat) :
    (hrow :: rows).drop e = (if e = 0 then [hrow] else []) ++ rows.drop (e - 1) := by
  cases e with
  | zero => simp
  | succ e => simp

theorem render_lines_drop (hrow : List Cell) (rows : List (List Cell)) (e : Nat) :
    render ((hrow :: rows).drop e) = (if e = 0 then renderCells hrow else []) ++ render (rows.drop (e - 1)) := by
  rw [lines_drop, render_append']
  cases e <;> simp [render]

/-- lines consumed after a call that started with `e` lines consumed and reported `a` records -/
def nextE (e a : Nat) : Nat := (if e = 0 then 1 else e) + a

theorem nextE_pred (e a : Nat) : nextE e a - 1 = (e - 1) + a := by
  unfold nextE; split <;> omega

theorem doneCols_nextE (rows : List (List Cell)) (e a c : Nat) :
    doneCols rows (e - 1) c ++ column (values ((rows.drop (e - 1)).take a)) c = doneCols rows (nextE e a - 1) c := by
  rw [nextE_pred]
  unfold doneCols
  rw [List.take_add]
  simp [column, values]

theorem le_nextE (e a : Nat) : e ≤ nextE e a := by unfold nextE; split <;> omega

theorem nextE_pos (e a : Nat) : 0 < nextE e a := by unfold nextE; split <;> omega

theorem nextE_le {e a n : Nat} (h : (e - 1) + a ≤ n) : nextE e a ≤ n + 1 := by unfold nextE; split <;> omega

theorem bnd_nextE (hrow : List Cell) (rows : List (List Cell)) (e a : Nat) :
    bnd hrow rows (nextE e a) =
      bnd hrow rows e + ((if e = 0 then renderCells hrow else []) ++ render ((rows.drop (e - 1)).take a)).length := by
  have h : nextE e a = e + ((if e = 0 then 1 else 0) + a) := by unfold nextE; split <;> omega
  rw [h, bnd_add, lines_drop]
  congr 2
  cases e with
  | zero => simp [render, Nat.add_comm 1 a]
  | succ e => simp

theorem render_ne_nil_of {ncols : Nat} (hnc : 0 < ncols) (ls : List (List Cell)) (hne : ls ≠ [])
    (hl : ∀ l ∈ ls, l.length = ncols) : 0 < (render ls).length := by
  cases ls with
  | nil => exact absurd rfl hne
  | cons l rest =>
    have h1 := hl l (by simp)
    have := renderCells_ne_nil l (by intro h; rw [h] at h1; simp at h1; omega)
    have : 0 < (renderCells l).length := List.length_pos_iff.mpr this
    simp [render]; omega

/-- `larger_factor` of the driver, a constant generated from the Python source -/
theorem larger_factor_ge : 2 ≤ Gen.Csv.LARGER_FACTOR := by decide

/-- `b * (larger_factor - 1)` is the driver's `delta` for a column of budget `b` -/
theorem grow_width (b : Nat) : b + b * (Gen.Csv.LARGER_FACTOR - 1) = Gen.Csv.LARGER_FACTOR * b := by
  obtain ⟨k, hk⟩ : ∃ k, Gen.Csv.LARGER_FACTOR = k + 1 := ⟨Gen.Csv.LARGER_FACTOR - 1, by have := larger_factor_ge; omega⟩
  rw [hk, Nat.add_sub_cancel, Nat.succ_mul, Nat.mul_comm k]
  omega

theorem grow_gt {b : Nat} (h : 0 < b) : 2 * b ≤ Gen.Csv.LARGER_FACTOR * b := Nat.mul_le_mul_right b larger_factor_ge

/-- number of regrowths (multiplications by `larger_factor`) after which `b` exceeds `t` -/
def need (b t : Nat) : Nat := if 0 < b ∧ b ≤ t then need (Gen.Csv.LARGER_FACTOR * b) t + 1 else 0
termination_by t + 1 - b
decreasing_by
  have := grow_gt (b := b) (by omega)
  omega

theorem need_double {b t : Nat} (h0 : 0 < b) (h : b ≤ t) : need (Gen.Csv.LARGER_FACTOR * b) t + 1 = need b t := by
  rw [need.eq_1 b t]; simp [h0, h]

theorem need_le (t : Nat) : ∀ (n b : Nat), t + 1 - b ≤ n → 0 < b → need b t ≤ t + 1 - b := by
  intro n
  induction n with
  | zero =>
    intro b hn hb
    rw [need.eq_1]
    have : ¬ (0 < b ∧ b ≤ t) := by omega
    simp [this]
  | succ n ih =>
    intro b hn hb
    rw [need.eq_1]
    by_cases h : 0 < b ∧ b ≤ t
    · simp only [h, and_self, if_true]
      have hg := grow_gt hb
      have := ih (Gen.Csv.LARGER_FACTOR * b) (by omega) (by omega)
      omega
    · simp [h]

def sumTo (f : Nat → Nat) : Nat → Nat
  | 0 => 0
  | n + 1 => sumTo f n + f n

theorem sumTo_congr {f g : Nat → Nat} : ∀ n, (∀ c, c < n → g c = f c) → sumTo g n = sumTo f n := by
  intro n
  induction n with
  | zero => intro _; rfl
  | succ n ih =>
    intro h
    simp only [sumTo]
    rw [ih (fun c hc => h c (by omega)), h n (by omega)]

theorem sumTo_update {f g : Nat → Nat} {j : Nat} : ∀ n, j < n → g j + 1 ≤ f j → (∀ c, c < n → c ≠ j → g c = f c) →
    sumTo g n + 1 ≤ sumTo f n := by
  intro n
  induction n with
  | zero => intro h; omega
  | succ n ih =>
    intro hj hlt hoth
    simp only [sumTo]
    by_cases hjn : j = n
    · subst hjn
      rw [sumTo_congr j (fun c hc => hoth c (by omega) (by omega))]
      omega
    · have := ih (by omega) hlt (fun c hc hne => hoth c (by omega) hne)
      rw [hoth n (by omega) (fun h => hjn h.symm)]
      omega

theorem growOffs_length (offs : List Nat) (j δ : Nat) : (growOffs offs j δ).length = offs.length := by
  unfold growOffs
  simp
  omega

theorem growOffs_at {offs : List Nat} {n : Nat} (hl : offs.length = n + 1) (j δ c : Nat) (hc : c ≤ n) :
    offAt (growOffs offs j δ) c = offAt offs c + (if j < c then δ else 0) := by
  unfold offAt growOffs
  by_cases hjc : j < c
  · simp only [hjc, if_true]
    have h1 : (offs.take (j + 1)).length = j + 1 := by simp; omega
    have h2 : c = (offs.take (j + 1)).length + (c - (j + 1)) := by omega
    rw [List.getD_eq_getElem?_getD, List.getD_eq_getElem?_getD, h2, getElem?_append_len, List.getElem?_map,
      List.getElem?_drop, h1]
    have h3 : j + 1 + (c - (j + 1)) = c := by omega
    rw [h3]
    have hlt : c < offs.length := by omega
    simp [List.getElem?_eq_getElem hlt]
  · simp only [hjc, if_false, Nat.add_zero]
    rw [List.getD_eq_getElem?_getD, List.getD_eq_getElem?_getD,
      List.getElem?_append_left (by simp; omega), List.getElem?_take]
    have : c < j + 1 := by omega
    simp [this]

theorem growOffs_width_ne {offs : List Nat} {n : Nat} (hl : offs.length = n + 1) (j δ : Nat) {c : Nat} (hc : c < n)
    (hne : c ≠ j) :
    offAt (growOffs offs j δ) (c + 1) - offAt (growOffs offs j δ) c = offAt offs (c + 1) - offAt offs c := by
  rw [growOffs_at hl j δ c (Nat.le_of_lt hc), growOffs_at hl j δ (c + 1) hc]
  rcases Nat.lt_or_gt_of_ne hne with h | h
  · rw [if_neg (Nat.not_lt.mpr (Nat.le_of_lt h)), if_neg (Nat.not_lt.mpr h)]; rfl
  · rw [if_pos h, if_pos (Nat.lt_succ_of_lt h), Nat.add_sub_add_right]

theorem growOffs_width_self {offs : List Nat} {n : Nat} (hl : offs.length = n + 1) (j δ : Nat) (hj : j < n)
    (hmono : offAt offs j ≤ offAt offs (j + 1)) :
    offAt (growOffs offs j δ) (j + 1) - offAt (growOffs offs j δ) j = offAt offs (j + 1) - offAt offs j + δ := by
  rw [growOffs_at hl j δ j (Nat.le_of_lt hj), growOffs_at hl j δ (j + 1) hj, if_neg (Nat.lt_irrefl j),
    if_pos (Nat.lt_succ_self j)]
  omega

theorem growOffs_zero {offs : List Nat} {n : Nat} (hl : offs.length = n + 1) (j δ : Nat) :
    offAt (growOffs offs j δ) 0 = offAt offs 0 := by
  rw [growOffs_at hl j δ 0 (Nat.zero_le _)]; rfl

end Exetera.Csv
