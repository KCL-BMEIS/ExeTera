import Exetera.Model.Reader
import Exetera.Lemmas.IndexedReader
import Exetera.Lemmas.PySlice
import Exetera.Lemmas.Storage
/-!
  `field.data[item]` for every `int` / `slice` item (Model/Reader.lean). On a well-formed field the repaired indexed readers
  answer as Python's list does (`Spec/PySlice.lean`): a unit step is the contiguous read of `Lemmas/IndexedReader.lean`, any
  other step picks its rows out of the block between the first and the last of them. The readers as found are the readers of
  `Lemmas/IndexedReader.lean` on non-negative items; the repaired HDF5 array answers every item as numpy does.
-/
namespace Exetera.Reader

open Exetera Exetera.Spec Exetera.IndexedWriter Exetera.Storage

theorem fieldLen_offsets {β} (xs : List (List β)) : fieldLen (offsets xs) = xs.length := by simp [fieldLen]

theorem pick_block {β} (xs : List β) (first last : Nat) (hl : last < xs.length) (rows : List Int)
    (hrows : ∀ r ∈ rows, (first : Int) ≤ r ∧ r ≤ (last : Int)) :
    pick ((pySlice xs first (last + 1)).map some) (first : Int) rows = .ok ((rows.filterMap (rowOf xs)).map some) := by
  induction rows with
  | nil => rfl
  | cons r rs ih =>
    obtain ⟨h1, h2⟩ := hrows r List.mem_cons_self
    have ih := ih (fun z hz => hrows z (List.mem_cons_of_mem r hz))
    obtain ⟨m, rfl⟩ := Int.eq_ofNat_of_zero_le (Int.le_trans (Int.natCast_nonneg first) h1)
    have h1' : first ≤ m := Int.ofNat_le.mp h1
    have hm : m < xs.length := Nat.lt_of_le_of_lt (Int.ofNat_le.mp h2) hl
    have hget : getE ((pySlice xs first (last + 1)).map some) (m - first) "block[r - first]" = .ok (some xs[m]) := by
      rw [getE_eq_ok, List.getElem?_map, pySlice, List.getElem?_take, if_pos (by omega), List.getElem?_drop,
        Nat.add_sub_cancel' h1', List.getElem?_eq_getElem hm]
      rfl
    simp only [pick, Int.toNat_sub, if_neg (Int.not_lt.mpr (Int.sub_nonneg_of_le h1)), hget, ih, List.filterMap_cons,
      rowOf, if_pos (Int.natCast_nonneg m), Int.toNat_natCast, List.getElem?_eq_getElem hm, List.map_cons]

theorem readUnit_wellformed (writeable : Bool) (xs : List Bytes) (a b : Int) (han : a ≤ xs.length)
    (hbn : b ≤ xs.length) :
    readUnit writeable (offsets xs) xs.flatten a b = .ok ((pySlice xs a.toNat b.toNat).map some) := by
  have e : (max a b).toNat - a.toNat = b.toNat - a.toNat := by
    rcases Int.le_total a b with h | h
    · rw [Int.max_eq_right h]
    · rw [Int.max_eq_left h, Nat.sub_self, Nat.sub_eq_zero_of_le (Int.toNat_le_toNat h)]
  rw [readUnit, getSlice_wellformed writeable xs _ _ (Int.toNat_le_toNat (Int.le_max_left a b))
    (Int.toNat_le.mpr (Int.max_le.mpr ⟨han, hbn⟩)), pySlice, e]
  rfl

/-- `data[start:stop:step]`, either reader, EVERY combination of `None` / negative / out-of-range bounds and steps: exactly
    Python's `xs[start:stop:step]` (with its ValueError for step 0), every place filled -/
theorem getSliceRepaired_wellformed (writeable : Bool) (xs : List Bytes) (start stop step : Option Int) :
    getSliceRepaired writeable (offsets xs) xs.flatten start stop step
      = (match pySliceG xs start stop step with
         | .ok ys => .ok (ys.map some)
         | .error e => .error e) := by
  unfold getSliceRepaired
  rw [fieldLen_offsets]
  cases h : sliceIndices xs.length start stop step with
  | error e => simp only [pySliceG, h]
  | ok t =>
    obtain ⟨a, b, st⟩ := t
    by_cases h1 : st = 1
    · subst h1
      have hb := (sliceIndices_bounds h).2.1 Int.one_pos
      simp only [bne_self_eq_false, Bool.false_eq_true, if_false, pySliceG_unit xs _ _ _ h]
      exact readUnit_wellformed writeable xs a b hb.2.1 hb.2.2.2
    · simp only [bne_iff_ne, ne_eq, h1, not_false_eq_true, if_true, pySliceG, h]
      -- all that matters of the rows: they are rows of the field and lie between the first and the last of them
      have hrows := fun r => pyRange_rows h (r := r)
      have hbtw := fun r0 rl => pyRange_between (a := a) (b := b) (st := st) (r0 := r0) (rl := rl)
      generalize pyRange a b st = rows at hrows hbtw ⊢
      cases h0 : rows.head? with
      | none => rw [List.head?_eq_none_iff.mp h0]; rfl
      | some r0 =>
        cases hl : rows.getLast? with
        | none => rw [List.getLast?_eq_none_iff.mp hl] at h0; cases h0
        | some rl =>
          dsimp only
          have hbtw := fun r => hbtw r0 rl h0 hl (r := r)
          obtain ⟨h00, h01⟩ := hrows r0 (List.mem_of_head? h0)
          obtain ⟨hl0, hl1⟩ := hrows rl (List.mem_of_getLast? hl)
          have hf : 0 ≤ min r0 rl := Int.le_min.mpr ⟨h00, hl0⟩
          have hfl : min r0 rl ≤ max r0 rl := Int.le_trans (Int.min_le_left _ _) (Int.le_max_left _ _)
          have hln : max r0 rl < xs.length := Int.max_lt.mpr ⟨h01, hl1⟩
          generalize min r0 rl = first at hbtw hf hfl ⊢
          generalize max r0 rl = last at hbtw hfl hln ⊢
          obtain ⟨f, rfl⟩ := Int.eq_ofNat_of_zero_le hf
          obtain ⟨l, rfl⟩ := Int.eq_ofNat_of_zero_le (Int.le_trans hf hfl)
          -- the recursive call `self[first:last + 1]` normalises to the same bounds
          have hrec := sliceIndices_nonneg xs.length (x := f) (y := l + 1) none hf (by omega) Int.one_pos
          rw [Int.min_eq_left (by omega), Int.min_eq_left (by omega)] at hrec
          simp only [hrec, readUnit_wellformed writeable xs f (l + 1) (by omega) (by omega), Int.toNat_natCast,
            Int.toNat_natCast_add_one]
          exact pick_block xs f l (Int.ofNat_lt.mp hln) rows hbtw

theorem pyIndex_in_range {α} (xs : List α) (i : Int) (h0 : -(xs.length : Int) ≤ i) (h1 : i < xs.length) :
    pyIndex xs i = .ok (xs[(if i < 0 then i + (xs.length : Int) else i).toNat]'(by split <;> omega)) := by
  unfold pyIndex
  have hr : ¬ (i < -(xs.length : Int) ∨ (xs.length : Int) ≤ i) := by omega
  rw [if_neg hr, rowOf_of_row xs (by split <;> omega) (by split <;> omega)]

theorem pyIndex_out_of_range {α} (xs : List α) (i : Int) (h : i < -(xs.length : Int) ∨ (xs.length : Int) ≤ i) :
    pyIndex xs i = .error (.oob "list index out of range") := by
  unfold pyIndex; rw [if_pos h]

/-- `data[i]`, either reader, EVERY Python int: the row Python's `xs[i]` names for `-n ≤ i < n`; outside that range both
    fail (the field with its ValueError where a list raises IndexError) -/
theorem getIntRepaired_wellformed (xs : List Bytes) (i : Int) :
    getIntRepaired (offsets xs) xs.flatten i
      = (match pyIndex xs i with
         | .ok x => .ok x
         | .error _ => .error (.valueError "Index is out of range")) := by
  unfold getIntRepaired
  rw [fieldLen_offsets]
  by_cases h : i < -(xs.length : Int) ∨ (xs.length : Int) ≤ i
  · simp only [pyIndex_out_of_range xs i h]
    rw [if_pos h]
  · rw [pyIndex_in_range xs i (by omega) (by omega)]
    simp only
    rw [if_neg h]
    exact getItem_wellformed xs _ (by split <;> omega)

theorem clampIdx_nonneg (n : Nat) (a : Nat) : clampIdx n (a : Int) = min a n := by
  unfold clampIdx; rw [if_neg (by omega)]; simp

theorem npSlice_nat {α} (xs : List α) (a b : Nat) : npSlice xs (a : Int) (b : Int) = slice xs a b := by
  rw [npSlice, clampIdx_nonneg, clampIdx_nonneg, slice_clamp]

theorem npIndex_nat {α} (xs : List α) (a : Nat) (site : String) : npIndex xs (a : Int) site = getE xs a site := by
  unfold npIndex
  by_cases h : a < xs.length
  · rw [if_neg (by omega), if_neg (by omega)]; rfl
  · rw [if_pos (by omega)]
    unfold getE
    rw [List.getElem?_eq_none (by omega)]

/-- as found, a slice whose bounds are both given and non-negative is read by the body that `getSlice` models
    (whatever the step: it is ignored) -/
theorem getSliceAsFound_nat (writeable : Bool) (indices : List Nat) (values : Bytes) (a b : Nat) :
    getSliceAsFound writeable indices values (some (a : Int)) (some (b : Int)) = getSlice writeable indices values a b := by
  unfold getSliceAsFound getSlice
  have e1 : ((b : Int) + 1) = ((b + 1 : Nat) : Int) := by omega
  have e2 : ((b : Int) - (a : Int)).toNat = b - a := by omega
  simp only [e1, npSlice_nat, npIndex_nat, e2]
  rfl

theorem getIntAsFound_nat (indices : List Nat) (values : Bytes) (i : Nat) :
    getIntAsFound indices values (i : Int) = getItem indices values i := by
  unfold getIntAsFound getItem
  have e1 : ((i : Int) + 2) = ((i + 2 : Nat) : Int) := by omega
  simp only [e1, npSlice_nat]
  rfl

/-- the repaired HDF5 field array answers every item as numpy does (the ascending read reversed is the descending slice) -/
theorem h5Get_repaired {α} (xs : List α) (item : Item) : h5Get .repaired xs item = numpyGet xs item := by
  cases item with
  | int i => rfl
  | slice start stop step =>
    cases step with
    | none => rfl
    | some st =>
      unfold h5Get
      by_cases hneg : st < 0
      · simp only [hneg, if_true]
        cases h : sliceIndices xs.length start stop (some st) with
        | error e => simp [numpyGet, pySliceG, h]
        | ok t =>
          obtain ⟨a, b, s⟩ := t
          obtain rfl : s = st := (sliceIndices_ok h).1
          simp only [numpyGet, pySliceG, h]
          rw [pyRange_head?, pyRange_getLast?]
          by_cases hlen : rangeLen a b s = 0
          · simp [hlen, pyRange]
          · simp only [hlen, if_false]
            have hrl : a + ((rangeLen a b s - 1 : Nat) : Int) * s ∈ pyRange a b s :=
              mem_pyRange.mpr ⟨rangeLen a b s - 1, by omega, rfl⟩
            have ha : a ∈ pyRange a b s := mem_pyRange.mpr ⟨0, by omega, by simp⟩
            obtain ⟨l0, l1⟩ := pyRange_rows h hrl
            obtain ⟨a0, a1⟩ := pyRange_rows h ha
            have hrec := sliceIndices_nonneg xs.length (some (-s)) l0 (Int.le_trans a0 (Int.le_add_one (Int.le_refl a)))
              (Int.neg_pos_of_neg hneg)
            rw [Int.min_eq_left (Int.le_of_lt l1), Int.min_eq_left (Int.add_one_le_of_lt a1)] at hrec
            simp only [hrec, stepOf, pyRange_reverse hneg hlen, List.filterMap_reverse, List.reverse_reverse]
      · simp only [hneg, if_false]

/-- `field.data[item]` of a plain field to which something (even an empty part) was written, either backing, every item:
    numpy's = Python's answer on the stored sequence -/
theorem plainGet_written {α} (a : Arr α) (hw : a ≠ .mem none) (item : Item) :
    plainGet .repaired a item = numpyGet a.contents item := by
  cases a with
  | mem ds =>
    cases ds with
    | none => exact absurd rfl hw
    | some xs => rfl
  | h5 xs => exact h5Get_repaired xs item

/-- a memory array nothing was written to answers every slice with the empty array — Python's answer on the empty
    sequence for every non-zero step -/
theorem plainGet_unwritten {α} (start stop step : Option Int) (hstep : step ≠ some 0) :
    plainGet .repaired (.mem none : Arr α) (.slice start stop step) = numpyGet ([] : List α) (.slice start stop step) := by
  have hnil : ∀ rows : List Int, rows.filterMap (rowOf ([] : List α)) = [] :=
    fun rows => List.filterMap_eq_nil_iff.mpr (fun r _ => by simp [rowOf])
  have hst : stepOf step ≠ 0 := by rcases step with _ | s <;> simp_all [stepOf]
  simp [plainGet, numpyGet, pySliceG, sliceIndices, hst, hnil]

end Exetera.Reader
