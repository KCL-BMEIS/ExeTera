import Exetera.Gen.Kernels
import Exetera.Model.Unique
import Exetera.Lemmas.While
import Exetera.Lemmas.GenKernels
import Exetera.Lemmas.GenKernelsCompareArrays
import Exetera.Lemmas.GenKernelsUnique
/-!
  The TRANSLATED `isin_indexed_string_speedup` (row loop around a binary search `while start <= end` with `break`, the tuple
  assignment `start, end = 0, len_test_eles - 1`, a call of the translated `compare_arrays`, `np.asarray([False] * n)`) against
  `Unique.isinSpeedup` — transfer: every `.ok` run of the model is a run of the translated kernel with the same flags, for any
  fuel ≥ len(test_elements).
-/
namespace Exetera.GenK

open Exetera Exetera.PyRt Exetera.Unique Exetera.Gen.Kernels

namespace ISN

open isin_indexed_string_speedup GU

abbrev St := isin_indexed_string_speedup.St

/-- the binary search: loop variables equal, `break` raised exactly when `is_equal` was set -/
def RB (tests : List Bytes) (v : Bytes) (F : St) (s : St) (t : BS) : Prop :=
  s.p0 = tests.map ints8 ∧ s.v3 = ints8 v ∧ s.v5 = t.start ∧ s.v6 = t.stop ∧ s.v4 = t.found ∧ s.brk2 = t.found ∧
  s.p1 = F.p1 ∧ s.p2 = F.p2 ∧ s.v0 = F.v0 ∧ s.v1 = F.v1 ∧ s.v2 = F.v2

theorem bs_guard (tests : List Bytes) (v : Bytes) (F : St) (s : St) (t : BS) (h : RB tests v F s t) :
    guard_L2 s = bsGuard t := by
  obtain ⟨_, _, h5, h6, _, hb, _⟩ := h
  simp only [guard_L2, bsGuard, h5, h6, hb, Bool.and_comm]

theorem bs_step (tests : List Bytes) (v : Bytes) (F : St) (s : St) (t t' : BS) (hR : RB tests v F s t)
    (hg : bsGuard t = true) (hb : bsBody tests v t = .ok t') : ∃ s', body_L2 s = .ok s' ∧ RB tests v F s' t' := by
  obtain ⟨q0, q1, q2, w0, w1, w2, w3, w4, w5, w6, w7, w8, bk⟩ := s
  obtain ⟨st, sp, fd⟩ := t
  obtain ⟨h0, h3, h5, h6, h4, hbk, f1, f2, f3, f4, f5⟩ := hR
  simp only at h0 h3 h5 h6 h4 hbk f1 f2 f3 f4 f5
  subst h0 h3 h5 h6 h4 hbk
  simp only [bsGuard, Bool.and_eq_true, Bool.not_eq_true', decide_eq_true_eq] at hg
  obtain ⟨_, hfd⟩ := hg
  subst hfd
  simp only [bsBody] at hb
  have h2 : (2 : Int) ≠ 0 := by omega
  have hdiv : Int.fdiv (w5 + w6) 2 = (w5 + w6) / 2 := Int.fdiv_eq_ediv_of_nonneg _ (by omega)
  simp only [body_L2, floorDivE, h2, if_false, bindE_ok, hdiv]
  by_cases hneg : (w5 + w6) / 2 < 0
  · simp [hneg] at hb
  · simp only [hneg, if_false] at hb
    have hnn : 0 ≤ (w5 + w6) / 2 := by omega
    cases hgt : getE tests ((w5 + w6) / 2).toNat "isin:test_elements[mid]" with
    | error e => simp [hgt] at hb
    | ok u =>
      simp only [hgt] at hb
      cases hcmp : compareArrays v u with
      | error e => simp [hcmp] at hb
      | ok c =>
        simp only [hcmp] at hb
        have gidx : idxE (tests.map ints8) ((w5 + w6) / 2) "p0[v7]" = .ok (ints8 u) := by
          simp only [idxE, hnn, if_true]
          have := getE_eq_ok.mp hgt
          simp [getE, List.getElem?_map, this]
        simp only [gidx, bindE_ok, compare_arrays_ok v u c hcmp]
        by_cases hc0 : c = 0
        · subst hc0
          simp only [beq_self_eq_true, if_true, Except.ok.injEq] at hb ⊢
          subst hb
          exact ⟨_, rfl, rfl, rfl, rfl, rfl, rfl, rfl, f1, f2, f3, f4, f5⟩
        · have hc0' : (c == 0) = false := by simp [hc0]
          simp only [hc0', Bool.false_eq_true, if_false, bindE_ok] at hb ⊢
          by_cases hc1 : c = 1
          · subst hc1
            simp only [beq_self_eq_true, if_true, Except.ok.injEq] at hb ⊢
            subst hb
            exact ⟨_, rfl, rfl, rfl, rfl, rfl, rfl, rfl, f1, f2, f3, f4, f5⟩
          · have hc1' : (c == 1) = false := by simp [hc1]
            simp only [hc1', Bool.false_eq_true, if_false, Except.ok.injEq] at hb ⊢
            subst hb
            exact ⟨_, rfl, rfl, rfl, rfl, rfl, rfl, rfl, f1, f2, f3, f4, f5⟩

/-- writing position `i` of the preallocated flags that are "flags so far ++ untouched False" -/
theorem write_flag (acc : List Bool) (cap i : Nat) (b : Bool) (hi : acc.length = i) (h : i < cap) (site : String) :
    setIdxE (acc ++ List.replicate (cap - i) false) (i : Int) b site
      = .ok ((acc ++ [b]) ++ List.replicate (cap - (i + 1)) false) := by
  subst hi
  have e : cap - acc.length = (cap - (acc.length + 1)) + 1 := by omega
  rw [setIdxE_nat, setE, if_pos (by simp; omega)]
  rw [e, List.replicate_succ]
  simp

/-- the row loop -/
def RL (tests : List Bytes) (indices : List Nat) (values : Bytes) (cap i : Nat) (acc : List Bool) (s : St) : Prop :=
  s.p0 = tests.map ints8 ∧ s.p1 = natsI indices ∧ s.p2 = ints8 values ∧ s.v1 = (tests.length : Int) ∧ s.brk2 = false ∧
  acc.length = i ∧ s.v0 = acc ++ List.replicate (cap - i) false

theorem row (tests : List Bytes) (indices : List Nat) (values : Bytes) (cap fuel : Nat) (hfuel : tests.length ≤ fuel)
    (i lo hi : Nat) (acc : List Bool) (b : Bool) (s : St) (hR : RL tests indices values cap i acc s)
    (hlo : getE indices i "isin:indices[i]" = .ok lo) (hhi : getE indices (i + 1) "isin:indices[i+1]" = .ok hi)
    (hrow : isinRow tests (slice values lo hi) = .ok b) (hcap : i < cap) :
    ∃ s', body_L1 fuel { s with v2 := (i : Int) } = .ok s' ∧ RL tests indices values cap (i + 1) (acc ++ [b]) s' := by
  obtain ⟨q0, q1, q2, w0, w1, w2, w3, w4, w5, w6, w7, w8, bk⟩ := s
  obtain ⟨h0, h1, h2, hv1, hbk, hlen, hv0⟩ := hR
  simp only at h0 h1 h2 hv1 hbk hlen hv0
  subst h0 h1 h2 hv1 hbk hv0
  have e1 : (i : Int) + 1 = ((i + 1 : Nat) : Int) := by omega
  have r1 : ∀ site, idxE (natsI indices) (i : Int) site = .ok (lo : Int) := fun site => by
    rw [idxE_nat]; exact getE_natsI _ _ _ (getE_eq_ok.mp hlo)
  have r2 : ∀ site, idxE (natsI indices) ((i : Int) + 1) site = .ok (hi : Int) := fun site => by
    rw [e1, idxE_nat]; exact getE_natsI _ _ _ (getE_eq_ok.mp hhi)
  unfold isinRow at hrow
  cases hw : whileE bsGuard (bsBody tests (slice values lo hi)) tests.length ⟨0, (tests.length : Int) - 1, false⟩ with
  | error e => simp [hw] at hrow
  | ok tb =>
    simp only [hw, Except.ok.injEq] at hrow
    obtain ⟨sb, hsb, hRB⟩ := whileE_sim
      (RB tests (slice values lo hi) ⟨tests.map ints8, natsI indices, ints8 values, acc ++ List.replicate (cap - i) false,
        (tests.length : Int), (i : Int), ints8 (slice values lo hi), false, 0, (tests.length : Int) - 1, w7, w8, false⟩)
      guard_L2 body_L2 bsGuard
      (bsBody tests (slice values lo hi)) (bs_guard tests _ _) (bs_step tests _ _) tests.length
      ⟨tests.map ints8, natsI indices, ints8 values, acc ++ List.replicate (cap - i) false, (tests.length : Int), (i : Int),
        ints8 (slice values lo hi), false, 0, (tests.length : Int) - 1, w7, w8, false⟩ _ tb
      ⟨rfl, rfl, rfl, rfl, rfl, rfl, rfl, rfl, rfl, rfl, rfl⟩ hw
    have hsb' := whileE_mono _ _ _ _ _ hsb fuel hfuel
    obtain ⟨q0', q1', q2', w0', w1', w2', w3', w4', w5', w6', w7', w8', bk'⟩ := sb
    obtain ⟨g0, g3, g5, g6, g4, gb, k1, k2, k3, k4, k5⟩ := hRB
    simp only at g0 g3 g5 g6 g4 gb k1 k2 k3 k4 k5
    subst g0 g3 g5 g6 g4 gb k1 k2 k3 k4 k5 hrow
    simp only [body_L1, r1, r2, bindE_ok, pySlice_nat, ints8_slice, hsb', write_flag acc cap i _ hlen hcap]
    exact ⟨_, rfl, rfl, rfl, rfl, rfl, rfl, by simp [hlen], rfl⟩

theorem rows (tests : List Bytes) (indices : List Nat) (values : Bytes) (cap fuel : Nat) (hfuel : tests.length ≤ fuel) (s : St)
    (acc r : List Bool) (n i : Nat) (hR : RL tests indices values cap i acc s)
    (h : isinLoop tests indices values cap n i acc = .ok r) :
    ∃ s', forRangeAux (fun _ => false) (fun k s => body_L1 fuel { s with v2 := k }) n (i : Int) s = .ok s' ∧
      RL tests indices values cap (i + n) r s' := by
  refine forRangeAux_rule (fun m j s => ∃ acc, RL tests indices values cap j acc s ∧
    isinLoop tests indices values cap m j acc = .ok r ∧ j + m = i + n) _ ?_ ?_ n i s ⟨acc, hR, h, rfl⟩
  · rintro j s ⟨acc, hR, h, hj⟩
    cases h
    rw [← hj]
    exact hR
  · rintro m j s ⟨acc, hR, h, hj⟩
    simp only [isinLoop] at h
    split at h
    · cases h
    · rename_i lo hlo
      split at h
      · cases h
      · rename_i hi hhi
        split at h
        · cases h
        · rename_i b hrow
          split at h
          · rename_i hcap
            obtain ⟨s1, hb1, hR1⟩ := row tests indices values cap fuel hfuel j lo hi acc b s hR hlo hhi hrow hcap
            exact ⟨s1, hb1, acc ++ [b], hR1, h, by omega⟩
          · cases h

end ISN

open ISN GU in
theorem isin_indexed_string_speedup_ok (tests : List Bytes) (indices : List Nat) (values : Bytes) (r : List Bool) (fuel : Nat)
    (hfuel : tests.length ≤ fuel) (h : isinSpeedup tests indices values = .ok r) :
    isin_indexed_string_speedup.run (tests.map ints8) (natsI indices) (ints8 values) fuel = .ok r := by
  unfold isinSpeedup at h
  have hn : ((pyLen (natsI indices)) - 1).toNat = indices.length - 1 := by
    simp only [pyLen, natsI, List.length_map]; omega
  have hn' : ((pyLen (natsI indices)) - 1 - 0).toNat = indices.length - 1 := by
    simp only [pyLen, natsI, List.length_map]; omega
  obtain ⟨s', hrun, hR⟩ := rows tests indices values (indices.length - 1) fuel hfuel
    ⟨tests.map ints8, natsI indices, ints8 values, List.replicate (indices.length - 1) false, (tests.length : Int), 0, [], false, 0, 0,
      0, 0, false⟩ [] r (indices.length - 1) 0 ⟨rfl, rfl, rfl, rfl, rfl, rfl, by simp⟩ h
  rw [show ((0 : Nat) : Int) = 0 from rfl] at hrun
  have hv0 := hR.2.2.2.2.2.2
  unfold isin_indexed_string_speedup.run
  simp only [forRangeE, hn, hn']
  have hl : pyLen (tests.map ints8) = (tests.length : Int) := by simp [pyLen]
  simp only [hl]
  rw [hrun]
  simp only [bindE_ok, hv0]
  simp

end Exetera.GenK
