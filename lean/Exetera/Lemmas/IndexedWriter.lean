import Exetera.Model.IndexedWriter
import Exetera.Lemmas.Storage
import Exetera.Lemmas.Offsets
/-!
  The invariant of `WriteableIndexedFieldArray.write_part`:

    stored bytes ++ staged bytes   = all bytes consumed so far
    stored offsets ++ staged offsets = offsets of the entries finished so far   (the leading 0 counted as stored
                                                                                 as soon as anything is stored)
    `_accumulated`                 = number of bytes consumed so far
    both fill levels are strictly below the chunk size, both staging buffers have exactly chunk-size places

  Every lemma gives ONE next state for both variants of the code: the writer never hands an empty part to its backing
  arrays, so D1 cannot be reached through it, and the only step on which the as-found code differs is `complete()` on a
  field without entries (D2) — the one place where a hypothesis `v = .repaired ∨ es ≠ []` appears.
-/
namespace Exetera.IndexedWriter

open Exetera Exetera.Storage Exetera.Spec

/-- the offsets that count as stored: the first flush also writes the leading `0` -/
def storedOffsets (ix : Arr Nat) : List Nat := if ix.contents = [] then [0] else ix.contents

structure Inv (s : WState) (c : Nat) (es : List Bytes) (cur : Bytes) : Prop where
  hc : s.c = c
  rvLen : s.rawValues.length = c
  riLen : s.rawIndices.length = c
  vi : s.valueIndex < c
  ii : s.indexIndex < c
  vals : s.values.contents ++ s.rawValues.take s.valueIndex = es.flatten ++ cur
  acc : s.accumulated = es.flatten.length + cur.length
  idx : storedOffsets s.indices ++ s.rawIndices.take s.indexIndex = offsets es

/-- flushing a staging buffer that is filled to `i ≥ 1` places appends them, in either variant -/
theorem writePart_take {α} (v : Variant) (z : α) (a : Arr α) (raw : List α) {i : Nat} (h0 : i ≠ 0) (h : i ≤ raw.length) :
    a.writePart v z (raw.take i) = .ok (a.appended (raw.take i)) := by
  refine Arr.writePart_eq_appended v z a _ (.inr fun hnil => ?_)
  have := congrArg List.length hnil
  rw [List.length_take, List.length_nil] at this
  omega

theorem putByte_inv {s : WState} {c : Nat} {es : List Bytes} {cur : Bytes} (h : Inv s c es cur) (b : Byte) :
    ∃ s', (∀ v, putByte v s b = .ok s') ∧ Inv s' c es (cur ++ [b]) := by
  obtain ⟨hc, rvLen, riLen, vi, ii, vals, acc, idx⟩ := h
  have hlt : s.valueIndex < s.rawValues.length := by omega
  have hset := setE_ok s.rawValues s.valueIndex b "raw_values" hlt
  have hlen : (s.rawValues.set s.valueIndex b).length = c := by rw [List.length_set, rvLen]
  have hvals : s.values.contents ++ (s.rawValues.set s.valueIndex b).take (s.valueIndex + 1) = es.flatten ++ (cur ++ [b]) := by
    rw [take_succ_set _ _ _ hlt, ← List.append_assoc, vals, List.append_assoc]
  have hacc : s.accumulated + 1 = es.flatten.length + (cur ++ [b]).length := by
    rw [List.length_append, acc]; rfl
  by_cases hfull : s.valueIndex + 1 = s.c
  · have hb : (s.valueIndex + 1 == s.c) = true := by simp [hfull]
    refine ⟨?_, fun v => ?_, ?_⟩
    rotate_left
    · simp only [putByte, hset, hb, if_true, writePart_take v _ _ _ (Nat.succ_ne_zero _) (Nat.le_of_eq (hfull.trans (hc.trans hlen.symm)))]
      rfl
    · exact ⟨hc, hlen, riLen, Nat.lt_of_le_of_lt (Nat.zero_le _) vi, ii,
        by simpa only [Arr.contents_appended, List.take_zero, List.append_nil] using hvals, hacc, idx⟩
  · have hb : (s.valueIndex + 1 == s.c) = false := by simp [hfull]
    refine ⟨?_, fun v => ?_, ?_⟩
    rotate_left
    · simp only [putByte, hset, hb, Bool.false_eq_true, if_false]
      rfl
    · exact ⟨hc, hlen, riLen, by show s.valueIndex + 1 < c; omega, ii, hvals, hacc, idx⟩

theorem putBytes_inv {c : Nat} {es : List Bytes} (bs : Bytes) :
    ∀ (s : WState) (cur : Bytes), Inv s c es cur →
      ∃ s', (∀ v, foldE (putByte v) s bs = .ok s') ∧ Inv s' c es (cur ++ bs) :=
  foldE_rule putByte (fun s cur => Inv s c es cur) (fun _ _ b h => putByte_inv h b) bs

theorem storedOffsets_ne_nil (ix : Arr Nat) : storedOffsets ix ≠ [] := by
  unfold storedOffsets; split <;> simp_all

theorem storedOffsets_of_ne_nil {ix : Arr Nat} (h : ix.contents ≠ []) : storedOffsets ix = ix.contents := by
  simp [storedOffsets, h]

theorem sentinel_inv (ix : Arr Nat) :
    ∃ ix0, (∀ v, sentinel v ix = .ok ix0) ∧ ix0.contents = storedOffsets ix := by
  unfold storedOffsets
  by_cases h : ix.contents = []
  · exact ⟨ix.appended [0],
      fun v => by simp [sentinel, Arr.len, h, Arr.writePart_eq_appended v 0 ix [0] (.inr (List.cons_ne_nil _ _))],
      by simp [h]⟩
  · exact ⟨ix, fun v => by simp [sentinel, Arr.len, h], by simp [h]⟩

theorem endEntry_inv {s : WState} {c : Nat} {es : List Bytes} {cur : Bytes} (h : Inv s c es cur) :
    ∃ s', (∀ v, endEntry v s = .ok s') ∧ Inv s' c (es ++ [cur]) [] := by
  obtain ⟨hc, rvLen, riLen, vi, ii, vals, acc, idx⟩ := h
  have hlt : s.indexIndex < s.rawIndices.length := by omega
  have hset := setE_ok s.rawIndices s.indexIndex s.accumulated "raw_indices" hlt
  have hlen : (s.rawIndices.set s.indexIndex s.accumulated).length = c := by rw [List.length_set, riLen]
  have hvals : s.values.contents ++ s.rawValues.take s.valueIndex = (es ++ [cur]).flatten ++ [] := by
    simp [vals]
  have hacc : s.accumulated = (es ++ [cur]).flatten.length + ([] : Bytes).length := by simp [acc]
  have hidx : storedOffsets s.indices ++ (s.rawIndices.set s.indexIndex s.accumulated).take (s.indexIndex + 1)
      = offsets (es ++ [cur]) := by
    rw [take_succ_set _ _ _ hlt, ← List.append_assoc, idx, offsets_snoc, acc]
  by_cases hfull : s.indexIndex + 1 = s.c
  · have hb : (s.indexIndex + 1 == s.c) = true := by simp [hfull]
    obtain ⟨ix0, hs, hix0⟩ := sentinel_inv s.indices
    refine ⟨?_, fun v => ?_, ?_⟩
    rotate_left
    · simp only [endEntry, hset, hb, if_true, hs v,
        writePart_take v _ _ _ (Nat.succ_ne_zero _) (Nat.le_of_eq (hfull.trans (hc.trans hlen.symm)))]
      rfl
    · refine ⟨hc, rvLen, hlen, vi, Nat.lt_of_le_of_lt (Nat.zero_le _) ii, hvals, hacc, ?_⟩
      show storedOffsets (ix0.appended _) ++ List.take 0 _ = _
      rw [storedOffsets_of_ne_nil (by rw [Arr.contents_appended, take_succ_set _ _ _ hlt]; simp),
        Arr.contents_appended, hix0, List.take_zero, List.append_nil, hidx]
  · have hb : (s.indexIndex + 1 == s.c) = false := by simp [hfull]
    refine ⟨?_, fun v => ?_, ?_⟩
    rotate_left
    · simp only [endEntry, hset, hb, Bool.false_eq_true, if_false]
      rfl
    · exact ⟨hc, rvLen, hlen, vi, by show s.indexIndex + 1 < c; omega, hvals, hacc, hidx⟩

theorem putEntry_inv {s : WState} {c : Nat} {es : List Bytes} (h : Inv s c es []) (e : Bytes) :
    ∃ s', (∀ v, putEntry v s e = .ok s') ∧ Inv s' c (es ++ [e]) [] := by
  obtain ⟨s1, h1, hI1⟩ := putBytes_inv e s [] h
  obtain ⟨s2, h2, hI2⟩ := endEntry_inv hI1
  exact ⟨s2, fun v => by simp only [putEntry, h1 v, h2 v], by simpa using hI2⟩

theorem writePart_inv {c : Nat} (part : List Bytes) :
    ∀ (s : WState) (es : List Bytes), Inv s c es [] →
      ∃ s', (∀ v, writePart v s part = .ok s') ∧ Inv s' c (es ++ part) [] :=
  foldE_rule putEntry (fun s es => Inv s c es []) (fun _ _ e h => putEntry_inv h e) part

theorem writeParts_inv {c : Nat} (parts : List (List Bytes)) (s : WState) (es : List Bytes) (h : Inv s c es []) :
    ∃ s', (∀ v, foldE (writePart v) s parts = .ok s') ∧ Inv s' c (es ++ parts.flatten) [] := by
  have := foldE_rule writePart (fun (s : WState) (done : List (List Bytes)) => Inv s c (es ++ done.flatten) [])
    (fun s done p hI => by
      obtain ⟨s', h1, h2⟩ := writePart_inv p s _ hI
      exact ⟨s', h1, by simpa [List.append_assoc] using h2⟩)
    parts s [] (by simpa using h)
  simpa using this

structure Completed (s : WState) (es : List Bytes) : Prop where
  values : s.values.contents = es.flatten
  indices : s.indices.contents = offsets es
  valueIndex : s.valueIndex = 0
  indexIndex : s.indexIndex = 0

theorem flushValues_inv {s : WState} {c : Nat} {es : List Bytes} (h : Inv s c es []) :
    ∃ s1, (∀ v, flushValues v s = .ok s1) ∧ Inv s1 c es [] ∧ s1.values.contents = es.flatten ∧ s1.valueIndex = 0 := by
  have vals : s.values.contents ++ s.rawValues.take s.valueIndex = es.flatten := by simpa using h.vals
  by_cases h0 : s.valueIndex = 0
  · exact ⟨s, fun v => by simp [flushValues, h0], h, by simpa [h0] using vals, h0⟩
  · have hb : (s.valueIndex != 0) = true := by simp [h0]
    refine ⟨?_, fun v => ?_, ?_⟩
    rotate_left
    · simp only [flushValues, hb, if_true, writePart_take v 0 s.values s.rawValues h0 (h.rvLen ▸ Nat.le_of_lt h.vi)]
      rfl
    · exact ⟨⟨h.hc, h.rvLen, h.riLen, Nat.lt_of_le_of_lt (Nat.zero_le _) h.vi, h.ii, by simpa using vals, h.acc, h.idx⟩,
        by simpa using vals, rfl⟩

/-- the second half of `complete()`. As found it leaves a field without entries without its leading offset (D2). -/
theorem flushIndices_inv {s1 : WState} {c : Nat} {es : List Bytes} (h : Inv s1 c es []) :
    ∃ s', (∀ v, v = .repaired ∨ es ≠ [] → flushIndices v s1 = .ok s') ∧ Inv s' c es [] ∧
      s'.indices.contents = offsets es ∧ s'.indexIndex = 0 ∧ s'.values = s1.values ∧ s'.valueIndex = s1.valueIndex := by
  obtain ⟨hc, rvLen, riLen, vi, ii, vals, acc, idx⟩ := h
  have hstored : ∀ ix : Arr Nat, ix.contents = offsets es → storedOffsets ix ++ List.take 0 s1.rawIndices = offsets es := by
    intro ix hix
    rw [storedOffsets_of_ne_nil (by rw [hix]; exact offsets_ne_nil es), hix]; simp
  by_cases hi0 : s1.indexIndex = 0
  · -- nothing staged: the repaired code writes the leading 0 when the index is still empty
    have hidx : storedOffsets s1.indices = offsets es := by simpa [hi0] using idx
    have hb : (s1.indexIndex != 0) = false := by simp [hi0]
    by_cases hemp : s1.indices.contents = []
    · have hes : es = [] := by
        have := congrArg List.length hidx
        rw [storedOffsets, if_pos hemp, length_offsets] at this
        exact List.eq_nil_of_length_eq_zero (by simpa using this.symm)
      have hnew : (s1.indices.appended [0]).contents = offsets es := by simp [hemp, ← hidx, storedOffsets]
      refine ⟨{ s1 with indices := s1.indices.appended [0] }, fun v hv => ?_,
        ⟨hc, rvLen, riLen, vi, ii, vals, acc, by simpa [hi0] using hstored _ hnew⟩, hnew, hi0, rfl, rfl⟩
      obtain rfl := hv.resolve_right (fun h => h hes)
      simp [flushIndices, hb, Arr.len, hemp, Arr.writePart_repaired]
    · refine ⟨s1, fun v _ => ?_, ⟨hc, rvLen, riLen, vi, ii, vals, acc, idx⟩, ?_, hi0, rfl, rfl⟩
      · cases v <;> simp [flushIndices, hb, Arr.len, hemp]
      · rw [← hidx, storedOffsets_of_ne_nil hemp]
  · have hb : (s1.indexIndex != 0) = true := by simp [hi0]
    obtain ⟨ix0, hs, hix0⟩ := sentinel_inv s1.indices
    have hnew : (ix0.appended (List.take s1.indexIndex s1.rawIndices)).contents = offsets es := by
      simp only [Arr.contents_appended, hix0, idx]
    refine ⟨?_, fun v _ => ?_, ?_⟩
    rotate_left
    · simp only [flushIndices, hb, if_true, hs v, writePart_take v 0 ix0 s1.rawIndices hi0 (by omega)]
      rfl
    · exact ⟨⟨hc, rvLen, riLen, vi, by show 0 < c; omega, vals, acc, hstored _ hnew⟩, hnew, rfl, rfl, rfl⟩

/-- `complete()` keeps the invariant as well: the same writer object can go on with further `write_part` calls -/
theorem complete_inv {s : WState} {c : Nat} {es : List Bytes} (h : Inv s c es []) :
    ∃ s', (∀ v, v = .repaired ∨ es ≠ [] → complete v s = .ok s') ∧ Completed s' es ∧ Inv s' c es [] := by
  obtain ⟨s1, hs1, hI1, hv1, hvi1⟩ := flushValues_inv h
  obtain ⟨s2, hs2, hI2, hi2, hii2, hv2, hvi2⟩ := flushIndices_inv hI1
  exact ⟨s2, fun v hv => by simp only [complete, hs1 v, hs2 v hv], ⟨by rw [hv2, hv1], hi2, by rw [hvi2, hvi1], hii2⟩, hI2⟩

theorem writeRound_inv {s : WState} {c : Nat} {es : List Bytes} (h : Inv s c es []) (parts : List (List Bytes)) :
    ∃ s', (∀ v, v = .repaired ∨ es ++ parts.flatten ≠ [] → writeRound v s parts = .ok s') ∧
      Completed s' (es ++ parts.flatten) ∧ Inv s' c (es ++ parts.flatten) [] := by
  obtain ⟨s1, h1, hI⟩ := writeParts_inv parts s es h
  obtain ⟨s2, h2, hC, hI2⟩ := complete_inv hI
  exact ⟨s2, fun v hv => by simp only [writeRound, h1 v, h2 v hv], hC, hI2⟩

theorem init_inv (c : Nat) (hc : 1 ≤ c) (ix : Arr Nat) (vals : Arr Byte) (xs0 : List Bytes)
    (hv : vals.contents = xs0.flatten) (hi : ix.contents = offsets xs0 ∨ (ix.contents = [] ∧ xs0 = [])) :
    Inv (WState.init c ix vals) c xs0 [] := by
  refine ⟨rfl, List.length_replicate, List.length_replicate, hc, hc, by simp [WState.init, hv], ?_, ?_⟩
  · cases hi with
    | inl h => simp [WState.init, h, offsets_getLast?]
    | inr h => simp [WState.init, h.1, h.2]
  · cases hi with
    | inl h => simp [WState.init, storedOffsets, h, offsets_ne_nil]
    | inr h => simp [WState.init, storedOffsets, h.1, h.2]

/-- what holds between rounds (a field nothing was completed on yet may still have no offsets at all) -/
structure Stored (s : WState) (c : Nat) (es : List Bytes) : Prop where
  inv : Inv s c es []
  values : s.values.contents = es.flatten
  indices : s.indices.contents = offsets es ∨ (s.indices.contents = [] ∧ es = [])

theorem writeRounds_inv (c : Nat) (hc : 1 ≤ c) (h5 rewrap : Bool) (rounds : List (List (List Bytes))) :
    ∃ s, writeRounds .repaired c h5 rewrap rounds = .ok s ∧ Stored s c (rounds.map List.flatten).flatten ∧
      (rounds ≠ [] → Completed s (rounds.map List.flatten).flatten) := by
  have h0 : Inv (WState.init c (Arr.fresh h5) (Arr.fresh h5)) c [] [] :=
    init_inv c hc _ _ [] (by simp) (Or.inr ⟨by simp, rfl⟩)
  have := foldE_rule
    (fun (_ : Unit) s parts => writeRound .repaired (if rewrap then WState.init c s.indices s.values else s) parts)
    (fun (s : WState) (done : List (List (List Bytes))) =>
      Stored s c (done.map List.flatten).flatten ∧ (done ≠ [] → Completed s (done.map List.flatten).flatten))
    (by
      intro s done parts hP
      obtain ⟨⟨hI, hv, hi⟩, _⟩ := hP
      have hI0 : Inv (if rewrap then WState.init c s.indices s.values else s) c (done.map List.flatten).flatten [] := by
        cases rewrap with
        | false => simpa using hI
        | true => simpa using init_inv c hc s.indices s.values _ hv hi
      obtain ⟨s', h1, hC, hI'⟩ := writeRound_inv hI0 parts
      refine ⟨s', fun _ => h1 .repaired (.inl rfl), ?_⟩
      have he : ((done ++ [parts]).map List.flatten).flatten = (done.map List.flatten).flatten ++ parts.flatten := by simp
      rw [he]
      exact ⟨⟨hI', hC.values, Or.inl hC.indices⟩, fun _ => hC⟩)
    rounds (WState.init c (Arr.fresh h5) (Arr.fresh h5)) []
    ⟨⟨by simpa using h0, by simp [WState.init], Or.inr ⟨by simp [WState.init], by simp⟩⟩, by simp⟩
  obtain ⟨s, hs, hP⟩ := this
  exact ⟨s, hs (), by simpa using hP⟩

/-- Outside the witness shape of D2 (nothing written at all) the as-found writer IS the repaired writer: same result,
    same stored arrays, for every chunk size `≥ 1`, partition and backend. So every theorem of `Props/C01` about
    `writeField` also holds for the code without the D1/D2 patches as soon as one entry is written, and the D2
    patch changes the behaviour of nothing but `complete()` on a field without entries. -/
theorem writeField_asFound_eq (c : Nat) (hc : 1 ≤ c) (h5 : Bool) (parts : List (List Bytes))
    (hne : parts.flatten ≠ []) :
    writeField .asFound c h5 parts = writeField .repaired c h5 parts := by
  obtain ⟨s, hs, _⟩ := writeRound_inv (init_inv c hc (Arr.fresh h5) (Arr.fresh h5) [] (by simp) (.inr ⟨by simp, rfl⟩)) parts
  rw [writeField, writeField, writeOnto, writeOnto, hs _ (.inr hne), hs _ (.inl rfl)]

end Exetera.IndexedWriter
