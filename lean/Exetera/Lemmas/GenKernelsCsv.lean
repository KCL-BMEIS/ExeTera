import Exetera.Gen.Kernels
import Exetera.Model.Csv
import Exetera.Lemmas.GenKernels
import Exetera.Lemmas.GenKernelsSpans
/-!
  The TRANSLATED `fast_csv_reader` (exetera/core/csv_reader_speedup.py — the byte-level CSV state machine property C05 rests
  on) against the hand model `Csv.fastCsvReader`, part 1: the two blank-skipping `while` loops (their conditions subscript
  `source`: `whileG`) compute `Csv.skipFrom` / `Csv.skipAfter`, and the loop body of `while True:` split into the four phases
  the model's `step` is made of (`lexByte` ; `writeChar` ; `endCell` ; advance and test for the end).
-/
namespace Exetera.GenK.CsvK

open Exetera Exetera.PyRt Exetera.Csv Exetera.Gen.Kernels
open Exetera.Gen.Kernels.fast_csv_reader (guardE_L3 body_L3)

abbrev St := fast_csv_reader.St

abbrev ints2 (m : List (List Nat)) : List (List Int) := m.map ints

theorem idx_src (src : Bytes) (j x : Nat) (h : src[j]? = some x) (site : String) :
    idxE (ints src) (j : Int) site = .ok (x : Int) := by
  simp [idxE_nat, getE, List.getElem?_map, h]

theorem beq_cast (a b : Nat) : (((a : Nat) : Int) == ((b : Nat) : Int)) = decide (a = b) := natCast_beq a b

theorem leadWs_step (src : Bytes) (j : Nat) (hw : src[j]? = some WS) :
    leadWs (src.drop j) = leadWs (src.drop (j + 1)) + 1 := by
  have hj : j < src.length := by
    rcases Nat.lt_or_ge j src.length with h | h
    · exact h
    · simp [List.getElem?_eq_none h] at hw
  have hx : src[j] = WS := by
    have := List.getElem?_eq_getElem hj
    rw [this] at hw; exact Option.some.inj hw
  rw [List.drop_eq_getElem_cons hj, hx]
  simp [leadWs, List.takeWhile]

theorem leadWs_stop (src : Bytes) (j : Nat) (hw : src[j]? ≠ some WS) : leadWs (src.drop j) = 0 := by
  rcases Nat.lt_or_ge j src.length with hj | hj
  · rw [List.drop_eq_getElem_cons hj]
    have hx : src[j] ≠ WS := by
      intro h; apply hw; rw [List.getElem?_eq_getElem hj, h]
    have hb : (src[j] == WS) = false := by simp [hx]
    simp [leadWs, List.takeWhile, hb]
  · simp [leadWs, List.drop_eq_nil_of_le hj]

/-- the test `j < len(source) and source[j] == whitespace_value` on the bytes of `src` -/
theorem wsTest (src : Bytes) (j : Nat) (site : String) :
    (if decide (((j : Nat) : Int) < pyLen (ints src)) then
        bindE (idxE (ints src) ((j : Nat) : Int) site) fun t => .ok (t == ((WS : Nat) : Int))
      else .ok false) = (.ok (decide (src[j]? = some WS)) : Except Err Bool) := by
  by_cases hj : j < src.length
  · have hlen : (((j : Nat) : Int) < pyLen (ints src)) := by simp [pyLen]; omega
    have hx : src[j]? = some src[j] := List.getElem?_eq_getElem hj
    simp only [hlen, decide_true, if_true, idx_src src j _ hx, bindE_ok, beq_cast, hx, Option.some.injEq]
  · have hlen : ¬ (((j : Nat) : Int) < pyLen (ints src)) := by simp [pyLen]; omega
    have hx : src[j]? = none := List.getElem?_eq_none (by omega)
    simp [hlen, hx]

theorem guardL3_eval (src : Bytes) (i : Nat) (s : St) (h0 : s.p0 = ints src) (h9 : s.p9 = ((WS : Nat) : Int))
    (h2 : s.v2 = (i : Int)) : fast_csv_reader.guardE_L3 s = .ok (decide (src[i + 1]? = some WS)) := by
  have hcast : ((i : Int) + 1) = ((i + 1 : Nat) : Int) := by omega
  simp only [fast_csv_reader.guardE_L3, h0, h9, h2, hcast]
  exact wsTest src (i + 1) _

theorem guardL1_eval (src : Bytes) (i : Nat) (s : St) (h0 : s.p0 = ints src) (h9 : s.p9 = ((WS : Nat) : Int))
    (h2 : s.v2 = (i : Int)) : fast_csv_reader.guardE_L1 s = .ok (decide (src[i]? = some WS)) := by
  simp only [fast_csv_reader.guardE_L1, h0, h9, h2]
  exact wsTest src i _

/-- Both whitespace-skipping loops, `while index + d < len(source) and source[index + d] == whitespace_value: index += 1` with
    `d = 1` (after a cell) and `d = 0` (at entry): `index` advances by the leading whitespace of the rest. -/
theorem skip_loop (src : Bytes) (d : Nat) {guard : St → Except Err Bool} {body : St → Except Err St}
    (hguard : ∀ (i : Nat) (s : St), s.p0 = ints src → s.p9 = ((WS : Nat) : Int) → s.v2 = (i : Int) →
      guard s = .ok (decide (src[i + d]? = some WS)))
    (hbody : ∀ s, body s = .ok { s with v2 := s.v2 + 1 })
    (F i : Nat) (s : St) (h0 : s.p0 = ints src) (h9 : s.p9 = ((WS : Nat) : Int)) (h2 : s.v2 = (i : Int))
    (hF : src.length ≤ F + (i + d)) :
    whileG guard body F s = .ok { s with v2 := ((i + leadWs (src.drop (i + d)) : Nat) : Int) } := by
  generalize hr : i + leadWs (src.drop (i + d)) = r
  refine whileG_rule
    (fun n t => ∃ j, t = { s with v2 := (j : Int) } ∧ src.length ≤ n + (j + d) ∧ j + leadWs (src.drop (j + d)) = r)
    (· = .ok { s with v2 := (r : Int) }) ?_ F F s ⟨i, by rw [← h2], hF, hr⟩ (Nat.le_refl F)
  rintro n t ⟨j, rfl, hn, hr⟩
  rw [hguard j { s with v2 := (j : Int) } h0 h9 rfl]
  by_cases hw : src[j + d]? = some WS
  · rw [decide_eq_true hw, hbody]
    have hlt : j + d < src.length := by
      refine Nat.lt_of_not_le fun hc => ?_
      rw [List.getElem?_eq_none hc] at hw
      cases hw
    refine ⟨by omega, j + 1, rfl, by omega, ?_⟩
    rw [← hr, leadWs_step src (j + d) hw, show j + 1 + d = j + d + 1 by omega]
    omega
  · rw [decide_eq_false hw, ← hr, leadWs_stop src (j + d) hw]
    rfl

theorem skipAfter_loop (src : Bytes) (F i : Nat) (s : St) (h0 : s.p0 = ints src) (h9 : s.p9 = ((WS : Nat) : Int))
    (h2 : s.v2 = (i : Int)) (hF : src.length ≤ F + (i + 1)) :
    whileG fast_csv_reader.guardE_L3 fast_csv_reader.body_L3 F s = .ok { s with v2 := ((skipAfter src i : Nat) : Int) } :=
  skip_loop src 1 (guardL3_eval src) (fun _ => rfl) F i s h0 h9 h2 hF

theorem skipFrom_loop (src : Bytes) (F i : Nat) (s : St) (h0 : s.p0 = ints src) (h9 : s.p9 = ((WS : Nat) : Int))
    (h2 : s.v2 = (i : Int)) (hF : src.length ≤ F + i) :
    whileG fast_csv_reader.guardE_L1 fast_csv_reader.body_L1 F s = .ok { s with v2 := ((skipFrom src i : Nat) : Int) } :=
  skip_loop src 0 (guardL1_eval src) (fun _ => rfl) F i s h0 h9 h2 hF

/-! ### the loop body of `while True:` in four phases (the text of `fast_csv_reader.body_L2`, cut at its top-level `bindE`s) -/

/-- classify the byte `c = source[index]` (the `if c == separator_value … elif … else` chain): the model's `lexByte` -/
def ph1 (s : St) : Except Err St :=
  if (s.v19 == s.p7) then
      if (!s.v7) then
        let s := { s with v8 := true }
        .ok s
      else
        let s := { s with v18 := true }
        .ok s
    else
      if (s.v19 == s.p8) then
        if (!s.v7) then
          let s := { s with v8 := true }
          let s := { s with v9 := true }
          let s := { s with v3 := s.v2 }
          .ok s
        else
          let s := { s with v18 := true }
          .ok s
      else
        if (s.v19 == s.p6) then
          if (!s.v7) then
            bindE (if (s.v2 != s.v17) then
                .error (.other "Exception")
              else
                .ok s) fun s =>
            let s := { s with v7 := true }
            .ok s
          else
            if s.v10 then
              let s := { s with v18 := true }
              let s := { s with v10 := false }
              .ok s
            else
              bindE (if (decide ((s.v2 + 1) < (pyLen s.p0))) then
                  bindE (idxE s.p0 (s.v2 + 1) "p0[v2 + 1]") fun t9 =>
                  .ok (t9 == s.p6)
                else .ok false) fun t10 =>
              if t10 then
                let s := { s with v10 := true }
                .ok s
              else
                bindE (if (decide ((s.v2 + 1) < (pyLen s.p0))) then
                    bindE (idxE s.p0 (s.v2 + 1) "p0[v2 + 1]") fun t11 =>
                    if (t11 == s.p7) then .ok true else
                        bindE (idxE s.p0 (s.v2 + 1) "p0[v2 + 1]") fun t12 =>
                        .ok (t12 == s.p8)
                  else .ok false) fun t14 =>
                if t14 then
                  let s := { s with v7 := false }
                  .ok s
                else
                  if ((s.v2 + 1) == (pyLen s.p0)) then
                    .ok s
                  else
                    .error (.other "Exception")
        else
          let s := { s with v18 := true }
          .ok s

/-- `if write_char and row_index >= 0:` — the model's `writeChar` -/
def ph2 (s : St) : Except Err St :=
  if (s.v18 && (decide (s.v5 ≥ 0))) then
      bindE (setIdxE s.p3 ((s.v15 + s.v12) + s.v11) s.v19 "p3[v15 + v12 + v11]") fun t15 =>
      let s := { s with p3 := t15 }
      let s := { s with v11 := (s.v11 + 1) }
      if (decide ((s.v12 + s.v11) ≥ s.v16)) then
        let s := { s with v14 := true }
        let s := { s with v6 := s.v4 }
        .ok s
      else
        .ok s
    else
      .ok s

/-- `if end_cell:` — the model's `endCell` -/
def ph3 (fuel : Nat) (s : St) : Except Err St :=
  if s.v8 then
      bindE (if (decide (s.v5 ≥ 0)) then
          bindE (setIdx2WE s.p2 s.v4 (s.v5 + 1) (s.v12 + s.v11) "p2[v4, v5 + 1]") fun t16 =>
          let s := { s with p2 := t16 }
          .ok s
        else
          .ok s) fun s =>
      bindE (if s.v9 then
          let s := { s with v5 := (s.v5 + 1) }
          let s := { s with v4 := 0 }
          bindE (idxE s.p4 s.v4 "p4[v4]") fun t17 =>
          let s := { s with v15 := t17 }
          bindE (idxE s.p4 (s.v4 + 1) "p4[v4 + 1]") fun t18 =>
          let s := { s with v16 := (t18 - s.v15) }
          if (s.v5 == s.v1) then
            let s := { s with v13 := true }
            .ok s
          else
            .ok s
        else
          let s := { s with v4 := (s.v4 + 1) }
          bindE (idxE s.p4 s.v4 "p4[v4]") fun t19 =>
          let s := { s with v15 := t19 }
          bindE (idxE s.p4 (s.v4 + 1) "p4[v4 + 1]") fun t20 =>
          let s := { s with v16 := (t20 - s.v15) }
          .ok s) fun s =>
      bindE (idxWE s.p2 s.v4 "p2[v4, v5]") fun t21 =>
      bindE (idxWE t21 s.v5 "p2[v4, v5]") fun t22 =>
      let s := { s with v12 := t22 }
      let s := { s with v11 := 0 }
      bindE (whileG guardE_L3 (body_L3) fuel s) fun s =>
      let s := { s with v17 := (s.v2 + 1) }
      .ok s
    else
      .ok s

/-- `index += 1` and the test for the end of the call -/
def ph4 (s : St) : Except Err St :=
  let s := { s with v2 := (s.v2 + 1) }
  if ((s.v2 == (pyLen s.p0)) || (s.v13 || s.v14)) then
    let s := { s with v20 := (s.v3 + 1) }
    let s := { s with v21 := s.v5 }
    let s := { s with ret := true, rv0 := s.v20, rv1 := s.v21, rv2 := s.v13, rv3 := s.v14, rv4 := s.v6 }
    .ok s
  else
    .ok s

/-- the state at the start of an iteration, after `c = source[index]` -/
def pre (s : St) (c : Int) : St := { s with v18 := false, v8 := false, v9 := false, v19 := c }

theorem body_split (fuel : Nat) (s : St) : fast_csv_reader.body_L2 fuel s =
    bindE (idxE s.p0 s.v2 "p0[v2]") fun c =>
      bindE (ph1 (pre s c)) fun s => bindE (ph2 s) fun s => bindE (ph3 fuel s) fun s => ph4 s := rfl

theorem pyLen_ints (src : Bytes) : pyLen (ints src) = ((src.length : Nat) : Int) := by simp [pyLen]

theorem byteTest (src : Bytes) (j b : Nat) (site : String) :
    (if decide (((j : Nat) : Int) < ((src.length : Nat) : Int)) then
        bindE (idxE (ints src) ((j : Nat) : Int) site) fun t => .ok (t == ((b : Nat) : Int))
      else .ok false) = (.ok (decide (src[j]? = some b)) : Except Err Bool) := by
  by_cases hj : j < src.length
  · have hlen : (((j : Nat) : Int) < ((src.length : Nat) : Int)) := by omega
    have hx : src[j]? = some src[j] := List.getElem?_eq_getElem hj
    simp only [hlen, decide_true, if_true, idx_src src j _ hx, bindE_ok, beq_cast, hx, Option.some.injEq]
  · have hlen : ¬ (((j : Nat) : Int) < ((src.length : Nat) : Int)) := by omega
    have hx : src[j]? = none := List.getElem?_eq_none (by omega)
    simp [hlen, hx]

theorem byteTest2 (src : Bytes) (j a b : Nat) (site : String) :
    (if decide (((j : Nat) : Int) < ((src.length : Nat) : Int)) then
        bindE (idxE (ints src) ((j : Nat) : Int) site) fun t =>
        if (t == ((a : Nat) : Int)) then .ok true else
            bindE (idxE (ints src) ((j : Nat) : Int) site) fun t' => .ok (t' == ((b : Nat) : Int))
      else .ok false) = (.ok (decide (src[j]? = some a ∨ src[j]? = some b)) : Except Err Bool) := by
  by_cases hj : j < src.length
  · have hlen : (((j : Nat) : Int) < ((src.length : Nat) : Int)) := by omega
    have hx : src[j]? = some src[j] := List.getElem?_eq_getElem hj
    simp only [hlen, decide_true, if_true, idx_src src j _ hx, bindE_ok, beq_cast, hx, Option.some.injEq]
    by_cases ha : src[j] = a
    · simp [ha]
    · simp [ha]
  · have hlen : ¬ (((j : Nat) : Int) < ((src.length : Nat) : Int)) := by omega
    have hx : src[j]? = none := List.getElem?_eq_none (by omega)
    simp [hlen, hx]

/-- what the classification of one byte does to the translated state -/
def upd1 (s : St) (lx : Lex) : St :=
  match lx.ev with
  | .write => { s with v18 := true, v7 := lx.escaped, v10 := lx.cand }
  | .endCell => { s with v8 := true, v7 := lx.escaped, v10 := lx.cand }
  | .endLine => { s with v8 := true, v9 := true, v3 := s.v2, v7 := lx.escaped, v10 := lx.cand }
  | .skip => { s with v7 := lx.escaped, v10 := lx.cand }

theorem ph1_eq (src : Bytes) (i ics c : Nat) (s : St) (h0 : s.p0 = ints src) (h2 : s.v2 = (i : Int))
    (h17 : s.v17 = (ics : Int)) (h19 : s.v19 = (c : Int)) (h6 : s.p6 = ((QUOTE : Nat) : Int))
    (h7 : s.p7 = ((SEP : Nat) : Int)) (h8 : s.p8 = ((NL : Nat) : Int)) (hc : src[i]? = some c) {lx : Lex}
    (hl : lexByte src[i + 1]? (i == ics) s.v7 s.v10 c = .ok lx) : ph1 s = .ok (upd1 s lx) := by
  have hcast : ((i : Int) + 1) = ((i + 1 : Nat) : Int) := rfl
  -- the tests of the kernel, as tests on the model's data; the state itself is never rewritten
  have e7 : (s.v19 == s.p7) = decide (c = SEP) := by rw [h19, h7, beq_cast]
  have e8 : (s.v19 == s.p8) = decide (c = NL) := by rw [h19, h8, beq_cast]
  have e6 : (s.v19 == s.p6) = decide (c = QUOTE) := by rw [h19, h6, beq_cast]
  have e17 : (s.v2 != s.v17) = !decide (i = ics) := by rw [h2, h17, bne, beq_cast]
  have elen : (s.v2 + 1 == pyLen s.p0) = decide (i + 1 = src.length) := by rw [h2, h0, hcast, pyLen_ints, beq_cast]
  have t1 : (if decide (s.v2 + 1 < pyLen s.p0) then
        bindE (idxE s.p0 (s.v2 + 1) "p0[v2 + 1]") fun t9 => .ok (t9 == s.p6) else .ok false)
      = (.ok (decide (src[i + 1]? = some QUOTE)) : Except Err Bool) := by
    rw [h0, h2, h6, hcast, pyLen_ints]; exact byteTest src (i + 1) QUOTE _
  have t2 : (if decide (s.v2 + 1 < pyLen s.p0) then
        bindE (idxE s.p0 (s.v2 + 1) "p0[v2 + 1]") fun t11 =>
          if (t11 == s.p7) then .ok true else bindE (idxE s.p0 (s.v2 + 1) "p0[v2 + 1]") fun t12 => .ok (t12 == s.p8)
        else .ok false)
      = (.ok (decide (src[i + 1]? = some SEP ∨ src[i + 1]? = some NL)) : Except Err Bool) := by
    rw [h0, h2, h7, h8, hcast, pyLen_ints]; exact byteTest2 src (i + 1) SEP NL _
  have d1 : NL ≠ SEP := by decide
  have d2 : QUOTE ≠ SEP := by decide
  have d3 : QUOTE ≠ NL := by decide
  unfold lexByte at hl
  unfold ph1
  simp only [e7, e8, e6, e17, elen, t1, t2, bindE_ok]
  have hi : i < src.length := (List.getElem?_eq_some_iff.mp hc).1
  by_cases c1 : c = SEP
  · rw [if_pos c1] at hl
    cases hl
    subst c1
    cases he : s.v7 <;> simp only [decide_true, if_true, Bool.not_false, Bool.not_true, Bool.false_eq_true, if_false, upd1] <;>
      exact he ▸ rfl
  · rw [if_neg c1] at hl
    by_cases c2 : c = NL
    · rw [if_pos c2] at hl
      cases hl
      subst c2
      cases he : s.v7 <;> simp only [d1, decide_true, decide_false, if_true, Bool.not_false, Bool.not_true, Bool.false_eq_true,
        if_false, upd1] <;> exact he ▸ rfl
    · rw [if_neg c2] at hl
      by_cases c3 : c = QUOTE
      · rw [if_pos c3] at hl
        subst c3
        simp only [d2, d3, decide_true, decide_false, if_true, Bool.false_eq_true, if_false]
        cases he : s.v7
        · rw [he] at hl
          simp only [Bool.not_false, if_true] at hl ⊢
          by_cases hs : i = ics
          · simp only [hs, beq_self_eq_true, if_true] at hl
            cases hl
            simp only [hs, decide_true, Bool.not_true, Bool.false_eq_true, if_false, bindE_ok, upd1]
          · simp only [beq_eq_false_iff_ne.mpr hs, Bool.false_eq_true, if_false, reduceCtorEq] at hl
        · rw [he] at hl
          simp only [Bool.not_true, Bool.false_eq_true, if_false] at hl ⊢
          cases hcd : s.v10
          · rw [hcd] at hl
            simp only [Bool.false_eq_true, if_false] at hl ⊢
            cases hn : src[i + 1]? with
            | none =>
              rw [hn] at hl
              cases hl
              have hlen : i + 1 = src.length := by
                have := List.getElem?_eq_none_iff.mp hn
                omega
              simp only [reduceCtorEq, decide_false, or_self, Bool.false_eq_true, if_false, hlen, decide_true, if_true, upd1]
              exact he ▸ hcd ▸ rfl
            | some n =>
              rw [hn] at hl
              simp only at hl
              by_cases n1 : n = QUOTE
              · rw [if_pos n1] at hl
                cases hl
                simp only [n1, decide_true, if_true, upd1]
              · rw [if_neg n1] at hl
                by_cases n2 : n = SEP ∨ n = NL
                · rw [if_pos n2] at hl
                  cases hl
                  simp only [Option.some.injEq, n1, decide_false, Bool.false_eq_true, if_false, n2, decide_true, if_true, upd1]
                · simp only [if_neg n2, reduceCtorEq] at hl
          · rw [hcd] at hl
            simp only [if_true] at hl ⊢
            cases hl
            simp only [upd1]
      · simp only [if_neg c3] at hl
        cases hl
        simp only [c1, c2, c3, decide_false, Bool.false_eq_true, if_false, upd1]

theorem ph2_skip (s : St) (h : s.v18 = false ∨ s.v5 < 0) : ph2 s = .ok s := by
  unfold ph2
  rcases h with h | h
  · simp [h]
  · have : ¬ (s.v5 ≥ 0) := by omega
    simp [this]

theorem ph2_write (vals vals' : List Nat) (colOff cstart count c : Nat) (s : St) (h18 : s.v18 = true) (h5 : 0 ≤ s.v5)
    (h3 : s.p3 = ints vals) (h15 : s.v15 = (colOff : Int)) (h12 : s.v12 = (cstart : Int)) (h11 : s.v11 = (count : Int))
    (h19 : s.v19 = (c : Int)) (hset : setE vals (colOff + cstart + count) c "column_vals[col_offset+cur_cell_start+cur_cell_char_count]" = .ok vals') :
    ph2 s = .ok { s with p3 := ints vals', v11 := ((count + 1 : Nat) : Int),
                         v14 := s.v14 || decide (s.v16 ≤ ((cstart + count + 1 : Nat) : Int)),
                         v6 := if decide (s.v16 ≤ ((cstart + count + 1 : Nat) : Int)) then s.v4 else s.v6 } := by
  have hk : ((colOff : Int) + (cstart : Int)) + (count : Int) = ((colOff + cstart + count : Nat) : Int) := by omega
  have hge : (s.v5 ≥ 0) := h5
  unfold setE at hset
  by_cases hlt : colOff + cstart + count < vals.length
  · simp only [hlt, if_true, Except.ok.injEq] at hset
    subst hset
    have hlt' : colOff + cstart + count < (ints vals).length := by simpa using hlt
    unfold ph2
    simp only [h18, hge, decide_true, Bool.and_self, if_true, h3, h15, h12, h11, h19, hk, setIdxE_nat, setE, hlt',
      bindE_ok, ints_set]
    have e2 : ((count : Int) + 1) = ((count + 1 : Nat) : Int) := by omega
    simp only [e2]
    by_cases hf : s.v16 ≤ ((cstart + count + 1 : Nat) : Int)
    · have hf' : ((cstart : Int) + ((count + 1 : Nat) : Int) ≥ s.v16) := by omega
      simp only [hf', hf, decide_true, if_true, Bool.or_true]
    · have hf' : ¬ ((cstart : Int) + ((count + 1 : Nat) : Int) ≥ s.v16) := by omega
      simp only [hf', hf, decide_false, Bool.false_eq_true, if_false, Bool.or_false]
  · simp [hlt] at hset

theorem idxWE_nat {α} (xs : List α) (i : Nat) (site : String) : idxWE xs (i : Int) site = getE xs i site := by
  simp [idxWE]

theorem setIdxWE_nat {α} (xs : List α) (i : Nat) (v : α) (site : String) : setIdxWE xs (i : Int) v site = setE xs i v site := by
  simp [setIdxWE]

theorem idxWE_last {α} (r : List α) (L : Nat) (h : r.length = L + 1) (site : String) :
    idxWE r (-1) site = getE r L site := by
  have h1 : ¬ ((0 : Int) ≤ -1) := by omega
  have h2 : (-(-1 : Int) ≤ (r.length : Int)) := by omega
  have h3 : r.length - (-(-1 : Int)).toNat = L := by omega
  simp only [idxWE, h1, if_false, h2, if_true, h3]

/-- `column_inds[col, row]` for a row number that is a natural -/
theorem get2W_nat (inds : List (List Nat)) (col row cs : Nat) (site0 site : String)
    (h : get2 inds col row site0 = .ok cs) :
    ∀ {β} (K : Int → Except Err β),
      bindE (idxWE (ints2 inds) (col : Int) site) (fun t => bindE (idxWE t (row : Int) site) K) = K (cs : Int) := by
  intro β K
  unfold get2 at h
  cases hr : inds[col]? with
  | none => simp [hr] at h
  | some r =>
    simp only [hr, getE_eq_ok] at h
    simp [idxWE_nat, getE, List.getElem?_map, hr, h]

/-- `column_inds[col, -1]` (numpy wraps around): the last slot of the row, `maxrow` -/
theorem get2W_neg (inds : List (List Nat)) (L col cs : Nat) (hrect : ∀ r ∈ inds, r.length = L + 1) (site0 site : String)
    (h : get2 inds col L site0 = .ok cs) :
    ∀ {β} (K : Int → Except Err β),
      bindE (idxWE (ints2 inds) (col : Int) site) (fun t => bindE (idxWE t (-1) site) K) = K (cs : Int) := by
  intro β K
  unfold get2 at h
  cases hr : inds[col]? with
  | none => simp [hr] at h
  | some r =>
    simp only [hr, getE_eq_ok] at h
    have hlen : (ints r).length = L + 1 := by simpa using hrect r (List.mem_of_getElem? hr)
    simp [idxWE_nat, getE, List.getElem?_map, hr, idxWE_last _ L hlen, h]

theorem set2W (inds inds' : List (List Nat)) (col row v : Nat) (site0 site : String)
    (h : set2 inds col row v site0 = .ok inds') :
    setIdx2WE (ints2 inds) (col : Int) (row : Int) (v : Int) site = .ok (ints2 inds') := by
  unfold set2 at h
  cases hr : inds[col]? with
  | none => simp [hr] at h
  | some r =>
    have hcol : col < inds.length := by
      rcases Nat.lt_or_ge col inds.length with hh | hh
      · exact hh
      · simp [List.getElem?_eq_none hh] at hr
    have hr' : inds[col] = r := by
      have := List.getElem?_eq_getElem hcol
      rw [this] at hr; exact Option.some.inj hr
    by_cases hlt : row < r.length
    · simp only [hr, hlt, if_true, Except.ok.injEq] at h
      subst h
      subst hr'
      simp [setIdx2WE, idxWE_nat, setIdxWE_nat, getE, setE, List.getElem?_map, hlt, hcol, List.map_set]
    · simp [hr, hlt] at h

theorem set2_rect (inds inds' : List (List Nat)) (L col row v : Nat) (site0 : String)
    (hrect : ∀ r ∈ inds, r.length = L + 1) (h : set2 inds col row v site0 = .ok inds') : ∀ r ∈ inds', r.length = L + 1 := by
  unfold set2 at h
  cases hr : inds[col]? with
  | none => simp [hr] at h
  | some r0 =>
    by_cases hlt : row < r0.length
    · simp only [hr, hlt, if_true, Except.ok.injEq] at h
      subst h
      intro r hmem
      rcases List.mem_or_eq_of_mem_set hmem with h1 | h1
      · exact hrect r h1
      · subst h1
        simpa using hrect r0 (List.mem_of_getElem? hr)
    · simp [hr, hlt] at h

theorem ph3_cell (src : Bytes) (offs : List Nat) (L fuel : Nat) (hf : src.length ≤ fuel)
    (inds inds' : List (List Nat)) (hdr : Bool) (row col cstart count index o o1 cs : Nat) (s : St)
    (h8 : s.v8 = true) (h9 : s.v9 = false) (h5 : s.v5 = if hdr then (-1 : Int) else (row : Int)) (h4 : s.v4 = (col : Int))
    (hp2 : s.p2 = ints2 inds) (h12 : s.v12 = (cstart : Int)) (h11 : s.v11 = (count : Int)) (hp4 : s.p4 = ints offs)
    (h0 : s.p0 = ints src) (hp9 : s.p9 = ((WS : Nat) : Int)) (h2 : s.v2 = (index : Int))
    (hrect : ∀ r ∈ inds, r.length = L + 1)
    (hset : (if hdr then Except.ok inds else set2 inds col (row + 1) (cstart + count) "column_inds[col_index,row_index+1]") = .ok inds')
    (ho : offs[col + 1]? = some o) (ho1 : offs[col + 1 + 1]? = some o1)
    (hcs : get2 inds' (col + 1) (if hdr then L else row) "column_inds[col_index,row_index]" = .ok cs) :
    ph3 fuel s = .ok { s with p2 := ints2 inds', v4 := ((col + 1 : Nat) : Int), v15 := (o : Int), v16 := (o1 : Int) - (o : Int),
                              v12 := (cs : Int), v11 := 0, v2 := ((skipAfter src index : Nat) : Int),
                              v17 := ((skipAfter src index : Nat) : Int) + 1 } := by
  have hcast1 : ((col : Int) + 1) = ((col + 1 : Nat) : Int) := by omega
  have hcast2 : (((col + 1 : Nat) : Int) + 1) = ((col + 1 + 1 : Nat) : Int) := by omega
  have hv : ((cstart : Int) + (count : Int)) = ((cstart + count : Nat) : Int) := by omega
  cases hdr with
  | true =>
    simp only [if_true] at hset h5 hcs
    cases hset
    have hneg : ¬ (s.v5 ≥ 0) := by rw [h5]; omega
    unfold ph3
    simp only [h8, if_true, hneg, decide_false, Bool.false_eq_true, if_false, bindE_ok]
    simp only [h9, Bool.false_eq_true, if_false, h4, hcast1, hcast2, hp4,
      idx_src offs (col + 1) o ho, idx_src offs (col + 1 + 1) o1 ho1, bindE_ok]
    simp only [hp2, h5, get2W_neg inds L (col + 1) cs hrect _ _ hcs]
    -- `by exact`: the state `_` is found by the rewrite first, the hypotheses about its fields are checked afterwards
    rw [skipAfter_loop src fuel index _ (by exact h0) (by exact hp9) (by exact h2) (by omega)]
    simp only [bindE_ok]
  | false =>
    simp only [Bool.false_eq_true, if_false] at hset h5 hcs
    have hpos : (s.v5 ≥ 0) := by rw [h5]; omega
    have hcastr : ((row : Int) + 1) = ((row + 1 : Nat) : Int) := by omega
    have hrect' := set2_rect inds inds' L col (row + 1) (cstart + count) _ hrect hset
    unfold ph3
    simp only [h8, if_true, hpos, decide_true]
    simp only [hp2, h4, h5, hcastr, h12, h11, hv, set2W inds inds' col (row + 1) (cstart + count) _ _ hset, bindE_ok]
    simp only [h9, Bool.false_eq_true, if_false, h4, hcast1, hcast2, hp4,
      idx_src offs (col + 1) o ho, idx_src offs (col + 1 + 1) o1 ho1, bindE_ok]
    simp only [h5, get2W_nat inds' (col + 1) row cs _ _ hcs]
    rw [skipAfter_loop src fuel index _ (by exact h0) (by exact hp9) (by exact h2) (by omega)]
    simp only [bindE_ok]

theorem idx0 (offs : List Nat) (o : Nat) (h : offs[0]? = some o) (site : String) :
    idxE (ints offs) 0 site = .ok (o : Int) := by simpa using idx_src offs 0 o h site

theorem idx01 (offs : List Nat) (o1 : Nat) (h : offs[0 + 1]? = some o1) (site : String) :
    idxE (ints offs) (0 + 1) site = .ok (o1 : Int) := by simpa using idx_src offs 1 o1 h site

theorem get2W_nat0 (inds : List (List Nat)) (row cs : Nat) (site0 site : String)
    (h : get2 inds 0 row site0 = .ok cs) :
    ∀ {β} (K : Int → Except Err β),
      bindE (idxWE (ints2 inds) 0 site) (fun t => bindE (idxWE t (row : Int) site) K) = K (cs : Int) := by
  intro β K
  simpa using get2W_nat inds 0 row cs site0 site h K

theorem ph3_line (src : Bytes) (offs : List Nat) (L fuel : Nat) (hf : src.length ≤ fuel)
    (inds inds' : List (List Nat)) (hdr : Bool) (row col cstart count index o o1 cs : Nat) (s : St)
    (h8 : s.v8 = true) (h9 : s.v9 = true) (h5 : s.v5 = if hdr then (-1 : Int) else (row : Int)) (h4 : s.v4 = (col : Int))
    (h1 : s.v1 = (L : Int))
    (hp2 : s.p2 = ints2 inds) (h12 : s.v12 = (cstart : Int)) (h11 : s.v11 = (count : Int)) (hp4 : s.p4 = ints offs)
    (h0 : s.p0 = ints src) (hp9 : s.p9 = ((WS : Nat) : Int)) (h2 : s.v2 = (index : Int))
    (hset : (if hdr then Except.ok inds else set2 inds col (row + 1) (cstart + count) "column_inds[col_index,row_index+1]") = .ok inds')
    (ho : offs[0]? = some o) (ho1 : offs[0 + 1]? = some o1)
    (hcs : get2 inds' 0 (if hdr then 0 else row + 1) "column_inds[col_index,row_index]" = .ok cs) :
    ph3 fuel s = .ok { s with p2 := ints2 inds', v5 := (((if hdr then 0 else row + 1 : Nat)) : Int), v4 := 0, v15 := (o : Int),
                              v16 := (o1 : Int) - (o : Int), v13 := s.v13 || decide ((if hdr then 0 else row + 1) = L),
                              v12 := (cs : Int), v11 := 0, v2 := ((skipAfter src index : Nat) : Int),
                              v17 := ((skipAfter src index : Nat) : Int) + 1 } := by
  have hv : ((cstart : Int) + (count : Int)) = ((cstart + count : Nat) : Int) := by omega
  cases hdr with
  | true =>
    simp only [if_true] at hset h5 hcs ⊢
    cases hset
    have hneg : ¬ (s.v5 ≥ 0) := by rw [h5]; omega
    have e0 : ((-1 : Int) + 1) = ((0 : Nat) : Int) := by omega
    unfold ph3
    simp only [h8, if_true, hneg, decide_false, Bool.false_eq_true, if_false, bindE_ok]
    simp only [h9, if_true, hp4, idx0 offs o ho, idx01 offs o1 ho1, bindE_ok]
    simp only [h5, h1, e0, beq_cast]
    by_cases hL : 0 = L
    · have hd : decide (0 = L) = true := by simp [hL]
      simp only [hd, if_true, bindE_ok, hp2, get2W_nat0 inds 0 cs _ _ hcs]
      rw [skipAfter_loop src fuel index _ (by exact h0) (by exact hp9) (by exact h2) (by omega)]
      simp only [bindE_ok]
      simp only [Bool.or_true]
    · have hd : decide (0 = L) = false := by simp [hL]
      simp only [hd, Bool.false_eq_true, if_false, bindE_ok, hp2, get2W_nat0 inds 0 cs _ _ hcs]
      rw [skipAfter_loop src fuel index _ (by exact h0) (by exact hp9) (by exact h2) (by omega)]
      simp only [bindE_ok]
      simp only [Bool.or_false]
  | false =>
    simp only [Bool.false_eq_true, if_false] at hset h5 hcs ⊢
    have hpos : (s.v5 ≥ 0) := by rw [h5]; omega
    have hcastr : ((row : Int) + 1) = ((row + 1 : Nat) : Int) := by omega
    unfold ph3
    simp only [h8, if_true, hpos, decide_true]
    simp only [hp2, h4, h5, hcastr, h12, h11, hv, set2W inds inds' col (row + 1) (cstart + count) _ _ hset, bindE_ok]
    simp only [h9, if_true, hp4, idx0 offs o ho, idx01 offs o1 ho1, bindE_ok]
    simp only [h5, h1, hcastr, beq_cast]
    by_cases hL : row + 1 = L
    · have hd : decide (row + 1 = L) = true := by simp [hL]
      simp only [hd, if_true, bindE_ok, get2W_nat0 inds' (row + 1) cs _ _ hcs]
      rw [skipAfter_loop src fuel index _ (by exact h0) (by exact hp9) (by exact h2) (by omega)]
      simp only [bindE_ok]
      simp only [Bool.or_true]
    · have hd : decide (row + 1 = L) = false := by simp [hL]
      simp only [hd, Bool.false_eq_true, if_false, bindE_ok, get2W_nat0 inds' (row + 1) cs _ _ hcs]
      rw [skipAfter_loop src fuel index _ (by exact h0) (by exact hp9) (by exact h2) (by omega)]
      simp only [bindE_ok]
      simp only [Bool.or_false]

theorem ph3_skip (fuel : Nat) (s : St) (h : s.v8 = false) : ph3 fuel s = .ok s := by
  unfold ph3; simp [h]

def fin (s : St) : St :=
  if ((s.v2 + 1 == pyLen s.p0) || (s.v13 || s.v14)) then
    { s with v2 := s.v2 + 1, v20 := s.v3 + 1, v21 := s.v5, ret := true, rv0 := s.v3 + 1, rv1 := s.v5, rv2 := s.v13, rv3 := s.v14,
             rv4 := s.v6 }
  else { s with v2 := s.v2 + 1 }

theorem ph4_eq (s : St) : ph4 s = .ok (fin s) := by
  unfold ph4 fin
  by_cases h : ((s.v2 + 1 == pyLen s.p0) || (s.v13 || s.v14)) = true
  · simp only [h, if_true]
  · simp only [h, Bool.false_eq_true, if_false]

end Exetera.GenK.CsvK
