import Exetera.Lemmas.JoinDriver
import Exetera.Lemmas.JoinInnerSpec
/-!
  The left-unique generators (`generate_ordered_map_to_{left,inner}_left_unique_streamed`): `L` strictly sorted, `R` sorted
  (runs of equal keys allowed), left chunks untrimmed, right chunks trimmed.

  The kernel pairs ONE left row `I` with each right row of the run of equal keys in turn, so its state can be *inside* a
  right run. `tailRows a R I J` are the rows of left row `I` (key `a`) against the right rows `≥ J`; `pendU L R I J` are the
  spec rows still to be emitted when the kernel is at the merge position `(I, J)`.
  Every kernel iteration advances the left or the right row position, so `|L| + |R|` driver iterations always suffice.
-/
namespace Exetera.Join.LU
open Exetera Exetera.Spec Exetera.Join

def tailRows (a : Int) (R : List Int) (I J : Nat) : List (Nat × Option Nat) :=
  (matchRows a (R.drop J) J).map (fun j => (I, some j))

/-- spec rows not yet emitted at merge position `(I, J)`: if `L[I] = R[J]` the kernel is at (or inside) the right run of
    left row `I`, otherwise nothing of left row `I` has been emitted yet -/
def pendU (L R : List Int) (I J : Nat) : List (Nat × Option Nat) :=
  match L[I]?, R[J]? with
  | some a, some b => if a = b then tailRows a R I J ++ rest L R (I + 1) else rest L R I
  | _, _ => rest L R I

section spec
variable {L R : List Int} {I J : Nat} {a : Int}

theorem pendU_match (ha : L[I]? = some a) (hb : R[J]? = some a) :
    pendU L R I J = tailRows a R I J ++ rest L R (I + 1) := by
  simp [pendU, ha, hb]

theorem tailRows_step (hb : R[J]? = some a) : tailRows a R I J = (I, some J) :: tailRows a R I (J + 1) := by
  obtain ⟨hJ, rfl⟩ := List.getElem?_eq_some_iff.mp hb
  simp only [tailRows]
  rw [List.drop_eq_getElem_cons hJ]
  simp [matchRows]

theorem tailRows_nil (hR : Sorted R) (h : ∀ b, R[J]? = some b → a < b) : tailRows a R I J = [] := by
  rw [tailRows, matchRows_drop_nil hR fun hJ => h _ (get?_some_of_lt hJ)]; rfl

theorem rest_enter (ha : L[I]? = some a) (hb : R[J]? = some a) (hlt : BelowAt L R I J) :
    rest L R I = tailRows a R I J ++ rest L R (I + 1) := by
  obtain ⟨hI, haL⟩ := List.getElem?_eq_some_iff.mp ha
  obtain ⟨hJ, hbR⟩ := List.getElem?_eq_some_iff.mp hb
  rw [rest_unfold L R hI, haL, tailRows, matchRows_drop (Nat.le_of_lt hJ) fun j h =>
    Int.ne_of_lt (hlt j _ a h (get?_some_of_lt (by omega)) ha), List.drop_eq_getElem_cons hJ]
  simp [matchRows, hbR, leftRow]

theorem pendU_fresh (h : BelowAt L R I J) : pendU L R I J = rest L R I := by
  unfold pendU
  split
  · rename_i a b ha hb
    split
    · rename_i hab
      subst hab
      exact (rest_enter ha hb h).symm
    · rfl
  · rfl

end spec

/-- `leftLU` (left join) or `innerLU` (inner join) -/
def uvariant (emit : Bool) : Variant := if emit then .leftLU else .innerLU

theorem uvariant_isLeft (emit : Bool) : (uvariant emit).isLeft = emit := by cases emit <;> rfl
theorem uvariant_hasL (emit : Bool) : (uvariant emit).hasL = true := by cases emit <;> rfl

structure UInv (emit : Bool) (L R : List Int) (cs : Nat) (inv : Int) (d : D) : Prop where
  lok : ChunkOK L d.lch
  rok : ChunkOK R d.rch
  llen : d.lch.data.length = d.lch.hi - d.lch.lo
  rbd : Boundary R d.rch
  ile : d.k.i ≤ d.lch.hi - d.lch.lo
  jle : d.k.j ≤ d.rch.hi - d.rch.lo
  blen : d.k.lb.length = d.k.rb.length
  bcap : d.k.rb.length ≤ cs
  outL : d.lout ++ d.k.lb ++ encL (sel emit (pendU L R d.I d.J)) = encL (sel emit (leftJoin L R))
  outR : d.rout ++ d.k.rb ++ encR inv (sel emit (pendU L R d.I d.J)) = encR inv (sel emit (leftJoin L R))
  /-- either the kernel is at/inside the right run of left row `I`, or everything before `J` is smaller than `L[I]` -/
  h1 : ∀ a, L[d.I]? = some a → R[d.J]? = some a ∨ ∀ j b, j < d.J → R[j]? = some b → b < a

/-- global variant: every kernel iteration advances `I` or `J` -/
def ugmu (L R : List Int) (d : D) : Nat := (L.length - d.I) + (R.length - d.J)

variable {emit : Bool} {L R : List Int} {cs : Nat} {inv : Int} {d : D}

theorem UInv.core (h : UInv emit L R cs inv d) : Core false true emit L R cs inv (pendU L R d.I d.J) d :=
  ⟨⟨h.lok, nofun, fun _ => h.llen⟩, ⟨h.rok, fun _ => h.rbd, nofun⟩, h.ile, h.jle, h.blen, h.bcap, h.outL, h.outR⟩

theorem UInv.of_core (c : Core false true emit L R cs inv (pendU L R d.I d.J) d)
    (h : ∀ a, L[d.I]? = some a → R[d.J]? = some a ∨ ∀ j b, j < d.J → R[j]? = some b → b < a) :
    UInv emit L R cs inv d :=
  ⟨c.lch.ok, c.rch.ok, c.lch.len rfl, c.rch.bd rfl, c.ile, c.jle, c.blen, c.bcap, c.outL, c.outR, h⟩

theorem UInv.of_below (c : Core false true emit L R cs inv (rest L R d.I) d) (h : BelowAt L R d.I d.J) :
    UInv emit L R cs inv d :=
  UInv.of_core (pendU_fresh h ▸ c) fun a ha => .inr fun j b hj hb => h j b a hj hb ha

theorem partialBody_u (emit : Bool) : partialBody (uvariant emit) = uniqueBody (uvariant emit) := by
  cases emit <;> rfl

/-- the left-join kernel tests `i < len(left)`, the inner-join kernel `i < i_max`; an untrimmed window is exactly the chunk -/
theorem partialGuard_u (h : UInv emit L R cs inv d) (s : K) :
    partialGuard (uvariant emit) (mkP L R cs inv d) s =
      (decide (s.i < d.lch.hi - d.lch.lo) && decide (s.j < d.rch.hi - d.rch.lo) && decide (s.rb.length < cs)) := by
  cases emit <;> simp only [uvariant, partialGuard, mkP, D.iMax, D.jMax, K.r, h.llen] <;> rfl

theorem unique_step (hLs : L.Pairwise (· < ·)) (hR : Sorted R) (d : D) (hinv : UInv emit L R cs inv d)
    (hg : partialGuard (uvariant emit) (mkP L R cs inv d) d.k = true) :
    ∃ s', partialBody (uvariant emit) (mkP L R cs inv d) d.k = .ok s' ∧ UInv emit L R cs inv { d with k := s' } ∧
      kmu cs { d with k := s' } < kmu cs d ∧ ugmu L R { d with k := s' } < ugmu L R d := by
  rw [partialGuard_u hinv] at hg
  simp only [Bool.and_eq_true, decide_eq_true_eq] at hg
  obtain ⟨⟨hi, hj⟩, hr⟩ := hg
  have c := hinv.core
  obtain ⟨a, ha, hga⟩ := chunk_access hinv.lok hi "left[i]"
  obtain ⟨b, hb, hgb⟩ := chunk_access hinv.rok hj "right[j]"
  change L[d.I]? = some a at ha
  change R[d.J]? = some b at hb
  rw [partialBody_u]
  by_cases hab : a = b
  · -- emit `(I, J)`; the left row is done when the run of its key on the right ends after `J`
    subst hab
    have hrow : pendU L R d.I d.J = (d.I, some d.J) :: (tailRows a R d.I (d.J + 1) ++ rest L R (d.I + 1)) := by
      rw [pendU_match ha hb, tailRows_step hb]; rfl
    have hlt : ¬ a < a := Int.lt_irrefl a
    have adv := fun hend => c.match_both hR (by rw [hrow, tailRows_nil hR hend]; rfl) hb
      (fun a' ha' => Strict.lt_get? hLs (Nat.lt_succ_self _) ha ha') hi hj hr rfl
    by_cases hj1 : d.k.j + 1 < d.rch.hi - d.rch.lo
    · obtain ⟨b1, hb1, hgb1⟩ := chunk_access hinv.rok hj1 "right[j+1]"
      rw [← Nat.add_assoc] at hb1
      have hnge : ¬ d.rch.hi - d.rch.lo ≤ d.k.j + 1 := Nat.not_le.mpr hj1
      by_cases hrun : b1 = a
      · subst hrun
        refine ⟨{ d.k with lb := d.k.lb ++ [↑(d.k.i + d.lch.lo)], rb := d.k.rb ++ [↑(d.k.j + d.rch.lo)], j := d.k.j + 1 },
          ?_, UInv.of_core (pendU_match ha hb1 ▸ c.emit_pair hrow hr hinv.ile (by simp only; omega)
            (by simp only [D.I, Nat.add_comm]) (by simp only [D.J, Nat.add_comm])) fun a' ha' => ?_,
          c.advance rfl (by simp) (by simp) (by simp) hinv.ile (by simp only; omega) (by simp only; omega)⟩
        · cases emit <;> simp [uniqueBody, uvariant, mkP, D.jMax, hga, hgb, hgb1, hnge, push, hr, bind, Except.bind,
            pure, Except.pure]
        · have ha' : L[d.I]? = some a' := ha'
          rw [ha] at ha'
          cases ha'
          exact .inl hb1
      · obtain ⟨h2, h3, h4⟩ := adv fun b' hb' => by
          rw [show R[d.J + 1]? = R[d.rch.lo + d.k.j + 1]? from rfl, hb1] at hb'
          cases hb'
          have := Sorted.le_get? hR (Nat.le_succ _) hb hb1
          omega
        refine ⟨_, ?_, UInv.of_below h2 h3, h4⟩
        cases emit <;> simp [uniqueBody, uvariant, mkP, D.jMax, hga, hgb, hgb1, hnge, hrun, push, hr, bind,
          Except.bind, pure, Except.pure]
    · -- the trimmed chunk ends here, so the run of `a` ends here
      obtain ⟨h2, h3, h4⟩ := adv fun b' hb' =>
        boundary_gt hR hinv.rbd (by have := hinv.rok.lo_le; simp only [D.J]; omega) hb hb'
      refine ⟨_, ?_, UInv.of_below h2 h3, h4⟩
      have hge : d.rch.hi - d.rch.lo ≤ d.k.j + 1 := Nat.not_lt.mp hj1
      cases emit <;> simp [uniqueBody, uvariant, mkP, D.jMax, hga, hgb, hge, push, hr, bind, Except.bind, pure,
        Except.pure]
  · have hbelow : BelowAt L R d.I d.J := fun j b' a' hj' hb' ha' => by
      rw [ha] at ha'; cases ha'
      rcases hinv.h1 a ha with h | h
      · rw [hb] at h; cases h; exact absurd rfl hab
      · exact h j b' hj' hb'
    obtain ⟨s', h1, h2, h3, h4⟩ := unique_ne (uvariant_isLeft emit) (Strict.sorted hLs) hR
      (pendU_fresh hbelow ▸ c) hbelow hi hj hr ha hga hb hgb hab
    exact ⟨s', h1, UInv.of_below h2 h3, h4⟩

theorem unique_partial (hLs : L.Pairwise (· < ·)) (hR : Sorted R) (d : D) (hinv : UInv emit L R cs inv d) :
    ∃ k', runPartial (uvariant emit) (mkP L R cs inv d) d.k = .ok k' ∧ UInv emit L R cs inv { d with k := k' } ∧
      partialGuard (uvariant emit) (mkP L R cs inv d) k' = false ∧
      ugmu L R { d with k := k' } ≤ ugmu L R d ∧
      (partialGuard (uvariant emit) (mkP L R cs inv d) d.k = true → ugmu L R { d with k := k' } < ugmu L R d) :=
  partial_of_step (unique_step hLs hR) d hinv

theorem UInv.below_of_exit (h : UInv emit L R cs inv d) (hg : mainGuard L R d = false) : BelowAt L R d.I d.J := by
  intro j b a hj hb ha
  rcases h.h1 a ha with h' | h'
  · have hI := (List.getElem?_eq_some_iff.mp ha).1
    have hJ := (List.getElem?_eq_some_iff.mp h').1
    simp only [mainGuard, Bool.and_eq_false_iff, decide_eq_false_iff_not, D.I, D.J] at hg hI hJ
    omega
  · exact h' j b hj hb

theorem kernel (hcs : 0 < cs) (hLs : L.Pairwise (· < ·)) (hR : Sorted R) :
    Kernel (uvariant emit) false true emit L R cs inv (UInv emit L R cs inv) (fun d => pendU L R d.I d.J) (ugmu L R) where
  ltrim := by cases emit <;> rfl
  rtrim := by cases emit <;> rfl
  isLeft := uvariant_isLeft emit
  core h := h.core
  init hl hr hl0 hr0 := UInv.of_below (by simp only [D.I, hl0]; exact rest_zero L R ▸ Core.init hl hr)
    (by simp only [D.J, hr0]; exact BelowAt.zero)
  run := unique_partial hLs hR
  enter h hf hi hj := by rw [partialGuard_u h]; simp [hf, hi, hj, hcs]
  frame h f := ⟨UInv.of_core (by rw [f.I, f.J]; exact h.core.frame f) (by rw [f.I, f.J]; exact h.h1),
    by simp only [ugmu, f.I, f.J]⟩
  exit h hg := ⟨pendU_fresh (h.below_of_exit hg), BelowAt.allBelow_of_exit hg (h.below_of_exit hg)⟩

structure UMInv (emit : Bool) (L R : List Int) (cs : Nat) (inv : Int) (d : D) : Prop where
  g : UInv emit L R cs inv d
  li : d.lch.lo + d.k.i < L.length → d.k.i < d.lch.hi - d.lch.lo
  rj : d.rch.lo + d.k.j < R.length → d.k.j < d.rch.hi - d.rch.lo
  flushed : d.k.rb = []

theorem main_step (hcs : 0 < cs) (hLs : L.Pairwise (· < ·)) (hR : Sorted R) (d : D) (hm : UMInv emit L R cs inv d)
    (hg : mainGuard L R d = true) :
    ∃ d', mainBody (uvariant emit) L R cs inv d = .ok d' ∧ UMInv emit L R cs inv d' ∧ ugmu L R d' < ugmu L R d := by
  obtain ⟨d', h1, h2, h3⟩ := (kernel hcs hLs hR).main_step hcs ⟨hm.g, hm.li, hm.rj, hm.flushed⟩ hg
  exact ⟨d', h1, ⟨h2.g, h2.li, h2.rj, h2.flushed⟩, h3⟩

/-- `generate_ordered_map_to_{left,inner}_left_unique_streamed` return the relational join for every chunk size -/
theorem unique_streamed (hcs : 0 < cs) (hLs : L.Pairwise (· < ·)) (hR : Sorted R) (fuel : Nat)
    (hfuel : L.length + R.length ≤ fuel) :
    ∃ calls, streamed (uvariant emit) fuel cs inv L R =
      .ok ⟨encL (sel emit (leftJoin L R)), encR inv (sel emit (leftJoin L R)), calls⟩ := by
  have := (kernel (emit := emit) (inv := inv) hcs hLs hR).streamed hcs (Strict.sorted hLs) hR fuel
    (fun _ _ => Nat.le_trans (Nat.add_le_add (Nat.sub_le _ _) (Nat.sub_le _ _)) hfuel) (by omega)
  rwa [uvariant_hasL, if_pos rfl] at this

end Exetera.Join.LU

namespace Exetera.Join
open Exetera Exetera.Spec

/-- `generate_ordered_map_to_left_left_unique_streamed`: for a duplicate-free sorted left column and a sorted right column
    (equal-key runs allowed), every chunk size ≥ 1, every marker, the streamed maps are exactly the relational left join.
    `Variant.leftLU.hasL = true`: both `l_result` and `r_result` are written. -/
theorem leftLU_streamed {L R : List Int} {cs : Nat} (inv : Int) (hcs : 0 < cs) (hLu : L.Pairwise (· < ·))
    (hR : Sorted R) (fuel : Nat) (hfuel : L.length + R.length ≤ fuel) :
    ∃ calls, streamed .leftLU fuel cs inv L R = .ok ⟨encL (leftJoin L R), encR inv (leftJoin L R), calls⟩ :=
  LU.unique_streamed (emit := true) hcs hLu hR fuel hfuel

/-- `generate_ordered_map_to_inner_left_unique_streamed`: the streamed maps are exactly the matched rows of the relational
    left join, i.e. (`inner_eq_sel_left`) the relational inner join. -/
theorem innerLU_streamed {L R : List Int} {cs : Nat} (inv : Int) (hcs : 0 < cs) (hLu : L.Pairwise (· < ·))
    (hR : Sorted R) (fuel : Nat) (hfuel : L.length + R.length ≤ fuel) :
    ∃ calls, streamed .innerLU fuel cs inv L R =
      .ok ⟨encL (sel false (leftJoin L R)), encR inv (sel false (leftJoin L R)), calls⟩ :=
  LU.unique_streamed (emit := false) hcs hLu hR fuel hfuel

/-- the same, phrased with the relational inner join -/
theorem innerLU_streamed_eq {L R : List Int} {cs : Nat} (inv : Int) (hcs : 0 < cs) (hLu : L.Pairwise (· < ·))
    (hR : Sorted R) (fuel : Nat) (hfuel : L.length + R.length ≤ fuel) :
    ∃ calls, streamed .innerLU fuel cs inv L R =
      .ok ⟨(encodeInner (innerJoin L R)).1, (encodeInner (innerJoin L R)).2, calls⟩ := by
  rw [encodeInner_fst, encodeInner_snd inv]
  exact innerLU_streamed inv hcs hLu hR fuel hfuel

/-- `driverFuel`, the budget the executable driver uses, is always enough -/
theorem leftLU_driverFuel {L R : List Int} {cs : Nat} (inv : Int) (hcs : 0 < cs) (hLu : L.Pairwise (· < ·)) (hR : Sorted R)
    (n : Nat) :
    ∃ calls, streamed .leftLU (driverFuel L R n) cs inv L R = .ok ⟨encL (leftJoin L R), encR inv (leftJoin L R), calls⟩ :=
  leftLU_streamed inv hcs hLu hR _ (by simp only [driverFuel]; omega)

theorem innerLU_driverFuel {L R : List Int} {cs : Nat} (inv : Int) (hcs : 0 < cs) (hLu : L.Pairwise (· < ·)) (hR : Sorted R)
    (n : Nat) :
    ∃ calls, streamed .innerLU (driverFuel L R n) cs inv L R =
      .ok ⟨encL (sel false (leftJoin L R)), encR inv (sel false (leftJoin L R)), calls⟩ :=
  innerLU_streamed inv hcs hLu hR _ (by simp only [driverFuel]; omega)

-- non-vacuity: duplicate-free left column, right runs longer than the chunk (and than the result buffer)
example : ([1, 2, 4, 5] : List Int).Pairwise (· < ·) ∧ Sorted [0, 1, 1, 1, 3, 4, 4] ∧ 0 < 2 := by
  refine ⟨by decide, by simp [Sorted], by decide⟩
example : (streamed .leftLU 11 2 (-1) [1, 2, 4, 5] [0, 1, 1, 1, 3, 4, 4]).toOption.map (fun o => (o.lout, o.rout)) =
    some (encodeLeft (-1) (leftJoin [1, 2, 4, 5] [0, 1, 1, 1, 3, 4, 4])) := by decide +kernel
example : (streamed .innerLU 11 1 0 [1, 2, 4, 5] [0, 1, 1, 1, 3, 4, 4]).toOption.map (fun o => (o.lout, o.rout)) =
    some (encodeInner (innerJoin [1, 2, 4, 5] [0, 1, 1, 1, 3, 4, 4])) := by decide +kernel

end Exetera.Join
