import Exetera.Lemmas.JournalSortIndex
/-!
  `journal_table` on tables in physical order is `journalSorted` on the sorted tables, and the plan of the sorted tables read
  back through the two sorted indices is the physical plan `planPhys` (C17, sorting part).  Last, a reading of
  `Spec.Journal.history` that does not mention the sorting algorithm.
-/
namespace Exetera.Journal
open Exetera Exetera.Spec.Journal

def permCol (osi nsi : List Nat) : Col → Col
  | .num o n => .num (osi.filterMap (o[·]?)) (nsi.filterMap (n[·]?))
  | .str o n => .str (osi.filterMap (o[·]?)) (nsi.filterMap (n[·]?))

/-- a source row of the sorted tables as a source row of the physical tables -/
def mapSrc (osi nsi : List Nat) : Src → Option Src
  | .old r => osi[r]?.map .old
  | .new j => nsi[j]?.map .new

theorem column_perm {α} {osi nsi : List Nat} {o n : List α} (ho : ∀ r, r ∈ osi → r < o.length)
    (hn : ∀ j, j ∈ nsi → j < n.length) (p : List Src) :
    column p (osi.filterMap (o[·]?)) (nsi.filterMap (n[·]?)) = column (p.filterMap (mapSrc osi nsi)) o n := by
  unfold column
  rw [List.filterMap_filterMap]
  refine congrArg (List.filterMap · p) (funext fun s => ?_)
  cases s with
  | old r => rw [pick, gather_getElem? ho, mapSrc]; cases osi[r]? <;> rfl
  | new j => rw [pick, gather_getElem? hn, mapSrc]; cases nsi[j]? <;> rfl

section perm
variable {osi nsi : List Nat} {lo ln : Nat} (ho : ∀ r, r ∈ osi → r < lo) (hn : ∀ j, j ∈ nsi → j < ln)
include ho hn

theorem gatherCol_ok {c : Col} (hwf : c.WF lo ln) : gatherCol osi nsi c = .ok (permCol osi nsi c) := by
  cases c <;>
    simp only [gatherCol, permCol, gatherE_ok (fun r hr => hwf.1 ▸ ho r hr), gatherE_ok (fun r hr => hwf.2 ▸ hn r hr)]

theorem applyIndexAll_ok : ∀ {cols : List Col}, (∀ c, c ∈ cols → c.WF lo ln) →
    applyIndexAll osi nsi cols = .ok ((cols.map (permCol osi nsi)).map Col.enc)
  | [], _ => rfl
  | c :: cs, h => by
    simp only [applyIndexAll, applyIndex, gatherCol_ok ho hn (h c List.mem_cons_self),
      applyIndexAll_ok (fun c' hc' => h c' (List.mem_cons_of_mem c hc')), List.map_cons]

theorem permCol_WF {c : Col} (hwf : c.WF lo ln) : (permCol osi nsi c).WF osi.length nsi.length := by
  cases c <;> exact ⟨gather_length (fun r hr => hwf.1 ▸ ho r hr), gather_length (fun r hr => hwf.2 ▸ hn r hr)⟩

theorem out_perm {c : Col} (hwf : c.WF lo ln) (p : List Src) :
    (permCol osi nsi c).out p = c.out (p.filterMap (mapSrc osi nsi)) := by
  cases c <;>
    simp only [permCol, Col.out, column_perm (fun r hr => hwf.1 ▸ ho r hr) (fun r hr => hwf.2 ▸ hn r hr)]

theorem differs_perm {c : Col} (hwf : c.WF lo ln) {r j a b : Nat} (ha : osi[r]? = some a) (hb : nsi[j]? = some b) :
    (permCol osi nsi c).differs r j = c.differs a b := by
  cases c <;>
    simp only [permCol, Col.differs, gather_getElem? (fun r hr => hwf.1 ▸ ho r hr), gather_getElem? (fun r hr => hwf.2 ▸ hn r hr),
      ha, hb, Option.bind_some]

theorem differsAny_perm {cols : List Col} (hwf : ∀ c, c ∈ cols → c.WF lo ln) {r j a b : Nat}
    (ha : osi[r]? = some a) (hb : nsi[j]? = some b) :
    differsAny (cols.map (permCol osi nsi)) r j = differsAny cols a b := by
  unfold differsAny
  rw [List.any_map]
  induction cols with
  | nil => rfl
  | cons c cs ih =>
    rw [List.any_cons, List.any_cons, Function.comp_apply, differs_perm ho hn (hwf c List.mem_cons_self) ha hb,
      ih (fun c' hc' => hwf c' (List.mem_cons_of_mem c hc'))]

end perm

theorem newPart_perm {osi nsi : List Nat} {d d' : Nat → Nat → Bool}
    (hd : ∀ r j a b, osi[r]? = some a → nsi[j]? = some b → d' r j = d a b) {j? r? : Option Nat}
    (hj : ∀ j, j? = some j → j < nsi.length) (hr : ∀ r, r? = some r → r < osi.length) :
    (newPart d' j? r?).filterMap (mapSrc osi nsi) = newPart d (j?.bind (nsi[·]?)) (r?.bind (osi[·]?)) := by
  cases j? with
  | none => rfl
  | some j =>
    have hj' := hj j rfl
    have hb : nsi[j]? = some nsi[j] := List.getElem?_eq_getElem hj'
    cases r? with
    | none => simp [newPart, keepFlag, mapSrc, hb]
    | some r =>
      have hr' := hr r rfl
      have ha : osi[r]? = some osi[r] := List.getElem?_eq_getElem hr'
      simp only [newPart, keepFlag, Option.bind_some, ha, hb, hd r j _ _ ha hb]
      split <;> simp [mapSrc, hb]

theorem plan_perm {oldIds oldVf newIds : List Int} (hvf : oldVf.length = oldIds.length) {d d' : Nat → Nat → Bool}
    (hd : ∀ r j a b, (oldIndex oldIds oldVf)[r]? = some a → (newIndex newIds)[j]? = some b → d' r j = d a b) :
    (plan ((oldIndex oldIds oldVf).map (keyAt oldIds)) ((newIndex newIds).map (keyAt newIds)) d').filterMap
        (mapSrc (oldIndex oldIds oldVf) (newIndex newIds)) = planPhys oldIds oldVf newIds d := by
  have hku : keyUnion ((oldIndex oldIds oldVf).map (keyAt oldIds)) ((newIndex newIds).map (keyAt newIds)) =
      keyUnion oldIds newIds :=
    sorted_ext (keyUnion_sorted _ _) (keyUnion_sorted _ _) (fun x => by
      rw [mem_keyUnion, mem_keyUnion, (map_keyAt_perm (oldIndex_perm hvf)).mem_iff, (map_keyAt_perm (newIndex_perm _)).mem_iff])
  unfold plan planPhys
  rw [hku, List.filterMap_flatMap]
  refine congrArg (List.flatMap · _) (funext fun k => ?_)
  have hpo : ∀ r, r ∈ positions k ((oldIndex oldIds oldVf).map (keyAt oldIds)) → r < (oldIndex oldIds oldVf).length :=
    fun r hr => List.length_map (keyAt oldIds) ▸ positions_lt hr
  have hpn : ∀ r, r ∈ positions k ((newIndex newIds).map (keyAt newIds)) → r < (newIndex newIds).length :=
    fun r hr => List.length_map (keyAt newIds) ▸ positions_lt hr
  unfold block
  rw [List.filterMap_append, List.filterMap_map]
  have h1 : (positions k ((oldIndex oldIds oldVf).map (keyAt oldIds))).filterMap
      (mapSrc (oldIndex oldIds oldVf) (newIndex newIds) ∘ Src.old) = (history oldIds oldVf k).map .old := by
    rw [history_eq hvf, ← positions_map_back, List.map_filterMap]
    rfl
  rw [h1, newPart_perm hd (fun j hj => hpn j (List.mem_of_mem_head? hj)) (fun r hr => hpo r (List.mem_of_mem_getLast? hr)),
    ← head?_filterMap_all (gather_isSome hpn), ← getLast?_filterMap_all (gather_isSome hpo), positions_map_back,
    positions_map_back, newIndex_filter, ← history_eq hvf]

/-- `hsorted` is `journalSorted_eq` (Lemmas/JournalTable.lean), a hypothesis here so that the sorting part does not import the
    kernels' proofs -/
theorem journalTable_of_sorted
    (hsorted : ∀ (ok nk : List Int) (cols : List Col), ok.Pairwise (· ≤ ·) → nk.Pairwise (· < ·) →
        (∀ c, c ∈ cols → c.WF ok.length nk.length) →
        journalSorted ok nk (cols.map Col.enc) ok.length = .ok (cols.map (Col.out (plan ok nk (differsAny cols)))))
    {oldIds oldVf newIds : List Int} {cols : List Col}
    (hvf : oldVf.length = oldIds.length) (hu : newIds.Nodup) (hwf : ∀ c, c ∈ cols → c.WF oldIds.length newIds.length) :
    journalTable oldIds oldVf newIds cols = .ok (cols.map (Col.out (planPhys oldIds oldVf newIds (differsAny cols)))) := by
  have ho : ∀ r, r ∈ oldIndex oldIds oldVf → r < oldIds.length := fun r hr => hvf ▸ mem_oldIndex.1 hr
  have hn : ∀ j, j ∈ newIndex newIds → j < newIds.length := fun j hj => mem_newIndex.1 hj
  have hlo : ((oldIndex oldIds oldVf).map (keyAt oldIds)).length = oldIds.length := by
    rw [List.length_map, length_oldIndex, hvf]
  have hwf' : ∀ c, c ∈ cols.map (permCol (oldIndex oldIds oldVf) (newIndex newIds)) →
      c.WF ((oldIndex oldIds oldVf).map (keyAt oldIds)).length ((newIndex newIds).map (keyAt newIds)).length := by
    intro c hc
    obtain ⟨c0, hc0, rfl⟩ := List.mem_map.1 hc
    rw [List.length_map, List.length_map]
    exact permCol_WF ho hn (hwf c0 hc0)
  have hs := hsorted ((oldIndex oldIds oldVf).map (keyAt oldIds)) ((newIndex newIds).map (keyAt newIds)) _
    (sortRowsBy_sorted (keyAt oldIds) _) (newKeys_strict hu) hwf'
  unfold journalTable
  simp only [sortIndex2_ok hvf, argsortStable_eq]
  rw [← newIndex, gatherE_keys ho, gatherE_keys hn]
  simp only [applyIndexAll_ok ho hn hwf]
  rw [← hlo, hs, List.map_map]
  refine congrArg Except.ok (List.map_congr_left (fun c hc => ?_))
  rw [Function.comp_apply, out_perm ho hn (hwf c hc), plan_perm hvf]
  exact fun r j a b ha hb => differsAny_perm ho hn hwf ha hb

/-- non-vacuity: both sides on a small table (two versions of key 1 out of time order, key 2, a new key 3) -/
example :
    journalTable [2, 1, 1] [1, 2, 1] [3, 1] [.num [20, 12, 11] [30, 13], .str [[5], [6, 7], []] [[8], [6, 7]]] =
      .ok ([Col.num [20, 12, 11] [30, 13], Col.str [[5], [6, 7], []] [[8], [6, 7]]].map
        (Col.out (planPhys [2, 1, 1] [1, 2, 1] [3, 1]
          (differsAny [.num [20, 12, 11] [30, 13], .str [[5], [6, 7], []] [[8], [6, 7]]])))) := by
  rfl

theorem mem_history {ids vf : List Int} (hvf : vf.length = ids.length) {k : Int} {r : Nat} :
    r ∈ history ids vf k ↔ ids[r]? = some k := by
  rw [history_eq hvf, List.mem_filter, mem_oldIndex, hvf]
  constructor
  · rintro ⟨h1, h2⟩
    rw [getElem?_eq_keyAt h1]
    simpa using h2
  · intro h
    have h1 : r < ids.length := (List.getElem?_eq_some_iff.1 h).1
    rw [getElem?_eq_keyAt h1] at h
    exact ⟨h1, by simpa using h⟩

theorem positionsFrom_ascending (k : Int) : ∀ (xs : List Int) (base : Nat),
    (positionsFrom k base xs).Pairwise (· < ·) ∧ ∀ r, r ∈ positionsFrom k base xs → base ≤ r
  | [], _ => ⟨List.Pairwise.nil, fun _ h => by cases h⟩
  | x :: xs, base => by
    obtain ⟨ih1, ih2⟩ := positionsFrom_ascending k xs (base + 1)
    have ih2' : ∀ r, r ∈ positionsFrom k (base + 1) xs → base ≤ r := fun r hr => Nat.le_of_succ_le (ih2 r hr)
    unfold positionsFrom
    split
    · exact ⟨List.Pairwise.cons ih2 ih1, fun r hr => (List.mem_cons.1 hr).elim (fun e => e ▸ Nat.le_refl _) (ih2' r)⟩
    · exact ⟨ih1, ih2'⟩

theorem rows_sublist (f : Nat → Option Int) : ∀ (l : List Nat),
    ((l.filterMap (fun r => (f r).map (·, r))).map (·.2)).Sublist l
  | [] => List.Sublist.slnil
  | a :: t => by
    rw [List.filterMap_cons]
    cases f a with
    | none => exact List.Sublist.cons _ (rows_sublist f t)
    | some v => exact List.Sublist.cons_cons _ (rows_sublist f t)

/-- the history of a key, with the times attached, is strictly ascending in (valid_from, physical row): equal times keep the
    physical order -/
theorem history_time_row_order (okeys ovf : List Int) (k : Int) :
    ∃ L : List (Int × Nat), history okeys ovf k = L.map (·.2) ∧ L.Pairwise TimeRowLt ∧
      ∀ p, p ∈ L → ovf[p.2]? = some p.1 ∧ okeys[p.2]? = some k := by
  refine ⟨sortByTime ((positions k okeys).filterMap (fun r => ovf[r]?.map (·, r))), rfl, ?_, ?_⟩
  · rw [sortByTime_eq]
    exact sortStable_lex ((positionsFrom_ascending k okeys 0).1.sublist (rows_sublist (fun r => ovf[r]?) (positions k okeys)))
  · intro p hp
    rw [sortByTime_eq, (sortStable_perm _).mem_iff, List.mem_filterMap] at hp
    obtain ⟨r, hr, he⟩ := hp
    cases hv : ovf[r]? with
    | none => rw [hv] at he; cases he
    | some t =>
      rw [hv, Option.map_some, Option.some.injEq] at he
      subst he
      exact ⟨hv, (mem_positions hr).2⟩

end Exetera.Journal
