import Exetera.Lemmas.TransformsCat
/-! C06: the row loop of `categorical_transform`. With fix NC06d it also reports the first row without a matching key; the
kernel as found computes the first component of that (`categoricalTransform_eq_fst`), so only the repaired loop is analysed.
The table `tbl` stays a variable: all that is used of it is that its scan finds what `lookup cats` finds. -/
namespace Exetera.Transforms
open Exetera Exetera.Spec.Transforms

theorem withCol_map {α β} (f : α → β) (c : Chunk) (b : Bool) (site : String) (k : Except Err α) :
    (withCol c b site k).map f = withCol c b site (k.map f) := by
  unfold withCol; split
  · rfl
  · split <;> rfl

theorem catRows_eq_fst (bm : ByteMap) (c : Chunk) (n i : Nat) (chunk : List Int) (fu : Option Nat) :
    catRows bm c n i chunk = (catRowsChecked bm c n i chunk fu).map Prod.fst := by
  induction n generalizing i chunk fu with
  | zero => rfl
  | succ n ih =>
    rw [catRows, catRowsChecked]
    split
    · rfl
    · cases matchRow bm c i with
      | error e => rfl
      | ok r =>
        obtain ⟨_, _, _ | v⟩ := r
        · exact ih _ _ _
        · dsimp only
          cases setE chunk i v "chunk[row_idx]" with
          | error e => rfl
          | ok chunk' => exact ih _ _ _

theorem categoricalTransform_eq_fst (bm : ByteMap) (c : Chunk) :
    categoricalTransform bm c = (categoricalTransformChecked bm c).map Prod.fst := by
  rw [categoricalTransform, categoricalTransformChecked, withCol_map, ← catRows_eq_fst]

theorem catRowsChecked_spec (tbl cats : List (Bytes × Int)) (hlk : ∀ cell, lastMatch cell tbl none = lookup cats cell)
    (c : Chunk) (rest : List Bytes) (i s n : Nat) (done : List Int) (fu : Option Nat) (h : EncFrom c i s rest)
    (hn : rest.length ≤ n) (hd : done.length = i) :
    catRowsChecked (packTable tbl) c n i (done ++ List.replicate rest.length 0) fu
      = .ok (done ++ rest.map (catCode cats), fu.or ((firstNoKey cats rest).map (· + i))) := by
  induction rest generalizing i s n done fu with
  | nil => cases n <;> simp [catRowsChecked, firstNoKey, hd]
  | cons cell rest ih =>
    cases n with
    | zero => simp at hn
    | succ n =>
      have hlt : ¬ (i ≥ (done ++ List.replicate (cell :: rest).length 0).length) := by simp; omega
      have hfu : (if fu.isNone then some i else fu) = fu.or (some i) := by cases fu <;> rfl
      have hsh : ((firstNoKey cats rest).map (· + 1)).map (· + i) = (firstNoKey cats rest).map (· + (i + 1)) := by
        cases firstNoKey cats rest <;> simp; omega
      rw [catRowsChecked, if_neg hlt, matchRow_spec tbl c i s cell rest h, hlk, hfu]
      simp only [firstNoKey, catCode, List.map_cons]
      cases hm : lookup cats cell with
      | none =>
        have e : done ++ List.replicate (cell :: rest).length 0 = (done ++ [0]) ++ List.replicate rest.length 0 := by
          simp [List.replicate_succ]
        simp only [e, ih (i + 1) (s + cell.length) n (done ++ [0]) _ h.2.2.2 (by simpa using hn) (by simp [hd])]
        simp
      | some v =>
        have := setE_prefix done rest.length 0 v "chunk[row_idx]"
        rw [hd] at this
        simp only [List.length_cons, this,
          ih (i + 1) (s + cell.length) n (done ++ [v]) fu h.2.2.2 (by simpa using hn) (by simp [hd])]
        simp [hsh]

/-- the `0` that `catCode` gives a cell that is no key is the initial value of the staging buffer (`np.zeros` in
    `import_part`), which the kernel leaves alone -/
theorem categoricalTransformChecked_spec (tbl cats : List (Bytes × Int))
    (hlk : ∀ cell, lastMatch cell tbl none = lookup cats cell) (c : Chunk) (cells : List Bytes) (h : Encodes c cells) :
    categoricalTransformChecked (packTable tbl) c = .ok (cells.map (catCode cats), firstNoKey cats cells) := by
  obtain ⟨hr, ⟨s0, he, _⟩, hcol⟩ := h
  have hlt := he.lt_inds
  have := catRowsChecked_spec tbl cats hlk c cells 0 s0 (c.inds.length - 1) [] none he (by omega) rfl
  rw [categoricalTransformChecked, withCol_ok c _ _ _ hcol]
  simpa [hr] using this

theorem firstNoKey_eq_none_iff (cats : List (Bytes × Int)) (cells : List Bytes) :
    firstNoKey cats cells = none ↔ ∀ cell ∈ cells, (lookup cats cell).isSome := by
  induction cells with
  | nil => simp [firstNoKey]
  | cons cell rest ih => cases hl : lookup cats cell <;> simp [firstNoKey, hl, ih]

theorem firstNoKey_eq_some (cats : List (Bytes × Int)) (cells : List Bytes) (r : Nat) (h : firstNoKey cats cells = some r) :
    ∃ pre x post, cells = pre ++ x :: post ∧ pre.length = r ∧ x ∉ cats.map (·.1) ∧ ∀ cell ∈ pre, cell ∈ cats.map (·.1) := by
  induction cells generalizing r with
  | nil => simp [firstNoKey] at h
  | cons cell rest ih =>
    simp only [firstNoKey] at h
    cases hl : lookup cats cell with
    | none =>
      simp [hl] at h
      exact ⟨[], cell, rest, rfl, by simpa using h, fun hm => by simpa [hl] using (lookup_isSome_iff cats cell).mpr hm, by simp⟩
    | some v =>
      simp only [hl, Option.isNone_some, Bool.false_eq_true, if_false, Option.map_eq_some_iff] at h
      obtain ⟨r', hr', rfl⟩ := h
      obtain ⟨pre, x, post, rfl, hlen, hx, hpre⟩ := ih r' hr'
      have hc : cell ∈ cats.map (·.1) := (lookup_isSome_iff cats cell).mp (by simp [hl])
      exact ⟨cell :: pre, x, post, rfl, by simp [hlen], hx, List.forall_mem_cons.mpr ⟨hc, hpre⟩⟩

theorem catColumn_eq (cats : List (Bytes × Int)) (cells : List Bytes) :
    catColumn cats cells =
      if ∀ cell ∈ cells, (lookup cats cell).isSome then some (cells.map (catCode cats)) else none := by
  induction cells with
  | nil => rfl
  | cons cell rest ih =>
    simp only [catColumn, ih, List.forall_mem_cons, catCode, List.map_cons]
    cases lookup cats cell with
    | none => simp
    | some v =>
      by_cases hr : ∀ x ∈ rest, (lookup cats x).isSome
      · rw [if_pos hr, if_pos ⟨rfl, hr⟩]; rfl
      · rw [if_neg hr, if_neg (fun h => hr h.2)]

theorem catColumn_eq_map (cats : List (Bytes × Int)) (cells : List Bytes)
    (h : ∀ cell ∈ cells, (lookup cats cell).isSome) : catColumn cats cells = some (cells.map (catCode cats)) := by
  rw [catColumn_eq, if_pos h]

theorem catColumn_eq_none (cats : List (Bytes × Int)) (cells : List Bytes)
    (h : ¬ ∀ cell ∈ cells, (lookup cats cell).isSome) : catColumn cats cells = none := by
  rw [catColumn_eq, if_neg h]

theorem catColumn_isSome_iff (cats : List (Bytes × Int)) (cells : List Bytes) :
    (catColumn cats cells).isSome ↔ ∀ cell ∈ cells, (lookup cats cell).isSome := by
  rw [catColumn_eq]; split
  · rename_i h; exact ⟨fun _ => h, fun _ => rfl⟩
  · rename_i h; exact ⟨fun hs => by simp at hs, fun hs => absurd hs h⟩

theorem catColumn_append (cats : List (Bytes × Int)) (a b : List Bytes) :
    catColumn cats (a ++ b) = match catColumn cats a, catColumn cats b with
      | some x, some y => some (x ++ y)
      | _, _ => none := by
  induction a with
  | nil => cases hb : catColumn cats b <;> simp [catColumn, hb]
  | cons cell rest ih =>
    simp only [List.cons_append, catColumn, ih]
    cases lookup cats cell <;> cases catColumn cats rest <;> cases catColumn cats b <;> rfl

theorem categoricalImportPart_spec (cats : List (Bytes × Int)) (hnd : (cats.map (·.1)).Nodup) (c : Chunk)
    (cells : List Bytes) (h : Encodes c cells) :
    categoricalImportPart (getByteMap cats) c =
      match catColumn cats cells with
      | some codes => .ok codes
      | none => .error notACategory := by
  rw [categoricalImportPart, getByteMap,
    categoricalTransformChecked_spec _ cats (lastMatch_getByteMap cats hnd) c cells h, catColumn_eq]
  by_cases hall : ∀ cell ∈ cells, (lookup cats cell).isSome
  · rw [(firstNoKey_eq_none_iff cats cells).mpr hall, if_pos hall]
  · rw [if_neg hall]
    cases hf : firstNoKey cats cells with
    | none => exact absurd ((firstNoKey_eq_none_iff cats cells).mp hf) hall
    | some r => rfl

end Exetera.Transforms
