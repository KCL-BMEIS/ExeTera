import Exetera.Model.Journal
import Exetera.Lemmas.JournalSpec
import Exetera.Lemmas.While
/-!
  `ordered_generate_journalling_indices`.

  * For ascending old keys and strictly ascending snapshot keys the writing pass returns `Spec.Journal.indices`: every
    iteration of any of the three loops consumes the block of the smallest key not yet consumed, and the specification of the
    consumed prefixes grows by one slot (`indices_snoc`). Only partial correctness is needed, termination coming from the
    second part.
  * On every pair of key columns both passes terminate without leaving an array: the counting pass consumes at least one row
    per iteration, and the writing pass takes exactly the same steps, so `joint < total` at every write.
-/
namespace Exetera.Journal
open Exetera Exetera.Spec.Journal

/-- the scan stops on the last row of the run of `old[i]`, not after it: the run has `m + 1` rows -/
theorem skipRunFrom_spec (old : List Int) : ∀ (f i : Nat) (hi : i < old.length), old.length ≤ i + 1 + f →
    ∃ m, skipRunFrom old f i = i + m ∧ i + m < old.length ∧
      old.take (i + m + 1) = old.take i ++ List.replicate (m + 1) old[i] ∧
      ∀ h : i + m + 1 < old.length, old[i + m + 1] ≠ old[i]
  | 0, i, hi, hf =>
    ⟨0, rfl, hi, List.take_succ_eq_append_getElem hi, fun h => absurd h (Nat.not_lt.2 hf)⟩
  | f + 1, i, hi, hf => by
    unfold skipRunFrom
    split
    · rename_i hc
      simp only [Bool.and_eq_true, decide_eq_true_eq, beq_iff_eq] at hc
      obtain ⟨hi1, hc⟩ := hc
      have heq : old[i + 1] = old[i] := by
        simpa only [List.getElem?_eq_getElem hi1, List.getElem?_eq_getElem hi, Option.some.injEq] using hc
      obtain ⟨m, he, hlt, htake, hne⟩ := skipRunFrom_spec old f (i + 1) hi1 (by omega)
      simp only [Nat.add_right_comm i 1 m] at he hlt htake hne
      refine ⟨m + 1, he, hlt, ?_, fun h => heq ▸ hne h⟩
      rw [show i + (m + 1) + 1 = i + m + 1 + 1 from rfl, htake, List.take_succ_eq_append_getElem hi, heq, List.append_assoc,
        List.replicate_succ (n := m + 1), List.singleton_append]
    · rename_i hc
      refine ⟨0, rfl, hi, List.take_succ_eq_append_getElem hi, ?_⟩
      intro h heq
      apply hc
      simp only [Bool.and_eq_true, decide_eq_true_eq, beq_iff_eq]
      exact ⟨h, by rw [List.getElem?_eq_getElem h, List.getElem?_eq_getElem hi, heq]⟩

theorem skipRun_spec (old : List Int) (i : Nat) (hi : i < old.length) :
    ∃ m, skipRun old i = i + m ∧ i + m < old.length ∧
      old.take (i + m + 1) = old.take i ++ List.replicate (m + 1) old[i] ∧
      ∀ h : i + m + 1 < old.length, old[i + m + 1] ≠ old[i] :=
  skipRunFrom_spec old (old.length - i) i hi (by omega)

theorem getElem_mem_drop {l : List Int} {i : Nat} (h : i < l.length) : l[i] ∈ l.drop i :=
  List.mem_drop_iff_getElem.2 ⟨0, by omega, by simp⟩

theorem sorted_getElem_le {l : List Int} (h : l.Pairwise (· ≤ ·)) {p q : Nat} (hpq : p ≤ q) (hq : q < l.length) :
    l[p]'(Nat.lt_of_le_of_lt hpq hq) ≤ l[q] := by
  by_cases e : p = q
  · subst e; exact Int.le_refl _
  · exact List.pairwise_iff_getElem.1 h p q (by omega) hq (by omega)

theorem mem_drop_ge_of_sorted {l : List Int} (h : l.Pairwise (· ≤ ·)) {j : Nat} (hj : j < l.length) {y : Int}
    (hy : y ∈ l.drop j) : l[j] ≤ y := by
  obtain ⟨t, ht, rfl⟩ := List.mem_drop_iff_getElem.1 hy
  exact sorted_getElem_le h (Nat.le_add_right j t) (by omega)

theorem mem_drop_succ_gt_of_strict {l : List Int} (h : l.Pairwise (· < ·)) {j : Nat} (hj : j < l.length) {y : Int}
    (hy : y ∈ l.drop (j + 1)) : l[j] < y := by
  obtain ⟨t, ht, rfl⟩ := List.mem_drop_iff_getElem.1 hy
  exact List.pairwise_iff_getElem.1 h j (j + 1 + t) hj (by omega) (by omega)

theorem mem_drop_gt_of_ne {l : List Int} (h : l.Pairwise (· ≤ ·)) {i e : Nat} (hie : i ≤ e) (he : e < l.length)
    (hne : l[e] ≠ l[i]'(Nat.lt_of_le_of_lt hie he)) {y : Int} (hy : y ∈ l.drop e) : l[i]'(Nat.lt_of_le_of_lt hie he) < y := by
  have h1 := sorted_getElem_le h hie he
  have h2 := mem_drop_ge_of_sorted h he hy
  omega

/-! ### the boundary invariant: everything consumed is smaller than everything left -/

structure Bnd (old new : List Int) (i j : Nat) : Prop where
  hi : i ≤ old.length
  hj : j ≤ new.length
  lt : ∀ x, x ∈ old.take i ∨ x ∈ new.take j → ∀ y, y ∈ old.drop i ∨ y ∈ new.drop j → x < y

theorem Bnd.zero (old new : List Int) : Bnd old new 0 0 :=
  ⟨Nat.zero_le _, Nat.zero_le _, fun x hx => by simp at hx⟩

theorem Bnd.step {old new : List Int} {i j i' j' : Nat} {k : Int} (hb : Bnd old new i j) (hii : i ≤ i') (hjj : j ≤ j')
    (hi' : i' ≤ old.length) (hj' : j' ≤ new.length)
    (hcons : ∀ x, x ∈ old.take i' ∨ x ∈ new.take j' → (x ∈ old.take i ∨ x ∈ new.take j) ∨ x = k)
    (hrem : ∀ y, y ∈ old.drop i' ∨ y ∈ new.drop j' → k < y) : Bnd old new i' j' := by
  refine ⟨hi', hj', fun x hx y hy => ?_⟩
  rcases hcons x hx with hx | rfl
  · exact hb.lt x hx y (hy.imp (List.drop_subset_drop_left old hii ·) (List.drop_subset_drop_left new hjj ·))
  · exact hrem y hy

theorem emit_some {cap : Nat} {s s' : JS} {a b : Int} (h : emit (some cap) s a b = .ok s') :
    s' = { s with ob := s.ob ++ [a], nb := s.nb ++ [b] } := by
  simp only [emit] at h
  split at h
  · exact (Except.ok.inj h).symm
  · cases h

structure PInv (old new : List Int) (s : JS) : Prop where
  bnd : Bnd old new s.i s.j
  out : (s.ob, s.nb) = indices (old.take s.i) (new.take s.j)

section steps
variable {old new : List Int} {s s' : JS} {cap : Nat}

/-- consuming the block of the next key `k`: `m` old rows and the snapshot row iff `b` -/
theorem PInv.block (hp : PInv old new s) {m : Nat} {b : Bool} {k : Int} (hmb : 0 < m ∨ b = true)
    (hi' : s.i + m ≤ old.length) (hj' : s.j + b.toNat ≤ new.length)
    (ho : old.take (s.i + m) = old.take s.i ++ List.replicate m k)
    (hn : new.take (s.j + b.toNat) = snocNew (new.take s.j) b k)
    (hk : k ∈ old.drop s.i ∨ k ∈ new.drop s.j)
    (hrem : ∀ y, y ∈ old.drop (s.i + m) ∨ y ∈ new.drop (s.j + b.toNat) → k < y) :
    PInv old new { s with i := s.i + m, j := s.j + b.toNat,
                          ob := s.ob ++ [idxOr (List.range' (old.take s.i).length m).getLast?],
                          nb := s.nb ++ [idxOr (if b then [(new.take s.j).length] else []).head?] } := by
  have hlt : ∀ x, x ∈ old.take s.i ∨ x ∈ new.take s.j → x < k := fun x hx => hp.bnd.lt x hx k hk
  refine ⟨hp.bnd.step (Nat.le_add_right _ _) (Nat.le_add_right _ _) hi' hj' ?_ hrem, ?_⟩
  · intro x hx
    rw [ho, hn, snocNew, List.mem_append, List.mem_append, List.mem_replicate] at hx
    rcases hx with (hx | hx) | (hx | hx)
    · exact Or.inl (Or.inl hx)
    · exact Or.inr hx.2
    · exact Or.inl (Or.inr hx)
    · cases b
      · cases hx
      · exact Or.inr (List.mem_singleton.1 hx)
  · show (_, _) = indices (old.take (s.i + m)) (new.take (s.j + b.toNat))
    rw [ho, hn, indices_snoc hlt hmb, ← hp.out]

theorem oldEntry_take (hi : s.i ≤ old.length) (m : Nat) :
    idxOr (List.range' (old.take s.i).length (m + 1)).getLast? = ((s.i + m : Nat) : Int) := by
  simp only [List.getLast?_range', Nat.add_one_ne_zero, if_false, List.length_take, Nat.min_eq_left hi, idxOr]
  rfl

theorem newEntry_take (hj : s.j ≤ new.length) : idxOr (if true then [(new.take s.j).length] else []).head? = (s.j : Int) := by
  simp only [if_true, List.head?_cons, List.length_take, Nat.min_eq_left hj, idxOr]

variable (hso : old.Pairwise (· ≤ ·)) (hsn : new.Pairwise (· < ·))
include hso

theorem skipRun_block (i : Nat) (hi : i < old.length) :
    ∃ m, skipRun old i = i + m ∧ i + m < old.length ∧
      old.take (i + m + 1) = old.take i ++ List.replicate (m + 1) old[i] ∧ ∀ y, y ∈ old.drop (i + m + 1) → old[i] < y := by
  obtain ⟨m, he, hlt, htake, hne⟩ := skipRun_spec old i hi
  refine ⟨m, he, hlt, htake, fun y hy => ?_⟩
  obtain ⟨t, ht, -⟩ := List.mem_drop_iff_getElem.1 hy
  have hlt' : i + m + 1 < old.length := Nat.lt_of_le_of_lt (Nat.le_add_left _ t) ht
  exact mem_drop_gt_of_ne hso (Nat.le_succ_of_le (Nat.le_add_right i m)) hlt' (hne hlt') hy

theorem step_old (hp : PInv old new s) (hi : s.i < old.length) (hgt : ∀ y, y ∈ new.drop s.j → old[s.i] < y)
    (h : oldStep (some cap) old s = .ok s') : PInv old new s' ∧ s'.j = s.j := by
  obtain ⟨m, he, hlt, htake, hrem⟩ := skipRun_block hso s.i hi
  simp only [oldStep] at h
  split at h
  · rename_i s1 hem
    cases h; cases emit_some hem
    have := hp.block (m := m + 1) (b := false) (k := old[s.i]) (Or.inl (Nat.succ_pos m)) hlt hp.bnd.hj htake
      (List.append_nil _).symm (Or.inl (getElem_mem_drop hi)) (fun y hy => hy.elim (hrem y) (hgt y))
    rw [oldEntry_take hp.bnd.hi] at this
    refine ⟨?_, rfl⟩
    rw [he]
    exact this
  · cases h

include hsn

omit hso in
theorem step_new (hp : PInv old new s) (hj : s.j < new.length) (hgt : ∀ y, y ∈ old.drop s.i → new[s.j] < y)
    (h : newStep (some cap) s = .ok s') : PInv old new s' ∧ s'.i = s.i := by
  simp only [newStep] at h
  split at h
  · rename_i s1 hem
    cases h; cases emit_some hem
    have := hp.block (m := 0) (b := true) (k := new[s.j]) (Or.inr rfl) hp.bnd.hi hj (List.append_nil _).symm
      (List.take_succ_eq_append_getElem hj) (Or.inr (getElem_mem_drop hj))
      (fun y hy => hy.elim (hgt y) (mem_drop_succ_gt_of_strict hsn hj))
    rw [newEntry_take (Nat.le_of_lt hj)] at this
    exact ⟨this, rfl⟩
  · cases h

theorem step_both (hp : PInv old new s) (hi : s.i < old.length) (hj : s.j < new.length) (heq : old[s.i] = new[s.j])
    (h : bothStep (some cap) old s = .ok s') : PInv old new s' := by
  obtain ⟨m, he, hlt, htake, hrem⟩ := skipRun_block hso s.i hi
  simp only [bothStep] at h
  split at h
  · rename_i s1 hem
    cases h; cases emit_some hem
    have := hp.block (m := m + 1) (b := true) (k := old[s.i]) (Or.inl (Nat.succ_pos m)) hlt hj htake
      (heq ▸ List.take_succ_eq_append_getElem hj) (Or.inl (getElem_mem_drop hi))
      (fun y hy => hy.elim (hrem y) (fun hy => heq ▸ mem_drop_succ_gt_of_strict hsn hj hy))
    rw [oldEntry_take hp.bnd.hi, newEntry_take (Nat.le_of_lt hj)] at this
    rw [he]
    exact this
  · cases h

theorem step_main (hp : PInv old new s) (hi : s.i < old.length) (hj : s.j < new.length)
    (h : mainBody (some cap) old new s = .ok s') : PInv old new s' := by
  simp only [mainBody, getE_of_lt _ hi, getE_of_lt _ hj] at h
  split at h
  · rename_i hab
    refine (step_old hso hp hi (fun y hy => ?_) h).1
    exact Int.lt_of_lt_of_le hab (mem_drop_ge_of_sorted (hsn.imp Int.le_of_lt) hj hy)
  · split at h
    · rename_i hba
      refine (step_new hsn hp hj (fun y hy => ?_) h).1
      exact Int.lt_of_lt_of_le hba (mem_drop_ge_of_sorted hso hi hy)
    · rename_i hab hba
      exact step_both hso hsn hp hi hj (Int.le_antisymm (Int.not_lt.1 hba) (Int.not_lt.1 hab)) h

theorem pass_spec {r : JS} (h : pass (some cap) old new = .ok r) : (r.ob, r.nb) = indices old new := by
  simp only [pass] at h
  split at h
  · cases h
  · rename_i s1 h1
    split at h
    · cases h
    · rename_i s2 h2
      obtain ⟨hp1, hg1⟩ := whileE_invariant _ _ (PInv old new)
        (fun s s1 hp hg hb => by
          simp only [Bool.and_eq_true, decide_eq_true_eq] at hg
          exact step_main hso hsn hp hg.1 hg.2 hb) _ _ _ ⟨Bnd.zero old new, rfl⟩ h1
      simp only [Bool.and_eq_false_iff, decide_eq_false_iff_not, Nat.not_lt] at hg1
      obtain ⟨⟨hp2, -⟩, hg2⟩ := whileE_invariant _ _ (fun s => PInv old new s ∧ (old.length ≤ s.i ∨ new.length ≤ s.j))
        (fun s s1 hp hg hb => by
          have hg := of_decide_eq_true hg
          have hjl : new.length ≤ s.j := hp.2.resolve_left (Nat.not_le.2 hg)
          obtain ⟨hp', hj'⟩ := step_old hso hp.1 hg
            (fun y hy => by rw [List.drop_of_length_le hjl] at hy; cases hy) hb
          exact ⟨hp', Or.inr (hj' ▸ hjl)⟩) _ _ _ ⟨hp1, hg1⟩ h2
      have hi2 : s2.i = old.length := Nat.le_antisymm hp2.bnd.hi (Nat.not_lt.1 (of_decide_eq_false hg2))
      obtain ⟨⟨hp3, hi3⟩, hg3⟩ := whileE_invariant _ _ (fun s => PInv old new s ∧ s.i = old.length)
        (fun s s1 hp hg hb => by
          obtain ⟨hp', hi'⟩ := step_new hsn hp.1 (of_decide_eq_true hg)
            (fun y hy => by rw [List.drop_of_length_le (Nat.le_of_eq hp.2.symm)] at hy; cases hy) hb
          exact ⟨hp', hi'.trans hp.2⟩) _ _ _ ⟨hp2, hi2⟩ h
      have hj3 : r.j = new.length := Nat.le_antisymm hp3.bnd.hj (Nat.not_lt.1 (of_decide_eq_false hg3))
      have := hp3.out
      rwa [hi3, hj3, List.take_length, List.take_length] at this

end steps

/-- the writing pass's state `s'` is in step with the counting pass's state `s` -/
def InStep (s s' : JS) : Prop := s'.i = s.i ∧ s'.j = s.j ∧ s'.ob.length = s.n ∧ s'.nb.length = s.n

/-- with room for one more slot, the writing pass makes the step `b` that took the counting pass from `s` to `s1` -/
def Follows (b : Option Nat → JS → Except Err JS) (s s1 : JS) : Prop :=
  ∀ cap s', InStep s s' → s.n < cap → ∃ s1', b (some cap) s' = .ok s1' ∧ InStep s1 s1'

section safe
variable {old new : List Int} {s : JS}

theorem oldStep_ok (hi : s.i < old.length) :
    ∃ s1, oldStep none old s = .ok s1 ∧ s1.n = s.n + 1 ∧ s.i < s1.i ∧ s1.i ≤ old.length ∧ s1.j = s.j ∧
      Follows (oldStep · old) s s1 := by
  obtain ⟨m, he, hlt, -, -⟩ := skipRun_spec old s.i hi
  exact ⟨_, rfl, rfl, he.symm ▸ Nat.lt_succ_of_le (Nat.le_add_right _ _), he.symm ▸ hlt, rfl, fun cap s' ⟨h1, h2, h3, h4⟩ hc =>
    ⟨_, by simp only [oldStep, emit, h3, hc, if_true]; rfl, by simp [InStep, h1, h2, h3, h4]⟩⟩

theorem newStep_ok :
    ∃ s1, newStep none s = .ok s1 ∧ s1.n = s.n + 1 ∧ s1.i = s.i ∧ s1.j = s.j + 1 ∧ Follows newStep s s1 :=
  ⟨_, rfl, rfl, rfl, rfl, fun cap s' ⟨h1, h2, h3, h4⟩ hc =>
    ⟨_, by simp only [newStep, emit, h3, hc, if_true]; rfl, by simp [InStep, h1, h2, h3, h4]⟩⟩

theorem bothStep_ok (hi : s.i < old.length) :
    ∃ s1, bothStep none old s = .ok s1 ∧ s1.n = s.n + 1 ∧ s.i < s1.i ∧ s1.i ≤ old.length ∧ s1.j = s.j + 1 ∧
      Follows (bothStep · old) s s1 := by
  obtain ⟨m, he, hlt, -, -⟩ := skipRun_spec old s.i hi
  exact ⟨_, rfl, rfl, he.symm ▸ Nat.lt_succ_of_le (Nat.le_add_right _ _), he.symm ▸ hlt, rfl, fun cap s' ⟨h1, h2, h3, h4⟩ hc =>
    ⟨_, by simp only [bothStep, emit, h3, hc, if_true]; rfl, by simp [InStep, h1, h2, h3, h4]⟩⟩

theorem mainBody_ok (hi : s.i < old.length) (hj : s.j < new.length) :
    ∃ s1, mainBody none old new s = .ok s1 ∧ s1.n = s.n + 1 ∧ s1.i ≤ old.length ∧ s1.j ≤ new.length ∧
      s.i + s.j < s1.i + s1.j ∧ Follows (mainBody · old new) s s1 := by
  have heq : ∀ w s', s'.i = s.i → s'.j = s.j → mainBody w old new s' =
      if old[s.i] < new[s.j] then oldStep w old s' else if old[s.i] > new[s.j] then newStep w s' else bothStep w old s' :=
    fun w s' h1 h2 => by unfold mainBody; rw [h1, h2]; simp only [getE_of_lt _ hi, getE_of_lt _ hj]
  rw [heq none s rfl rfl]
  by_cases hab : old[s.i] < new[s.j]
  · obtain ⟨s1, h, hn, h1, h2, h3, hf⟩ := oldStep_ok hi
    refine ⟨s1, (if_pos hab).trans h, hn, h2, h3 ▸ Nat.le_of_lt hj, h3 ▸ Nat.add_lt_add_right h1 _, fun cap s' hr hc => ?_⟩
    show ∃ s1', mainBody (some cap) old new s' = .ok s1' ∧ InStep s1 s1'
    rw [heq _ s' hr.1 hr.2.1, if_pos hab]
    exact hf cap s' hr hc
  · rw [if_neg hab]
    by_cases hba : old[s.i] > new[s.j]
    · obtain ⟨s1, h, hn, h1, h2, hf⟩ := newStep_ok (s := s)
      refine ⟨s1, (if_pos hba).trans h, hn, h1 ▸ Nat.le_of_lt hi, h2 ▸ hj, ?_, fun cap s' hr hc => ?_⟩
      · rw [h1, h2]; exact Nat.lt_succ_self _
      · show ∃ s1', mainBody (some cap) old new s' = .ok s1' ∧ InStep s1 s1'
        rw [heq _ s' hr.1 hr.2.1, if_neg hab, if_pos hba]
        exact hf cap s' hr hc
    · obtain ⟨s1, h, hn, h1, h2, h3, hf⟩ := bothStep_ok hi
      refine ⟨s1, (if_neg hba).trans h, hn, h2, h3 ▸ hj, h3 ▸ Nat.add_lt_add h1 (Nat.lt_succ_self _), fun cap s' hr hc => ?_⟩
      show ∃ s1', mainBody (some cap) old new s' = .ok s1' ∧ InStep s1 s1'
      rw [heq _ s' hr.1 hr.2.1, if_neg hab, if_neg hba]
      exact hf cap s' hr hc

end safe

/-- the same loop of a writing pass follows a loop of the counting pass step by step provided the capacity is at least the
    final count: the counter only grows, so there is room for a slot at every step -/
theorem loop_ok (g : JS → Bool) (b : Option Nat → JS → Except Err JS) (Inv : JS → Prop) (μ : JS → Nat)
    (hg : ∀ s s', InStep s s' → g s' = g s)
    (hstep : ∀ s, Inv s → g s = true → ∃ s1, b none s = .ok s1 ∧ s1.n = s.n + 1 ∧ Inv s1 ∧ μ s1 < μ s ∧ Follows b s s1) :
    ∀ (fuel : Nat) (s : JS), Inv s → μ s ≤ fuel →
      ∃ c, whileE g (b none) fuel s = .ok c ∧ Inv c ∧ g c = false ∧ s.n ≤ c.n ∧
        ∀ cap s', InStep s s' → c.n ≤ cap → ∃ c', whileE g (b (some cap)) fuel s' = .ok c' ∧ InStep c c' := by
  have hstop : ∀ fuel s, Inv s → g s = false →
      ∃ c, whileE g (b none) fuel s = .ok c ∧ Inv c ∧ g c = false ∧ s.n ≤ c.n ∧
        ∀ cap s', InStep s s' → c.n ≤ cap → ∃ c', whileE g (b (some cap)) fuel s' = .ok c' ∧ InStep c c' :=
    fun fuel s hI hgs => ⟨s, by cases fuel <;> simp only [whileE, hgs, Bool.false_eq_true, if_false], hI, hgs, Nat.le_refl _,
      fun cap s' hr _ => ⟨s', by cases fuel <;> simp only [whileE, hg s s' hr, hgs, Bool.false_eq_true, if_false], hr⟩⟩
  intro fuel
  induction fuel with
  | zero =>
    intro s hI hμ
    cases hgs : g s with
    | false => exact hstop 0 s hI hgs
    | true =>
      obtain ⟨s1, -, -, -, hlt, -⟩ := hstep s hI hgs
      exact absurd hlt (Nat.not_lt.2 (Nat.le_trans hμ (Nat.zero_le _)))
  | succ fuel ih =>
    intro s hI hμ
    cases hgs : g s with
    | false => exact hstop _ s hI hgs
    | true =>
      obtain ⟨s1, hb, hn, hI1, hlt, hfol⟩ := hstep s hI hgs
      obtain ⟨c, hw, hIc, hgc, hle, hsim⟩ := ih s1 hI1 (Nat.le_of_lt_succ (Nat.lt_of_lt_of_le hlt hμ))
      have hsc : s.n < c.n := Nat.lt_of_lt_of_le (hn ▸ Nat.lt_succ_self s.n) hle
      refine ⟨c, by simp only [whileE, hgs, if_true, hb, hw], hIc, hgc, Nat.le_of_lt hsc, fun cap s' hr hc => ?_⟩
      obtain ⟨s1', hb', hr1⟩ := hfol cap s' hr (Nat.lt_of_lt_of_le hsc hc)
      obtain ⟨c', hw', hrc⟩ := hsim cap s1' hr1 hc
      exact ⟨c', by simp only [whileE, hg s s' hr, hgs, if_true, hb', hw'], hrc⟩

theorem passes_ok (old new : List Int) :
    ∃ c r, pass none old new = .ok c ∧ pass (some c.n) old new = .ok r ∧ r.ob.length = c.n ∧ r.nb.length = c.n := by
  have hg1 : ∀ {s : JS}, (decide (s.i < old.length) && decide (s.j < new.length)) = true → s.i < old.length ∧ s.j < new.length :=
    fun h => by simpa only [Bool.and_eq_true, decide_eq_true_eq] using h
  obtain ⟨s1, hw1, ⟨hi1, hj1⟩, -, hn1, hsim1⟩ := loop_ok (fun s => decide (s.i < old.length) && decide (s.j < new.length))
    (mainBody · old new) (fun s => s.i ≤ old.length ∧ s.j ≤ new.length) (fun s => old.length + new.length - (s.i + s.j))
    (fun s s' hr => by rw [hr.1, hr.2.1])
    (fun s _ hg => by
      obtain ⟨s1, h, hn, h1, h2, h3, hf⟩ := mainBody_ok (hg1 hg).1 (hg1 hg).2
      exact ⟨s1, h, hn, ⟨h1, h2⟩, Nat.sub_lt_sub_left (Nat.add_lt_add (hg1 hg).1 (hg1 hg).2) h3, hf⟩)
    (old.length + new.length) {} ⟨Nat.zero_le _, Nat.zero_le _⟩ (Nat.sub_le _ _)
  obtain ⟨s2, hw2, ⟨hi2, hj2⟩, -, hn2, hsim2⟩ := loop_ok (fun s => decide (s.i < old.length))
    (oldStep · old) (fun s => s.i ≤ old.length ∧ s.j ≤ new.length) (fun s => old.length - s.i)
    (fun s s' hr => by rw [hr.1])
    (fun s hI hg => by
      obtain ⟨s1, h, hn, h1, h2, h3, hf⟩ := oldStep_ok (of_decide_eq_true hg)
      exact ⟨s1, h, hn, ⟨h2, h3 ▸ hI.2⟩, Nat.sub_lt_sub_left (of_decide_eq_true hg) h1, hf⟩)
    old.length s1 ⟨hi1, hj1⟩ (Nat.sub_le _ _)
  obtain ⟨c, hw3, -, -, hn3, hsim3⟩ := loop_ok (fun s => decide (s.j < new.length))
    newStep (fun s => s.i ≤ old.length ∧ s.j ≤ new.length) (fun s => new.length - s.j)
    (fun s s' hr => by rw [hr.2.1])
    (fun s hI hg => by
      obtain ⟨s1, h, hn, h1, h2, hf⟩ := newStep_ok (s := s)
      exact ⟨s1, h, hn, ⟨h1 ▸ hI.1, h2 ▸ of_decide_eq_true hg⟩,
        h2 ▸ Nat.sub_lt_sub_left (of_decide_eq_true hg) (Nat.lt_succ_self _), hf⟩)
    new.length s2 ⟨hi2, hj2⟩ (Nat.sub_le _ _)
  obtain ⟨s1', hv1, hr1⟩ := hsim1 c.n {} ⟨rfl, rfl, rfl, rfl⟩ (Nat.le_trans hn2 hn3)
  obtain ⟨s2', hv2, hr2⟩ := hsim2 c.n s1' hr1 hn3
  obtain ⟨r, hv3, hr3⟩ := hsim3 c.n s2' hr2 (Nat.le_refl _)
  exact ⟨c, r, by simp only [pass, hw1, hw2, hw3], by simp only [pass, hv1, hv2, hv3], hr3.2.2.1, hr3.2.2.2⟩

/-- **memory safety and termination on every input**: whatever the two key columns contain (unsorted, duplicated, empty), both
    passes finish, no subscript leaves its array (in particular `joint < total` at every write), and the two maps have equal length -/
theorem journalIndices_safe (old new : List Int) :
    ∃ om nm, journalIndices old new = .ok (om, nm) ∧ om.length = nm.length := by
  obtain ⟨c, r, hc, hr, hlo, hln⟩ := passes_ok old new
  exact ⟨r.ob, r.nb, by simp only [journalIndices, hc, hr, hlo, hln, Nat.sub_self, List.replicate_zero, List.append_nil],
    hlo.trans hln.symm⟩

/-- **ordered_generate_journalling_indices**: for ascending old keys and strictly ascending snapshot keys both passes run to
    completion (no out-of-bounds access, no loop out of fuel) and return exactly the specified slots. -/
theorem journalIndices_eq {old new : List Int} (hso : old.Pairwise (· ≤ ·)) (hsn : new.Pairwise (· < ·)) :
    journalIndices old new = .ok (indices old new) := by
  obtain ⟨c, r, hc, hr, hlo, hln⟩ := passes_ok old new
  simp only [journalIndices, hc, hr, hlo, hln, Nat.sub_self, List.replicate_zero, List.append_nil, pass_spec hso hsn hr]

end Exetera.Journal
