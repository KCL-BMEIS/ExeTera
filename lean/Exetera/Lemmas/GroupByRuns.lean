import Exetera.Lemmas.SpansScan
import Exetera.Lemmas.SpansApply
import Exetera.Lemmas.Spans
import Exetera.Lemmas.SortIndexPass
import Exetera.Lemmas.LexOrder
/-!
  The list argument behind C07.  The spans of a key column cut the frame into its runs of adjacent rows with equal keys
  (`groupAdj`).  Reading a frame along a stable lexicographic sort index sorts the keys and keeps the rows of one key in
  their original order, so the runs of the frame read along the index are the group-by of the ORIGINAL frame.
-/
namespace Exetera.GroupBy
open Exetera Exetera.Spec Exetera.Spans Exetera.SortIndex List

def groupAdj {K V} [DecidableEq K] : List (K × V) → List (K × List V)
  | [] => []
  | (k, v) :: rest =>
    match groupAdj rest with
    | [] => [(k, [v])]
    | (k', vs) :: gs => if k = k' then (k, v :: vs) :: gs else (k, [v]) :: (k', vs) :: gs

theorem groupAdj_eq_nil {K V} [DecidableEq K] : ∀ (l : List (K × V)), groupAdj l = [] → l = []
  | [], _ => rfl
  | (k, v) :: rest, h => by
    simp only [groupAdj] at h
    split at h
    · simp at h
    · split at h <;> simp at h

theorem groupAdj_head {K V} [DecidableEq K] : ∀ (l : List (K × V)), (groupAdj l).head?.map (·.1) = l.head?.map (·.1)
  | [] => rfl
  | (k, v) :: rest => by
    simp only [groupAdj]
    split
    · simp
    · split <;> simp

theorem spans_singleton {α} (ne : α → α → Bool) (x : α) : spans ne [x] = [0, 1] := by
  simp [spans, isBoundary]

theorem isBoundary_cons_succ {α} (ne : α → α → Bool) (x : α) (l : List α) (i : Nat) (hi : 1 ≤ i) :
    isBoundary ne (x :: l) (i + 1) = isBoundary ne l i := by
  obtain ⟨j, rfl⟩ : ∃ j, i = j + 1 := ⟨i - 1, by omega⟩
  rw [isBoundary_succ, isBoundary_succ]
  simp

theorem spans_cons_cons {α} (ne : α → α → Bool) (x y : α) (rest : List α) :
    spans ne (x :: y :: rest) =
      0 :: ((if ne x y then [1] else []) ++ ((spans ne (y :: rest)).tail).map (· + 1)) := by
  rw [spans_eq_range' ne (x :: y :: rest) (by simp), spans_eq_range' ne (y :: rest) (by simp)]
  simp only [length_cons, Nat.add_sub_cancel, tail_cons, map_append, map_cons, map_nil]
  rw [range'_succ, filter_cons]
  have h1 : isBoundary ne (x :: y :: rest) 1 = ne x y := by simp [isBoundary]
  have h2 : range' (1 + 1) rest.length = (range' 1 rest.length).map (· + 1) := by
    have := map_add_range' (a := 1) 1 rest.length 1
    rw [← this]; apply map_congr_left; intro a _; omega
  rw [h1, h2, filter_map]
  have h3 : filter (isBoundary ne (x :: y :: rest) ∘ fun x => x + 1) (range' 1 rest.length) =
      filter (isBoundary ne (y :: rest)) (range' 1 rest.length) := by
    apply filter_congr
    intro i hi
    rw [mem_range'_1] at hi
    exact isBoundary_cons_succ ne x (y :: rest) i hi.1
  rw [h3]
  split <;> simp

theorem pairs_map_succ (l : List Nat) : pairs (l.map (· + 1)) = (pairs l).map (fun p => (p.1 + 1, p.2 + 1)) := by
  unfold pairs
  rw [← map_tail, zip_map]
  rfl

theorem slice_cons_succ {α} (t : α) (T : List α) (a b : Nat) : slice (t :: T) (a + 1) (b + 1) = slice T a b := by
  simp [slice]

theorem slice_cons_zero {α} (t : α) (T : List α) (b : Nat) : slice (t :: T) 0 (b + 1) = t :: slice T 0 b := by
  simp [slice]

theorem spans_shape {α} (ne : α → α → Bool) (y : α) (rest : List α) : ∃ b S, spans ne (y :: rest) = 0 :: b :: S := by
  rw [spans_eq_range' ne (y :: rest) (by simp)]
  cases h : filter (isBoundary ne (y :: rest)) (range' 1 ((y :: rest).length - 1)) with
  | nil => exact ⟨_, [], rfl⟩
  | cons b S => exact ⟨b, S ++ [(y :: rest).length], rfl⟩

theorem pairs_spans_eq_groupAdj {K V} [DecidableEq K] [BEq K] [LawfulBEq K] : ∀ (xs : List K) (T : List V), T.length = xs.length →
    (pairs (spans neq xs)).map (fun p => (xs[p.1]?, slice T p.1 p.2)) =
      (groupAdj (xs.zip T)).map (fun g => (some g.1, g.2))
  | [], T, _ => by simp [spans, pairs, groupAdj]
  | [x], [t], _ => by simp [spans_singleton, pairs, groupAdj, slice]
  | [_], [], h => by simp at h
  | [_], _ :: _ :: _, h => by simp at h
  | _ :: _ :: _, [], h => by simp at h
  | x :: y :: rest, t :: T, h => by
    have hT : T.length = (y :: rest).length := by simpa using h
    have ih := pairs_spans_eq_groupAdj (y :: rest) T hT
    obtain ⟨b, S, hS⟩ := spans_shape (neq (α := K)) y rest
    rw [spans_cons_cons, hS]
    rw [hS] at ih
    simp only [tail_cons, map_cons]
    cases hg : groupAdj ((y :: rest).zip T) with
    | nil => have := groupAdj_eq_nil _ hg; cases T <;> simp at this hT
    | cons g gs =>
      obtain ⟨k', vs⟩ := g
      rw [hg, pairs_cons_cons, map_cons, map_cons] at ih
      simp only [getElem?_cons_zero, cons.injEq, Prod.mk.injEq, Option.some.injEq] at ih
      obtain ⟨⟨hk, hvs⟩, ihrest⟩ := ih
      have hshift : ∀ (l : List (Nat × Nat)),
          (l.map (fun p => (p.1 + 1, p.2 + 1))).map (fun p => ((x :: y :: rest)[p.1]?, slice (t :: T) p.1 p.2)) =
            l.map (fun p => ((y :: rest)[p.1]?, slice T p.1 p.2)) := by
        intro l
        rw [map_map]
        apply map_congr_left
        intro p _
        simp [slice_cons_succ]
      have hgrp : groupAdj ((x :: y :: rest).zip (t :: T)) =
          if x = k' then (x, t :: vs) :: gs else (x, [t]) :: (k', vs) :: gs := by
        simp only [zip_cons_cons, groupAdj, hg]
      rw [hgrp]
      by_cases hxy : x = y
      · subst hxy
        have hne : neq x x = false := by simp [neq]
        simp only [hne, Bool.false_eq_true, if_false, nil_append, hk.symm, if_true]
        rw [pairs_cons_cons, map_cons]
        have : pairs ((b + 1) :: map (· + 1) S) = (pairs (b :: S)).map (fun p => (p.1 + 1, p.2 + 1)) := by
          rw [← pairs_map_succ]; rfl
        rw [this, hshift, ihrest]
        simp [slice_cons_zero, hvs]
      · have hne : neq x y = true := by simp [neq, hxy]
        have hxk : ¬ x = k' := by rw [← hk]; exact hxy
        simp only [hne, if_true, hxk, if_false, singleton_append]
        rw [pairs_cons_cons, map_cons]
        have : pairs (1 :: (b + 1) :: map (· + 1) S) = (pairs (0 :: b :: S)).map (fun p => (p.1 + 1, p.2 + 1)) := by
          rw [← pairs_map_succ]; rfl
        rw [this, hshift, pairs_cons_cons, map_cons, ihrest]
        have hvs' : take b T = vs := by simpa [slice] using hvs
        simp [slice, hk, hvs']

def KeysSorted {V} (L : List (List Int × V)) : Prop := (L.map (·.1)).Pairwise (fun a b => tupleLt b a = false)

def valuesOf {V} (L : List (List Int × V)) (k : List Int) : List V := (L.filter (fun p => p.1 == k)).map (·.2)

theorem valuesOf_cons_self {V} (k : List Int) (v : V) (L : List (List Int × V)) :
    valuesOf ((k, v) :: L) k = v :: valuesOf L k := by simp [valuesOf]

theorem valuesOf_cons_ne {V} {k k' : List Int} (v : V) (L : List (List Int × V)) (h : k ≠ k') :
    valuesOf ((k, v) :: L) k' = valuesOf L k' := by simp [valuesOf, h]

theorem valuesOf_eq_nil {V} (L : List (List Int × V)) (k : List Int) (h : k ∉ L.map (·.1)) : valuesOf L k = [] := by
  simp only [valuesOf, map_eq_nil_iff, filter_eq_nil_iff]
  intro p hp heq
  apply h
  simp only [beq_iff_eq] at heq
  exact mem_map.2 ⟨p, hp, heq⟩

theorem groupAdj_sorted {V} : ∀ (L : List (List Int × V)), KeysSorted L →
    ((groupAdj L).map (·.1)).Pairwise (fun a b => tupleLt a b = true) ∧
    (∀ k, k ∈ (groupAdj L).map (·.1) ↔ k ∈ L.map (·.1)) ∧
    (groupAdj L).map (·.2) = ((groupAdj L).map (·.1)).map (valuesOf L)
  | [], _ => by simp [groupAdj]
  | (k, v) :: rest, hs => by
    have hs' : KeysSorted rest := by
      unfold KeysSorted at hs ⊢
      rw [map_cons, pairwise_cons] at hs
      exact hs.2
    have hle : ∀ k' ∈ rest.map (·.1), tupleLt k' k = false := by
      unfold KeysSorted at hs
      rw [map_cons, pairwise_cons] at hs
      exact hs.1
    obtain ⟨ih1, ih2, ih3⟩ := groupAdj_sorted rest hs'
    cases hg : groupAdj rest with
    | nil =>
      have := groupAdj_eq_nil rest hg
      subst this
      simp [groupAdj, valuesOf]
    | cons g gs =>
      obtain ⟨k', vs⟩ := g
      rw [hg] at ih1 ih2 ih3
      simp only [map_cons, pairwise_cons] at ih1
      have hk'mem : k' ∈ rest.map (·.1) := (ih2 k').1 (by simp)
      have hkk' : tupleLt k' k = false := hle k' hk'mem
      have hgt : ∀ a ∈ gs.map (·.1), tupleLt k' a = true := ih1.1
      simp only [map_cons, cons.injEq] at ih3
      by_cases hkeq : k = k'
      · subst hkeq
        have hG : groupAdj ((k, v) :: rest) = (k, v :: vs) :: gs := by simp [groupAdj, hg]
        rw [hG]
        refine ⟨by simpa using ih1, ?_, ?_⟩
        · intro a
          have := ih2 a
          simp only [map_cons, mem_cons] at this ⊢
          constructor
          · rintro (h | h)
            · exact Or.inl h
            · exact Or.inr (this.1 (Or.inr h))
          · rintro (h | h)
            · exact Or.inl h
            · exact this.2 h
        · simp only [map_cons, cons.injEq]
          refine ⟨by rw [valuesOf_cons_self, ← ih3.1], ?_⟩
          rw [ih3.2]
          apply map_congr_left
          intro a ha
          rw [valuesOf_cons_ne]
          exact tupleLt_strictTotal.ne_of_lt (hgt a ha)
      · have hlt : tupleLt k k' = true := (tupleLt_strictTotal.not_lt_iff.1 hkk').resolve_right hkeq
        have hG : groupAdj ((k, v) :: rest) = (k, [v]) :: (k', vs) :: gs := by simp [groupAdj, hg, hkeq]
        rw [hG]
        have hall : ∀ a ∈ ((k', vs) :: gs).map (·.1), tupleLt k a = true := by
          intro a ha
          simp only [map_cons, mem_cons] at ha
          rcases ha with rfl | ha
          · exact hlt
          · exact tupleLt_strictTotal.trans hlt (hgt a ha)
        have hknot : k ∉ rest.map (·.1) := by
          intro hmem
          have := hall k ((ih2 k).2 hmem)
          rw [tupleLt_strictTotal.irrefl] at this; cases this
        refine ⟨?_, ?_, ?_⟩
        · simp only [map_cons, pairwise_cons]
          refine ⟨?_, ih1⟩
          intro a ha
          exact hall a (by simpa using ha)
        · intro a
          have := ih2 a
          simp only [map_cons, mem_cons] at this ⊢
          constructor
          · rintro (h | h)
            · exact Or.inl h
            · exact Or.inr (this.1 h)
          · rintro (h | h)
            · exact Or.inl h
            · exact Or.inr (this.2 h)
        · simp only [map_cons, cons.injEq]
          refine ⟨by rw [valuesOf_cons_self, valuesOf_eq_nil rest k hknot], ?_, ?_⟩
          · rw [valuesOf_cons_ne _ _ hkeq]; exact ih3.1
          · rw [ih3.2]
            apply map_congr_left
            intro a ha
            rw [valuesOf_cons_ne]
            exact tupleLt_strictTotal.ne_of_lt (hall a (by simp [ha]))

def rowsBy (cols : List (List Int)) (n : Nat) : List (List Int) := (List.range n).map (keyAt cols)

theorem getElem?_rowsBy (cols : List (List Int)) (n i : Nat) (h : i < n) : (rowsBy cols n)[i]? = some (keyAt cols i) := by
  simp [rowsBy, h]

def frameAlong {V} (cols : List (List Int)) (T : List V) (d : V) (idx : List Nat) : List (List Int × V) :=
  idx.map (fun i => (keyAt cols i, T.getD i d))

theorem zip_rowsBy {V} (cols : List (List Int)) (T : List V) (d : V) (n : Nat) (hT : T.length = n) :
    (rowsBy cols n).zip T = frameAlong cols T d (List.range n) := by
  apply List.ext_getElem
  · simp [rowsBy, frameAlong, hT]
  · intro i h1 h2
    simp only [rowsBy, frameAlong, length_zip, length_map, length_range] at h1 h2
    simp [rowsBy, frameAlong, List.getD_eq_getElem?_getD, List.getElem?_eq_getElem (show i < T.length by omega)]

theorem select_eq_valuesOf {V} (rows : List (List Int)) (T : List V) (k : List Int) :
    select rows T k = valuesOf (rows.zip T) k := rfl

theorem keysSorted_frameAlong {V} (cols : List (List Int)) (T : List V) (d : V) (idx : List Nat)
    (hs : idx.Pairwise (ltBy cols)) : KeysSorted (frameAlong cols T d idx) := by
  unfold KeysSorted frameAlong
  rw [map_map, pairwise_map]
  refine hs.imp ?_
  intro a b hab
  rcases hab with h | ⟨h, _⟩
  · exact tupleLt_strictTotal.asymm h
  · simp only [Function.comp]; rw [h]; exact tupleLt_strictTotal.irrefl _

theorem filter_key_eq (cols : List (List Int)) (n : Nat) (idx : List Nat) (hperm : idx.Perm (List.range n))
    (hs : idx.Pairwise (ltBy cols)) (k : List Int) :
    idx.filter (fun i => keyAt cols i == k) = (List.range n).filter (fun i => keyAt cols i == k) := by
  apply pairwise_lt_ext
  · have := hs.sublist (filter_sublist (p := fun i => keyAt cols i == k))
    refine this.imp_of_mem ?_
    intro a b ha hb hab
    simp only [mem_filter, beq_iff_eq] at ha hb
    rcases hab with h | ⟨_, h⟩
    · rw [ha.2, hb.2, tupleLt_strictTotal.irrefl] at h; cases h
    · exact h
  · exact pairwise_lt_range.sublist filter_sublist
  · intro i
    simp only [mem_filter]
    rw [hperm.mem_iff]

theorem valuesOf_frameAlong {V} (cols : List (List Int)) (T : List V) (d : V) (idx : List Nat) (k : List Int) :
    valuesOf (frameAlong cols T d idx) k = (idx.filter (fun i => keyAt cols i == k)).map (fun i => T.getD i d) := by
  unfold valuesOf frameAlong
  rw [filter_map, map_map]
  rfl

theorem groups_along_index {V} (cols : List (List Int)) (T : List V) (d : V) (n : Nat) (idx : List Nat)
    (hperm : idx.Perm (List.range n)) (hs : idx.Pairwise (ltBy cols)) (hT : T.length = n) :
    DistinctAscending (rowsBy cols n) ((groupAdj (frameAlong cols T d idx)).map (·.1)) ∧
    (groupAdj (frameAlong cols T d idx)).map (·.2) =
      ((groupAdj (frameAlong cols T d idx)).map (·.1)).map (select (rowsBy cols n) T) := by
  obtain ⟨h1, h2, h3⟩ := groupAdj_sorted (frameAlong cols T d idx) (keysSorted_frameAlong cols T d idx hs)
  refine ⟨⟨h1, ?_⟩, ?_⟩
  · intro k
    rw [h2]
    simp only [frameAlong, rowsBy, map_map, mem_map, Function.comp]
    constructor
    · rintro ⟨i, hi, rfl⟩
      exact ⟨i, hperm.mem_iff.1 hi, rfl⟩
    · rintro ⟨i, hi, rfl⟩
      exact ⟨i, hperm.mem_iff.2 hi, rfl⟩
  · rw [h3]
    apply map_congr_left
    intro k _
    rw [select_eq_valuesOf, zip_rowsBy cols T d n hT, valuesOf_frameAlong, valuesOf_frameAlong,
      filter_key_eq cols n idx hperm hs k]

theorem select_length {V} : ∀ (rows : List (List Int)) (T : List V) (k : List Int), T.length = rows.length →
    (select rows T k).length = rows.count k
  | [], T, k, _ => by simp [select]
  | r :: rows, [], k, h => by simp at h
  | r :: rows, t :: T, k, h => by
    have ih := select_length rows T k (by simpa using h)
    simp only [select, zip_cons_cons, filter_cons, count_cons] at ih ⊢
    by_cases hr : r = k
    · simp [hr, ih]
    · have : (r == k) = false := by simpa using hr
      simp [this, ih]

theorem range_sorted_index (cols : List (List Int)) (n : Nat)
    (h : ∀ i j, i < j → j < n → tupleLt (keyAt cols j) (keyAt cols i) = false) :
    (List.range n).Pairwise (ltBy cols) := by
  rw [pairwise_iff_getElem]
  intro i j hi hj hij
  simp only [length_range] at hi hj
  simp only [getElem_range]
  rcases tupleLt_strictTotal.not_lt_iff.1 (h i j hij hj) with h' | h'
  · exact Or.inl h'
  · exact Or.inr ⟨h', hij⟩

theorem distinctAscending_unique {rows k₁ k₂ : List (List Int)} (h₁ : DistinctAscending rows k₁)
    (h₂ : DistinctAscending rows k₂) : k₁ = k₂ :=
  pairwise_ext (fun a h => by rw [tupleLt_strictTotal.irrefl] at h; cases h) (fun h h' => by rw [tupleLt_strictTotal.asymm h] at h'; cases h')
    h₁.1 h₂.1 (fun x => (h₁.2 x).trans (h₂.2 x).symm)

theorem isGroupBy_unique {V} {rows : List (List Int)} {tgt : List V} {agg : List V → Option V} {k₁ k₂ : List (List Int)}
    {v₁ v₂ : List V} (h₁ : IsGroupBy rows tgt agg k₁ v₁) (h₂ : IsGroupBy rows tgt agg k₂ v₂) : k₁ = k₂ ∧ v₁ = v₂ := by
  have hk := distinctAscending_unique h₁.1 h₂.1
  subst hk
  refine ⟨rfl, ?_⟩
  have := h₁.2.trans h₂.2.symm
  exact (map_inj_right (fun _ _ h => Option.some.inj h)).1 this

end Exetera.GroupBy
