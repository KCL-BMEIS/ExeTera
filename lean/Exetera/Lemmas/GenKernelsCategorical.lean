import Exetera.Gen.Kernels
import Exetera.Model.Transforms
import Exetera.Lemmas.GenKernels
import Exetera.Lemmas.GenKernelsSpans
/-!
  The TRANSLATED `categorical_transform` (three nested `for` loops: rows with `break`, keys with `continue`, bytes with `break`;
  2-D subscripts `column_inds[i_c, row_idx]`) against `Transforms.categoricalTransform` — transfer form: every `.ok` run of the
  model is a run of the translated kernel on a zero-filled `chunk` with the same final `chunk`.

  The model's `Chunk` carries the column's own row of `column_inds` and its own entry of `column_offsets`; the kernel receives the
  whole staging arrays: the hypothesis `Staged` says that row / entry `col` of the arrays passed are the chunk's.
-/
namespace Exetera.GenK

open Exetera Exetera.PyRt Exetera.Transforms Exetera.Gen.Kernels

/-- the staging arrays passed to a kernel hold the chunk's column at subscript `c.col` -/
structure Staged (c : Chunk) (cinds : List (List Int)) (coffs : List Int) : Prop where
  hinds : cinds[c.col]? = some (ints c.inds)
  hoff : coffs[c.col]? = some (c.off : Int)

theorem matchRow_eq_ok {bm : ByteMap} {c : Chunk} {i s e : Nat} {m : Option Int} :
    matchRow bm c i = .ok (s, e, m) ↔ c.inds[i]? = some s ∧ c.inds[i + 1]? = some e ∧
      scanKeys bm c.vals (c.off + s) ((e : Int) - (s : Int)) (bm.index.length - 1) 0 none = .ok m := by
  cases hs : c.inds[i]? with
  | none => simp [matchRow, getE, hs]
  | some s' =>
    cases he : c.inds[i + 1]? with
    | none => simp [matchRow, getE, hs, he]
    | some e' =>
      simp only [matchRow, getE, hs, he, Option.some.injEq]
      constructor
      · intro h
        split at h
        · cases h
        · rename_i r hr; cases h; exact ⟨rfl, rfl, hr⟩
      · rintro ⟨rfl, rfl, h⟩; rw [h]

namespace Cat

abbrev St := categorical_transform.St

abbrev loop3 (n : Nat) (k : Int) (s : St) : Except Err St :=
  forRangeAux (fun s => s.brk3) (fun k s => categorical_transform.body_L3 { s with v8 := k }) n k s

abbrev loop2 (n : Nat) (k : Int) (s : St) : Except Err St :=
  forRangeAux (fun _ => false) (fun k s => categorical_transform.body_L2 { s with v5 := k }) n k s

abbrev loop1 (n : Nat) (k : Int) (s : St) : Except Err St :=
  forRangeAux (fun s => s.brk1) (fun k s => categorical_transform.body_L1 { s with v1 := k }) n k s

/-- the byte loop `for j in range(key_len)` -/
theorem key_sim (vals keys index : List Nat) (i lo P : Nat) (hlo : index[i]? = some lo) (s : St)
    (h3 : s.p3 = ints vals) (h5 : s.p5 = ints keys) (h6 : s.p6 = ints index) (hv5 : s.v5 = (i : Int))
    (hP : s.v0 + s.v2 = (P : Int)) (hb : s.brk3 = false) (r : Bool) (n j : Nat)
    (hr : keyEq vals keys n (P + j) (lo + j) = .ok r) :
    ∃ s', loop3 n (j : Int) s = .ok s' ∧ ∃ k' e', s' =
      if r then { s with v8 := k', v9 := e' } else { s with v7 := -1, brk3 := true, v8 := k', v9 := e' } := by
  refine forRangeAux_rule
    (fun n j t => (∃ k' e', t = { s with v8 := k', v9 := e' }) ∧ keyEq vals keys n (P + j) (lo + j) = .ok r) _ ?_ ?_
    n j s ⟨⟨s.v8, s.v9, rfl⟩, hr⟩
  · rintro j t ⟨⟨k', e', rfl⟩, h⟩
    cases h
    exact ⟨k', e', rfl⟩
  · rintro n j t ⟨⟨k', e', rfl⟩, h⟩
    simp only [keyEq] at h
    split at h
    · cases h
    · rename_i a ha
      split at h
      · cases h
      · rename_i b hb'
        rw [getE_eq_ok] at ha hb'
        simp only [categorical_transform.body_L3, hP, idxE_at hv5, idxE_nat_add, getE_ofNat h6 hlo, getE_ofNat h3 ha,
          getE_ofNat h5 hb', bindE_ok, natCast_bne]
        split at h
        · rename_i hab
          cases h
          simp only [hab, if_true]
          exact ⟨_, rfl, _, _, rfl⟩
        · rename_i hab
          simp only [hab, hb]
          exact ⟨_, rfl, ⟨_, _, rfl⟩, by simpa only [Nat.add_assoc] using h⟩

/-- what the key loop has stored into `chunk[row]` so far -/
def applyAcc (chunk : List Int) (row : Nat) : Option Int → List Int
  | none => chunk
  | some v => chunk.set row v

theorem applyAcc_set (chunk : List Int) (row : Nat) (acc : Option Int) (v : Int) :
    (applyAcc chunk row acc).set row v = applyAcc chunk row (some v) := by
  cases acc <;> simp [applyAcc]

theorem applyAcc_length (chunk : List Int) (row : Nat) (acc : Option Int) : (applyAcc chunk row acc).length = chunk.length := by
  cases acc <;> simp [applyAcc]

/-- the key loop `for i in range(len(cat_index) - 1)` -/
theorem scan_sim (bm : ByteMap) (vals : List Nat) (P row : Nat) (s : St) (h3 : s.p3 = ints vals) (h5 : s.p5 = ints bm.keys)
    (h6 : s.p6 = ints bm.index) (h7 : s.p7 = bm.values) (hP : s.v0 + s.v2 = (P : Int)) (hv1 : s.v1 = (row : Int))
    (hb : s.brk3 = false) (hrow : row < s.p0.length) (r : Option Int) (n : Nat)
    (hr : scanKeys bm vals P s.v4 n 0 none = .ok r) :
    ∃ s', loop2 n ((0 : Nat) : Int) s = .ok s' ∧ ∃ a b c d e, s' =
      { s with p0 := applyAcc s.p0 row r, v5 := a, v6 := b, v7 := c, v8 := d, v9 := e } := by
  refine forRangeAux_rule
    (fun n i t => ∃ acc, (∃ a b c d e, t = { s with p0 := applyAcc s.p0 row acc, v5 := a, v6 := b, v7 := c, v8 := d, v9 := e }) ∧
      scanKeys bm vals P s.v4 n i acc = .ok r) _ ?_ ?_ n 0 s ⟨none, ⟨_, _, _, _, _, rfl⟩, hr⟩
  · rintro i t ⟨acc, ⟨a, b, c, d, e, rfl⟩, h⟩
    cases h
    exact ⟨a, b, c, d, e, rfl⟩
  · rintro n i t ⟨acc, ⟨a, b, c, d, e, rfl⟩, h⟩
    simp only [scanKeys] at h
    split at h
    · cases h
    · rename_i hi hhi
      split at h
      · cases h
      · rename_i lo hlo
        rw [getE_eq_ok] at hhi hlo
        simp only [categorical_transform.body_L2, idxE_nat, idxE_nat_succ, getE_ofNat h6 hhi, getE_ofNat h6 hlo, bindE_ok]
        split at h
        · rename_i hk
          simp only [hk, if_true]
          exact ⟨_, rfl, acc, ⟨_, _, _, _, _, rfl⟩, h⟩
        · rename_i hk
          simp only [hk, forRangeB_zero]
          cases hke : keyEq vals bm.keys s.v4.toNat P lo with
          | error e => rw [hke] at h; cases h
          | ok m =>
            obtain ⟨s', hrun, k', e', hs'⟩ := key_sim vals bm.keys bm.index i lo P hlo
              { s with p0 := applyAcc s.p0 row acc, v5 := (i : Int), v6 := (hi : Int) - (lo : Int), v7 := (i : Int), v8 := d, v9 := e }
              h3 h5 h6 rfl hP hb m s.v4.toNat 0 hke
            simp only [Bool.false_eq_true, if_false, hrun, bindE_ok]
            rw [hke] at h
            cases m
            · simp only [↓reduceIte, Bool.false_eq_true] at hs'
              subst hs'
              exact ⟨_, rfl, acc, ⟨_, _, _, _, _, by rw [hb]⟩, h⟩
            · simp only [↓reduceIte] at hs'
              subst hs'
              simp only at h
              split at h
              · cases h
              · rename_i v hv
                rw [getE_eq_ok] at hv
                simp only [idxE_nat, setIdxE_at hv1, h7 ▸ getE_of_some _ hv, bindE_ok,
                  setE_ok _ _ _ _ (show row < (applyAcc s.p0 row acc).length by rw [applyAcc_length]; exact hrow), applyAcc_set]
                exact ⟨_, rfl, some v, ⟨_, _, _, _, _, by rw [hb]⟩, h⟩

/-- the row loop `for row_idx in range(len(column_inds[i_c]) - 1)` -/
theorem rows_sim (bm : ByteMap) (c : Chunk) (s : St) (h1 : s.p1 = (c.col : Int)) (h2 : s.p2[c.col]? = some (ints c.inds))
    (h3 : s.p3 = ints c.vals) (h5 : s.p5 = ints bm.keys) (h6 : s.p6 = ints bm.index) (h7 : s.p7 = bm.values)
    (hv0 : s.v0 = (c.off : Int)) (hb1 : s.brk1 = false) (hb3 : s.brk3 = false) (r : List Int) (n : Nat)
    (hr : catRows bm c n 0 s.p0 = .ok r) :
    ∃ s', loop1 n ((0 : Nat) : Int) s = .ok s' ∧ s'.p0 = r := by
  refine forRangeAux_rule
    (fun n i t => ∃ chunk, (∃ a1 a2 a3 a4 a5 a6 a7 a8 a9, t =
        { s with p0 := chunk, v1 := a1, v2 := a2, v3 := a3, v4 := a4, v5 := a5, v6 := a6, v7 := a7, v8 := a8, v9 := a9 }) ∧
      catRows bm c n i chunk = .ok r) _ ?_ ?_ n 0 s
    ⟨s.p0, ⟨_, _, _, _, _, _, _, _, _, rfl⟩, hr⟩
  · rintro i t ⟨chunk, ⟨a1, a2, a3, a4, a5, a6, a7, a8, a9, rfl⟩, h⟩
    cases h
    rfl
  · rintro n i t ⟨chunk, ⟨a1, a2, a3, a4, a5, a6, a7, a8, a9, rfl⟩, h⟩
    simp only [catRows] at h
    simp only [categorical_transform.body_L1, pyLen, ge_iff_le, Int.ofNat_le]
    split at h
    · rename_i hge
      cases h
      simp only [ge_iff_le] at hge
      simp only [hge, decide_true, if_true, bindE_ok]
      exact ⟨_, rfl, rfl⟩
    · rename_i hge
      simp only [ge_iff_le] at hge
      cases hm : matchRow bm c i with
      | error e => rw [hm] at h; cases h
      | ok x =>
        obtain ⟨s0, e0, m⟩ := x
        rw [hm] at h
        obtain ⟨hs0, he0, hsc⟩ := matchRow_eq_ok.mp hm
        have hto : (((s.p6.length : Nat) : Int) - 1).toNat = bm.index.length - 1 := by
          rw [h6, ints_length]; exact toNat_natCast_sub_one _
        obtain ⟨s', hrun, b5, b6, b7, b8, b9, rfl⟩ := scan_sim bm c.vals (c.off + s0) i
          { s with p0 := chunk, v1 := (i : Int), v2 := (s0 : Int), v3 := (e0 : Int), v4 := (e0 : Int) - (s0 : Int), v5 := a5,
                   v6 := a6, v7 := a7, v8 := a8, v9 := a9, brk1 := false }
          h3 h5 h6 h7 (by rw [Int.natCast_add]; exact congrArg (· + _) hv0) rfl hb3 (Nat.lt_of_not_le hge) m
          (bm.index.length - 1) hsc
        simp only [hge, decide_false, Bool.false_eq_true, if_false, bindE_ok, hb1, idxE_at h1, getE_of_some _ h2, idxE_nat,
          idxE_nat_succ, getE_map_ofNat _ _ _ hs0, getE_map_ofNat _ _ _ he0, forRangeE_zero, hto, hrun]
        cases m
        · exact ⟨_, rfl, chunk, ⟨_, _, _, _, _, _, _, _, _, rfl⟩, h⟩
        · simp only [setE_ok _ _ _ _ (Nat.lt_of_not_le hge)] at h
          exact ⟨_, rfl, _, ⟨_, _, _, _, _, _, _, _, _, rfl⟩, h⟩

end Cat

theorem categorical_transform_ok (bm : ByteMap) (c : Chunk) (cinds : List (List Int)) (coffs : List Int)
    (hst : Staged c cinds coffs) (r : List Int) (h : categoricalTransform bm c = .ok r) :
    categorical_transform.run (List.replicate c.rows 0) (c.col : Int) cinds (ints c.vals) coffs (ints bm.keys) (ints bm.index)
      bm.values = .ok r := by
  unfold categoricalTransform withCol at h
  split at h
  · cases h
  · split at h
    · cases h
    · obtain ⟨s', hrun, hp0⟩ := Cat.rows_sim bm c
        { p0 := List.replicate c.rows 0, p1 := c.col, p2 := cinds, p3 := ints c.vals, p4 := coffs, p5 := ints bm.keys,
          p6 := ints bm.index, p7 := bm.values, v0 := c.off, v1 := 0, v2 := 0, v3 := 0, v4 := 0, v5 := 0, v6 := 0, v7 := 0,
          v8 := 0, v9 := 0, brk1 := false, brk3 := false }
        rfl hst.hinds rfl rfl rfl rfl rfl rfl rfl r (c.inds.length - 1) h
      have hto : (pyLen (ints c.inds) - 1).toNat = c.inds.length - 1 := by
        rw [pyLen, ints_length]; exact toNat_natCast_sub_one _
      simp only [categorical_transform.run, idxE_nat, getE_of_some _ hst.hoff, getE_of_some _ hst.hinds, bindE_ok,
        forRangeB_zero, hto, hrun, hp0]

end Exetera.GenK
