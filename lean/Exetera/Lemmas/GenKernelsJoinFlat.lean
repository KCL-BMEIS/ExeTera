import Exetera.Gen.Kernels
import Exetera.Model.JoinFlat
import Exetera.Lemmas.While
import Exetera.Lemmas.GenKernels
import Exetera.Lemmas.GenKernelsJoin
import Exetera.Lemmas.GenKernelsSpansIdxMinIndexed
/-!
  The TRANSLATED flat (whole-array) join kernels of C19 against the guard/body models of `Model/JoinFlat.lean`:

    generate_ordered_map_to_left_both_unique    ~  generateLeft true
    generate_ordered_map_to_left_right_unique   ~  generateLeft false
    ordered_inner_map_both_unique               ~  orderedInnerMap false false
    ordered_inner_map_left_unique               ~  orderedInnerMap false true
    ordered_inner_map                           ~  orderedInnerMap true true
    ordered_inner_map_result_size               ~  innerResultSize

  The model keeps the part of a result array written so far as the list `out`; the translated kernels, like the code, store
  at a position of the caller's array. Relation (`Over`): `array[:pos]` = the model's `out`, `array[pos:]` still the caller's
  entries, loop variables equal. A one-iteration simulation is carried through the model's loops for any generated state type
  (`whileE_mono` lets every loop run on the kernel's single fuel), so each kernel needs its guard and its one-iteration lemma
  only. The models' bodies are `match`es on pairs of reads; they are put in `bindE` form once.
-/
namespace Exetera.GenK

open Exetera Exetera.PyRt Exetera.Gen.Kernels Exetera.Join Exetera.JoinFlat

theorem innerBody_eq (scanL scanR : Bool) (left right : List Int) (cap : Nat) (s : IS) :
    innerBody scanL scanR left right cap s =
      bindE (getE left s.i "left[i]") fun a => bindE (getE right s.j "right[j]") fun b =>
      if a < b then .ok { s with i := s.i + 1 }
      else if a > b then .ok { s with j := s.j + 1 }
      else bindE (runLen scanL left s.i) fun n => bindE (runLen scanR right s.j) fun m =>
        if s.lo.length + n * m ≤ cap then
          .ok { i := s.i + n, j := s.j + m, lo := s.lo ++ blockL m s.i n, ro := s.ro ++ blockR s.j m n }
        else .error (.oob "left_to_inner[cur_m]") := by
  unfold innerBody
  cases getE left s.i "left[i]" <;> cases getE right s.j "right[j]" <;> try rfl
  cases runLen scanL left s.i <;> cases runLen scanR right s.j <;> rfl

theorem sizeBody_eq (left right : List Int) (s : ZS) :
    sizeBody left right s =
      bindE (getE left s.i "left[i]") fun a => bindE (getE right s.j "right[j]") fun b =>
      if a < b then .ok { s with i := s.i + 1 }
      else if a > b then .ok { s with j := s.j + 1 }
      else bindE (runLen true left s.i) fun n => bindE (runLen true right s.j) fun m =>
        .ok { i := s.i + n, j := s.j + m, size := s.size + n * m } := by
  unfold sizeBody
  cases getE left s.i "left[i]" <;> cases getE right s.j "right[j]" <;> try rfl
  cases runLen true left s.i <;> cases runLen true right s.j <;> rfl

theorem leftBody_eq (bu : Bool) (first second : List Int) (cap : Nat) (inv : Int) (s : LS) :
    leftBody bu first second cap inv s =
      bindE (getE first s.i "first[i]") fun a => bindE (getE second s.j "second[j]") fun b =>
      if a < b then
        if s.i < cap then .ok { s with out := s.out ++ [inv], i := s.i + 1, unmapped := s.unmapped + 1 }
        else .error (.oob "result[i]")
      else if a > b then .ok { s with j := s.j + 1 }
      else if s.i < cap then
        if bu then .ok { s with out := s.out ++ [(s.j : Int)], i := s.i + 1, j := s.j + 1 }
        else if s.i + 1 ≥ first.length then .ok { s with out := s.out ++ [(s.j : Int)], i := s.i + 1, j := s.j + 1 }
        else bindE (getE first (s.i + 1) "first[i+1]") fun a1 =>
          if (a1 != a) = true then .ok { s with out := s.out ++ [(s.j : Int)], i := s.i + 1, j := s.j + 1 }
          else .ok { s with out := s.out ++ [(s.j : Int)], i := s.i + 1 }
      else .error (.oob "result[i]") := by
  unfold leftBody
  cases getE first s.i "first[i]" <;> cases getE second s.j "second[j]" <;> try rfl
  cases getE first (s.i + 1) "first[i+1]" <;> rfl

/-- `buf` is the caller's `result` with its first `i` places overwritten by `out` -/
def Over (result : List Int) (i : Nat) (buf out : List Int) : Prop :=
  buf.length = result.length ∧ out.length = i ∧ buf.take i = out ∧ buf.drop i = result.drop i

theorem Over.init (result : List Int) : Over result 0 result [] := ⟨rfl, rfl, rfl, rfl⟩

theorem Over.lt {result buf out : List Int} {i : Nat} (h : Over result i buf out) (hi : i < result.length) : i < buf.length := by
  rw [h.1]; exact hi

theorem Over.store {result buf out : List Int} {i : Nat} (h : Over result i buf out) (hi : i < result.length) (v : Int) :
    Over result (i + 1) (buf.set i v) (out ++ [v]) := by
  obtain ⟨hl, ho, ht, hd⟩ := h
  refine ⟨by rw [List.length_set, hl], by rw [List.length_append, ho, List.length_singleton], ?_, ?_⟩
  · rw [take_succ_set _ _ _ (by omega), ht]
  · rw [List.drop_set_of_lt (by omega), ← List.drop_drop, ← List.drop_drop, hd]

theorem Over.final {result buf out : List Int} {i : Nat} (h : Over result i buf out) : buf = out ++ result.drop out.length := by
  obtain ⟨_, ho, ht, hd⟩ := h
  rw [ho, ← ht, ← hd, List.take_append_drop]

/-- the model checks that position `i` exists before it appends to `out`; the kernel's checked store makes the same test -/
theorem OkFollows.store {β γ} {Q : β → γ → Prop} {result buf out : List Int} {i : Nat} (hO : Over result i buf out) (v : Int)
    (site : String) {f : List Int → Except Err β} {b : Except Err γ} {e : Err}
    (h : i < result.length → OkFollows Q (f (buf.set i v)) b) :
    OkFollows Q (bindE (setIdxE buf (i : Int) v site) f) (if i < result.length then b else .error e) :=
  .guard fun hc => by rw [setIdxE_of_lt _ _ (hO.lt hc), bindE_ok]; exact h hc

/-- a simulation of `leftBody` / `leftTailBody` by the two loops of a translated kernel carries every `.ok` run of
    `generateLeft` over to them, on any fuel ≥ len(first) + len(second) -/
theorem generateLeft_sim {σ} (bu : Bool) (first second result : List Int) (inv : Int) (R : σ → LS → Prop)
    (g1 g2 : σ → Bool) (b1 b2 : σ → Except Err σ)
    (hg1 : ∀ s t, R s t → g1 s = leftGuard first second t)
    (hb1 : ∀ s t t', R s t → leftBody bu first second result.length inv t = .ok t' → ∃ s', b1 s = .ok s' ∧ R s' t')
    (hg2 : ∀ s t, R s t → g2 s = decide (t.i < first.length))
    (hb2 : ∀ s t t', R s t → leftTailBody result.length inv t = .ok t' → ∃ s', b2 s = .ok s' ∧ R s' t')
    (s0 : σ) (h0 : R s0 {}) (r : Bool × List Int) (fuel : Nat) (hf : first.length + second.length ≤ fuel)
    (h : generateLeft bu first second result inv = .ok r) :
    first.length = result.length ∧ ∃ s1 s2 t2, whileE g1 b1 fuel s0 = .ok s1 ∧ whileE g2 b2 fuel s1 = .ok s2 ∧ R s2 t2 ∧
      r = (decide (t2.unmapped > 0), t2.out ++ result.drop t2.out.length) := by
  unfold generateLeft at h
  by_cases hlen : first.length = result.length
  · rw [if_neg (fun hne => (bne_iff_ne.mp hne) hlen)] at h
    cases h1 : whileE (leftGuard first second) (leftBody bu first second result.length inv) (first.length + second.length) {} with
    | error e => rw [h1] at h; simp at h
    | ok t1 =>
      rw [h1] at h
      simp only [] at h
      cases h2 : whileE (fun s => decide (s.i < first.length)) (leftTailBody result.length inv) first.length t1 with
      | error e => rw [h2] at h; simp at h
      | ok t2 =>
        rw [h2] at h
        simp only [Except.ok.injEq] at h
        obtain ⟨s1, hw1, hR1⟩ := whileE_sim R g1 b1 _ _ hg1 (fun s t t' hR _ hb => hb1 s t t' hR hb) fuel s0 {} t1 h0
          (whileE_mono _ _ _ _ _ h1 fuel hf)
        obtain ⟨s2, hw2, hR2⟩ := whileE_sim R g2 b2 _ _ hg2 (fun s t t' hR _ hb => hb2 s t t' hR hb) fuel s1 t1 t2 hR1
          (whileE_mono _ _ _ _ _ h2 fuel (by omega))
        exact ⟨hlen, s1, s2, t2, hw1, hw2, hR2, h.symm⟩
  · simp [hlen] at h

theorem decide_cast_pos (n : Nat) : decide ((n : Int) > 0) = decide (n > 0) :=
  decide_eq_decide.mpr Int.natCast_pos

namespace FBU

abbrev St := generate_ordered_map_to_left_both_unique.St

def R (first second result : List Int) (inv : Int) (s : St) (t : LS) : Prop :=
  ∃ buf, s = ⟨first, second, buf, inv, t.i, t.j, t.unmapped⟩ ∧ Over result t.i buf t.out

theorem guard1_eq (first second result : List Int) (inv : Int) (s : St) (t : LS) (h : R first second result inv s t) :
    generate_ordered_map_to_left_both_unique.guard_L1 s = leftGuard first second t := by
  obtain ⟨buf, rfl, _⟩ := h
  simp only [generate_ordered_map_to_left_both_unique.guard_L1, leftGuard, pyLen, Int.ofNat_lt]

theorem guard2_eq (first second result : List Int) (inv : Int) (s : St) (t : LS) (h : R first second result inv s t) :
    generate_ordered_map_to_left_both_unique.guard_L2 s = decide (t.i < first.length) := by
  obtain ⟨buf, rfl, _⟩ := h
  simp only [generate_ordered_map_to_left_both_unique.guard_L2, pyLen, Int.ofNat_lt]

theorem body1_sim (first second result : List Int) (inv : Int) (s : St) (t t' : LS) (h : R first second result inv s t)
    (hb : leftBody true first second result.length inv t = .ok t') :
    ∃ s', generate_ordered_map_to_left_both_unique.body_L1 s = .ok s' ∧ R first second result inv s' t' := by
  obtain ⟨buf, rfl, hO⟩ := h
  obtain ⟨i, j, u, out⟩ := t
  refine (?_ : OkFollows (R first second result inv) _ _) t' hb
  simp only [leftBody_eq, if_true, generate_ordered_map_to_left_both_unique.body_L1, idxE_nat]
  refine .getE _ _ _ _ fun a ha => .getE _ _ _ _ fun b hbb => ?_
  simp only [getE_of_some _ ha, getE_of_some _ hbb, bindE_ok]
  refine .ite_decide rfl (fun _ => .store hO _ _ fun hc => .ok ⟨_, rfl, hO.store hc _⟩) fun _ => ?_
  exact .ite_decide rfl (fun _ => .ok ⟨buf, rfl, hO⟩) fun _ => .store hO _ _ fun hc => .ok ⟨_, rfl, hO.store hc _⟩

theorem body2_sim (first second result : List Int) (inv : Int) (s : St) (t t' : LS) (h : R first second result inv s t)
    (hb : leftTailBody result.length inv t = .ok t') :
    ∃ s', generate_ordered_map_to_left_both_unique.body_L2 s = .ok s' ∧ R first second result inv s' t' := by
  obtain ⟨buf, rfl, hO⟩ := h
  refine (?_ : OkFollows (R first second result inv) _ _) t' hb
  exact .store hO _ _ fun hc => .ok ⟨_, rfl, hO.store hc _⟩

end FBU

theorem left_both_unique_flat_ok (first second result : List Int) (inv : Int) (r : Bool × List Int) (fuel : Nat)
    (hf : first.length + second.length ≤ fuel) (h : generateLeft true first second result inv = .ok r) :
    generate_ordered_map_to_left_both_unique.run first second result inv fuel = .ok r := by
  obtain ⟨hlen, s1, _, t2, hw1, hw2, ⟨buf, rfl, hO⟩, rfl⟩ := generateLeft_sim true first second result inv
    (FBU.R first second result inv) _ _ _ _ (FBU.guard1_eq first second result inv) (FBU.body1_sim first second result inv)
    (FBU.guard2_eq first second result inv) (FBU.body2_sim first second result inv) ⟨first, second, result, inv, 0, 0, 0⟩
    ⟨result, rfl, Over.init result⟩ r fuel hf h
  simp only [generate_ordered_map_to_left_both_unique.run, pyLen, hlen, bne_self_eq_false, Bool.false_eq_true, if_false, bindE_ok,
    hw1, hw2, decide_cast_pos, ← hO.final]

namespace FRU

abbrev St := generate_ordered_map_to_left_right_unique.St

def R (first second result : List Int) (inv : Int) (s : St) (t : LS) : Prop :=
  ∃ buf, s = ⟨first, second, buf, inv, t.i, t.j, t.unmapped⟩ ∧ Over result t.i buf t.out

theorem guard1_eq (first second result : List Int) (inv : Int) (s : St) (t : LS) (h : R first second result inv s t) :
    generate_ordered_map_to_left_right_unique.guard_L1 s = leftGuard first second t := by
  obtain ⟨buf, rfl, _⟩ := h
  simp only [generate_ordered_map_to_left_right_unique.guard_L1, leftGuard, pyLen, Int.ofNat_lt]

theorem guard2_eq (first second result : List Int) (inv : Int) (s : St) (t : LS) (h : R first second result inv s t) :
    generate_ordered_map_to_left_right_unique.guard_L2 s = decide (t.i < first.length) := by
  obtain ⟨buf, rfl, _⟩ := h
  simp only [generate_ordered_map_to_left_right_unique.guard_L2, pyLen, Int.ofNat_lt]

theorem body1_sim (first second result : List Int) (inv : Int) (s : St) (t t' : LS) (h : R first second result inv s t)
    (hb : leftBody false first second result.length inv t = .ok t') :
    ∃ s', generate_ordered_map_to_left_right_unique.body_L1 s = .ok s' ∧ R first second result inv s' t' := by
  obtain ⟨buf, rfl, hO⟩ := h
  obtain ⟨i, j, u, out⟩ := t
  refine (?_ : OkFollows (R first second result inv) _ _) t' hb
  simp only [leftBody_eq, Bool.false_eq_true, if_false, generate_ordered_map_to_left_right_unique.body_L1, idxE_nat, idxE_nat_succ, pyLen, bindE_assoc]
  refine .getE _ _ _ _ fun a ha => .getE _ _ _ _ fun b hbb => ?_
  simp only [getE_of_some _ ha, getE_of_some _ hbb, bindE_ok]
  refine .ite_decide rfl (fun _ => .store hO _ _ fun hc => .ok ⟨_, rfl, hO.store hc _⟩) fun _ => ?_
  refine .ite_decide rfl (fun _ => .ok ⟨buf, rfl, hO⟩) fun _ => .store hO _ _ fun hc => ?_
  exact .lookahead (decide_eq_decide.mpr (by omega)) _ _ (.ok ⟨_, rfl, hO.store hc _⟩) (.ok ⟨_, rfl, hO.store hc _⟩)

theorem body2_sim (first second result : List Int) (inv : Int) (s : St) (t t' : LS) (h : R first second result inv s t)
    (hb : leftTailBody result.length inv t = .ok t') :
    ∃ s', generate_ordered_map_to_left_right_unique.body_L2 s = .ok s' ∧ R first second result inv s' t' := by
  obtain ⟨buf, rfl, hO⟩ := h
  refine (?_ : OkFollows (R first second result inv) _ _) t' hb
  exact .store hO _ _ fun hc => .ok ⟨_, rfl, hO.store hc _⟩

end FRU

theorem left_right_unique_flat_ok (first second result : List Int) (inv : Int) (r : Bool × List Int) (fuel : Nat)
    (hf : first.length + second.length ≤ fuel) (h : generateLeft false first second result inv = .ok r) :
    generate_ordered_map_to_left_right_unique.run first second result inv fuel = .ok r := by
  obtain ⟨hlen, s1, _, t2, hw1, hw2, ⟨buf, rfl, hO⟩, rfl⟩ := generateLeft_sim false first second result inv
    (FRU.R first second result inv) _ _ _ _ (FRU.guard1_eq first second result inv) (FRU.body1_sim first second result inv)
    (FRU.guard2_eq first second result inv) (FRU.body2_sim first second result inv) ⟨first, second, result, inv, 0, 0, 0⟩
    ⟨result, rfl, Over.init result⟩ r fuel hf h
  simp only [generate_ordered_map_to_left_right_unique.run, pyLen, hlen, bne_self_eq_false, Bool.false_eq_true, if_false, bindE_ok,
    hw1, hw2, decide_cast_pos, ← hO.final]

/-- a simulation of `innerBody` by the loop of a translated kernel carries every `.ok` run of `orderedInnerMap` over to it, on
    any fuel ≥ len(left) + len(right) -/
theorem orderedInnerMap_sim {σ} (scanL scanR : Bool) (left right l2i r2i : List Int) (R : σ → IS → Prop)
    (g : σ → Bool) (b : σ → Except Err σ) (hg : ∀ s t, R s t → g s = innerGuard left right t)
    (hb : ∀ s t t', R s t → innerBody scanL scanR left right (min l2i.length r2i.length) t = .ok t' → ∃ s', b s = .ok s' ∧ R s' t')
    (s0 : σ) (h0 : R s0 {}) (r : List Int × List Int) (fuel : Nat) (hf : left.length + right.length ≤ fuel)
    (h : orderedInnerMap scanL scanR left right l2i r2i = .ok r) :
    ∃ s1 t1, whileE g b fuel s0 = .ok s1 ∧ R s1 t1 ∧ r = (t1.lo ++ l2i.drop t1.lo.length, t1.ro ++ r2i.drop t1.ro.length) := by
  unfold orderedInnerMap at h
  cases h1 : whileE (innerGuard left right) (innerBody scanL scanR left right (min l2i.length r2i.length))
      (left.length + right.length) {} with
  | error e => rw [h1] at h; simp at h
  | ok t1 =>
    rw [h1] at h
    simp only [Except.ok.injEq] at h
    obtain ⟨s1, hw1, hR1⟩ := whileE_sim R g b _ _ hg (fun s t t' hR _ hb' => hb s t t' hR hb') fuel s0 {} t1 h0
      (whileE_mono _ _ _ _ _ h1 fuel hf)
    exact ⟨s1, t1, hw1, hR1, h.symm⟩

/-- One row of a block, `for jj in range(J, J + m): left_to_inner[M] = I; right_to_inner[M] = jj; M += 1`, for any generated state
    type: `st b2 b3 M k` is the state with the two arrays, the write position and the loop variable. -/
theorem forRange_row {σ} (body : Int → σ → Except Err σ) (st : List Int → List Int → Nat → Int → σ) (I : Int)
    (hb : ∀ (b2 b3 : List Int) (M J : Nat) (k : Int), M < b2.length → M < b3.length →
      body (J : Int) (st b2 b3 M k) = .ok (st (b2.set M I) (b3.set M (J : Int)) (M + 1) (J : Int)))
    (l2i r2i : List Int) :
    ∀ (m J M : Nat) (out2 out3 b2 b3 : List Int) (k : Int), Over l2i M b2 out2 → Over r2i M b3 out3 →
      M + m ≤ min l2i.length r2i.length →
      ∃ b2' b3' k', forRangeAux (fun _ => false) body m (J : Int) (st b2 b3 M k) = .ok (st b2' b3' (M + m) k') ∧
        Over l2i (M + m) b2' (out2 ++ List.replicate m I) ∧
        Over r2i (M + m) b3' (out3 ++ (List.range' J m).map (fun (j : Nat) => (j : Int))) := by
  intro m
  induction m with
  | zero =>
    intro J M out2 out3 b2 b3 k h2 h3 _
    exact ⟨b2, b3, k, rfl, by simpa using h2, by simpa using h3⟩
  | succ m ih =>
    intro J M out2 out3 b2 b3 k h2 h3 hroom
    have hc2 : M < l2i.length := by omega
    have hc3 : M < r2i.length := by omega
    obtain ⟨b2', b3', k', hrun, h2', h3'⟩ := ih (J + 1) (M + 1) _ _ _ _ (J : Int) (h2.store hc2 I) (h3.store hc3 (J : Int)) (by omega)
    refine ⟨b2', b3', k', ?_, ?_, ?_⟩
    · rw [forRangeAux_succ, hb b2 b3 M J k (h2.lt hc2) (h3.lt hc3), bindE_ok, if_neg Bool.false_ne_true,
        show (J : Int) + 1 = ((J + 1 : Nat) : Int) from rfl, hrun, Nat.add_assoc, Nat.add_comm 1 m]
    · rw [Nat.add_assoc, Nat.add_comm 1 m] at h2'
      rw [List.replicate_succ, List.append_cons]
      exact h2'
    · rw [Nat.add_assoc, Nat.add_comm 1 m] at h3'
      rw [List.range'_succ, List.map_cons, List.append_cons]
      exact h3'

theorem blockL_one (m I : Nat) : blockL m I 1 = List.replicate m (I : Int) := by simp [blockL]
theorem blockR_one (J m : Nat) : blockR J m 1 = (List.range' J m).map (fun (j : Nat) => (j : Int)) := by simp [blockR]

theorem blockL_length (m : Nat) : ∀ (n I : Nat), (blockL m I n).length = n * m
  | 0, _ => by simp [blockL]
  | n + 1, I => by simp [blockL, blockL_length m n (I + 1), Nat.succ_mul, Nat.add_comm]

theorem blockR_length (J m : Nat) : ∀ n : Nat, (blockR J m n).length = n * m
  | 0 => by simp [blockR]
  | n + 1 => by simp [blockR, blockR_length J m n, Nat.succ_mul, Nat.add_comm]

/-- a run of `m ≥ 1` equal keys from position `j` ends at `j + (m - 1)`: the row after it is `j + m`, and `range(j, end + 1)`
    has `m` elements -/
theorem run_end_succ {j m : Nat} (h : 1 ≤ m) : j + (m - 1) + 1 = j + m := by omega

theorem run_range_toNat {j m : Nat} (h : 1 ≤ m) : ((((j + (m - 1) : Nat) : Int) + 1) - (j : Int)).toNat = m := by omega

/-! #### ordered_inner_map_both_unique (no `return`: the result is the two map arrays) -/

namespace FIB

abbrev St := ordered_inner_map_both_unique.St

def R (left right l2i r2i : List Int) (s : St) (t : IS) : Prop :=
  ∃ b2 b3 M, s = ⟨left, right, b2, b3, t.i, t.j, (M : Nat)⟩ ∧ Over l2i M b2 t.lo ∧ Over r2i M b3 t.ro

theorem guard_eq (left right l2i r2i : List Int) (s : St) (t : IS) (h : R left right l2i r2i s t) :
    ordered_inner_map_both_unique.guard_L1 s = innerGuard left right t := by
  obtain ⟨b2, b3, M, rfl, _⟩ := h
  simp only [ordered_inner_map_both_unique.guard_L1, innerGuard, pyLen, Int.ofNat_lt]

theorem body_sim (left right l2i r2i : List Int) (s : St) (t t' : IS) (h : R left right l2i r2i s t)
    (hb : innerBody false false left right (min l2i.length r2i.length) t = .ok t') :
    ∃ s', ordered_inner_map_both_unique.body_L1 s = .ok s' ∧ R left right l2i r2i s' t' := by
  obtain ⟨b2, b3, M, rfl, h2, h3⟩ := h
  obtain ⟨i, j, lo, ro⟩ := t
  refine (?_ : OkFollows (R left right l2i r2i) _ _) t' hb
  simp only [innerBody_eq, runLen, Bool.false_eq_true, if_false, bindE_ok, Nat.mul_one, blockL_one, blockR_one, List.replicate_one,
    List.range'_one, List.map_cons, List.map_nil, show lo.length = M from h2.2.1, ordered_inner_map_both_unique.body_L1, idxE_nat]
  refine .getE _ _ _ _ fun a ha => .getE _ _ _ _ fun b hbb => ?_
  simp only [getE_of_some _ ha, getE_of_some _ hbb, bindE_ok]
  refine .ite_decide rfl (fun _ => .ok ⟨b2, b3, M, rfl, h2, h3⟩) fun _ =>
    .ite_decide rfl (fun _ => .ok ⟨b2, b3, M, rfl, h2, h3⟩) fun _ => .guard fun hc => ?_
  have hc2 : M < l2i.length := by omega
  have hc3 : M < r2i.length := by omega
  simp only [setIdxE_of_lt _ _ (h2.lt hc2), setIdxE_of_lt _ _ (h3.lt hc3), bindE_ok]
  exact .ok ⟨_, _, M + 1, rfl, h2.store hc2 _, h3.store hc3 _⟩

end FIB

theorem inner_map_both_unique_flat_ok (left right l2i r2i : List Int) (r : List Int × List Int) (fuel : Nat)
    (hf : left.length + right.length ≤ fuel) (h : orderedInnerMap false false left right l2i r2i = .ok r) :
    ordered_inner_map_both_unique.run left right l2i r2i fuel = .ok r := by
  obtain ⟨_, t1, hw, ⟨b2, b3, M, rfl, h2, h3⟩, rfl⟩ := orderedInnerMap_sim false false left right l2i r2i (FIB.R left right l2i r2i)
    _ _ (FIB.guard_eq left right l2i r2i) (FIB.body_sim left right l2i r2i) ⟨left, right, l2i, r2i, 0, 0, 0⟩
    ⟨l2i, r2i, 0, rfl, Over.init l2i, Over.init r2i⟩ r fuel hf h
  simp only [ordered_inner_map_both_unique.run, hw, bindE_ok, ← h2.final, ← h3.final]

/-! #### ordered_inner_map_left_unique (the right run counted by a `while` whose condition subscripts, the block written by a `for`) -/

namespace IMLU

abbrev St := ordered_inner_map_left_unique.St

def R (left right l2i r2i : List Int) (s : St) (t : IS) : Prop :=
  ∃ b2 b3 M c k, s = ⟨left, right, b2, b3, t.i, t.j, (M : Nat), c, k⟩ ∧ Over l2i M b2 t.lo ∧ Over r2i M b3 t.ro

theorem guard_eq (left right l2i r2i : List Int) (s : St) (t : IS) (h : R left right l2i r2i s t) :
    ordered_inner_map_left_unique.guard_L1 s = innerGuard left right t := by
  obtain ⟨b2, b3, M, c, k, rfl, _⟩ := h
  simp only [ordered_inner_map_left_unique.guard_L1, innerGuard, pyLen, Int.ofNat_lt]

theorem body_sim (left right l2i r2i : List Int) (F : Nat) (hF : left.length + right.length ≤ F) (s : St) (t t' : IS)
    (h : R left right l2i r2i s t) (hb : innerBody false true left right (min l2i.length r2i.length) t = .ok t') :
    ∃ s', ordered_inner_map_left_unique.body_L1 F s = .ok s' ∧ R left right l2i r2i s' t' := by
  obtain ⟨b2, b3, M, c, k, rfl, h2, h3⟩ := h
  obtain ⟨i, j, lo, ro⟩ := t
  refine (?_ : OkFollows (R left right l2i r2i) _ _) t' hb
  simp only [innerBody_eq, runLen, Bool.false_eq_true, if_false, if_true, bindE_ok, Nat.one_mul, blockL_one, blockR_one,
    show lo.length = M from h2.2.1, ordered_inner_map_left_unique.body_L1, idxE_nat]
  refine .getE _ _ _ _ fun a ha => .getE _ _ _ _ fun b hbb => ?_
  simp only [getE_of_some _ ha, getE_of_some _ hbb, bindE_ok]
  refine .ite_decide rfl (fun _ => .ok ⟨b2, b3, M, c, k, rfl, h2, h3⟩) fun _ =>
    .ite_decide rfl (fun _ => .ok ⟨b2, b3, M, c, k, rfl, h2, h3⟩) fun _ => ?_
  refine .runCount ordered_inner_map_left_unique.guardE_L2 ordered_inner_map_left_unique.body_L2 right right.length _ _
    (fun a _ => ⟨left, right, b2, b3, (i : Int), (j : Int), (M : Int), (a : Int), k⟩)
    (fun _ _ => rfl) (fun _ _ => rfl) F j 1 (Nat.le_trans (Nat.le_add_left _ _) hF) fun m hm1 => .guard fun hcap => ?_
  obtain ⟨b2', b3', k', hrun, h2', h3'⟩ := forRange_row (fun k s => ordered_inner_map_left_unique.body_L3 { s with v4 := k })
    (fun b2 b3 M k => ⟨left, right, b2, b3, (i : Int), (j : Int), (M : Int), ((j + (m - 1) : Nat) : Int), k⟩) (i : Int)
    (fun b2 b3 M J k hl2 hl3 => by
      simp only [ordered_inner_map_left_unique.body_L3, setIdxE_of_lt _ _ hl2, setIdxE_of_lt _ _ hl3, bindE_ok]; rfl)
    l2i r2i m j M lo ro b2 b3 k h2 h3 hcap
  simp only [forRangeE, run_range_toNat hm1, hrun, bindE_ok]
  exact .ok ⟨b2', b3', M + m, _, k', by rw [← run_end_succ (j := j) hm1]; rfl, h2', h3'⟩

end IMLU

theorem inner_map_left_unique_flat_ok (left right l2i r2i : List Int) (r : List Int × List Int) (fuel : Nat)
    (hf : left.length + right.length ≤ fuel) (h : orderedInnerMap false true left right l2i r2i = .ok r) :
    ordered_inner_map_left_unique.run left right l2i r2i fuel = .ok r := by
  obtain ⟨_, t1, hw, ⟨b2, b3, M, c, k, rfl, h2, h3⟩, rfl⟩ := orderedInnerMap_sim false true left right l2i r2i
    (IMLU.R left right l2i r2i) _ _ (IMLU.guard_eq left right l2i r2i) (IMLU.body_sim left right l2i r2i fuel hf)
    ⟨left, right, l2i, r2i, 0, 0, 0, 0, 0⟩ ⟨l2i, r2i, 0, 0, 0, rfl, Over.init l2i, Over.init r2i⟩ r fuel hf h
  simp only [ordered_inner_map_left_unique.run, hw, bindE_ok, ← h2.final, ← h3.final]

/-! #### ordered_inner_map (both runs counted by `while` loops, the cartesian block written by two nested `for` loops) -/

namespace IMG

abbrev St := ordered_inner_map.St

/-- the block: `for ii in range(I, I + n): for jj in range(J, J + m): …`; `vi`, `vc` are the registers the loops do not touch -/
theorem rows_sim (left right l2i r2i : List Int) (vi vc : Int) (m J : Nat) (hm : 1 ≤ m) :
    ∀ (n I M : Nat) (out2 out3 b2 b3 : List Int) (k5 k6 : Int), Over l2i M b2 out2 → Over r2i M b3 out3 →
      M + n * m ≤ min l2i.length r2i.length →
      ∃ b2' b3' k5' k6', forRangeAux (fun _ => false) (fun k s => ordered_inner_map.body_L4 { s with v5 := k }) n (I : Int)
          (⟨left, right, b2, b3, vi, (J : Int), (M : Int), vc, ((J + (m - 1) : Nat) : Int), k5, k6⟩ : St)
          = .ok ⟨left, right, b2', b3', vi, (J : Int), ((M + n * m : Nat) : Int), vc, ((J + (m - 1) : Nat) : Int), k5', k6'⟩ ∧
        Over l2i (M + n * m) b2' (out2 ++ blockL m I n) ∧ Over r2i (M + n * m) b3' (out3 ++ blockR J m n) := by
  intro n
  induction n with
  | zero =>
    intro I M out2 out3 b2 b3 k5 k6 h2 h3 _
    refine ⟨b2, b3, k5, k6, ?_, by simpa [blockL] using h2, by simpa [blockR] using h3⟩
    simp only [forRangeAux, Nat.zero_mul, Nat.add_zero]
  | succ n ih =>
    intro I M out2 out3 b2 b3 k5 k6 h2 h3 hroom
    have hnm : M + (n + 1) * m = M + m + n * m := by rw [Nat.succ_mul, Nat.add_comm (n * m), Nat.add_assoc]
    rw [hnm] at hroom ⊢
    obtain ⟨c2, c3, k6', hrow, hc2, hc3⟩ := forRange_row (fun k s => ordered_inner_map.body_L5 { s with v6 := k })
      (fun b2 b3 M k => (⟨left, right, b2, b3, vi, (J : Int), (M : Int), vc, ((J + (m - 1) : Nat) : Int), (I : Int), k⟩ : St)) (I : Int)
      (fun b2 b3 M J k hl2 hl3 => by
        simp only [ordered_inner_map.body_L5, setIdxE_of_lt _ _ hl2, setIdxE_of_lt _ _ hl3, bindE_ok]; rfl)
      l2i r2i m J M out2 out3 b2 b3 k6 h2 h3 (by omega)
    obtain ⟨b2', b3', k5', k6'', hrun, h2', h3'⟩ := ih (I + 1) (M + m) _ _ c2 c3 (I : Int) k6' hc2 hc3 hroom
    refine ⟨b2', b3', k5', k6'', ?_, ?_, ?_⟩
    · rw [forRangeAux_succ]
      simp only [ordered_inner_map.body_L4, forRangeE, run_range_toNat hm, hrow, bindE_ok, Bool.false_eq_true, if_false]
      exact hrun
    · rw [blockL, ← List.append_assoc]; exact h2'
    · rw [blockR, ← List.append_assoc]; exact h3'

def R (left right l2i r2i : List Int) (s : St) (t : IS) : Prop :=
  ∃ b2 b3 M c3 c4 k5 k6, s = ⟨left, right, b2, b3, t.i, t.j, (M : Nat), c3, c4, k5, k6⟩ ∧ Over l2i M b2 t.lo ∧ Over r2i M b3 t.ro

theorem guard_eq (left right l2i r2i : List Int) (s : St) (t : IS) (h : R left right l2i r2i s t) :
    ordered_inner_map.guard_L1 s = innerGuard left right t := by
  obtain ⟨b2, b3, M, c3, c4, k5, k6, rfl, _⟩ := h
  simp only [ordered_inner_map.guard_L1, innerGuard, pyLen, Int.ofNat_lt]

theorem body_sim (left right l2i r2i : List Int) (F : Nat) (hF : left.length + right.length ≤ F) (s : St) (t t' : IS)
    (h : R left right l2i r2i s t) (hb : innerBody true true left right (min l2i.length r2i.length) t = .ok t') :
    ∃ s', ordered_inner_map.body_L1 F s = .ok s' ∧ R left right l2i r2i s' t' := by
  obtain ⟨b2, b3, M, c3, c4, k5, k6, rfl, h2, h3⟩ := h
  obtain ⟨i, j, lo, ro⟩ := t
  refine (?_ : OkFollows (R left right l2i r2i) _ _) t' hb
  simp only [innerBody_eq, runLen, if_true, show lo.length = M from h2.2.1, ordered_inner_map.body_L1, idxE_nat]
  refine .getE _ _ _ _ fun a ha => .getE _ _ _ _ fun b hbb => ?_
  simp only [getE_of_some _ ha, getE_of_some _ hbb, bindE_ok]
  refine .ite_decide rfl (fun _ => .ok ⟨b2, b3, M, c3, c4, k5, k6, rfl, h2, h3⟩) fun _ =>
    .ite_decide rfl (fun _ => .ok ⟨b2, b3, M, c3, c4, k5, k6, rfl, h2, h3⟩) fun _ => ?_
  refine .runCount ordered_inner_map.guardE_L2 ordered_inner_map.body_L2 left left.length _ _
    (fun a _ => ⟨left, right, b2, b3, (i : Int), (j : Int), (M : Int), (a : Int), c4, k5, k6⟩)
    (fun _ _ => rfl) (fun _ _ => rfl) F i 1 (Nat.le_trans (Nat.le_add_right _ _) hF) fun n hn1 => ?_
  refine .runCount ordered_inner_map.guardE_L3 ordered_inner_map.body_L3 right right.length _ _
    (fun a _ => ⟨left, right, b2, b3, (i : Int), (j : Int), (M : Int), ((i + (n - 1) : Nat) : Int), (a : Int), k5, k6⟩)
    (fun _ _ => rfl) (fun _ _ => rfl) F j 1 (Nat.le_trans (Nat.le_add_left _ _) hF) fun m hm1 => .guard fun hcap => ?_
  obtain ⟨b2', b3', k5', k6', hrun, h2', h3'⟩ := rows_sim left right l2i r2i (i : Int) ((i + (n - 1) : Nat) : Int) m j hm1
    n i M lo ro b2 b3 k5 k6 h2 h3 hcap
  simp only [forRangeE, run_range_toNat hn1, hrun, bindE_ok]
  exact .ok ⟨b2', b3', M + n * m, _, _, k5', k6', by rw [← run_end_succ (j := i) hn1, ← run_end_succ (j := j) hm1]; rfl, h2', h3'⟩

end IMG

theorem inner_map_flat_ok (left right l2i r2i : List Int) (r : List Int × List Int) (fuel : Nat)
    (hf : left.length + right.length ≤ fuel) (h : orderedInnerMap true true left right l2i r2i = .ok r) :
    ordered_inner_map.run left right l2i r2i fuel = .ok r := by
  obtain ⟨_, t1, hw, ⟨b2, b3, M, c3, c4, k5, k6, rfl, h2, h3⟩, rfl⟩ := orderedInnerMap_sim true true left right l2i r2i
    (IMG.R left right l2i r2i) _ _ (IMG.guard_eq left right l2i r2i) (IMG.body_sim left right l2i r2i fuel hf)
    ⟨left, right, l2i, r2i, 0, 0, 0, 0, 0, 0, 0⟩ ⟨l2i, r2i, 0, 0, 0, 0, 0, rfl, Over.init l2i, Over.init r2i⟩ r fuel hf h
  simp only [ordered_inner_map.run, hw, bindE_ok, ← h2.final, ← h3.final]

/-! ### ordered_inner_map_result_size (both runs counted, nothing written) -/

namespace ISZ

abbrev St := ordered_inner_map_result_size.St

def R (left right : List Int) (s : St) (t : ZS) : Prop :=
  ∃ c d, s = ⟨left, right, t.i, t.j, t.size, c, d⟩

theorem guard_eq (left right : List Int) (s : St) (t : ZS) (h : R left right s t) :
    ordered_inner_map_result_size.guard_L1 s = (decide (t.i < left.length) && decide (t.j < right.length)) := by
  obtain ⟨c, d, rfl⟩ := h
  simp only [ordered_inner_map_result_size.guard_L1, pyLen, Int.ofNat_lt]

theorem step (left right : List Int) (F : Nat) (hF : left.length + right.length ≤ F) (s : St) (t t' : ZS)
    (hR : R left right s t) (hb : sizeBody left right t = .ok t') :
    ∃ s', ordered_inner_map_result_size.body_L1 F s = .ok s' ∧ R left right s' t' := by
  obtain ⟨c, d, rfl⟩ := hR
  obtain ⟨i, j, sz⟩ := t
  refine (?_ : OkFollows (R left right) _ _) t' hb
  simp only [sizeBody_eq, runLen, if_true, ordered_inner_map_result_size.body_L1, idxE_nat]
  refine .getE _ _ _ _ fun a ha => .getE _ _ _ _ fun b hbb => ?_
  simp only [getE_of_some _ ha, getE_of_some _ hbb, bindE_ok]
  refine .ite_decide rfl (fun _ => .ok ⟨c, d, rfl⟩) fun _ => .ite_decide rfl (fun _ => .ok ⟨c, d, rfl⟩) fun _ => ?_
  refine .runCount ordered_inner_map_result_size.guardE_L2 ordered_inner_map_result_size.body_L2 left left.length _ _
    (fun k c => ⟨left, right, (k : Int), (j : Int), (sz : Int), (c : Int), d⟩)
    (fun _ _ => rfl) (fun _ _ => rfl) F i 1 (Nat.le_trans (Nat.le_add_right _ _) hF) fun n hn1 => ?_
  refine .runCount ordered_inner_map_result_size.guardE_L3 ordered_inner_map_result_size.body_L3 right right.length _ _
    (fun k c => ⟨left, right, ((i + (n - 1) : Nat) : Int), (k : Int), (sz : Int), (n : Int), (c : Int)⟩)
    (fun _ _ => rfl) (fun _ _ => rfl) F j 1 (Nat.le_trans (Nat.le_add_left _ _) hF) fun m hm1 => ?_
  exact .ok ⟨n, m, by rw [← run_end_succ (j := i) hn1, ← run_end_succ (j := j) hm1]; rfl⟩

end ISZ

theorem ordered_inner_map_result_size_ok (left right : List Int) (r fuel : Nat) (hfuel : left.length + right.length ≤ fuel)
    (h : innerResultSize left right = .ok r) :
    ordered_inner_map_result_size.run left right fuel = .ok (r : Int) := by
  unfold innerResultSize at h
  cases hw : whileE (fun s : ZS => decide (s.i < left.length) && decide (s.j < right.length)) (sizeBody left right)
      (left.length + right.length) {} with
  | error e => simp [hw] at h
  | ok t' =>
    simp only [hw, Except.ok.injEq] at h
    obtain ⟨s', hrun, hR⟩ := whileE_sim (fun (s : ISZ.St) (t : ZS) => ISZ.R left right s t)
      ordered_inner_map_result_size.guard_L1 (ordered_inner_map_result_size.body_L1 fuel)
      (fun s : ZS => decide (s.i < left.length) && decide (s.j < right.length)) (sizeBody left right)
      (ISZ.guard_eq left right)
      (fun s t t' hR _ hb => ISZ.step left right fuel hfuel s t t' hR hb)
      (left.length + right.length) ⟨left, right, 0, 0, 0, 0, 0⟩ {} t' ⟨0, 0, rfl⟩ hw
    have hrun' := whileE_mono _ _ _ _ _ hrun fuel hfuel
    unfold ordered_inner_map_result_size.run
    obtain ⟨c, d, rfl⟩ := hR
    simp only [hrun', bindE_ok, h]

end Exetera.GenK
