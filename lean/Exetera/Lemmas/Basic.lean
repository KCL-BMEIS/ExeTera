import Exetera.Model.Basic
/-!
  Facts about the shared vocabulary of the models (`getE`, `setE`, `slice`) that several clusters of lemmas need.
-/
namespace Exetera

variable {α : Type _}

theorem getE_append_mid (pre post : List α) (c : α) (site : String) : getE (pre ++ c :: post) pre.length site = .ok c := by
  simp [getE]

theorem setE_ok (xs : List α) (i : Nat) (v : α) (site : String) (h : i < xs.length) :
    setE xs i v site = .ok (xs.set i v) := by
  simp [setE, h]

theorem take_succ_set (xs : List α) (i : Nat) (v : α) (h : i < xs.length) :
    (xs.set i v).take (i + 1) = xs.take i ++ [v] := by
  rw [List.take_add_one, List.take_set_of_le (Nat.le_refl i)]
  simp [h]

theorem slice_getElem? (xs : List α) (a b i : Nat) : (slice xs a b)[i]? = if i < b - a then xs[a + i]? else none := by
  simp only [slice, List.getElem?_take, List.getElem?_drop]

theorem slice_getElem?_of_lt (xs : List α) (a b i : Nat) (h : i < b - a) : (slice xs a b)[i]? = xs[a + i]? := by
  rw [slice_getElem?, if_pos h]

theorem mem_of_mem_slice {xs : List α} {a b : Nat} {x : α} (h : x ∈ slice xs a b) : x ∈ xs :=
  List.mem_of_mem_drop (List.mem_of_mem_take h)

theorem slice_eq_nil_of_le (xs : List α) (a b : Nat) (h : b ≤ a) : slice xs a b = [] := by
  simp [slice, Nat.sub_eq_zero_of_le h]

theorem slice_self (xs : List α) (a : Nat) : slice xs a a = [] := slice_eq_nil_of_le xs a a (Nat.le_refl a)

theorem slice_length_of_le (xs : List α) (a b : Nat) (h : b ≤ xs.length) : (slice xs a b).length = b - a := by
  rw [slice_length]; omega

theorem slice_length_add (xs : List α) {a b : Nat} (h1 : a ≤ b) (h2 : b ≤ xs.length) : a + (slice xs a b).length = b := by
  rw [slice_length]; omega

theorem slice_cons (xs : List α) (a b : Nat) (ha : a < xs.length) (hab : a < b) :
    slice xs a b = xs[a] :: slice xs (a + 1) b := by
  unfold slice
  rw [List.drop_eq_getElem_cons ha, show b - a = (b - (a + 1)) + 1 by omega, List.take_succ_cons]

theorem slice_one (xs : List α) (a : Nat) (x : α) (h : xs[a]? = some x) : slice xs a (a + 1) = [x] := by
  obtain ⟨ha, rfl⟩ := List.getElem?_eq_some_iff.mp h
  rw [slice_cons xs a (a + 1) ha (Nat.lt_succ_self a), slice_self]

theorem slice_head? (xs : List α) (a b : Nat) (hab : a < b) : (slice xs a b).head? = xs[a]? := by
  rw [List.head?_eq_getElem?, slice_getElem?_of_lt xs a b 0 (Nat.sub_pos_of_lt hab), Nat.add_zero]

theorem slice_getLast? (xs : List α) (a b : Nat) (hab : a < b) (hb : b ≤ xs.length) :
    (slice xs a b).getLast? = xs[b - 1]? := by
  rw [List.getLast?_eq_getElem?, slice_length_of_le xs a b hb, slice_getElem?_of_lt xs a b _ (by omega)]
  congr 1; omega

theorem slice_append_slice (xs : List α) (a b c : Nat) (hab : a ≤ b) (hbc : b ≤ c) :
    slice xs a b ++ slice xs b c = slice xs a c := by
  simp only [slice]
  rw [show c - a = (b - a) + (c - b) by omega, List.take_add, List.drop_drop, show a + (b - a) = b by omega]

theorem take_append_slice (xs : List α) (a b : Nat) (hab : a ≤ b) : xs.take b = xs.take a ++ slice xs a b := by
  rw [slice, ← List.take_add, Nat.add_sub_cancel' hab]

theorem slice_snoc (xs : List α) (a p : Nat) (x : α) (hap : a ≤ p) (h : xs[p]? = some x) :
    slice xs a (p + 1) = slice xs a p ++ [x] := by
  rw [← slice_append_slice xs a p (p + 1) hap (Nat.le_succ p), slice_one xs p x h]

theorem slice_slice (xs : List α) (a b c d : Nat) (h : a + d ≤ b) :
    slice (slice xs a b) c d = slice xs (a + c) (a + d) := by
  simp only [slice, List.drop_take, List.take_take, List.drop_drop]
  rw [Nat.add_sub_add_left, Nat.min_eq_left (Nat.sub_le_sub_right (Nat.le_sub_of_add_le' h) c)]

theorem slice_drop (xs : List α) (a b k : Nat) : (slice xs a b).drop k = slice xs (a + k) b := by
  simp only [slice, List.drop_take, List.drop_drop]
  congr 1; omega

end Exetera
