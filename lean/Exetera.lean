-- generated by tools/gen_roots.py
import Exetera.Model.Basic
import Exetera.Model.Catalogue
import Exetera.Model.ChunkedCopy
import Exetera.Model.Concat
import Exetera.Model.Csv
import Exetera.Model.Dates
import Exetera.Model.Export
import Exetera.Model.FieldOps
import Exetera.Model.FilterIndex
import Exetera.Model.GroupBy
import Exetera.Model.IndexedWriter
import Exetera.Model.Join
import Exetera.Model.JoinFlat
import Exetera.Model.JoinOld
import Exetera.Model.Journal
import Exetera.Model.KernelPathsConcat
import Exetera.Model.KernelPathsCsv
import Exetera.Model.KernelPathsFilterIndex
import Exetera.Model.KernelPathsGroupBy
import Exetera.Model.KernelPathsJoin
import Exetera.Model.KernelPathsJoinFlat
import Exetera.Model.KernelPathsJournal
import Exetera.Model.KernelPathsMapValid
import Exetera.Model.KernelPathsSpans
import Exetera.Model.KernelPathsTransforms
import Exetera.Model.KernelPathsUnique
import Exetera.Model.KernelSitesConcat
import Exetera.Model.KernelSitesCsv
import Exetera.Model.KernelSitesFilterIndex
import Exetera.Model.KernelSitesGroupBy
import Exetera.Model.KernelSitesJoin
import Exetera.Model.KernelSitesJoinFlat
import Exetera.Model.KernelSitesJournal
import Exetera.Model.KernelSitesMapValid
import Exetera.Model.KernelSitesNotModelled
import Exetera.Model.KernelSitesSpans
import Exetera.Model.KernelSitesTransforms
import Exetera.Model.KernelSitesUnique
import Exetera.Model.LegacyMapFix
import Exetera.Model.MapValid
import Exetera.Model.Merge
import Exetera.Model.PyRt
import Exetera.Model.Reader
import Exetera.Model.SortIndex
import Exetera.Model.Spans
import Exetera.Model.Storage
import Exetera.Model.StreamFuel
import Exetera.Model.Transforms
import Exetera.Model.Unique
import Exetera.Spec.Catalogue
import Exetera.Spec.Csv
import Exetera.Spec.CsvLine
import Exetera.Spec.CsvRender
import Exetera.Spec.Dates
import Exetera.Spec.Export
import Exetera.Spec.FilterIndex
import Exetera.Spec.GroupBy
import Exetera.Spec.Join
import Exetera.Spec.Journal
import Exetera.Spec.JournalTable
import Exetera.Spec.MapValid
import Exetera.Spec.Merge
import Exetera.Spec.PySlice
import Exetera.Spec.SortKeys
import Exetera.Spec.Spans
import Exetera.Spec.Storage
import Exetera.Spec.Transforms
import Exetera.Spec.Unique
import Exetera.Lemmas.Basic
import Exetera.Lemmas.C19Join
import Exetera.Lemmas.C19MapStream
import Exetera.Lemmas.C19MapStreamDriver
import Exetera.Lemmas.C19Pandas
import Exetera.Lemmas.C19Session
import Exetera.Lemmas.C19StreamDriver
import Exetera.Lemmas.C19StreamKernel
import Exetera.Lemmas.CatalogueAbstract
import Exetera.Lemmas.CatalogueCalls
import Exetera.Lemmas.CatalogueOps
import Exetera.Lemmas.CatalogueRename
import Exetera.Lemmas.CatalogueSpec
import Exetera.Lemmas.CatalogueTables
import Exetera.Lemmas.ChunkedCopy
import Exetera.Lemmas.Chunks
import Exetera.Lemmas.ConcatBatch
import Exetera.Lemmas.ConcatKernel
import Exetera.Lemmas.CsvCell
import Exetera.Lemmas.CsvDriver
import Exetera.Lemmas.CsvImport
import Exetera.Lemmas.CsvKernel
import Exetera.Lemmas.CsvLine
import Exetera.Lemmas.CsvLines
import Exetera.Lemmas.CsvLoop
import Exetera.Lemmas.CsvParse
import Exetera.Lemmas.CsvRaise
import Exetera.Lemmas.CsvReadCsv
import Exetera.Lemmas.CsvRow
import Exetera.Lemmas.CsvStage
import Exetera.Lemmas.CsvStep
import Exetera.Lemmas.CsvTyped
import Exetera.Lemmas.CsvTypedRaise
import Exetera.Lemmas.DatesDays
import Exetera.Lemmas.DatesPeriods
import Exetera.Lemmas.Export
import Exetera.Lemmas.ExportPandas
import Exetera.Lemmas.FieldOps
import Exetera.Lemmas.FilterIndexFrame
import Exetera.Lemmas.FilterIndexKernel
import Exetera.Lemmas.FilterIndexSort
import Exetera.Lemmas.FilterIndexSortFrame
import Exetera.Lemmas.GenKernels
import Exetera.Lemmas.GenKernelsCategorical
import Exetera.Lemmas.GenKernelsCompareArrays
import Exetera.Lemmas.GenKernelsConcat
import Exetera.Lemmas.GenKernelsCsv
import Exetera.Lemmas.GenKernelsCsvRun
import Exetera.Lemmas.GenKernelsExtents
import Exetera.Lemmas.GenKernelsFilterIndex
import Exetera.Lemmas.GenKernelsFixedString
import Exetera.Lemmas.GenKernelsInnerLUPartial
import Exetera.Lemmas.GenKernelsIsin
import Exetera.Lemmas.GenKernelsJoin
import Exetera.Lemmas.GenKernelsJoinFlat
import Exetera.Lemmas.GenKernelsJoinGeneral
import Exetera.Lemmas.GenKernelsJoinOld
import Exetera.Lemmas.GenKernelsJoinUnique
import Exetera.Lemmas.GenKernelsJournal
import Exetera.Lemmas.GenKernelsJournalIndexed
import Exetera.Lemmas.GenKernelsJournalIndices
import Exetera.Lemmas.GenKernelsJournalMerge
import Exetera.Lemmas.GenKernelsJournalMergeIndexed
import Exetera.Lemmas.GenKernelsLastFilter
import Exetera.Lemmas.GenKernelsLeaky
import Exetera.Lemmas.GenKernelsLeftSize
import Exetera.Lemmas.GenKernelsLoops
import Exetera.Lemmas.GenKernelsMapValid
import Exetera.Lemmas.GenKernelsMapValidIndexed
import Exetera.Lemmas.GenKernelsNumericBool
import Exetera.Lemmas.GenKernelsOuterSize
import Exetera.Lemmas.GenKernelsSafeMap
import Exetera.Lemmas.GenKernelsSafeMapIndexed
import Exetera.Lemmas.GenKernelsSpans
import Exetera.Lemmas.GenKernelsSpans2Fields
import Exetera.Lemmas.GenKernelsSpansFilter
import Exetera.Lemmas.GenKernelsSpansIdxMaxIndexed
import Exetera.Lemmas.GenKernelsSpansIdxMinIndexed
import Exetera.Lemmas.GenKernelsSpansIndex
import Exetera.Lemmas.GenKernelsSpansIndexed
import Exetera.Lemmas.GenKernelsSpansMerge
import Exetera.Lemmas.GenKernelsSpansMinMax
import Exetera.Lemmas.GenKernelsSpansMulti
import Exetera.Lemmas.GenKernelsStreamingSort
import Exetera.Lemmas.GenKernelsSubchunk
import Exetera.Lemmas.GenKernelsToValues
import Exetera.Lemmas.GenKernelsUnique
import Exetera.Lemmas.GroupByCols
import Exetera.Lemmas.GroupByObject
import Exetera.Lemmas.GroupByRuns
import Exetera.Lemmas.GroupByStacked
import Exetera.Lemmas.IndexedReader
import Exetera.Lemmas.IndexedWriter
import Exetera.Lemmas.JoinBU
import Exetera.Lemmas.JoinCalls
import Exetera.Lemmas.JoinDriver
import Exetera.Lemmas.JoinFlatDec
import Exetera.Lemmas.JoinFlatInner
import Exetera.Lemmas.JoinFlatLeft
import Exetera.Lemmas.JoinFlatSession
import Exetera.Lemmas.JoinFlatSpec
import Exetera.Lemmas.JoinGeneral
import Exetera.Lemmas.JoinInnerSpec
import Exetera.Lemmas.JoinKernel
import Exetera.Lemmas.JoinLU
import Exetera.Lemmas.JoinRU
import Exetera.Lemmas.JoinSpec
import Exetera.Lemmas.JournalDefs
import Exetera.Lemmas.JournalIndices
import Exetera.Lemmas.JournalKernels
import Exetera.Lemmas.JournalSort
import Exetera.Lemmas.JournalSortIndex
import Exetera.Lemmas.JournalSpec
import Exetera.Lemmas.JournalTable
import Exetera.Lemmas.LegacyMapFix
import Exetera.Lemmas.LegacyStreamed
import Exetera.Lemmas.LexOrder
import Exetera.Lemmas.MapValidBasic
import Exetera.Lemmas.MapValidFlat
import Exetera.Lemmas.MapValidIndexed
import Exetera.Lemmas.MapValidIndexedFlat
import Exetera.Lemmas.MapValidIndexedStream
import Exetera.Lemmas.MapValidStream
import Exetera.Lemmas.Merge
import Exetera.Lemmas.MergeFrame
import Exetera.Lemmas.MergeSpec
import Exetera.Lemmas.NoOob
import Exetera.Lemmas.NoOobConcat
import Exetera.Lemmas.Offsets
import Exetera.Lemmas.PrefixSums
import Exetera.Lemmas.PySlice
import Exetera.Lemmas.RangeOffsets
import Exetera.Lemmas.ReaderItems
import Exetera.Lemmas.SortIndexPass
import Exetera.Lemmas.Spans
import Exetera.Lemmas.SpansApply
import Exetera.Lemmas.SpansEntryN
import Exetera.Lemmas.SpansIndexed
import Exetera.Lemmas.SpansMerge
import Exetera.Lemmas.SpansScan
import Exetera.Lemmas.Storage
import Exetera.Lemmas.StreamFuelConcat
import Exetera.Lemmas.StreamFuelMap
import Exetera.Lemmas.TransformsBasic
import Exetera.Lemmas.TransformsBool
import Exetera.Lemmas.TransformsCat
import Exetera.Lemmas.TransformsCatChecked
import Exetera.Lemmas.TransformsFixed
import Exetera.Lemmas.TransformsLeaky
import Exetera.Lemmas.TransformsNum
import Exetera.Lemmas.TransformsTime
import Exetera.Lemmas.UniqueIsin
import Exetera.Lemmas.UniqueKernel
import Exetera.Lemmas.UniqueSort
import Exetera.Lemmas.While
import Exetera.Lemmas.WhileFuel
import Exetera.Gen.BoolLiterals
import Exetera.Gen.Constants
import Exetera.Gen.CsvConstants
import Exetera.Gen.DtypeNames
import Exetera.Gen.FieldOpsShape
import Exetera.Gen.FieldTypeMap
import Exetera.Gen.KernelPaths
import Exetera.Gen.KernelShape
import Exetera.Gen.Kernels
import Exetera.Gen.MergeDispatch
import Exetera.Gen.OperatorTable
import Exetera.Props.C01
import Exetera.Props.C02
import Exetera.Props.C03
import Exetera.Props.C03Gen
import Exetera.Props.C04
import Exetera.Props.C04Gen
import Exetera.Props.C05
import Exetera.Props.C0506
import Exetera.Props.C05Gen
import Exetera.Props.C06
import Exetera.Props.C06Gen
import Exetera.Props.C07
import Exetera.Props.C08
import Exetera.Props.C08Gen
import Exetera.Props.C09
import Exetera.Props.C09Gen
import Exetera.Props.C09Sort
import Exetera.Props.C10
import Exetera.Props.C11
import Exetera.Props.C11Ranges
import Exetera.Props.C12
import Exetera.Props.C12Copy
import Exetera.Props.C12Legacy
import Exetera.Props.C12Map
import Exetera.Props.C12Rest
import Exetera.Props.C13
import Exetera.Props.C14
import Exetera.Props.C14Gen
import Exetera.Props.C15
import Exetera.Props.C16
import Exetera.Props.C16Gen
import Exetera.Props.C17
import Exetera.Props.C17Gen
import Exetera.Props.C18
import Exetera.Props.C19
import Exetera.Props.C19Gen
import Exetera.Props.C20
import Exetera.Witness.C01
import Exetera.Witness.C02
import Exetera.Witness.C06
import Exetera.Witness.C07
import Exetera.Witness.C08
import Exetera.Witness.C09
import Exetera.Witness.C12
import Exetera.Witness.C14
import Exetera.Witness.C15
import Exetera.Witness.C16
import Exetera.Witness.C18
import Exetera.Witness.C19
